-- Root of the `NitroVerif` library: everything that must build for the checks.
import NitroVerif.Gen.Guards
import NitroVerif.Driver.All
import NitroVerif.Props.C19
import NitroVerif.Props.C20
import NitroVerif.Props.C16
import NitroVerif.Props.C17
import NitroVerif.Props.C08
import NitroVerif.Props.C06Handoff
import NitroVerif.Props.C01
import NitroVerif.Props.C02
import NitroVerif.Props.C06
import NitroVerif.Props.C09
import NitroVerif.Props.C10
import NitroVerif.Props.C05
import NitroVerif.Props.C11
import NitroVerif.Props.C12
import NitroVerif.Props.C13
import NitroVerif.Props.C14
import NitroVerif.Props.C18
import NitroVerif.Props.C13c
import NitroVerif.Props.C14c
import NitroVerif.Props.C15
import NitroVerif.Props.C04
import NitroVerif.Props.C07
import NitroVerif.Props.C01c
import NitroVerif.Props.C03
import NitroVerif.Props.C05e2e
import NitroVerif.Props.C05load
import NitroVerif.Props.C01cc
import NitroVerif.Props.C14q
import NitroVerif.Props.C04skip
import NitroVerif.Lemmas.SkipConcStatChain
import NitroVerif.Lemmas.SkipConcStatStep
import NitroVerif.Props.C16abs
import NitroVerif.Props.C16absMvcc
import NitroVerif.Lemmas.ShapeCodec
import NitroVerif.Lemmas.ShapeTable
import NitroVerif.Lemmas.ShapeSkipSeq
import NitroVerif.Lemmas.ShapeSkipConc
import NitroVerif.Lemmas.ShapeBarrier
import NitroVerif.Lemmas.ShapeMvcc
import NitroVerif.Lemmas.ShapeVisitor
import NitroVerif.Lemmas.ShapeBackup
import NitroVerif.Props.C10pool
import NitroVerif.Props.C13lin
import NitroVerif.Props.C13linSeq
import NitroVerif.Props.C15scan
