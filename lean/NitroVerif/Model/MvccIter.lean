/-
  M6 part 2: snapshot iterators (`iterator.go`) and the Visitor (`nitro.go`).

  The skiplist iterator is a cursor over the physical level-0 list.  The cursor holds the node it
  stands on (a `Ver`); "physical next" is the first node of the store that is greater than the held
  node under the insert comparator, so an unlinked node under the cursor needs no special case
  (layering assumption C15: a forward-only cursor that never skips a node present throughout).
  Loops: `skipUnwanted` recurses structurally over the rest of the store; a full scan takes fuel
  (`store.length + 1` suffices — lemma `scanAll_eq`).
-/
import NitroVerif.Model.Mvcc

namespace NitroVerif.Mvcc
open NitroVerif

/-- `skipUnwanted`: `rest` is the physical list from the cursor on; returns the node it stops at
    and the incremented step counter -/
def skipList (sn : Nat) : List Ver → Int → Option Ver × Int
  | [], c => (none, c)
  | x :: xs, c => if Gen.skipUnwanted x.born x.dead sn then skipList sn xs (c + 1) else (some x, c)

def Iter.skipFrom (it : Iter) (rest : List Ver) (c : Int) : Iter :=
  { it with cur := (skipList it.sn rest c).1, count := (skipList it.sn rest c).2 }

/-- skiplist `Iterator.Seek` with the iterator (key-only) comparator: `succs[0]` onwards -/
def seekRest (p : Ver) (store : List Ver) : List Ver := (findPath iterCmp p store).2

/-- skiplist `Iterator.Next` from node `v`: the nodes after `v` -/
def afterRest (v : Ver) (store : List Ver) : List Ver := store.dropWhile (fun x => !insLt v x)

/-- `Iterator.SeekFirst` -/
def Iter.seekFirst (store : List Ver) (it : Iter) : Iter := it.skipFrom store it.count

/-- `Iterator.Seek(bs)`: the probe item has `bornSn = deadSn = 0` -/
def Iter.seek (store : List Ver) (k : Nat) (it : Iter) : Iter :=
  it.skipFrom (seekRest ⟨k, 0, 0, 0⟩ store) it.count

/-- `Iterator.Refresh`: if valid, re-seek by the current item, then `skipUnwanted` -/
def Iter.refresh (store : List Ver) (it : Iter) : Iter :=
  match it.cur with
  | some v => it.skipFrom (seekRest v store) it.count
  | none => it

/-- `Iterator.Next` (the caller guarantees `Valid()`) -/
def Iter.next (store : List Ver) (it : Iter) : Iter :=
  match it.cur with
  | some v =>
    let it1 := it.skipFrom (afterRest v store) (it.count + 1)
    if Gen.refreshDue it1.rate it1.count then { (it1.refresh store) with count := 0 } else it1
  | none => it

/-- `for it.SeekFirst(); it.Valid(); it.Next()` collecting the items -/
def scanLoop (store : List Ver) : Nat → Iter → List Ver
  | 0, _ => []
  | fuel + 1, it =>
    match it.cur with
    | some v => v :: scanLoop store fuel (it.next store)
    | none => []

def newIter (sn : Nat) (rate : Int) : Iter := { sn := sn, cur := none, count := 0, rate := rate }

/-- the `scan` operation between `NewIterator` and `Close` -/
def scanAll (store : List Ver) (sn : Nat) (rate : Int) : List Ver :=
  scanLoop store (store.length + 1) ((newIter sn rate).seekFirst store)

/-! ### Visitor -/

/-- `prevItm == nil || m.iterCmp(itm, prevItm) > 0` -/
def pivotBigger (prev : Option Ver) (p : Ver) : Bool :=
  match prev with
  | none => true
  | some q => Gen.visitorPivotKeep (cmpOf Gen.visitorPivotCmp p q)

/-- `endItem != nil && m.iterCmp(item, endItem) >= 0` -/
def endReached (endItem : Option Ver) (v : Ver) : Bool :=
  match endItem with
  | some e => Gen.visitorEndStop (cmpOf Gen.visitorEndCmp v e)
  | none => false

/-- the pivot filter: keep a split item if the temporary iterator seeked to it is valid and it
    is bigger than the previous kept pivot -/
def filterPivots (store : List Ver) (sn : Nat) : Option Ver → List Ver → List Ver
  | _, [] => []
  | prev, p :: ps =>
    if ((newIter sn 0).seek store p.key).cur.isSome && pivotBigger prev p then
      p :: filterPivots store sn (some p) ps
    else filterPivots store sn prev ps

/-- one shard: from the iterator's position while the end item is not reached; the callback
    fails on key `fail`.  Returns the items passed to successful callbacks and the error flag. -/
def shardLoop (store : List Ver) (endItem : Option Ver) (fail : Option Nat) : Nat → Iter → List Ver × Bool
  | 0, _ => ([], false)
  | fuel + 1, it =>
    match it.cur with
    | none => ([], false)
    | some v =>
      if endReached endItem v then ([], false)
      else if fail = some v.key then ([], true)
      else
        let r := shardLoop store endItem fail fuel (it.next store)
        (v :: r.1, r.2)

def runShard (store : List Ver) (sn : Nat) (rate : Int) (fail : Option Nat)
    (start endItem : Option Ver) : List Ver × Bool :=
  let it0 := newIter sn rate
  let it := match start with
    | none => it0.seekFirst store
    | some p => it0.seek store p.key
  shardLoop store endItem fail (store.length + 1) it

/-- shards in shard order: `start` is the start item of the first one, `pivots` the remaining
    (kept) pivots, the last shard has no end item -/
def runShards (store : List Ver) (sn : Nat) (rate : Int) (fail : Option Nat) :
    Option Ver → List Ver → List (List Ver × Bool)
  | start, [] => [runShard store sn rate fail start none]
  | start, p :: ps => runShard store sn rate fail start (some p) :: runShards store sn rate fail (some p) ps

/-- result of `Visitor`: per-shard callback sequences and whether some shard reported an error -/
def visitor (store : List Ver) (sn : Nat) (rate : Int) (fail : Option Nat) (pivots : List Ver) :
    List (List Ver) × Bool :=
  let rs := runShards store sn rate fail none (filterPivots store sn none pivots)
  (rs.map (·.1), rs.any (·.2))

/-- strictly ascending keys -/
def ascending : List Ver → Bool
  | [] => true
  | [_] => true
  | a :: b :: r => decide (a.key < b.key) && ascending (b :: r)

/-- the partition flag the driver reports: the concatenation over the shards is strictly
    ascending (hence every shard is ascending and entirely below the later ones) -/
def partOk (shards : List (List Ver)) : Bool := ascending shards.flatten

end NitroVerif.Mvcc
