import NitroVerif.Lemmas.SkipSeqPath
/-!
  Per-level surgery on a chain `head → X → Y → tail` (linking a new node between the two halves,
  unlinking a node that stands between them); with `X = LL A l`, `Y = LL B l` the node written is
  `predAt A l` and its new successor `succAt B l`.  Also: a level's chain has no repetition;
  `setNext` changes no `LL`, `predAt`, `succAt`, `ikey`.
-/
namespace NitroVerif.SkipSeq

@[simp] theorem LL_setNext (h : Heap) (n m : Nat) (v : Nat × Bool) (L : List Nat) (l : Nat) :
    LL (setNext h n m v) L l = LL h L l :=
  LL_congr l (fun a _ => levelOf_setNext h n m v a)

@[simp] theorem predAt_setNext (h : Heap) (n m : Nat) (v : Nat × Bool) (L : List Nat) (l : Nat) :
    predAt (setNext h n m v) L l = predAt h L l := by simp [predAt]

@[simp] theorem succAt_setNext (h : Heap) (n m : Nat) (v : Nat × Bool) (L : List Nat) (l : Nat) :
    succAt (setNext h n m v) L l = succAt h L l := by simp [succAt]

@[simp] theorem ikey_setNext (h : Heap) (n m : Nat) (v : Nat × Bool) (a : Nat) :
    ikey (setNext h n m v) a = ikey h a := by simp [ikey, keyOf_setNext]

theorem level_nodup {h : Heap} {L : List Nat} (hn : L.Nodup) (hlo : ∀ n ∈ L, 3 ≤ n) (l : Nat) :
    (headId :: LL h L l ++ [tailId]).Nodup := by
  have h1 : (LL h L l).Nodup := hn.filter _
  have h2 : ∀ n ∈ LL h L l, 3 ≤ n := fun n hm => hlo n (mem_LL.mp hm).1
  simp only [List.cons_append, List.nodup_cons, List.mem_append, List.mem_singleton, not_or]
  refine ⟨⟨?_, by decide⟩, ?_⟩
  · intro hm; have := h2 _ hm; simp [headId] at this
  · rw [List.nodup_append]
    refine ⟨h1, by simp, ?_⟩
    intro a ha b hb
    simp at hb; subst hb
    have := h2 _ ha; exact ne_of_three_le this (by decide)

theorem level_pred_link {h : Heap} {mk : Nat → Bool} {X0 Y0 : List Nat} {l : Nat}
    (hp : Path h mk l (headId :: X0 ++ Y0 ++ [tailId])) :
    getNext h ((X0.getLast?).getD headId) l = ((Y0.head?).getD tailId, mk ((X0.getLast?).getD headId)) := by
  rcases first_split Y0 with ⟨R, hR⟩
  have hp' : Path h mk l ((headId :: X0) ++ (Y0.head?).getD tailId :: R) := by
    rw [← hR, ← List.append_assoc]; exact hp
  have := ((path_append_cons _ _ _).mp hp').1
  exact path_last_link (X0) headId (by simpa using this)

/-- a chain `head → X0 → M → Y0 → tail` cut at the last node of `head :: X0` and the first of `Y0 ++ [tail]`,
    for every middle part `M` at once -/
theorem chain_split (X0 Y0 : List Nat) : ∃ X R, ∀ M : List Nat,
    headId :: X0 ++ (M ++ Y0) ++ [tailId]
      = X ++ (X0.getLast?).getD headId :: (M ++ (Y0.head?).getD tailId :: R) := by
  rcases first_split Y0 with ⟨R, hR⟩
  rcases last_split X0 with ⟨X, hX⟩
  refine ⟨X, R, fun M => ?_⟩
  rw [List.append_assoc, List.append_assoc, hX, hR, List.append_assoc]; rfl

theorem level_link {h : Heap} {X0 Y0 : List Nat} {l x : Nat}
    (hp : Path h nomk l (headId :: X0 ++ Y0 ++ [tailId]))
    (hnd : (headId :: X0 ++ Y0 ++ [tailId]).Nodup)
    (hx : x ∉ headId :: X0 ++ Y0 ++ [tailId])
    (hxl : getNext h x l = ((Y0.head?).getD tailId, false)) (hslot : l < nextLen h ((X0.getLast?).getD headId)) :
    Path (setNext h ((X0.getLast?).getD headId) l (x, false)) nomk l
      (headId :: X0 ++ x :: Y0 ++ [tailId]) := by
  rcases chain_split X0 Y0 with ⟨X, R, hs⟩
  have e1 : headId :: X0 ++ Y0 ++ [tailId] = X ++ (X0.getLast?).getD headId :: (Y0.head?).getD tailId :: R := hs []
  have e2 : headId :: X0 ++ x :: Y0 ++ [tailId]
      = X ++ (X0.getLast?).getD headId :: x :: (Y0.head?).getD tailId :: R := hs [x]
  rw [e1] at hp hnd hx
  rw [e2]
  have hmid := nodup_mid hnd
  exact path_link (mk := nomk) X R hp (fun hm => hmid (List.mem_append_left _ hm))
    (fun hm => hmid (List.mem_append_right _ hm)) (fun e => hx (e ▸ by simp)) hxl hslot

theorem level_unlink {h : Heap} {mk : Nat → Bool} {X0 Y0 : List Nat} {l d : Nat}
    (hp : Path h mk l (headId :: X0 ++ d :: Y0 ++ [tailId]))
    (hnd : (headId :: X0 ++ d :: Y0 ++ [tailId]).Nodup)
    (hmk : mk ((X0.getLast?).getD headId) = false) (hslot : l < nextLen h ((X0.getLast?).getD headId)) :
    Path (setNext h ((X0.getLast?).getD headId) l ((Y0.head?).getD tailId, false)) mk l
      (headId :: X0 ++ Y0 ++ [tailId]) := by
  rcases chain_split X0 Y0 with ⟨X, R, hs⟩
  have e1 : headId :: X0 ++ d :: Y0 ++ [tailId]
      = X ++ (X0.getLast?).getD headId :: d :: (Y0.head?).getD tailId :: R := hs [d]
  have e2 : headId :: X0 ++ Y0 ++ [tailId] = X ++ (X0.getLast?).getD headId :: (Y0.head?).getD tailId :: R := hs []
  rw [e1] at hp hnd
  rw [e2]
  have hmid := nodup_mid hnd
  have := path_unlink (mk := mk) X R hp (fun hm => hmid (List.mem_append_left _ hm))
    (fun hm => hmid (List.mem_append_right _ (List.mem_cons_of_mem _ hm))) hslot
  rwa [hmk] at this

end NitroVerif.SkipSeq
