/-
  `NewSnapshot` preserves the invariant: the writers' garbage lists, which name what died in the epoch that
  ends, become the list of the new snapshot; nothing has died yet in the epoch that begins.
-/
import NitroVerif.Lemmas.MvccInv

namespace NitroVerif.Mvcc

theorem reset_fresh (l : List Writer) : ∀ w ∈ l.map (fun _ => (⟨0, []⟩ : Writer)), w = ⟨0, []⟩ :=
  fun _ hw => by obtain ⟨_, _, rfl⟩ := List.mem_map.mp hw; rfl

theorem mem_gclist_iff (l : List Writer) (g : Ver) :
    g ∈ (l.reverse.map (·.gc)).flatten ↔ InGc l g := by
  unfold InGc
  simp only [List.mem_flatten, List.mem_map, List.mem_reverse]
  constructor
  · rintro ⟨_, ⟨w, hw, rfl⟩, hg⟩; exact ⟨w, hw, hg⟩
  · rintro ⟨w, hw, hg⟩; exact ⟨w.gc, ⟨w, hw, rfl⟩, hg⟩

theorem inv_newSnapshot {σ : State} (h : Inv σ) : Inv (newSnapshot σ).1 := by
  have hs := h.snaps
  have hg := h.garb
  have hcur := h.cur_pos
  have hlast : ∀ {α : Type} {l : List α} {a : α}, a ∈ l ++ [a] :=
    List.mem_append_right _ (List.mem_singleton.mpr rfl)
  refine Inv.of_fields h.sorted (chains_mono (Nat.le_succ _) h.chains) ?_ ?_ ?_ ?_ ?_ ?_
  · have h1 := h.count
    unfold CountInv at h1 ⊢
    rw [(fresh_writers (reset_fresh _)).1, Int.add_zero]; exact h1
  · refine ⟨?_, ?_, ?_, ?_, Nat.lt_succ_of_lt hs.gclt, ?_, ?_, ?_⟩
    · exact forall_mem_snoc (fun s hsm => ⟨(hs.lt s hsm).1, Nat.lt_succ_of_lt (hs.lt s hsm).2⟩)
        ⟨hcur, Nat.lt_succ_self _⟩
    · intro n hn0 hn
      rcases Nat.lt_or_eq_of_le (Nat.le_of_lt_succ hn) with hlt | heq
      · obtain ⟨s, hsm, hsn⟩ := hs.all n hn0 hlt
        exact ⟨s, List.mem_append_left _ hsm, hsn⟩
      · exact ⟨_, hlast, heq.symm⟩
    · exact List.pairwise_append.mpr ⟨hs.inc, List.pairwise_singleton _ _,
        fun a ha b hb => by rw [List.mem_singleton.mp hb]; exact (hs.lt a ha).2⟩
    · exact forall_mem_snoc hs.rc ⟨Int.zero_le_ofNat 1, fun _ => Int.one_pos, fun _ => rfl⟩
    · exact forall_mem_snoc hs.coll ⟨nofun, fun hle => absurd hs.gclt (Nat.not_lt.mpr hle)⟩
    · exact forall_mem_snoc hs.front fun _ => rfl
    · refine forall_mem_snoc hs.cnt ?_
      show σ.itemsCount + _ = (((view σ.store σ.currSn).length : Nat) : Int)
      rw [view_at_epoch h.chains]
      exact h.count
  · exact forall_mem_snoc h.view fun _ => rfl
  · refine ⟨?_, ?_, ?_, ?_, hg.exact, ?_, ?_⟩
    · intro v hv hd
      exact absurd (hd ▸ (h.chains.1 v hv).2 (hd ▸ Nat.succ_ne_zero _)).2 (Nat.not_succ_le_self _)
    · intro v hv hd hlt
      rcases Nat.lt_or_eq_of_le (Nat.le_of_lt_succ hlt) with hc | hdc
      · obtain ⟨s, hsm, hsn, hgx⟩ := hg.sgc v hv hd hc
        exact ⟨s, List.mem_append_left _ hsm, hsn, hgx⟩
      · obtain ⟨g, hg1, hg2⟩ := hg.wgc v hv hdc
        exact ⟨_, hlast, hdc.symm, g, (mem_gclist_iff _ g).mpr hg1, hg2⟩
    · intro g hgin; exact absurd hgin ((fresh_writers (reset_fresh _)).2 g)
    · exact forall_mem_snoc hg.ssound fun _ g hgm => hg.wsound g ((mem_gclist_iff _ g).mp hgm)
    · intro g hgin; exact absurd hgin ((fresh_writers (reset_fresh _)).2 g)
    · exact forall_mem_snoc hg.spres fun _ g hgm => hg.wpres g ((mem_gclist_iff _ g).mp hgm)
  · refine ⟨?_, ?_⟩
    · intro p hp
      obtain ⟨s, hsm, hsn, hc⟩ := h.iters.snap p hp
      exact ⟨s, List.mem_append_left _ hsm, hsn, hc⟩
    · refine forall_mem_snoc h.iters.refs ?_
      show itersOn σ.currSn σ.iters ≤ 1
      rw [itersOn_zero]
      · exact Int.zero_le_ofNat 1
      · intro p hp
        obtain ⟨s, hsm, hsn, _⟩ := h.iters.snap p hp
        exact hsn ▸ Nat.ne_of_lt (hs.lt s hsm).2
  · intro p hp hgone
    rcases h.handles p hp hgone with h1 | ⟨v, hv, hk⟩
    · exact Or.inl (Nat.lt_succ_of_lt h1)
    · exact Or.inl (Nat.lt_succ_of_le (hk.2 ▸ (h.chains.1 v hv).1))

end NitroVerif.Mvcc
