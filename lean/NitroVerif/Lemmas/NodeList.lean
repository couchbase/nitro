import NitroVerif.Model.NodeList
/-!
  The node list model against the list spec.
-/
namespace NitroVerif.NodeList

theorem removeLoop_eq (key : List UInt8) (passed rest : List Node) :
    removeLoop key passed rest
      = ((rest.find? (fun n => n.2 == key)).map (·.1),
         passed.reverse ++ rest.eraseP (fun n => n.2 == key)) := by
  induction rest generalizing passed with
  | nil => simp [removeLoop]
  | cons n rest ih =>
    simp only [removeLoop]
    by_cases h : n.2 = key
    · simp [h]
    · simp [h, ih]

theorem step_eq (l : NodeList) (op : ListSpec.Op) :
    step l op = ({ nodes := (ListSpec.step l.nodes op).1 }, (ListSpec.step l.nodes op).2) := by
  cases op with
  | add id key => rfl
  | remove key => simp [step, ListSpec.step, remove, removeLoop_eq]
  | keys => rfl
  | head =>
    obtain ⟨nodes⟩ := l
    cases nodes <;> rfl

theorem runFrom_eq (l : NodeList) (ops : List ListSpec.Op) :
    runFrom l ops = ({ nodes := (ListSpec.runFrom l.nodes ops).1 }, (ListSpec.runFrom l.nodes ops).2) := by
  induction ops generalizing l with
  | nil => rfl
  | cons op ops ih =>
    simp only [runFrom, ListSpec.runFrom, step_eq, ih]

end NitroVerif.NodeList
