import NitroVerif.Lemmas.ListFacts
/-!
  Lists used as tables: an entry is found by a key (`l.find? fun x => key x == k`), replaced where the key matches
  (`l.map fun x => if key x = k then f x else x`), removed by key (`l.filter fun x => key x != k`).  The snapshot tables
  (`findSnap`/`updSnap` of `Model/Mvcc`, `Model/MvccConc` and `Spec/SetSpec`), the node store (`findNode`) and the
  entries of the set specification (`findKey`/`removeKey`) are these expressions by definition, so the lemmas apply to
  them as they stand.  In the iterator tables (`findIter`/`eraseIter` of `Model/MvccConc`, `Thread.iter?` of
  `Model/SkipConc`) the search sits under a `.map (·.2)`, which the user peels first; a bucket of the node table is
  brought to this form by `lookupB_eq_find?` (`TableBucket`).
-/
namespace NitroVerif

variable {α κ : Type} [BEq κ] [LawfulBEq κ] {key : α → κ}

theorem find?_key_some {l : List α} {k : κ} {x : α} (h : l.find? (fun x => key x == k) = some x) :
    x ∈ l ∧ key x = k :=
  ⟨List.mem_of_find?_eq_some h, eq_of_beq (List.find?_some (p := fun x => key x == k) h)⟩

theorem find?_key_none {l : List α} {k : κ} (h : l.find? (fun x => key x == k) = none) : ∀ x ∈ l, key x ≠ k :=
  fun x hx he => List.find?_eq_none.mp h x hx (beq_iff_eq.mpr he)

theorem find?_key_eq_none_iff {l : List α} {k : κ} : l.find? (fun x => key x == k) = none ↔ k ∉ l.map key := by
  rw [List.find?_eq_none, List.mem_map]
  exact ⟨fun h ⟨x, hx, he⟩ => h x hx (beq_iff_eq.mpr he), fun h x hx he => h ⟨x, hx, eq_of_beq he⟩⟩

/-- in a table whose keys are pairwise different, every entry is found under its key -/
theorem find?_key_of_mem {R : α → α → Prop} {l : List α} (h : l.Pairwise R) (hR : ∀ a b, R a b → key a ≠ key b)
    {x : α} (hx : x ∈ l) : l.find? (fun y => key y == key x) = some x := by
  cases hf : l.find? (fun y => key y == key x) with
  | none => exact absurd rfl (find?_key_none hf x hx)
  | some y =>
    have ⟨hy, hk⟩ := find?_key_some hf
    rw [eq_of_key_eq h hR hy hx hk]

theorem find?_congr {p q : α → Bool} {l : List α} (h : ∀ a ∈ l, p a = q a) : l.find? p = l.find? q := by
  induction l with
  | nil => rfl
  | cons x xs ih =>
    rw [List.find?_cons, List.find?_cons, h x List.mem_cons_self, ih fun a ha => h a (List.mem_cons_of_mem _ ha)]

/-- lookup after the entries of a key are removed -/
theorem find?_key_filter_ne [DecidableEq κ] (l : List α) (k k' : κ) :
    (l.filter fun x => key x != k').find? (fun x => key x == k) =
      if k' = k then none else l.find? (fun x => key x == k) := by
  rw [List.find?_filter]
  by_cases he : k' = k
  · subst he
    rw [if_pos rfl]
    exact List.find?_eq_none.mpr fun x _ => by
      cases hx : key x == k' <;> simp [bne, hx]
  · rw [if_neg he]
    refine find?_congr fun x _ => ?_
    cases hx : key x == k
    · simp
    · have : key x ≠ k' := fun c => he (c.symm.trans (eq_of_beq hx))
      simp [bne, beq_eq_false_iff_ne.mpr this]

omit [LawfulBEq κ] in
/-- lookup after the entries of a key are replaced by entries of the same key -/
theorem find?_key_map_upd (f : α → α) (hf : ∀ x, key (f x) = key x) (k : κ) (p : α → Prop) [DecidablePred p]
    (l : List α) :
    (l.map fun x => if p x then f x else x).find? (fun x => key x == k) =
      (l.find? fun x => key x == k).map fun x => if p x then f x else x := by
  rw [List.find?_map]
  refine congrArg _ (find?_congr fun x _ => ?_)
  show (key (if p x then f x else x) == k) = (key x == k)
  split
  · rw [hf]
  · rfl

theorem mem_map_upd {f : α → α} {p : α → Prop} [DecidablePred p] {l : List α} {y : α}
    (h : y ∈ l.map fun x => if p x then f x else x) : ∃ x ∈ l, y = if p x then f x else x := by
  obtain ⟨x, hx, rfl⟩ := List.mem_map.mp h
  exact ⟨x, hx, rfl⟩

omit [BEq κ] [LawfulBEq κ] in
/-- replacing entries by entries of the same key keeps any relation between keys -/
theorem pairwise_map_upd {S : κ → κ → Prop} {f : α → α} (hf : ∀ x, key (f x) = key x) (p : α → Prop)
    [DecidablePred p] {l : List α} (h : l.Pairwise fun a b => S (key a) (key b)) :
    (l.map fun x => if p x then f x else x).Pairwise fun a b => S (key a) (key b) := by
  have hk : ∀ x, key (if p x then f x else x) = key x := fun x => by split; exact hf x; rfl
  refine List.pairwise_map.mpr (h.imp fun {a b} hab => ?_)
  rw [hk, hk]; exact hab

end NitroVerif
