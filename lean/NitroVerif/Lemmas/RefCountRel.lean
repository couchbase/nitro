import NitroVerif.Model.RefCount
import NitroVerif.Lemmas.RefCountGen
/-!
  The step function of the `RefCount` model as a relation (`step_sound`, `step_complete`), one
  constructor per branch, the generated guards replaced by their characterisations; and what a step does to a
  thread parked in `Open`.
-/
namespace NitroVerif.RefCount

inductive Step (cfg : Cfg) (st : St) (i : Nat) : Act → St → Ev → Prop
  | startOpen (s : Nat) (hi : st.ths[i]? = some .idle) (h1 : 1 ≤ s) (h2 : s ≤ st.snaps.length) :
      Step cfg st i (.start (.opn s)) (setT st i (.openLoad s)) .parked
  | startClose (s : Nat) (hi : st.ths[i]? = some .idle) (h1 : 1 ≤ s) (h2 : s ≤ st.snaps.length)
      (hh : 0 < (getS st s).held) :
      Step cfg st i (.start (.cls s))
        (setT (setS st s { getS st s with held := (getS st s).held - 1 }) i (.closeDec s)) .parked
  | startGc (hi : st.ths[i]? = some .idle) :
      Step cfg st i (.start .gc) (setT st i .gcTryLock) .parked
  | loadRefuse (b : Bool) (s : Nat) (hi : st.ths[i]? = some (.openLoad s))
      (hz : (getS st s).refs = 0) :
      Step cfg st i (.step b) (setT st i .idle) (.retOpen s false)
  | loadOk (b : Bool) (s : Nat) (hi : st.ths[i]? = some (.openLoad s))
      (hnz : (getS st s).refs ≠ 0) :
      Step cfg st i (.step b) (setT st i (.openCas s (getS st s).refs)) .parked
  | casOk (b : Bool) (s : Nat) (rc : Int) (hi : st.ths[i]? = some (.openCas s rc))
      (hf : cfg.fixedOpen = true) (he : (getS st s).refs = rc) :
      Step cfg st i (.step b)
        (setT (setS st s { getS st s with refs := rc + 1, held := (getS st s).held + 1 }) i .idle)
        (.retOpen s true)
  | casFail (b : Bool) (s : Nat) (rc : Int) (hi : st.ths[i]? = some (.openCas s rc))
      (hf : cfg.fixedOpen = true) (hne : (getS st s).refs ≠ rc) :
      Step cfg st i (.step b) (setT st i (.openLoad s)) .parked
  | addUnfixed (b : Bool) (s : Nat) (rc : Int) (hi : st.ths[i]? = some (.openCas s rc))
      (hf : cfg.fixedOpen = false) :
      Step cfg st i (.step b)
        (setT (setS st s { getS st s with refs := (getS st s).refs + 1,
                                          held := (getS st s).held + 1 }) i .idle)
        (.retOpen s true)
  | decRetire (b : Bool) (s : Nat) (hi : st.ths[i]? = some (.closeDec s))
      (hz : (getS st s).refs - 1 = 0) :
      Step cfg st i (.step b)
        (setT (setS st s { getS st s with refs := (getS st s).refs - 1 }) i (.closeRetire s)) .parked
  | decRet (b : Bool) (s : Nat) (hi : st.ths[i]? = some (.closeDec s))
      (hnz : (getS st s).refs - 1 ≠ 0) :
      Step cfg st i (.step b)
        (setT (setS st s { getS st s with refs := (getS st s).refs - 1 }) i .idle) .ret
  | retire (b : Bool) (s : Nat) (hi : st.ths[i]? = some (.closeRetire s)) :
      Step cfg st i (.step b) (setT { st with live := st.live.erase s } i (.closeRetire2 s)) .parked
  | retire2 (b : Bool) (s : Nat) (hi : st.ths[i]? = some (.closeRetire2 s)) :
      Step cfg st i (.step b)
        (setT { setS st s { getS st s with retired := (getS st s).retired + 1 } with
                  dead := dinsert s st.dead } i .closeGC) .parked
  | closeGC (b : Bool) (hi : st.ths[i]? = some .closeGC) :
      Step cfg st i (.step b) (setT st i .gcTryLock) .parked
  | tryLockFail (b : Bool) (hi : st.ths[i]? = some .gcTryLock) (hf : st.flag = true) :
      Step cfg st i (.step b) (setT st i .idle) .ret
  | tryLockOk (b : Bool) (hi : st.ths[i]? = some .gcTryLock) (hf : st.flag = false) :
      Step cfg st i (.step b) (setT { st with flag := true } i .collectRead) .parked
  | readSpurious (hi : st.ths[i]? = some .collectRead) :
      Step cfg st i (.step true) (setT st i .gcUnlock) .parked
  | readEmpty (hi : st.ths[i]? = some .collectRead) (hd : st.dead = []) :
      Step cfg st i (.step false) (setT st i .gcUnlock) .parked
  | readStop (s : Nat) (tl : List Nat) (hi : st.ths[i]? = some .collectRead)
      (hd : st.dead = s :: tl) (hne : s ≠ st.lastGCSn + 1) :
      Step cfg st i (.step false) (setT st i .gcUnlock) .parked
  | readNext (s : Nat) (tl : List Nat) (hi : st.ths[i]? = some .collectRead)
      (hd : st.dead = s :: tl) (he : s = st.lastGCSn + 1) :
      Step cfg st i (.step false) (setT st i (.collectSend s)) .parked
  | send (b : Bool) (s : Nat) (hi : st.ths[i]? = some (.collectSend s)) :
      Step cfg st i (.step b)
        (setT { st with lastGCSn := s, sent := st.sent ++ [s], dead := st.dead.erase s } i .collectRead)
        .parked
  | unlockFixed (b : Bool) (hi : st.ths[i]? = some .gcUnlock) (hg : cfg.fixedGC = true) :
      Step cfg st i (.step b) (setT { st with flag := false } i .gcRecheck) .parked
  | unlockUnfixed (b : Bool) (hi : st.ths[i]? = some .gcUnlock) (hg : cfg.fixedGC = false) :
      Step cfg st i (.step b) (setT { st with flag := false } i .idle) .ret
  | recheckEmpty (b : Bool) (hi : st.ths[i]? = some .gcRecheck) (hd : st.dead = []) :
      Step cfg st i (.step b) (setT st i .idle) .ret
  | recheckAgain (b : Bool) (s : Nat) (tl : List Nat) (hi : st.ths[i]? = some .gcRecheck)
      (hd : st.dead = s :: tl) (he : s = st.lastGCSn + 1) :
      Step cfg st i (.step b) (setT st i .gcTryLock) .parked
  | recheckDone (b : Bool) (s : Nat) (tl : List Nat) (hi : st.ths[i]? = some .gcRecheck)
      (hd : st.dead = s :: tl) (hne : s ≠ st.lastGCSn + 1) :
      Step cfg st i (.step b) (setT st i .idle) .ret

theorem validSn_iff (st : St) (s : Nat) : validSn st s = true ↔ 1 ≤ s ∧ s ≤ st.snaps.length := by
  simp [validSn]

theorem step_sound {cfg : Cfg} {st st' : St} {i : Nat} {a : Act} {ev : Ev}
    (hs : step cfg st i a = some (st', ev)) : Step cfg st i a st' ev := by
  unfold step at hs
  split at hs
  · cases hs
  · rename_i pc hi
    split at hs
    · split at hs
      · rename_i hv; rw [validSn_iff] at hv
        cases hs
        exact .startOpen _ hi hv.1 hv.2
      · cases hs
    · simp only at hs
      split at hs
      · rename_i hv
        simp only [Bool.and_eq_true, validSn_iff, decide_eq_true_eq] at hv
        cases hs
        exact .startClose _ hi hv.1.1 hv.1.2 hv.2
      · cases hs
    · cases hs; exact .startGc hi
    · simp only at hs
      split at hs
      · rename_i hz; rw [Gen.openRefuse_iff] at hz
        cases hs
        exact .loadRefuse _ _ hi hz
      · rename_i hz; rw [Gen.openRefuse_iff] at hz
        cases hs
        exact .loadOk _ _ hi hz
    · simp only at hs
      split at hs
      · rename_i hf
        split at hs
        · rename_i he
          cases hs
          exact .casOk _ _ _ hi hf he
        · rename_i hne
          cases hs
          exact .casFail _ _ _ hi hf hne
      · rename_i hf
        cases hs
        exact .addUnfixed _ _ _ hi (by simpa using hf)
    · simp only at hs
      split at hs
      · rename_i hz; rw [Gen.closeRetire_iff] at hz
        cases hs
        exact .decRetire _ _ hi hz
      · rename_i hz; rw [Gen.closeRetire_iff] at hz
        cases hs
        exact .decRet _ _ hi hz
    · cases hs; exact .retire _ _ hi
    · cases hs; exact .retire2 _ _ hi
    · cases hs; exact .closeGC _ hi
    · split at hs
      · rename_i hf
        cases hs
        exact .tryLockFail _ hi hf
      · rename_i hf
        cases hs
        exact .tryLockOk _ hi (by simpa using hf)
    · split at hs
      · rename_i hsp; subst hsp
        cases hs
        exact .readSpurious hi
      · rename_i hsp
        have hsp' : ‹Bool› = false := by simpa using hsp
        subst hsp'
        split at hs
        · rename_i hd
          cases hs
          exact .readEmpty hi hd
        · rename_i s tl hd
          split at hs
          · rename_i hz; rw [Gen.gcStop_iff] at hz
            cases hs
            exact .readStop s tl hi hd hz
          · rename_i hz
            have hz' : Gen.gcStop s st.lastGCSn = false := by simpa using hz
            rw [Gen.gcStop_false_iff] at hz'
            cases hs
            exact .readNext s tl hi hd hz'
    · cases hs; exact .send _ _ hi
    · split at hs
      · rename_i hg
        cases hs
        exact .unlockFixed _ hi hg
      · rename_i hg
        cases hs
        exact .unlockUnfixed _ hi (by simpa using hg)
    · split at hs
      · rename_i hd
        cases hs
        exact .recheckEmpty _ hi hd
      · rename_i s tl hd
        split at hs
        · rename_i hz; rw [Gen.collectableHead_iff] at hz
          cases hs
          exact .recheckAgain _ s tl hi hd hz
        · rename_i hz
          have hz' : ¬ s = st.lastGCSn + 1 := fun e => hz ((Gen.collectableHead_iff _ _).mpr e)
          cases hs
          exact .recheckDone _ s tl hi hd hz'
    · cases hs

theorem step_complete {cfg : Cfg} {st st' : St} {i : Nat} {a : Act} {ev : Ev}
    (hs : Step cfg st i a st' ev) : step cfg st i a = some (st', ev) := by
  cases hs <;> simp [step, *, validSn, Gen.openRefuse_iff, Gen.closeRetire_iff, Gen.gcStop_iff,
    Gen.collectableHead_iff]

/-- a step of a thread parked in `Open` as a function of the count it finds; no other step returns from one -/
structure OpenSpec (st : St) (i : Nat) (a : Act) (st' : St) (ev : Ev) : Prop where
  load : ∀ s, st.ths[i]? = some (.openLoad s) → (∃ b, a = .step b) ∧
    if (getS st s).refs = 0 then st' = setT st i .idle ∧ ev = .retOpen s false
    else st' = setT st i (.openCas s (getS st s).refs) ∧ ev = .parked
  cas : ∀ s rc, st.ths[i]? = some (.openCas s rc) → (∃ b, a = .step b) ∧
    if (getS st s).refs = rc then
      st' = setT (setS st s { getS st s with refs := rc + 1, held := (getS st s).held + 1 }) i .idle ∧
      ev = .retOpen s true
    else st' = setT st i (.openLoad s) ∧ ev = .parked
  ret_true : ∀ s, ev = .retOpen s true → ∃ rc, st.ths[i]? = some (.openCas s rc) ∧ (getS st s).refs = rc ∧
    (∃ b, a = .step b) ∧
    st' = setT (setS st s { getS st s with refs := rc + 1, held := (getS st s).held + 1 }) i .idle
  ret_false : ∀ s, ev = .retOpen s false → st.ths[i]? = some (.openLoad s) ∧ (getS st s).refs = 0 ∧
    (∃ b, a = .step b) ∧ st' = setT st i .idle

theorem pc_eq {st : St} {i : Nat} {p q : PC} (h1 : st.ths[i]? = some p) (h2 : st.ths[i]? = some q) : p = q :=
  Option.some.inj (h1.symm.trans h2)

theorem OpenSpec.of_pc {st st' : St} {i : Nat} {a : Act} {ev : Ev} {pc : PC} (hi : st.ths[i]? = some pc)
    (hev : ∀ s b, ev ≠ .retOpen s b) (hl : ∀ s, pc ≠ .openLoad s) (hc : ∀ s rc, pc ≠ .openCas s rc) :
    OpenSpec st i a st' ev :=
  ⟨fun s h => absurd (pc_eq hi h) (hl s), fun s rc h => absurd (pc_eq hi h) (hc s rc),
    fun s e => absurd e (hev s true), fun s e => absurd e (hev s false)⟩

theorem Step.open_spec {cfg : Cfg} {st st' : St} {i : Nat} {a : Act} {ev : Ev} (hO : cfg.fixedOpen = true)
    (hs : Step cfg st i a st' ev) : OpenSpec st i a st' ev := by
  cases hs with
  | loadRefuse b s0 hi hz =>
    refine ⟨fun s h => ?_, fun s rc h => (by cases pc_eq hi h), fun s e => (by cases e), fun s e => ?_⟩
    · cases pc_eq hi h; exact ⟨⟨b, rfl⟩, by rw [if_pos hz]; exact ⟨rfl, rfl⟩⟩
    · cases e; exact ⟨hi, hz, ⟨b, rfl⟩, rfl⟩
  | loadOk b s0 hi hnz =>
    refine ⟨fun s h => ?_, fun s rc h => (by cases pc_eq hi h), fun s e => (by cases e), fun s e => (by cases e)⟩
    cases pc_eq hi h; exact ⟨⟨b, rfl⟩, by rw [if_neg hnz]; exact ⟨rfl, rfl⟩⟩
  | casOk b s0 rc0 hi hf he =>
    refine ⟨fun s h => (by cases pc_eq hi h), fun s rc h => ?_, fun s e => ?_, fun s e => (by cases e)⟩
    · cases pc_eq hi h; exact ⟨⟨b, rfl⟩, by rw [if_pos he]; exact ⟨rfl, rfl⟩⟩
    · cases e; exact ⟨rc0, hi, he, ⟨b, rfl⟩, rfl⟩
  | casFail b s0 rc0 hi hf hne =>
    refine ⟨fun s h => (by cases pc_eq hi h), fun s rc h => ?_, fun s e => (by cases e), fun s e => (by cases e)⟩
    cases pc_eq hi h; exact ⟨⟨b, rfl⟩, by rw [if_neg hne]; exact ⟨rfl, rfl⟩⟩
  | addUnfixed b s0 rc0 hi hf => rw [hO] at hf; cases hf
  | _ =>
    have hi := (by assumption : st.ths[i]? = some _)
    exact .of_pc hi (fun _ _ e => Ev.noConfusion e) (fun _ e => PC.noConfusion e)
      (fun _ _ e => PC.noConfusion e)

end NitroVerif.RefCount
