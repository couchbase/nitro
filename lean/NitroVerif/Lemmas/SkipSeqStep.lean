import NitroVerif.Lemmas.SkipSeqInsertMain
import NitroVerif.Lemmas.SkipSeqOps
import NitroVerif.Lemmas.SkipSeqIter
import NitroVerif.Lemmas.SkipSeqSim
/-!
  One operation of engine `skipseq` against one step of the specification machine.
-/
namespace NitroVerif.SkipSeq
open NitroVerif.OrdSet

/-- 1 for a successful insert, 0 otherwise -/
def insOk : Op → Out → Nat
  | .ins _ _, .bool true => 1
  | _, _ => 0

theorem Sim.ext {st : St} {sp : SpecSt} {L0 : List Nat} {s' : SL} (h : Sim st sp L0) (hrep : Rep s' L0)
    (hext : Ext st.sl s' L0) : Sim { st with sl := s' } sp L0 :=
  ⟨hrep, (hext.map_ikey h.rep (fun _ hn => hn)).symm ▸ h.keys,
   HRel.imp (fun _ _ _ hok => hok.ext hext hok.isLive (fun hl => (hok.isDead hl).1)) h.handles⟩

theorem sim_same {st : St} {sp : SpecSt} {L0 : List Nat} {s' : SL} (h : Sim st sp L0) (hsb : SameBut st.sl s') :
    Sim { st with sl := s' } sp L0 :=
  h.ext (h.rep.of_sameBut hsb) (Ext.of_sameBut L0 hsb)

theorem step_sim {st : St} {sp : SpecSt} {L0 : List Nat} (h : Sim st sp L0) (op : Op) :
    (step st op).2 = (specStep sp op).2 ∧ (∃ L0', Sim (step st op).1 (specStep sp op).1 L0') ∧
    (step st op).1.sl.stats.nodeAllocs = st.sl.stats.nodeAllocs + insOk op (step st op).2 := by
  have hr := h.rep
  have hks := h.keys
  cases op with
  | ins k lvl =>
    rcases insert2_spec hr k lvl with ⟨s', d, ok, he, hext, hhit, hmiss⟩
    have hstep : step st (.ins k lvl) = ({ st with sl := s' }, .bool ok) := by simp only [step, he]
    rw [hstep]
    by_cases hk : k ∈ L0.map (ikey st.sl.nodes)
    · rcases hhit hk with ⟨rfl, hrep, hal⟩
      rw [specStep_ins, if_pos (hks ▸ hk)]
      exact ⟨rfl, ⟨L0, h.ext hrep hext⟩, by simp [insOk, hal]⟩
    · rcases hmiss hk with ⟨rfl, hd, hkey, hal, A, B, hAB, hA, hB, hrep⟩
      rw [specStep_ins, if_neg (hks ▸ hk)]
      refine ⟨rfl, ⟨A ++ d :: B, hrep, ?_, ?_⟩, ?_⟩
      · simp only
        rw [h.keys, hAB, List.map_append, insert_split k _ _
          (fun a ha => by rcases List.mem_map.mp ha with ⟨x, hx, rfl⟩; exact hA x hx)
          (fun b hb => by rcases List.mem_map.mp hb with ⟨x, hx, rfl⟩; exact hB x hx)]
        rw [List.map_append, List.map_cons, ikey_of_keyOf hkey,
          hext.map_ikey hr (fun a ha => hAB ▸ List.mem_append_left _ ha),
          hext.map_ikey hr (fun b hb => hAB ▸ List.mem_append_right _ hb)]
      · apply HRel.imp _ h.handles
        intro n k' l hok
        apply hok.ext hext
        · exact fun hl => mem_append_cons_iff.mpr (Or.inr (hAB ▸ hok.isLive hl))
        · intro hl hm
          rcases mem_append_cons_iff.mp hm with h1 | h1
          · exact Nat.lt_irrefl _ (hd ▸ h1 ▸ hok.lt)
          · exact (hok.isDead hl).1 (hAB ▸ h1)
      · simp [insOk, hal]
  | del k =>
    rcases delete_spec hr k with ⟨s', ok, he, hext, hal, hhit, hmiss⟩
    have hstep : step st (.del k) = ({ st with sl := s' }, .bool ok) := by simp only [step, he]
    rw [hstep]
    by_cases hk : k ∈ L0.map (ikey st.sl.nodes)
    · rcases hhit hk with ⟨rfl, A, d, B, hAB, hkd, hrep, hdead⟩
      subst hAB
      rw [specStep_del, if_pos (hks ▸ hk)]
      refine ⟨rfl, ⟨A ++ B, ?_⟩, by simp [insOk, hal]⟩
      have := sim_after_delete h hrep hdead hext
      rw [hkd] at this
      exact this
    · rcases hmiss hk with ⟨rfl, hrep⟩
      rw [specStep_del, if_neg (hks ▸ hk)]
      exact ⟨rfl, ⟨L0, h.ext hrep hext⟩, by simp [insOk, hal]⟩
  | look k =>
    rcases lookup_spec hr k with ⟨s', he, hsb, _⟩
    have hstep : step st (.look k) = ({ st with sl := s' }, .bool (decide (k ∈ L0.map (ikey st.sl.nodes)))) := by
      simp only [step, he]
    rw [hstep, specStep_look, hks]
    exact ⟨rfl, ⟨L0, sim_same h hsb⟩, by simp [insOk, hsb.stats]⟩
  | getnode k hname =>
    rcases lookup_spec hr k with ⟨s', he, hsb, hfound⟩
    by_cases hk : k ∈ L0.map (ikey st.sl.nodes)
    · have hstep : step st (.getnode k hname)
          = ({ sl := s', handles := (hname, s'.buf.succs.getD 0 0) :: st.handles }, .node true) := by
        simp [step, he, hk]
      rw [hstep, specStep_getnode, if_pos (hks ▸ hk)]
      have hs := sim_same h hsb
      refine ⟨rfl, ⟨L0, hs.rep, hs.keys, ?_⟩, by simp [insOk, hsb.stats]⟩
      rcases hfound hk with ⟨hm, hkey⟩
      refine ⟨rfl, ?_, hs.handles⟩
      have hn := hr.nodes _ hm
      refine ⟨by show _ < s'.nodes.length; rw [hsb.nodes]; exact hn.hi, hr.ne_head hm, ?_, fun _ => hm,
        fun hf => by simp at hf⟩
      show ikey s'.nodes _ = k
      rw [hsb.nodes]; exact hkey
    · have hstep : step st (.getnode k hname) = ({ st with sl := s' }, .node false) := by
        simp [step, he, hk]
      rw [hstep, specStep_getnode, if_neg (hks ▸ hk)]
      exact ⟨rfl, ⟨L0, sim_same h hsb⟩, by simp [insOk, hsb.stats]⟩
  | delnode hname =>
    rcases HRel.lookup hname h.handles with ⟨h1, h2⟩ | ⟨n, k, live, h1, h2, hok⟩
    · have hstep : step st (.delnode hname) = (st, .bad) := by simp only [step, h1]
      rw [hstep, specStep_delnode, h2]
      exact ⟨rfl, ⟨L0, h⟩, by simp [insOk]⟩
    · cases live with
      | true =>
        have hn := hok.isLive rfl
        rcases List.append_of_mem hn with ⟨A, B, hAB⟩
        subst hAB
        rcases deleteNode_live hr with ⟨s', hd, hrep, hdead, hext, hal⟩
        have hstep : step st (.delnode hname) = ({ st with sl := s' }, .bool true) := by
          simp [step, h1, hd]
        rw [hstep, specStep_delnode, h2]
        refine ⟨rfl, ⟨A ++ B, ?_⟩, by simp [insOk, hal]⟩
        have := sim_after_delete h hrep hdead hext
        rw [hok.key] at this
        exact this
      | false =>
        have hdd := (hok.isDead rfl).2
        have hstep : step st (.delnode hname) = (st, .bool false) := by
          simp [step, h1, deleteNode_dead hdd]
        rw [hstep, specStep_delnode, h2]
        exact ⟨rfl, ⟨L0, h⟩, by simp [insOk]⟩
  | iter =>
    have hsc := scanAll_spec hr
    have hstep : step st .iter = (st, .keys (L0.map (keyOf st.sl.nodes))) := by
      simp only [step, hsc]
    have hspec : specStep sp .iter = (sp, .keys (sp.set.map Key.item)) := by simp only [specStep]
    rw [hstep, hspec]
    refine ⟨?_, ⟨L0, h⟩, by simp [insOk]⟩
    simp only
    rw [h.keys, keys_map hr]
  | seek k =>
    rcases iterSeek_spec hr k with ⟨s', it, he, hsb, hpos⟩
    have hstep : step st (.seek k) = ({ st with sl := s' },
        .seekAt (decide (k ∈ L0.map (ikey st.sl.nodes)))
          (if (iterValid it).2 then some (keyOf s'.nodes (iterValid it).1.curr) else none)) := by
      simp only [step, he]
    rw [hstep, specStep_seek, hks, hpos]
    exact ⟨rfl, ⟨L0, sim_same h hsb⟩, by simp [insOk, hsb.stats]⟩

end NitroVerif.SkipSeq
