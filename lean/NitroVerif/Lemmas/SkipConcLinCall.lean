import NitroVerif.Lemmas.SkipConcLin
import NitroVerif.Lemmas.SkipConcLinStep
/-!
  CALLS in a history and the history invariant that assembles the per-call linearization points.

  `StartsAt n as t op s`: action `s` is a call entry `start t op` of an idle thread `t` (whether `startOp` then refuses
  it, as for an iterator that does not exist, is not asked).

  `ev_invariant`: at every position, every in-flight call carries the evidence `PhaseEv` of its phase (its unique
  point so far, or none yet; where its search started; which node it is marking and when that node was seen live).
  `call_spec`: a completed call satisfies `RetSpec`.  `publish_inCall`, `mark_inCall`: a thread parked at INS_PUBLISH /
  SOFT_MARK is inside an Insert / Delete call and carries that call's evidence (the converse direction: no change
  without a call).  Last: a call has one entry and one end, a point one kind and one item (`InCall.unique`,
  `Call.unique_end`, `InsPoint.item_eq`, `InsPoint.not_del`).  `Call.of_eval`: a call of a concrete run, by evaluation.
-/
namespace NitroVerif.SkipConc

def actor : Action → Nat
  | .start t _ => t
  | .step t => t

theorem act_threads_ne (s : Sys) (a : Action) {t : Nat} (h : actor a ≠ t) :
    (s.act a).threads[t]? = s.threads[t]? := by
  rcases s.act_cases a with e | ⟨t', _, r, _, _, e, ha⟩
  · rw [e]
  · rw [e]
    have : t' ≠ t := by rcases ha with ⟨rfl, _⟩ | ⟨op, rfl, _⟩ <;> exact h
    exact List.getElem?_set_ne this

theorem thrAt_succ_none {n : Nat} {as : List Action} {t j : Nat} (h : as[j]? = none) :
    thrAt n as t (j + 1) = thrAt n as t j := by
  unfold thrAt; rw [stAt_succ_none h]

theorem thrAt_succ_ne {n : Nat} {as : List Action} {t j : Nat} {a : Action} (h : as[j]? = some a)
    (hne : actor a ≠ t) : thrAt n as t (j + 1) = thrAt n as t j := by
  unfold thrAt; rw [stAt_succ_some h]; exact act_threads_ne _ _ hne

theorem own_step {n : Nat} {as : List Action} {t j : Nat} {th : Thread} (haj : as[j]? = some (.step t))
    (hth : thrAt n as t j = some th) (hb : isIdle th.pc = false) :
    thrAt n as t (j + 1) = some (stepThread (stAt n as j).sh th).2.1 ∧
    heapAt n as (j + 1) = (stepThread (stAt n as j).sh th).1.heap ∧
    ((stAt n as j).step t).2 = (stepThread (stAt n as j).sh th).2.2 := by
  have hne := (isIdle_false_iff _).mp hb
  unfold thrAt heapAt
  rw [stAt_succ_some haj]
  simp only [Sys.act]
  rw [Sys.step_busy hth hne]
  exact ⟨List.getElem?_set_self (lt_length_of_getElem? hth), rfl, Sys.step_busy_out hth hne⟩

theorem own_start {n : Nat} {as : List Action} {t j : Nat} {op : Op} {th : Thread}
    (haj : as[j]? = some (.start t op)) (hth : thrAt n as t j = some th) (hb : isIdle th.pc = true) :
    thrAt n as t (j + 1) = some (startOp (stAt n as j).sh th op).2.1 ∧ heapAt n as (j + 1) = heapAt n as j := by
  unfold thrAt heapAt
  rw [stAt_succ_some haj]
  simp only [Sys.act]
  rw [Sys.start_idle hth hb]
  exact ⟨List.getElem?_set_self (lt_length_of_getElem? hth), startOp_heap ..⟩

/-- action `j` leaves thread `t` as it is, unless it is a call entry of `t` idle or a segment of `t` busy -/
theorem thrAt_succ_same {n : Nat} {as : List Action} {t j : Nat}
    (hst : ∀ op th, as[j]? = some (.start t op) → thrAt n as t j = some th → isIdle th.pc = false)
    (hsg : ∀ th, as[j]? = some (.step t) → thrAt n as t j = some th → isIdle th.pc = true) :
    thrAt n as t (j + 1) = thrAt n as t j := by
  cases haj : as[j]? with
  | none => exact thrAt_succ_none haj
  | some a =>
    by_cases hat : actor a = t
    · unfold thrAt; rw [stAt_succ_some haj]
      cases a with
      | start t' op =>
        simp only [actor] at hat; subst hat
        cases hth : thrAt n as t' j with
        | none => exact congrArg (·.threads[t']?) (Sys.start_none hth)
        | some th => exact congrArg (·.threads[t']?) (Sys.start_busy hth (hst op th haj hth))
      | step t' =>
        simp only [actor] at hat; subst hat
        cases hth : thrAt n as t' j with
        | none => exact congrArg (·.threads[t']?) (Sys.step_none hth)
        | some th => exact congrArg (·.threads[t']?) (Sys.step_idle hth ((isIdle_iff _).mp (hsg th haj hth)))
    · exact thrAt_succ_ne haj hat

def BusyAt (n : Nat) (as : List Action) (t i : Nat) : Prop :=
  ∃ th, thrAt n as t i = some th ∧ isIdle th.pc = false

def IdleAt (n : Nat) (as : List Action) (t i : Nat) : Prop :=
  ∃ th, thrAt n as t i = some th ∧ isIdle th.pc = true

/-- action `s` is a call entry of thread `t`, which is idle -/
def StartsAt (n : Nat) (as : List Action) (t : Nat) (op : Op) (s : Nat) : Prop :=
  as[s]? = some (.start t op) ∧ IdleAt n as t s

/-- at position `j` thread `t` is inside the call it entered at action `s` -/
def InCall (n : Nat) (as : List Action) (t : Nat) (op : Op) (s j : Nat) : Prop :=
  StartsAt n as t op s ∧ s < j ∧ ∀ i, s < i → i ≤ j → BusyAt n as t i

/-- a completed call: entered at action `s`, returned by action `e` with the printed line `out` -/
structure Call (n : Nat) (as : List Action) (t : Nat) (op : Op) (s e : Nat) (out : String) : Prop where
  inCall : InCall n as t op s e
  step : as[e]? = some (.step t)
  idle : IdleAt n as t (e + 1)
  out : ((stAt n as e).step t).2 = out

/-- whether thread `t` is idle at position `i` (`none`: there is no such thread) -/
def idleAt? (n : Nat) (as : List Action) (t i : Nat) : Option Bool := (thrAt n as t i).map fun th => isIdle th.pc

theorem idleAt?_some {n : Nat} {as : List Action} {t i : Nat} {b : Bool} (h : idleAt? n as t i = some b) :
    ∃ th, thrAt n as t i = some th ∧ isIdle th.pc = b := by
  unfold idleAt? at h
  cases hth : thrAt n as t i with
  | none => rw [hth] at h; cases h
  | some th => rw [hth] at h; exact ⟨th, rfl, Option.some.inj h⟩

/-- a completed call of a concrete run, from facts that evaluation decides (the two actions apart: `Action` has no
    decidable equality) -/
theorem Call.of_eval {n : Nat} {as : List Action} {t : Nat} {op : Op} {s e : Nat} {out : String}
    (hs : as[s]? = some (.start t op)) (he : as[e]? = some (.step t))
    (h : idleAt? n as t s = some true ∧ s < e ∧ (∀ d, d < e - s → idleAt? n as t (s + d + 1) = some false) ∧
      idleAt? n as t (e + 1) = some true ∧ ((stAt n as e).step t).2 = out) :
    Call n as t op s e out := by
  obtain ⟨h1, h2, h3, h4, h5⟩ := h
  refine ⟨⟨⟨hs, idleAt?_some h1⟩, h2, fun i hi1 hi2 => ?_⟩, he, idleAt?_some h4, h5⟩
  obtain ⟨d, rfl⟩ := Nat.exists_eq_add_of_lt hi1
  exact idleAt?_some (h3 d (by omega))

/-- action `p` leaves the abstract set as it is -/
def AbsSame (n : Nat) (as : List Action) (p : Nat) : Prop := ∀ k, absAt n as (p + 1) k ↔ absAt n as p k

/-- no segment of `t` strictly between `a` and `b` changes the abstract set -/
def NoOwnChange (n : Nat) (as : List Action) (t a b : Nat) : Prop :=
  ∀ p, a < p → p < b → as[p]? = some (.step t) → AbsSame n as p

/-- action `p` is a segment of `t` that adds `k`, absent just before -/
def InsPoint (n : Nat) (as : List Action) (t k p : Nat) : Prop :=
  as[p]? = some (.step t) ∧ ¬ absAt n as p k ∧ ∀ k', absAt n as (p + 1) k' ↔ (absAt n as p k' ∨ k' = k)

/-- action `p` is a segment of `t` that removes `k`, present just before -/
def DelPoint (n : Nat) (as : List Action) (t k p : Nat) : Prop :=
  as[p]? = some (.step t) ∧ absAt n as p k ∧ ∀ k', absAt n as (p + 1) k' ↔ (absAt n as p k' ∧ k' ≠ k)

/-- the call entered at `s` has had its point `p` (property `P`), and no other change of its own, before `j` -/
def Done (P : Nat → Prop) (n : Nat) (as : List Action) (t s j : Nat) : Prop :=
  ∃ p, s < p ∧ p < j ∧ P p ∧ NoOwnChange n as t s p ∧ NoOwnChange n as t p j

section
variable {n : Nat} {as : List Action} {t k p s j : Nat} {op : Op}
theorem StartsAt.action (h : StartsAt n as t op s) : as[s]? = some (.start t op) := h.1
theorem InCall.starts (h : InCall n as t op s j) : StartsAt n as t op s := h.1
theorem InCall.lt (h : InCall n as t op s j) : s < j := h.2.1
theorem InCall.busyAt (h : InCall n as t op s j) {i : Nat} (h1 : s < i) (h2 : i ≤ j) : BusyAt n as t i := h.2.2 i h1 h2
theorem InsPoint.step (h : InsPoint n as t k p) : as[p]? = some (.step t) := h.1
theorem InsPoint.absent (h : InsPoint n as t k p) : ¬ absAt n as p k := h.2.1
theorem InsPoint.adds (h : InsPoint n as t k p) (k' : Nat) : absAt n as (p + 1) k' ↔ (absAt n as p k' ∨ k' = k) :=
  h.2.2 k'
theorem DelPoint.step (h : DelPoint n as t k p) : as[p]? = some (.step t) := h.1
theorem DelPoint.present (h : DelPoint n as t k p) : absAt n as p k := h.2.1
theorem DelPoint.removes (h : DelPoint n as t k p) (k' : Nat) : absAt n as (p + 1) k' ↔ (absAt n as p k' ∧ k' ≠ k) :=
  h.2.2 k'
end

theorem AbsSame.of_unmSame {n : Nat} {as : List Action} {p : Nat}
    (u : UnmSame (heapAt n as p) (heapAt n as (p + 1))) : AbsSame n as p :=
  fun k => u.abs (heap_ext_succ n as p) k

theorem InsPoint.of_eff {n : Nat} {as : List Action} {t k p : Nat} (haj : as[p]? = some (.step t))
    (pe : PublishEff (heapAt n as p) (heapAt n as (p + 1)) k) : InsPoint n as t k p :=
  ⟨haj, (pe.abs (heap_ext_succ n as p)).1, (pe.abs (heap_ext_succ n as p)).2⟩

theorem DelPoint.of_eff {n : Nat} {as : List Action} {t k nd p : Nat} (haj : as[p]? = some (.step t))
    (me : MarkEff (heapAt n as p) (heapAt n as (p + 1)) nd) (hk : keyOf (heapAt n as p) nd = .fin k) :
    DelPoint n as t k p :=
  have hab := me.abs (stAt_invR n as p).heap (stAt_invR n as p).reach (heap_ext_succ n as p) hk
  ⟨haj, hab.1, hab.2⟩

theorem NoOwnChange.nil (n : Nat) (as : List Action) (t a : Nat) : NoOwnChange n as t a (a + 1) :=
  fun _ h1 h2 _ => absurd h1 (Nat.not_lt.mpr (Nat.le_of_lt_succ h2))

theorem NoOwnChange.snoc {n : Nat} {as : List Action} {t a j : Nat} (h : NoOwnChange n as t a j)
    (hj : as[j]? = some (.step t) → AbsSame n as j) : NoOwnChange n as t a (j + 1) := by
  intro p h1 h2 h3
  by_cases hp : p = j
  · subst hp; exact hj h3
  · exact h p h1 (Nat.lt_of_le_of_ne (Nat.le_of_lt_succ h2) hp) h3

theorem NoOwnChange.point {n : Nat} {as : List Action} {t s q e p : Nat} (h1 : NoOwnChange n as t s q)
    (h2 : NoOwnChange n as t q (e + 1)) (hsp : s < p) (hpe : p ≤ e) (hst : as[p]? = some (.step t))
    (hch : ¬ AbsSame n as p) : p = q := by
  rcases Nat.lt_trichotomy p q with hlt | heq | hgt
  · exact absurd (h1 p hsp hlt hst) hch
  · exact heq
  · exact absurd (h2 p hgt (Nat.lt_succ_of_le hpe) hst) hch

theorem Done.snoc {P : Nat → Prop} {n : Nat} {as : List Action} {t s j : Nat} (h : Done P n as t s j)
    (hj : as[j]? = some (.step t) → AbsSame n as j) : Done P n as t s (j + 1) := by
  obtain ⟨p, h1, h2, h3, h4, h5⟩ := h
  exact ⟨p, h1, Nat.lt_succ_of_lt h2, h3, h4, h5.snoc hj⟩

/-- the evidence an in-flight call carries, by phase (`s` = its entry, `j` = the current position).  `L` is the heap
    length at position `s + 1`, the state right after the entry, where `startFind` recorded `startLen`.  In `delMark`
    with the flag still `false`, the position `q` at which the
    node was seen live is what the loser of a mark race needs: its node is marked at `j + 1`, so somebody marked it
    between `q` and `j`. -/
def PhaseEv (n : Nat) (as : List Action) (t s j : Nat) : Phase → Prop
  | .idle => False
  | .insPre _ => NoOwnChange n as t s j
  | .insPost k => Done (InsPoint n as t k) n as t s j
  | .delFind _ L => L = (heapAt n as (s + 1)).length ∧ NoOwnChange n as t s j
  | .delMark k nd m => keyOf (heapAt n as j) nd = .fin k ∧
      (m = false → NoOwnChange n as t s j ∧ ∃ q, s < q ∧ q ≤ j ∧ unmarked0 (heapAt n as q) nd) ∧
      (m = true → marked0 (heapAt n as j) nd ∧ Done (DelPoint n as t k) n as t s j)
  | .delClean k => Done (DelPoint n as t k) n as t s j
  | .look _ L => L = (heapAt n as (s + 1)).length ∧ NoOwnChange n as t s j
  | .iter => NoOwnChange n as t s j

/-- the evidence of the in-flight call `op` entered at `s`, at position `j`, the thread being at `pc` -/
def Ev (n : Nat) (as : List Action) (t : Nat) (op : Op) (s j : Nat) (pc : PC) : Prop :=
  kindOf (phase pc) = opKind op ∧ PhaseEv n as t s j (phase pc)

theorem PhaseEv.snoc {n : Nat} {as : List Action} {t s j : Nat} {ph : Phase} (h : PhaseEv n as t s j ph)
    (hj : as[j]? = some (.step t) → AbsSame n as j) : PhaseEv n as t s (j + 1) ph := by
  cases ph with
  | idle => exact h
  | insPre k => exact NoOwnChange.snoc h hj
  | insPost k => exact Done.snoc h hj
  | delFind k L => exact ⟨h.1, h.2.snoc hj⟩
  | delMark k nd m =>
    obtain ⟨h1, h2, h3⟩ := h
    have e1 := heap_ext_succ n as j
    refine ⟨(e1.key nd (lt_of_keyOf_fin h1)).trans h1, fun hm => ?_, fun hm => ?_⟩
    · obtain ⟨h4, q, h5, h6, h7⟩ := h2 hm
      exact ⟨h4.snoc hj, q, h5, Nat.le_succ_of_le h6, h7⟩
    · obtain ⟨h4, h5⟩ := h3 hm
      exact ⟨h4.ext e1, h5.snoc hj⟩
  | delClean k => exact Done.snoc h hj
  | look k L => exact ⟨h.1, h.2.snoc hj⟩
  | iter => exact NoOwnChange.snoc h hj

theorem PhaseEv_start {n : Nat} {as : List Action} (t s : Nat) {L : Nat} (op : Op)
    (hL : L = (heapAt n as (s + 1)).length) : PhaseEv n as t s (s + 1) (startPhase L op) := by
  cases op with
  | del k | look k => exact ⟨hL, NoOwnChange.nil _ _ _ _⟩
  | _ => exact NoOwnChange.nil _ _ _ _

/-- the specification of a completed call (entered at `s`, returned by action `e`, printed `out`), by kind -/
def RetSpec (n : Nat) (as : List Action) (t s e : Nat) (out : String) : Kind → Prop
  | .none => False
  | .ins k =>
    (out = "ret true" ∧ ∃ p, s < p ∧ p ≤ e ∧ InsPoint n as t k p ∧ NoOwnChange n as t s p ∧
      NoOwnChange n as t p (e + 1)) ∨
    (out = "ret false" ∧ NoOwnChange n as t s (e + 1) ∧ ∃ q, s < q ∧ q ≤ e ∧ absAt n as q k)
  | .del k =>
    (out = "ret true" ∧ ∃ p, s < p ∧ p ≤ e ∧ DelPoint n as t k p ∧ NoOwnChange n as t s p ∧
      NoOwnChange n as t p (e + 1)) ∨
    (out = "ret false" ∧ NoOwnChange n as t s (e + 1) ∧ ∃ q, s < q ∧ q ≤ e ∧ ¬ absAt n as q k)
  | .look k => NoOwnChange n as t s (e + 1) ∧
    ((out = "ret true" ∧ ∃ q, s < q ∧ q ≤ e ∧ absAt n as q k) ∨
     (out = "ret false" ∧ ∃ q, s < q ∧ q ≤ e ∧ ¬ absAt n as q k))
  | .iter => NoOwnChange n as t s (e + 1)

/-- the outcome of an own segment at action `j` of a call in phase `ph`: the evidence at `j + 1` if the call goes on,
    its specification if it returns -/
def OwnStep (n : Nat) (as : List Action) (t s j : Nat) (pc' : PC) (out : String) (ph : Phase) : Prop :=
  (pc' ≠ .idle → kindOf (phase pc') = kindOf ph ∧ PhaseEv n as t s (j + 1) (phase pc')) ∧
  (pc' = .idle → RetSpec n as t s j out (kindOf ph))

theorem ev_stay {n : Nat} {as : List Action} {t s j : Nat} {pc' : PC} {out : String} {ph ph' : Phase}
    (hp : phase pc' = ph') (hne : ph' ≠ .idle) (hk : kindOf ph' = kindOf ph)
    (hev' : PhaseEv n as t s (j + 1) ph') :
    OwnStep n as t s j pc' out ph :=
  ⟨fun _ => by rw [hp]; exact ⟨hk, hev'⟩, fun hi => absurd (by rw [hi] at hp; exact hp.symm) hne⟩

theorem ev_ret {n : Nat} {as : List Action} {t s j : Nat} {pc' : PC} {out : String} {ph : Phase}
    (hi : pc' = .idle) (hr : RetSpec n as t s j out (kindOf ph)) :
    OwnStep n as t s j pc' out ph :=
  ⟨fun h => absurd hi h, fun _ => hr⟩

theorem ev_same {n : Nat} {as : List Action} {t s j : Nat} {pc' : PC} {out : String} {ph : Phase}
    (hev : PhaseEv n as t s j ph) (u : UnmSame (heapAt n as j) (heapAt n as (j + 1))) (hp : phase pc' = ph)
    (hne : ph ≠ .idle) : OwnStep n as t s j pc' out ph :=
  ev_stay hp hne rfl (hev.snoc fun _ => AbsSame.of_unmSame u)

theorem ev_own {n : Nat} {as : List Action} {t s j : Nat} {ph : Phase} {pc' : PC} {out : String} (hsj : s < j)
    (haj : as[j]? = some (.step t)) (hev : PhaseEv n as t s j ph)
    (htr : Trans (heapAt n as j) (heapAt n as (j + 1)) pc' out ph) :
    OwnStep n as t s j pc' out ph := by
  have e1 := heap_ext_succ n as j
  have same : UnmSame (heapAt n as j) (heapAt n as (j + 1)) → as[j]? = some (.step t) → AbsSame n as j :=
    fun u _ => AbsSame.of_unmSame u
  cases ph with
  | idle => exact absurd hev id
  | insPre k =>
    rcases htr with ⟨u, hp⟩ | ⟨u, hi, ho, ha⟩ | ⟨pe, hp | ⟨hi, ho⟩⟩
    · exact ev_same hev u hp nofun
    · exact ev_ret hi (.inr ⟨ho, NoOwnChange.snoc hev (same u), j, hsj, Nat.le_refl _, ha⟩)
    · exact ev_stay hp nofun rfl ⟨j, hsj, Nat.lt_succ_self _, .of_eff haj pe, hev, NoOwnChange.nil _ _ _ _⟩
    · exact ev_ret hi (.inl ⟨ho, j, hsj, Nat.le_refl _, .of_eff haj pe, hev, NoOwnChange.nil _ _ _ _⟩)
  | insPost k | delClean k =>
    rcases htr with ⟨u, hp | ⟨hi, ho⟩⟩
    · exact ev_same hev u hp nofun
    · obtain ⟨p, h1, h2, h3, h4, h5⟩ := hev
      exact ev_ret hi (.inl ⟨ho, p, h1, Nat.le_of_lt h2, h3, h4, h5.snoc (same u)⟩)
  | delFind k L =>
    rcases htr with ⟨u, hp | ⟨nd, hp, hun, hk⟩ | ⟨hi, ho, hm⟩⟩
    · exact ev_same hev u hp nofun
    · refine ev_stay hp nofun rfl ⟨(e1.key nd (lt_of_keyOf_fin hk)).trans hk, fun _ => ?_, fun h => ?_⟩
      · exact ⟨hev.2.snoc (same u), j, hsj, Nat.le_succ j, hun⟩
      · cases h
    · obtain ⟨q, hq1, hq2, hq3⟩ := absent_instant n as (a := s + 1) (b := j) (k := k) hsj
        (fun m hml => hm m (by rw [hev.1]; exact hml))
      exact ev_ret hi (.inr ⟨ho, hev.2.snoc (same u), q, hq1, hq2, hq3⟩)
  | delMark k nd m =>
    have ⟨hkey, hf, ht⟩ := hev
    have hkey' : keyOf (heapAt n as (j + 1)) nd = .fin k := (e1.key nd (lt_of_keyOf_fin hkey)).trans hkey
    rcases htr with ⟨me, hp⟩ | ⟨u, hp | ⟨hm, hp⟩ | ⟨hm, hi, ho, hmk⟩⟩
    · cases m with
      | true => exact absurd me.was (not_unmarked0_of_marked0 (ht rfl).1)
      | false =>
        have hdone : Done (DelPoint n as t k) n as t s (j + 1) :=
          ⟨j, hsj, Nat.lt_succ_self _, .of_eff haj me hkey, (hf rfl).1, NoOwnChange.nil _ _ _ _⟩
        rcases hp with hp | hp
        · exact ev_stay hp nofun rfl ⟨hkey', (fun h => by cases h), fun _ => ⟨me.now, hdone⟩⟩
        · exact ev_stay hp nofun rfl hdone
    · exact ev_same hev u hp nofun
    · exact ev_stay hp nofun rfl ((ht hm).2.snoc (same u))
    · -- the loser of a mark race: the node it found live is marked now; someone marked it inside the interval
      obtain ⟨hno, q, hq1, hq2, hqu⟩ := hf hm
      obtain ⟨p, hp1, hp2, hp3, hp4⟩ := crossing (P := fun x => unmarked0 (heapAt n as x) nd)
        (Nat.le_succ_of_le hq2) hqu (not_unmarked0_of_marked0 hmk)
      have hpj : p ≠ j := by
        intro e; subst e; exact hp4 ((u.iff nd).mpr hp3)
      have hple : p ≤ j := Nat.le_of_lt_succ hp2
      have hkp : keyOf (heapAt n as p) nd = .fin k := by
        rw [← (heap_ext n as hple).key nd (unmarkedAt_lt hp3)]; exact hkey
      have habs := absent_after_mark n as (mark_of_crossing n as hp3 hp4) hkp
      exact ev_ret hi (.inr ⟨ho, hno.snoc (same u), p + 1, Nat.lt_succ_of_le (Nat.le_trans (Nat.le_of_lt hq1) hp1), Nat.lt_of_le_of_ne hple hpj, habs⟩)
  | look k L =>
    rcases htr with ⟨u, hp | ⟨hi, ho, ha⟩ | ⟨hi, ho, hm⟩⟩
    · exact ev_same hev u hp nofun
    · exact ev_ret hi ⟨hev.2.snoc (same u), .inl ⟨ho, j, hsj, Nat.le_refl _, ha⟩⟩
    · obtain ⟨q, hq1, hq2, hq3⟩ := absent_instant n as (a := s + 1) (b := j) (k := k) hsj
        (fun m hml => hm m (by rw [hev.1]; exact hml))
      exact ev_ret hi ⟨hev.2.snoc (same u), .inr ⟨ho, q, hq1, hq2, hq3⟩⟩
  | iter =>
    rcases htr with ⟨u, hp | hi⟩
    · exact ev_same hev u hp nofun
    · exact ev_ret hi (NoOwnChange.snoc hev (same u))

theorem trans_at {n : Nat} {as : List Action} {t j : Nat} {th : Thread} (hth : thrAt n as t j = some th) :
    Trans (heapAt n as j) (stepThread (stAt n as j).sh th).1.heap (stepThread (stAt n as j).sh th).2.1.pc
      (stepThread (stAt n as j).sh th).2.2 (phase th.pc) := by
  obtain ⟨H, R, hT, hS⟩ := (stAt_invS n as j).thread hth
  exact stepThread_trans H R hT hS

theorem InCall.busy {n : Nat} {as : List Action} {t : Nat} {op : Op} {s j : Nat} (h : InCall n as t op s j) :
    BusyAt n as t j := h.busyAt h.lt (Nat.le_refl _)

theorem InCall.prev {n : Nat} {as : List Action} {t : Nat} {op : Op} {s j : Nat} (h : InCall n as t op s (j + 1))
    (hsj : s < j) : InCall n as t op s j :=
  ⟨h.starts, hsj, fun _ h1 h2 => h.busyAt h1 (Nat.le_succ_of_le h2)⟩

theorem Call.inCall_at {n : Nat} {as : List Action} {t : Nat} {op : Op} {s e p : Nat} {out : String}
    (c : Call n as t op s e out) (h1 : s < p) (h2 : p ≤ e) : InCall n as t op s p :=
  ⟨c.inCall.starts, h1, fun _ hi1 hi2 => c.inCall.busyAt hi1 (Nat.le_trans hi2 h2)⟩

theorem Call.end_lt {n : Nat} {as : List Action} {t : Nat} {op : Op} {s e : Nat} {out : String}
    (c : Call n as t op s e out) : e < as.length := lt_length_of_getElem? c.step

theorem ev_invariant (n : Nat) (as : List Action) :
    ∀ j t op s th, InCall n as t op s j → thrAt n as t j = some th → Ev n as t op s j th.pc := by
  intro j
  induction j with
  | zero => intro t op s th h; exact absurd h.lt (Nat.not_lt_zero _)
  | succ j ih =>
    intro t op s th' hc hth'
    obtain ⟨thb, hthb, hbusy'⟩ := hc.busy
    rw [hth'] at hthb
    have hthb' : th' = thb := by simpa using hthb
    subst hthb'
    by_cases hsj : s = j
    · subst hsj
      obtain ⟨haj, th0, hth0, hidle0⟩ := hc.starts
      obtain ⟨h1, h2⟩ := own_start haj hth0 hidle0
      rw [hth'] at h1
      have h1' : th' = (startOp (stAt n as s).sh th0 op).2.1 := by simpa using h1
      have hpc' : th'.pc ≠ .idle := (isIdle_false_iff _).mp hbusy'
      rcases startOp_phase (stAt n as s).sh th0 op ((isIdle_iff _).mp hidle0) with h | h
      · rw [← h1'] at h; exact absurd h hpc'
      · rw [← h1'] at h
        unfold Ev
        rw [h]
        exact ⟨kindOf_startPhase _ _, PhaseEv_start t s op (by rw [h2]; rfl)⟩
    · have hsj' : s < j := Nat.lt_of_le_of_ne (Nat.le_of_lt_succ hc.lt) hsj
      have hc0 := hc.prev hsj'
      obtain ⟨th, hth, hbusy⟩ := hc0.busy
      have hev := ih t op s th hc0 hth
      have lift : thrAt n as t (j + 1) = thrAt n as t j → as[j]? ≠ some (.step t) → Ev n as t op s (j + 1) th'.pc := by
        intro hsame hne
        rw [hsame, hth] at hth'
        have : th = th' := by simpa using hth'
        subst this
        exact ⟨hev.1, hev.2.snoc (fun h => absurd h hne)⟩
      by_cases haj : as[j]? = some (.step t)
      · obtain ⟨h1, h2, _⟩ := own_step haj hth hbusy
        rw [hth'] at h1
        have h1' : th' = (stepThread (stAt n as j).sh th).2.1 := by simpa using h1
        have htr := trans_at hth
        rw [← h2, ← h1'] at htr
        have := (ev_own hsj' haj hev.2 htr).1 ((isIdle_false_iff _).mp hbusy')
        exact ⟨this.1.trans hev.1, this.2⟩
      · exact lift (thrAt_succ_same (fun _ th0 _ h0 => by rw [hth] at h0; cases h0; exact hbusy)
          fun _ h _ => absurd h haj) haj

theorem call_spec {n : Nat} {as : List Action} {t : Nat} {op : Op} {s e : Nat} {out : String}
    (c : Call n as t op s e out) : RetSpec n as t s e out (opKind op) := by
  obtain ⟨th, hth, hbusy⟩ := c.inCall.busy
  have hev := ev_invariant n as e t op s th c.inCall hth
  obtain ⟨h1, h2, h3⟩ := own_step c.step hth hbusy
  obtain ⟨thi, hthi, hidle⟩ := c.idle
  rw [h1] at hthi
  have hthi' : (stepThread (stAt n as e).sh th).2.1 = thi := by simpa using hthi
  have htr := trans_at hth
  rw [← h2, ← h3, c.out] at htr
  have := (ev_own c.inCall.lt c.step hev.2 htr).2 (by rw [hthi']; exact (isIdle_iff _).mp hidle)
  rw [hev.1] at this
  exact this

theorem thrAt_zero_idle {n : Nat} {as : List Action} {t : Nat} {th : Thread} (h : thrAt n as t 0 = some th) :
    isIdle th.pc = true := by
  unfold thrAt at h
  rw [stAt_zero] at h
  rw [Sys.init_mem (List.mem_of_getElem? h)]; rfl

theorem busy_inCall (n : Nat) (as : List Action) :
    ∀ j t, BusyAt n as t j → ∃ op s, InCall n as t op s j := by
  intro j
  induction j with
  | zero =>
    intro t ⟨th, hth, hb⟩
    rw [thrAt_zero_idle hth] at hb; simp at hb
  | succ j ih =>
    intro t hb'
    by_cases hb : BusyAt n as t j
    · obtain ⟨op, s, hc⟩ := ih t hb
      refine ⟨op, s, hc.starts, Nat.lt_succ_of_lt hc.lt, fun i h1 h2 => ?_⟩
      by_cases hi : i = j + 1
      · subst hi; exact hb'
      · exact hc.busyAt h1 (Nat.le_of_lt_succ (Nat.lt_of_le_of_ne h2 hi))
    · -- not busy at `j`, busy at `j + 1`: action `j` is a call entry of the idle thread
      have hidle : ∀ th, thrAt n as t j = some th → isIdle th.pc = true := fun th hth => by
        cases hi : isIdle th.pc with
        | true => rfl
        | false => exact absurd ⟨th, hth, hi⟩ hb
      apply Classical.byContradiction
      intro hno
      have same := thrAt_succ_same (n := n) (as := as) (t := t) (j := j)
        (fun op th haj hth => absurd ⟨op, j, ⟨haj, th, hth, hidle th hth⟩, Nat.lt_succ_self _, fun i h1 h2 => by
          rw [Nat.le_antisymm h2 h1]; exact hb'⟩ hno)
        (fun th _ hth => hidle th hth)
      obtain ⟨th, hth, hbb⟩ := hb'
      rw [same] at hth
      exact hb ⟨th, hth, hbb⟩

theorem opKind_ins {op : Op} {k : Nat} (h : Kind.ins k = opKind op) : ∃ lvl, op = .ins k lvl := by
  cases op <;> simp [opKind] at h
  rename_i k' lvl; exact ⟨lvl, by rw [h]⟩

theorem opKind_del {op : Op} {k : Nat} (h : Kind.del k = opKind op) : op = .del k := by
  cases op <;> simp [opKind] at h
  rw [h]

theorem opKind_look {op : Op} {k : Nat} (h : Kind.look k = opKind op) : op = .look k := by
  cases op <;> simp [opKind] at h
  rw [h]

theorem publish_inCall {n : Nat} {as : List Action} {t p : Nat} {th : Thread} {k lvl : Nat}
    (hth : thrAt n as t p = some th) (hpc : th.pc = .insPublish k lvl) :
    ∃ lvl' s, InCall n as t (.ins k lvl') s p ∧ NoOwnChange n as t s p := by
  obtain ⟨op, s, hc⟩ := busy_inCall n as p t ⟨th, hth, by rw [hpc]; rfl⟩
  have hev := ev_invariant n as p t op s th hc hth
  rw [hpc] at hev
  obtain ⟨lvl', rfl⟩ := opKind_ins hev.1
  exact ⟨lvl', s, hc, hev.2⟩

theorem mark_inCall {n : Nat} {as : List Action} {t p : Nat} {th : Thread} {item nd i next : Nat} {marked : Bool}
    (hth : thrAt n as t p = some th) (hpc : th.pc = .softMark item nd i next marked) :
    ∃ s, InCall n as t (.del item) s p ∧ PhaseEv n as t s p (.delMark item nd marked) := by
  obtain ⟨op, s, hc⟩ := busy_inCall n as p t ⟨th, hth, by rw [hpc]; rfl⟩
  have hev := ev_invariant n as p t op s th hc hth
  rw [hpc] at hev
  cases opKind_del hev.1
  exact ⟨s, hc, hev.2⟩

theorem InsPoint.changes {n : Nat} {as : List Action} {t k p : Nat} (h : InsPoint n as t k p) : ¬ AbsSame n as p := by
  intro hs
  have h1 : absAt n as (p + 1) k := (h.adds k).mpr (.inr rfl)
  exact h.absent ((hs k).mp h1)

theorem DelPoint.changes {n : Nat} {as : List Action} {t k p : Nat} (h : DelPoint n as t k p) : ¬ AbsSame n as p := by
  intro hs
  have h1 : ¬ absAt n as (p + 1) k := fun h' => ((h.removes k).mp h').2 rfl
  exact h1 ((hs k).mpr h.present)

theorem step_thread_eq {as : List Action} {p t t' : Nat} (h : as[p]? = some (.step t))
    (h' : as[p]? = some (.step t')) : t = t' := by
  rw [h] at h'; cases h'; rfl

theorem InsPoint.item_eq {n : Nat} {as : List Action} {t t' k k' p : Nat} (h : InsPoint n as t k p)
    (h' : InsPoint n as t' k' p) : k = k' := by
  rcases (h'.adds k).mp ((h.adds k).mpr (.inr rfl)) with h1 | h1
  · exact absurd h1 h.absent
  · exact h1

theorem DelPoint.item_eq {n : Nat} {as : List Action} {t t' k k' p : Nat} (h : DelPoint n as t k p)
    (h' : DelPoint n as t' k' p) : k = k' :=
  Classical.byContradiction fun hne => ((h.removes k).mp ((h'.removes k).mpr ⟨h.present, hne⟩)).2 rfl

theorem InsPoint.not_del {n : Nat} {as : List Action} {t t' k k' p : Nat} (h : InsPoint n as t k p)
    (h' : DelPoint n as t' k' p) : False :=
  ((h'.removes k').mp ((h.adds k').mpr (.inl h'.present))).2 rfl

theorem IdleAt.not_busy {n : Nat} {as : List Action} {t i : Nat} (hi : IdleAt n as t i) (hb : BusyAt n as t i) :
    False := by
  obtain ⟨th, hth, hidle⟩ := hi
  obtain ⟨th2, hth2, hbusy⟩ := hb
  rw [hth] at hth2
  cases hth2
  rw [hidle] at hbusy; cases hbusy

theorem InCall.unique {n : Nat} {as : List Action} {t : Nat} {op op' : Op} {s s' j : Nat}
    (h : InCall n as t op s j) (h' : InCall n as t op' s' j) : s = s' ∧ op = op' := by
  -- the later entry finds the thread idle, inside the earlier call it is busy
  have key : ∀ {op op' : Op} {s s' : Nat}, InCall n as t op s j → InCall n as t op' s' j → ¬ s < s' :=
    fun h h' hlt => h'.starts.2.not_busy (h.busyAt hlt (Nat.le_of_lt h'.lt))
  have hs : s = s' := Nat.le_antisymm (Nat.le_of_not_lt (key h' h)) (Nat.le_of_not_lt (key h h'))
  subst hs
  have := h.starts.action.symm.trans h'.starts.action
  simp at this
  exact ⟨rfl, this⟩

theorem InCall.le_end {n : Nat} {as : List Action} {t : Nat} {op op' : Op} {s j e : Nat} {out : String}
    (h : InCall n as t op s j) (c : Call n as t op' s e out) : j ≤ e :=
  Nat.le_of_not_lt fun hlt => c.idle.not_busy (h.busyAt (Nat.lt_succ_of_lt c.inCall.lt) hlt)

theorem Call.unique_end {n : Nat} {as : List Action} {t : Nat} {op op' : Op} {s e e' : Nat} {out out' : String}
    (c : Call n as t op s e out) (c' : Call n as t op' s e' out') : e = e' :=
  Nat.le_antisymm (c.inCall.le_end c') (c'.inCall.le_end c)

end NitroVerif.SkipConc
