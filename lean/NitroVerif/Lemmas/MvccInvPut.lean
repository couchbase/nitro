/-
  `Put2` preserves the invariant: the version it links is alive and born in the current epoch, so no
  snapshot sees it, no garbage list names it and no handle obtained earlier means it.
-/
import NitroVerif.Lemmas.MvccInv

namespace NitroVerif.Mvcc

theorem inv_put_ok {σ : State} (h : Inv σ) {w k v : Nat} (hw : w < σ.writers.length)
    (hl : lookup σ.store (probe σ k v) = none) :
    Inv { σ with store := insertAt σ.store (probe σ k v),
                 writers := updWriter w (fun x => { x with count := x.count + 1 }) σ.writers } := by
  have hno := lookup_complete h.sorted h.chains hl
  have hcur := h.cur_pos
  have hmem := mem_insertAt σ.store (probe σ k v)
  have hold : ∀ x ∈ σ.store, x ∈ insertAt σ.store (probe σ k v) := fun x hx => (hmem x).mpr (Or.inr hx)
  have hg := h.garb
  have hsame : ∀ g, InGc (updWriter w (fun x => { x with count := x.count + 1 }) σ.writers) g ↔
      InGc σ.writers g := inGc_updWriter_same (fun _ => rfl)
  have hnew : ∀ g, g.born < σ.currSn → sameId (probe σ k v) g = false := fun g hgb =>
    Bool.eq_false_iff.mpr fun hs => Nat.ne_of_lt hgb ((sameId_iff _ g).mp hs).2.symm
  refine Inv.of_fields (sorted_insertAt h.sorted _ (no_same_id_of_no_alive h.chains k v hno))
    (chains_insertAt h.chains k v hno) ?_ h.snaps ?_ ?_ h.iters ?_
  · have h1 := h.count
    unfold CountInv at h1 ⊢
    rw [sum_updWriter w _ 1 (fun _ => rfl) _ hw, filter_insertAt_length, if_pos (show isAlive (probe σ k v) = true from rfl),
      Int.natCast_add, ← h1, Int.add_assoc]
    rfl
  · intro s hs hrc
    rw [view_insertAt _ _ _ (h.snaps.lt s hs).2]
    exact h.view s hs hrc
  · refine ⟨?_, ?_, ?_, ?_, ?_, ?_, ?_⟩
    · intro x hx hd
      rcases (hmem x).mp hx with rfl | hx
      · exact absurd (hd : 0 = σ.currSn) (Nat.ne_of_lt hcur)
      · obtain ⟨g, hg1, hg2⟩ := hg.wgc x hx hd
        exact ⟨g, (hsame g).mpr hg1, hg2⟩
    · intro x hx hd hlt
      rcases (hmem x).mp hx with rfl | hx
      · exact absurd rfl hd
      · exact hg.sgc x hx hd hlt
    · intro g hgin
      have ⟨h1, h2⟩ := hg.wsound g ((hsame g).mp hgin)
      refine ⟨h1, fun x hx hsid => ?_⟩
      rcases (hmem x).mp hx with rfl | hx
      · rw [hnew g h1] at hsid; cases hsid
      · exact h2 x hx hsid
    · intro s hs hst g hgm
      have ⟨h1, h2⟩ := hg.ssound s hs hst g hgm
      refine ⟨h1, fun x hx hsid => ?_⟩
      rcases (hmem x).mp hx with rfl | hx
      · rw [hnew g (Nat.lt_trans h1 (h.snaps.lt s hs).2)] at hsid; cases hsid
      · exact h2 x hx hsid
    · intro x hx hd
      rcases (hmem x).mp hx with rfl | hx
      · exact absurd rfl hd
      · exact hg.exact x hx hd
    · intro g hgin
      obtain ⟨x, hx, hsid⟩ := hg.wpres g ((hsame g).mp hgin)
      exact ⟨x, hold x hx, hsid⟩
    · intro s hs hst g hgm
      obtain ⟨x, hx, hsid⟩ := hg.spres s hs hst g hgm
      exact ⟨x, hold x hx, hsid⟩
  · intro p hp hgone
    rcases h.handles p hp hgone with h1 | ⟨x, hx, hk⟩
    · exact Or.inl h1
    · exact Or.inr ⟨x, hold x hx, hk⟩

theorem inv_put {σ : State} (h : Inv σ) {w : Nat} (k v : Nat) (hw : w < σ.writers.length) :
    Inv (put σ w k v).1 := by
  unfold put
  split
  · exact h
  · rename_i hl; exact inv_put_ok h hw hl

end NitroVerif.Mvcc
