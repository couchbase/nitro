/-
  Characterisation of the generated guards (`Gen/Guards.lean`, regenerated from the Go sources) that
  the small-step M6 model `Model/MvccConc.lean` calls, and the call skeletons of the Go functions it
  transcribes.  A change of a Go condition or of the order of the effectful calls breaks a lemma here
  (or the lemma of `Lemmas/GuardsGen.lean` referred to).
    model function           Go function                     guard / skeleton
    startDel                 Writer.Delete2, DeleteNode      Gen.sameEpoch, skeleton_Delete2, skeleton_DeleteNode
    stepPut                  Writer.Put2, Insert4            Gen.findAdvance/findFound, comparators, skeleton_Put2
    closeRef, itNew          Snapshot.Close, Open            Gen.closeRetire, Gen.openRefuse
    collectable, recheck     collectDead, hasCollectable…    Gen.gcStop, Gen.collectableHead
    landOn                   Iterator.skipUnwanted           Gen.skipUnwanted
    iterStoreCmp             NewIterator / Refresh           Gen.iteratorStoreCmp
    stepGc / stepFr / shutdown   collectionWorker, freeWorker, Nitro.Close    skeletons
    snap, stepCollect, runGC, closeRef, stepIter    NewSnapshot, collectDead, GC, Snapshot.Close, Iterator.Next    skeletons
-/
import NitroVerif.Model.MvccConc
import NitroVerif.Lemmas.MvccGen

namespace NitroVerif.MvccConc

/-- `DeleteNode`: physical delete iff the item was born in the current epoch -/
theorem sameEpoch_iff (b sn : Nat) : Gen.sameEpoch b sn = true ↔ b = sn := Gen.sameEpoch_iff b sn

/-- `Snapshot.Close`: retire iff the decremented count is zero -/
theorem closeRetire_iff (rc : Int) : Gen.closeRetire rc = true ↔ rc = 0 := Gen.closeRetire_iff rc

/-- `Snapshot.Open`: refuse iff the observed count is zero -/
theorem openRefuse_iff (rc : Int) : Gen.openRefuse rc = true ↔ rc = 0 := Gen.openRefuse_iff rc

/-- `collectDead`: stop unless the head of the retired list is the next in order -/
theorem gcStop_false_iff (sn g : Nat) : Gen.gcStop sn g = false ↔ sn = g + 1 := Gen.gcStop_false_iff sn g

/-- `hasCollectableSnapshot`: the re-check after dropping the collector flag -/
theorem collectableHead_iff (sn g : Nat) : Gen.collectableHead sn g = true ↔ sn = g + 1 :=
  Gen.collectableHead_iff sn g

/-- the two tests are complementary, hence `GC()` terminates (`collectLoop_ne_hang`) -/
theorem collectable_tests_complementary (sn g : Nat) : Gen.collectableHead sn g = !Gen.gcStop sn g :=
  Gen.collectableHead_eq_not_gcStop sn g

/-- `skipUnwanted`: a version is delivered to snapshot `sn` iff born at or before it and not dead at it -/
theorem skipUnwanted_false_iff (b d sn : Nat) : Gen.skipUnwanted b d sn = false ↔ b ≤ sn ∧ (d = 0 ∨ sn < d) :=
  Gen.skipUnwanted_false_iff b d sn

/-- snapshot iterators walk the store with the insert comparator -/
theorem iteratorStoreCmp_ins : Gen.iteratorStoreCmp = Gen.CmpKind.ins := rfl

theorem iterStoreCmp_eq (σ : State) :
    iterStoreCmp σ = if σ.fixedIter then Mvcc.insCmp else Mvcc.iterCmp := by
  unfold iterStoreCmp
  split <;> simp [iteratorStoreCmp_ins, Mvcc.cmpOf]

theorem findAdvance_iff (c : Int) : Gen.findAdvance c = true ↔ c < 0 := Gen.findAdvance_iff c
theorem findFound_iff (c : Int) : Gen.findFound c = true ↔ c = 0 := Gen.findFound_iff c

/-- Put2: `Insert2`, then `freeItem` on rejection (`stepPut`) -/
theorem skeleton_Put2_ok : Gen.skeleton_Put2 = ["w.store.Insert2", "w.freeItem"] := rfl

/-- Insert4 frees the node it was given when the item exists already (`stepPut`: node, then item) -/
theorem skeleton_Insert4_frees :
    Gen.skeleton_Insert4.take 3 = ["s.findPath", "s.freeNode", "buf.preds[0].dcasNext"] := rfl

/-- Delete2 holds a barrier token from before the lookup until it returns (`startDel` … `casLose`) -/
theorem skeleton_Delete2_ok : Gen.skeleton_Delete2 = ["barrier.Acquire", "defer", "barrier.Release"] := rfl

/-- DeleteNode: physical delete then flush (same epoch), else the compare-and-swap and the garbage list -/
theorem skeleton_DeleteNode_ok :
    Gen.skeleton_DeleteNode = ["defer", "w.store.DeleteNode", "x.SetLink", "barrier.FlushSession",
      "atomic.CompareAndSwapUint32(gotItem.deadSn)", "x.SetLink", "w.gctail.SetLink"] := rfl

/-- the collection worker: `DeleteNode` per node, then one `FlushSession` of the whole list (`stepGc`) -/
theorem skeleton_collectionWorker_ok :
    Gen.skeleton_collectionWorker = ["defer", "defer", "close", "m.store.DeleteNode", "barrier.FlushSession"] := rfl

/-- the free worker: `freeItem`, then `FreeNode`, per node (`freeNodes`) -/
theorem skeleton_freeWorker_ok : Gen.skeleton_freeWorker = ["m.freeItem", "m.store.FreeNode"] := rfl

/-- `Nitro.Close()`: per linked node `freeItem`, `FreeNode`; then the two sentinels (`shutdown`) -/
theorem skeleton_NitroClose_tail :
    Gen.skeleton_NitroClose.drop 8 =
      ["iter.Close", "iter.SeekFirst", "iter.Next", "m.freeItem", "m.store.FreeNode", "iter.Next",
       "m.store.FreeNode", "m.store.FreeNode"] := rfl

/-- collectDead: `lastGCSn` is stored, the list is sent, the snapshot leaves the retired list — one
    COLLECT_SEND segment (`stepCollect`) -/
theorem skeleton_collectDead_ok :
    Gen.skeleton_collectDead = ["defer", "defer", "defer", "iter.Close", "iter.SeekFirst", "iter.Next",
      "atomic.StoreUint32(m.lastGCSn)", "send(m.gcchan)", "m.gcsnapshots.DeleteNode"] := rfl

/-- GC: try-lock, collect, unlock, re-check (`runGC`, `collectLoop`) -/
theorem skeleton_GC_ok :
    Gen.skeleton_GC = ["atomic.CompareAndSwapInt32(m.isGCRunning)", "m.collectDead",
      "atomic.CompareAndSwapInt32(m.isGCRunning)", "m.hasCollectableSnapshot"] := rfl

/-- Snapshot.Close: decrement, (at zero) move to the retired list, GC (`closeRef`) -/
theorem skeleton_Close_ok :
    Gen.skeleton_Close = ["atomic.AddInt32(s.refCount)", "defer", "s.db.snapshots.Delete",
      "s.db.gcsnapshots.Insert", "s.db.GC"] := rfl

/-- skiplist Iterator.Next: read the successor; on a deleted current node the conflict counter is bumped
    and the path is searched again (`stepIter`) -/
theorem skeleton_SkiplistIteratorNext_ok :
    Gen.skeleton_SkiplistIteratorNext = ["it.curr.getNext", "atomic.AddUint64(it.s.Stats.readConflicts)", "it.Refresh"] :=
  rfl

/-- NewSnapshot: stitch the writers' lists, add their counts, bump `currSn` (`snap`) -/
theorem skeleton_NewSnapshot_ok :
    Gen.skeleton_NewSnapshot = ["defer", "tail.SetLink", "atomic.AddInt64(m.itemsCount)",
      "atomic.AddUint32(m.currSn)"] := rfl

end NitroVerif.MvccConc
