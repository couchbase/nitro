import NitroVerif.Lemmas.SkipConcSeg
import NitroVerif.Lemmas.SkipConcCore
/-!
  What the tails of a segment leave behind for the property files and the scans: the iterator positions `afterNext`
  and findPath's callers Seek / Next / Refresh install (`finishFind_own`), and what a `found` answer was read from
  (`finishFind_hit`, `found_present`); the miss side: `MissOutcome`, `finishFind_miss`.
-/
namespace NitroVerif.SkipConc

theorem retBool_false {b : Bool} (h : retBool b = "ret false") : b = false := by
  cases b
  · rfl
  · simp [retBool] at h

theorem afterNext_pos (sh : Shared) (th : Thread) (it : Nat) :
    ((afterNext sh th it).2.1.iter it).prev = (th.iter it).prev ∧
    ((afterNext sh th it).2.1.iter it).curr = (th.iter it).curr := by
  -- in both outcomes the iterator record becomes some `v` with the old positions
  have pos : ∀ v : Iter, v.prev = (th.iter it).prev → v.curr = (th.iter it).curr → ∀ pc : PC,
      (({ th.setIter it v with pc := pc } : Thread).iter it).prev = (th.iter it).prev ∧
      (({ th.setIter it v with pc := pc } : Thread).iter it).curr = (th.iter it).curr := fun v hv1 hv2 _ =>
    ⟨(congrArg Iter.prev (iter_setIter_self th it v)).trans hv1, (congrArg Iter.curr (iter_setIter_self th it v)).trans hv2⟩
  obtain ⟨v, hv1, hv2, h | ⟨_, h⟩⟩ := afterNext_cases sh th it
  · rw [h]; exact pos v hv1 hv2 _
  · rw [h]; exact pos v hv1 hv2 _

theorem moveIter_pos (th : Thread) (it p c : Nat) (pc : PC) :
    (({ th.moveIter it p c with pc := pc } : Thread).iter it).prev = p ∧
    (({ th.moveIter it p c with pc := pc } : Thread).iter it).curr = c := by
  have : ({ th.moveIter it p c with pc := pc } : Thread).iter it = (th.moveIter it p c).iter it := rfl
  rw [this, moveIter_iter]; exact ⟨rfl, rfl⟩

/-- the iterator a findPath call serves -/
def contIter : Cont → Option Nat
  | .iterNext it => some it
  | .iterSeek it => some it
  | .iterRefresh it => some it
  | _ => none

theorem finishFind_own (sh : Shared) (th : Thread) (item : Nat) (found : Bool) (it : Nat) (c : Cont)
    (hc : contIter c = some it) :
    (finishFind sh th item found c).1 = sh ∧
    ((finishFind sh th item found c).2.1.iter it).prev = th.pred 0 ∧
    ((finishFind sh th item found c).2.1.iter it).curr = th.succ 0 ∧
    ((finishFind sh th item found c).2.1.pc = .idle ∨
     (c = .iterNext it ∧ ((finishFind sh th item found c).2.1.pc = .iterRefresh it ∨
        ((finishFind sh th item found c).2.1.pc = .iterNext it ∧ th.succ 0 = (th.iter it).curr)))) := by
  have s := finishFind_cases sh th item found c
  generalize finishFind sh th item found c = r at s ⊢
  cases s with
  | iterAgain h => cases hc; exact ⟨rfl, (moveIter_pos ..).1, (moveIter_pos ..).2, .inr ⟨rfl, .inr ⟨rfl, h⟩⟩⟩
  | iterDone =>
    cases hc
    have hp := afterNext_pos sh (th.moveIter it (th.pred 0) (th.succ 0)) it
    rw [moveIter_iter] at hp
    refine ⟨afterNext_sh .., hp.1, hp.2, ?_⟩
    obtain ⟨v, _, _, h | ⟨_, h⟩⟩ := afterNext_cases sh (th.moveIter it (th.pred 0) (th.succ 0)) it <;> rw [h]
    · exact .inl rfl
    · exact .inr ⟨rfl, .inl rfl⟩
  | iterSeek | iterRefresh => cases hc; exact ⟨rfl, (moveIter_pos ..).1, (moveIter_pos ..).2, .inl rfl⟩
  | _ => cases hc

theorem finishFind_hit {sh : Shared} {th : Thread} {item : Nat} {found : Bool} {c : Cont}
    (hret : (c = .lookup ∧ (finishFind sh th item found c).2.2 = "ret true") ∨
            ((∃ lvl, c = .insFirst lvl ∨ c = .insRetry lvl) ∧ (finishFind sh th item found c).2.2 = "ret false")) :
    found = true := by
  cases found with
  | true => rfl
  | false => rcases hret with ⟨hc, hr⟩ | ⟨⟨lvl, hc | hc⟩, hr⟩ <;> rw [hc] at hr <;> simp [finishFind, retBool] at hr

/-- the three ways a findPath can end in a MISS that the caller reports or acts on: Lookup answers false, Insert
    goes on to publish, Delete answers false right after its search -/
def MissOutcome (c : Cont) (out : String) : Prop :=
  (c = .lookup ∧ out = "ret false") ∨
  ((∃ lvl, c = .insFirst lvl ∨ c = .insRetry lvl) ∧ out = "at INS_PUBLISH") ∨
  (c = .delSearch ∧ out = "ret false")

theorem MissOutcome.ends {c : Cont} {out : String} (h : MissOutcome c out) : FindEnds out := by
  rcases h with ⟨_, h⟩ | ⟨_, h⟩ | ⟨_, h⟩ <;> rw [h] <;> simp [FindEnds]

/-- the caller reports or acts on a miss only when findPath did not find: a Delete that found the node answers `false`
    from this segment only if the node's level-0 word is marked, and it was read unmarked -/
theorem finishFind_miss {sh : Shared} {th : Thread} {item : Nat} {found : Bool} {c : Cont}
    (hm : (getNext sh.heap (th.succ 0) 0).2 = false)
    (hres : MissOutcome c (finishFind sh th item found c).2.2) : found = false := by
  cases found with
  | false => rfl
  | true =>
    exfalso
    rcases hres with ⟨hc, h⟩ | ⟨⟨lvl, hc | hc⟩, h⟩ | ⟨hc, h⟩
    · rw [hc] at h; simp [finishFind, retBool] at h
    · rw [hc] at h; simp [finishFind, retBool] at h
    · rw [hc] at h; simp [finishFind, retBool] at h
    · rw [hc] at h
      simp only [finishFind, if_true] at h
      rcases enterSoft_cases sh th item (th.succ 0) (heightOf sh.heap (th.succ 0)) false with
        ⟨_, _, ho⟩ | ⟨hm', _⟩ | ⟨_, _, this⟩
      · rw [ho] at h; simp at h
      · cases hm'
      · rw [hm] at this; cases this

/-- outcome of findPath's last read: a `found` answer was taken from a node that is, in this very state, in the
    abstract set and carries the item -/
theorem found_present {sh : Shared} (H : HInv sh.heap) {c : Nat} {item : Nat}
    (hd : (getNext sh.heap c 0).2 = false) (hf : Gen.findFound (compare (keyOf sh.heap c) (.fin item)) = true) :
    unmarked0 sh.heap c ∧ keyOf sh.heap c = .fin item := by
  have hk : keyOf sh.heap c = .fin item := (compare_zero_iff _ _).mp ((Gen.findFound_iff _).mp hf)
  have hc : c < sh.heap.length := lt_of_keyOf_fin hk
  have hc1 : c ≠ 1 := fun e => by rw [e, H.tailKey] at hk; cases hk
  exact ⟨unmarked0_of_level H hc1 (.inr (H.word0 c hc hc1)) hd, hk⟩

end NitroVerif.SkipConc
