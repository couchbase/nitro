import NitroVerif.Lemmas.SkipSeqPath
/-!
  The representation invariant of a quiescent skiplist: `Rep s L0` says that the heap of `s` holds,
  on every level `l`, the unmarked chain `head → (nodes of L0 with height ≥ l) → tail`, that `L0` is
  strictly ascending by key, and that the statistics count exactly `L0`.  The field `size` bounds the
  loops (their fuel is computed from `nodes.length`); it would follow from `nodes` and `sorted` by
  counting distinct indices and is a field to spare that argument.  Then what is kept: `Static` (by a store),
  `SameBut` (by the search), `Kept` (by a loop), `Ext` (by an operation); `geX`.
-/
namespace NitroVerif.SkipSeq

structure Base (h : Heap) : Prop where
  len : 3 ≤ h.length
  headKey : keyOf h headId = .min
  tailKey : keyOf h tailId = .max
  headLen : nextLen h headId = Gen.maxLevel + 1
  tailFlag : ∀ l, (getNext h tailId l).2 = false

structure NodeOK (s : SL) (n : Nat) : Prop where
  lo : 3 ≤ n
  hi : n < s.nodes.length
  key : keyOf s.nodes n = .item (ikey s.nodes n)
  lvl : levelOf s.nodes n ≤ s.level
  len : nextLen s.nodes n = levelOf s.nodes n + 1

/-- number of nodes of `L` with height exactly `g` -/
def cntLevel (h : Heap) (L : List Nat) (g : Nat) : Nat := (L.filter fun n => levelOf h n == g).length

structure StatsOK (s : SL) (L0 : List Nat) : Prop where
  len : s.stats.levelNodesCount.length = Gen.maxLevel + 1
  dist : ∀ g, g ≤ Gen.maxLevel → s.stats.levelNodesCount.getD g 0 = (cntLevel s.nodes L0 g : Int)
  soft : s.stats.softDeletes = 0
  frees : s.stats.nodeFrees = 0

structure Rep (s : SL) (L0 : List Nat) : Prop where
  base : Base s.nodes
  lvl : s.level ≤ Gen.maxLevel
  nodes : ∀ n ∈ L0, NodeOK s n
  sorted : L0.Pairwise (fun a b => ikey s.nodes a < ikey s.nodes b)
  paths : ∀ l, l ≤ Gen.maxLevel → Path s.nodes nomk l (headId :: LL s.nodes L0 l ++ [tailId])
  stats : StatsOK s L0
  size : L0.length + 3 ≤ s.nodes.length
  bufP : s.buf.preds.length = Gen.maxLevel + 1
  bufS : s.buf.succs.length = Gen.maxLevel + 1
  live : s.stuck = false

theorem cntLevel_congr {h h' : Heap} {L : List Nat} (g : Nat) (hl : ∀ n ∈ L, levelOf h' n = levelOf h n) :
    cntLevel h' L g = cntLevel h L g := by
  unfold cntLevel
  congr 1
  apply List.filter_congr
  intro n hn; rw [hl n hn]

theorem SameShape.cntLevel_eq {h0 h : Heap} (sh : SameShape h0 h) : cntLevel h = cntLevel h0 := by
  funext L g; exact cntLevel_congr g (fun n _ => sh.lvl n)

theorem cntLevel_append (h : Heap) (A B : List Nat) (g : Nat) :
    cntLevel h (A ++ B) g = cntLevel h A g + cntLevel h B g := by
  simp [cntLevel]

theorem cntLevel_cons (h : Heap) (a : Nat) (B : List Nat) (g : Nat) :
    cntLevel h (a :: B) g = (if levelOf h a = g then 1 else 0) + cntLevel h B g := by
  unfold cntLevel
  by_cases hc : levelOf h a = g
  · simp [hc]; omega
  · simp [hc]

theorem cntLevel_mid (h : Heap) (A B : List Nat) (z g : Nat) :
    (cntLevel h (A ++ z :: B) g : Int) = cntLevel h (A ++ B) g + if levelOf h z = g then 1 else 0 := by
  rw [cntLevel_append, cntLevel_append, cntLevel_cons]
  split <;> simp <;> omega

theorem dist_addAt {h h' : Heap} {c : List Int} {L L' : List Nat} {t : Nat} {v : Int}
    (hlen : c.length = Gen.maxLevel + 1) (ht : t ≤ Gen.maxLevel)
    (hd : ∀ g, g ≤ Gen.maxLevel → c.getD g 0 = (cntLevel h L g : Int))
    (hL : ∀ g, (cntLevel h' L' g : Int) = cntLevel h L g + if t = g then v else 0) :
    (addAt c t v).length = Gen.maxLevel + 1 ∧
    ∀ g, g ≤ Gen.maxLevel → (addAt c t v).getD g 0 = (cntLevel h' L' g : Int) := by
  refine ⟨by rw [length_addAt]; exact hlen, fun g hg => ?_⟩
  rw [getD_addAt _ _ _ _ (by rw [hlen]; exact Nat.lt_succ_of_le ht), hd g hg, hL g]
  split <;> simp

theorem StatsOK.move {s s' : SL} {L L' : List Nat} {t : Nat} {v : Int} (st : StatsOK s L)
    (ht : t ≤ Gen.maxLevel) (hc : s'.stats.levelNodesCount = addAt s.stats.levelNodesCount t v)
    (hs : s'.stats.softDeletes = 0) (hf : s'.stats.nodeFrees = 0)
    (hL : ∀ g, (cntLevel s'.nodes L' g : Int) = cntLevel s.nodes L g + if t = g then v else 0) :
    StatsOK s' L' :=
  ⟨hc ▸ (dist_addAt st.len ht st.dist hL).1, hc ▸ (dist_addAt st.len ht st.dist hL).2, hs, hf⟩

theorem Base.of_shape {h0 h : Heap} (b : Base h0) (sh : SameShape h0 h)
    (ht : ∀ l, (getNext h tailId l).2 = false) : Base h :=
  ⟨sh.len ▸ b.len, (sh.key _).trans b.headKey, (sh.key _).trans b.tailKey, (sh.nlen _).trans b.headLen, ht⟩

theorem NodeOK.of_shape {s s' : SL} {n : Nat} (o : NodeOK s n) (sh : SameShape s.nodes s'.nodes)
    (hl : s.level ≤ s'.level) : NodeOK s' n :=
  ⟨o.lo, sh.len ▸ o.hi, by rw [sh.key, sh.ikey]; exact o.key, by rw [sh.lvl]; exact Nat.le_trans o.lvl hl,
   by rw [sh.nlen, sh.lvl]; exact o.len⟩

theorem NodeOK.of_append {s s' : SL} {n : Nat} {nd : Node} (o : NodeOK s n)
    (hn : s'.nodes = s.nodes ++ [nd]) (hl : s.level ≤ s'.level) : NodeOK s' n := by
  refine ⟨o.lo, ?_, ?_, ?_, ?_⟩ <;> rw [hn]
  · rw [List.length_append]; exact Nat.lt_add_right _ o.hi
  · rw [keyOf_append_old o.hi, ikey_congr (keyOf_append_old o.hi)]; exact o.key
  · rw [levelOf_append_old o.hi]; exact Nat.le_trans o.lvl hl
  · rw [nextLen_append_old o.hi, levelOf_append_old o.hi]; exact o.len

theorem predAt_top {s : SL} {A : List Nat} (hn : ∀ a ∈ A, NodeOK s a) :
    predAt s.nodes A (s.level + 1) = headId := by
  unfold predAt
  rw [LL_eq_nil (fun n h => Nat.lt_succ_of_le (hn n h).lvl)]
  rfl

/-- the part of `Rep s L` that no store into a link word changes -/
structure Static (s : SL) (L : List Nat) : Prop where
  base : Base s.nodes
  lvl : s.level ≤ Gen.maxLevel
  nodes : ∀ n ∈ L, NodeOK s n
  sorted : L.Pairwise (fun a b => ikey s.nodes a < ikey s.nodes b)

theorem Rep.static {s : SL} {L : List Nat} (hr : Rep s L) : Static s L := ⟨hr.base, hr.lvl, hr.nodes, hr.sorted⟩

theorem Static.of_shape {s s' : SL} {L : List Nat} (c : Static s L) (sh : SameShape s.nodes s'.nodes)
    (ht : ∀ l, (getNext s'.nodes tailId l).2 = false) (hlv : s'.level = s.level) : Static s' L :=
  ⟨c.base.of_shape sh ht, hlv ▸ c.lvl, fun n h => (c.nodes n h).of_shape sh (Nat.le_of_eq hlv.symm),
   by rw [sh.ikey_eq]; exact c.sorted⟩

/-- `s` gives the cells (`Static`), `s'` the links: `Rep s' L` from the paths of `s'` -/
theorem Rep.of_shape {s s' : SL} {L : List Nat} (c : Static s L) (sh : SameShape s.nodes s'.nodes)
    (ht : ∀ l, (getNext s'.nodes tailId l).2 = false) (hlv : s'.level = s.level)
    (hp : ∀ l, l ≤ Gen.maxLevel → Path s'.nodes nomk l (headId :: LL s.nodes L l ++ [tailId]))
    (hst : StatsOK s' L) (hsz : L.length + 3 ≤ s.nodes.length)
    (hbp : s'.buf.preds.length = Gen.maxLevel + 1) (hbs : s'.buf.succs.length = Gen.maxLevel + 1)
    (hlive : s'.stuck = false) : Rep s' L :=
  have c' := c.of_shape sh ht hlv
  ⟨c'.base, c'.lvl, c'.nodes, c'.sorted, by rw [sh.LL_eq]; exact hp, hst, sh.len ▸ hsz, hbp, hbs, hlive⟩

/-- `s'` differs from `s` in the action buffer only -/
structure SameBut (s s' : SL) : Prop where
  nodes : s'.nodes = s.nodes
  level : s'.level = s.level
  stats : s'.stats = s.stats
  stuck : s'.stuck = s.stuck
  bufP : s'.buf.preds.length = s.buf.preds.length
  bufS : s'.buf.succs.length = s.buf.succs.length

theorem SameBut.refl (s : SL) : SameBut s s := ⟨rfl, rfl, rfl, rfl, rfl, rfl⟩

theorem SameBut.trans {a b c : SL} (h1 : SameBut a b) (h2 : SameBut b c) : SameBut a c :=
  ⟨h2.nodes.trans h1.nodes, h2.level.trans h1.level, h2.stats.trans h1.stats, h2.stuck.trans h1.stuck,
   h2.bufP.trans h1.bufP, h2.bufS.trans h1.bufS⟩

theorem sameBut_setBuf (s : SL) (i p c : Nat) : SameBut s (s.setBuf i p c) :=
  ⟨rfl, rfl, rfl, rfl, by simp [SL.setBuf], by simp [SL.setBuf]⟩

/-- list level, action buffer and `stuck` are kept; heap and statistics may move -/
structure Kept (s s' : SL) : Prop where
  level : s'.level = s.level
  buf : s'.buf = s.buf
  stuck : s'.stuck = s.stuck

theorem Kept.refl (s : SL) : Kept s s := ⟨rfl, rfl, rfl⟩

theorem Kept.trans {a b c : SL} (h1 : Kept a b) (h2 : Kept b c) : Kept a c :=
  ⟨h2.level.trans h1.level, h2.buf.trans h1.buf, h2.stuck.trans h1.stuck⟩

/-- what an operation may do to the nodes that existed before it: keys and heights are kept, and only the
    link words of the head and of live nodes (`L0`) change (`frame`: a deleted node keeps all its words,
    so a dead handle stays dead) -/
structure Ext (s s' : SL) (L0 : List Nat) : Prop where
  len : s.nodes.length ≤ s'.nodes.length
  key : ∀ n, n < s.nodes.length → keyOf s'.nodes n = keyOf s.nodes n
  lvl : ∀ n, n < s.nodes.length → levelOf s'.nodes n = levelOf s.nodes n
  frame : ∀ n, n < s.nodes.length → n ∉ L0 → n ≠ headId → ∀ l, getNext s'.nodes n l = getNext s.nodes n l

theorem Ext.of_sameBut {s s' : SL} (L0 : List Nat) (h : SameBut s s') : Ext s s' L0 :=
  ⟨by rw [h.nodes]; exact Nat.le_refl _, fun _ _ => by rw [h.nodes], fun _ _ => by rw [h.nodes],
   fun _ _ _ _ _ => by rw [h.nodes]⟩

/-- `Rep` only depends on the head, the tail and the nodes of the list -/
theorem Rep.congr {s s' : SL} {L0 : List Nat} (hr : Rep s L0)
    (hlen : s.nodes.length ≤ s'.nodes.length)
    (hsame : ∀ n, (n ∈ L0 ∨ n = headId ∨ n = tailId) →
      keyOf s'.nodes n = keyOf s.nodes n ∧ levelOf s'.nodes n = levelOf s.nodes n ∧
      nextLen s'.nodes n = nextLen s.nodes n ∧ ∀ l, getNext s'.nodes n l = getNext s.nodes n l)
    (hlv : s.level ≤ s'.level) (hlv2 : s'.level ≤ Gen.maxLevel) (hst : s'.stats = s.stats)
    (hbp : s'.buf.preds.length = s.buf.preds.length) (hbs : s'.buf.succs.length = s.buf.succs.length)
    (hstk : s'.stuck = s.stuck) : Rep s' L0 := by
  have hH := hsame headId (Or.inr (Or.inl rfl))
  have hT := hsame tailId (Or.inr (Or.inr rfl))
  have hlvl : ∀ n ∈ L0, levelOf s'.nodes n = levelOf s.nodes n := fun n hn => (hsame n (Or.inl hn)).2.1
  have hik : ∀ n ∈ L0, ikey s'.nodes n = ikey s.nodes n := fun n hn => ikey_congr (hsame n (Or.inl hn)).1
  refine ⟨⟨?_, ?_, ?_, ?_, ?_⟩, hlv2, ?_, ?_, ?_, ⟨?_, ?_, ?_, ?_⟩, ?_, ?_, ?_, ?_⟩
  · exact Nat.le_trans hr.base.len hlen
  · rw [hH.1]; exact hr.base.headKey
  · rw [hT.1]; exact hr.base.tailKey
  · rw [hH.2.2.1]; exact hr.base.headLen
  · intro l; rw [hT.2.2.2 l]; exact hr.base.tailFlag l
  · intro n hn
    have hs := hsame n (Or.inl hn)
    have ho := hr.nodes n hn
    refine ⟨ho.lo, Nat.lt_of_lt_of_le ho.hi hlen, ?_, ?_, ?_⟩
    · rw [hs.1, hik n hn]; exact ho.key
    · rw [hs.2.1]; exact Nat.le_trans ho.lvl hlv
    · rw [hs.2.2.1, hs.2.1]; exact ho.len
  · apply List.Pairwise.imp_of_mem _ hr.sorted
    intro a b ha hb hab; rw [hik a ha, hik b hb]; exact hab
  · intro l hl
    rw [LL_congr l hlvl]
    rw [path_congr (mk := nomk) (h := s.nodes)]
    · exact hr.paths l hl
    · intro a ha
      refine ⟨?_, rfl⟩
      simp only [List.cons_append, List.mem_cons, List.mem_append, List.not_mem_nil, or_false] at ha
      rcases ha with e | e | e
      · exact (hsame a (Or.inr (Or.inl e))).2.2.2 l
      · exact (hsame a (Or.inl (mem_LL.mp e).1)).2.2.2 l
      · exact (hsame a (Or.inr (Or.inr e))).2.2.2 l
  · rw [hst]; exact hr.stats.len
  · intro g hg; rw [hst, cntLevel_congr g hlvl]; exact hr.stats.dist g hg
  · rw [hst]; exact hr.stats.soft
  · rw [hst]; exact hr.stats.frees
  · exact Nat.le_trans hr.size hlen
  · rw [hbp]; exact hr.bufP
  · rw [hbs]; exact hr.bufS
  · rw [hstk]; exact hr.live

theorem Ext.trans {a b c : SL} {L0 : List Nat} (h1 : Ext a b L0) (h2 : Ext b c L0) : Ext a c L0 :=
  ⟨Nat.le_trans h1.len h2.len,
   fun n hn => (h2.key n (Nat.lt_of_lt_of_le hn h1.len)).trans (h1.key n hn),
   fun n hn => (h2.lvl n (Nat.lt_of_lt_of_le hn h1.len)).trans (h1.lvl n hn),
   fun n hn hnot hh l => (h2.frame n (Nat.lt_of_lt_of_le hn h1.len) hnot hh l).trans (h1.frame n hn hnot hh l)⟩

theorem Ext.map_ikey {s s' : SL} {L0 X : List Nat} (he : Ext s s' L0) (hr : Rep s L0)
    (hX : ∀ n ∈ X, n ∈ L0) : X.map (ikey s'.nodes) = X.map (ikey s.nodes) :=
  List.map_congr_left fun n hn => ikey_congr (he.key n (hr.nodes n (hX n hn)).hi)

theorem Rep.of_sameBut {s s' : SL} {L0 : List Nat} (hr : Rep s L0) (hs : SameBut s s') : Rep s' L0 :=
  hr.congr (Nat.le_of_eq (congrArg List.length hs.nodes).symm)
    (fun n _ => by rw [hs.nodes]; exact ⟨rfl, rfl, rfl, fun _ => rfl⟩)
    (Nat.le_of_eq hs.level.symm) (hs.level ▸ hr.lvl) hs.stats hs.bufP hs.bufS hs.stuck

theorem Rep.ne_head {s : SL} {L0 : List Nat} (hr : Rep s L0) {n : Nat} (hn : n ∈ L0) : n ≠ headId :=
  ne_of_three_le (hr.nodes n hn).lo (by decide)

theorem Rep.ne_tail {s : SL} {L0 : List Nat} (hr : Rep s L0) {n : Nat} (hn : n ∈ L0) : n ≠ tailId :=
  ne_of_three_le (hr.nodes n hn).lo (by decide)

theorem Rep.lt_length {s : SL} {L0 : List Nat} (hr : Rep s L0) {n : Nat}
    (hn : n ∈ L0 ∨ n = headId ∨ n = tailId) : n < s.nodes.length := by
  rcases hn with h | h | h
  · exact (hr.nodes n h).hi
  · rw [h]; exact Nat.lt_of_lt_of_le (by decide) hr.base.len
  · rw [h]; exact Nat.lt_of_lt_of_le (by decide) hr.base.len

theorem Static.nodup {s : SL} {L : List Nat} (c : Static s L) : L.Nodup := pairwise_lt_nodup c.sorted

theorem Static.low {s : SL} {L : List Nat} (c : Static s L) : ∀ n ∈ L, 3 ≤ n := fun n hn => (c.nodes n hn).lo

theorem Rep.nodup {s : SL} {L0 : List Nat} (hr : Rep s L0) : L0.Nodup := hr.static.nodup

/-- the nodes of `L` whose key is `≥ x` (a suffix of `L` when `L` is ascending) -/
def geX (s : SL) (L : List Nat) (x : Int) : List Nat := L.filter fun a => !decide (ikey s.nodes a < x)

theorem geX_eq (s : SL) (L : List Nat) (x : Int) :
    geX s L x = L.filter fun a => decide (x ≤ ikey s.nodes a) := by
  unfold geX
  apply List.filter_congr
  intro a _
  by_cases h : ikey s.nodes a < x
  · rw [decide_eq_true h, decide_eq_false (Int.not_le.mpr h)]; rfl
  · rw [decide_eq_false h, decide_eq_true (Int.not_lt.mp h)]; rfl

theorem mem_of_mem_geX {s : SL} {L : List Nat} {x : Int} {b : Nat} (h : b ∈ geX s L x) : b ∈ L :=
  (List.mem_filter.mp h).1

theorem Rep.split_ge {s : SL} {L0 : List Nat} (hr : Rep s L0) (x : Int) :
    ∃ A, L0 = A ++ geX s L0 x ∧ (∀ a ∈ A, ikey s.nodes a < x) ∧ ∀ b ∈ geX s L0 x, x ≤ ikey s.nodes b := by
  refine ⟨_, sorted_split hr.sorted x, ?_, ?_⟩
  · intro a ha; simpa using (List.mem_filter.mp ha).2
  · intro b hb; have := (List.mem_filter.mp hb).2; simpa using this

theorem Rep.split {s : SL} {L0 : List Nat} (hr : Rep s L0) (k : Int) :
    ∃ A B, L0 = A ++ B ∧ (∀ a ∈ A, ikey s.nodes a < k) ∧ (∀ b ∈ B, k ≤ ikey s.nodes b) :=
  (hr.split_ge k).imp fun _ h => ⟨_, h⟩

/-- `h0` is the heap the heights are read from -/
theorem level_flag {h h0 : Heap} {mk : Nat → Bool} {L : List Nat} {l n : Nat}
    (hp : Path h mk l (headId :: LL h0 L l ++ [tailId])) (hn : n ∈ L) (hl : l ≤ levelOf h0 n) :
    (getNext h n l).2 = mk n :=
  path_mem_flag (headId :: LL h0 L l) hp n (List.mem_cons_of_mem _ (mem_LL.mpr ⟨hn, hl⟩))

theorem succ_flag {h h0 : Heap} {mk : Nat → Bool} {L B : List Nat} {l : Nat}
    (ht : (getNext h tailId l).2 = false)
    (hp : Path h mk l (headId :: LL h0 L l ++ [tailId])) (hB : ∀ b ∈ B, b ∈ L ∧ mk b = false) :
    (getNext h (succAt h0 B l) l).2 = false := by
  rcases succAt_mem h0 B l with h1 | ⟨h1, h2⟩
  · rw [h1]; exact ht
  · rw [level_flag hp (hB _ h1).1 h2]; exact (hB _ h1).2

theorem Rep.succ_unmarked {s : SL} {A B : List Nat} (hr : Rep s (A ++ B)) {l : Nat} (hl : l ≤ Gen.maxLevel) :
    (getNext s.nodes (succAt s.nodes B l) l).2 = false :=
  succ_flag (hr.base.tailFlag l) (hr.paths l hl) (fun _ hb => ⟨List.mem_append_right _ hb, rfl⟩)

theorem Rep.unmarked {s : SL} {L0 : List Nat} (hr : Rep s L0) {n l : Nat} (hn : n ∈ L0)
    (hl : l ≤ levelOf s.nodes n) : (getNext s.nodes n l).2 = false := by
  have hlm : l ≤ Gen.maxLevel := Nat.le_trans hl (Nat.le_trans (hr.nodes n hn).lvl hr.lvl)
  exact level_flag (hr.paths l hlm) hn hl

theorem succ_ge {s : SL} {B : List Nat} (hb : Base s.nodes) (hn : ∀ b ∈ B, NodeOK s b) {k : Int}
    (hB : ∀ b ∈ B, k ≤ ikey s.nodes b) (l : Nat) :
    ¬ compare (keyOf s.nodes (succAt s.nodes B l)) (.item k) < 0 := by
  rcases succAt_mem s.nodes B l with h1 | ⟨h1, _⟩
  · rw [h1, hb.tailKey, compare_max_item]; exact fun h => absurd h (by decide)
  · rw [(hn _ h1).key, compare_item_item]
    exact Int.not_lt.mpr (Int.sub_nonneg_of_le (hB _ h1))

theorem Rep.key_inj {s : SL} {L0 : List Nat} (hr : Rep s L0) {a b : Nat} (ha : a ∈ L0) (hb : b ∈ L0)
    (hk : ikey s.nodes a = ikey s.nodes b) : a = b :=
  eq_of_key_eq hr.sorted (fun _ _ h => Int.ne_of_lt h) ha hb hk

theorem keys_map {s : SL} {L0 : List Nat} (hr : Rep s L0) :
    L0.map (keyOf s.nodes) = (L0.map (ikey s.nodes)).map Key.item := by
  rw [List.map_map]
  apply List.map_congr_left
  intro n hn
  exact (hr.nodes n hn).key

theorem Rep.next_of_split {s : SL} {P T : List Nat} {n : Nat} (hr : Rep s (P ++ n :: T)) :
    getNext s.nodes n 0 = ((T.head?).getD tailId, false) := by
  have hp := hr.paths 0 (Nat.zero_le _)
  rw [LL_zero] at hp
  have h1 : Path s.nodes nomk 0 ((headId :: P) ++ n :: (T ++ [tailId])) := by simpa using hp
  have h2 := ((path_append_cons _ _ _).mp h1).2
  have := path_head_link (X := T) (z := tailId) (by simpa using h2)
  simpa [nomk] using this

theorem getNext_init_head (l : Nat) (hl : l ≤ Gen.maxLevel) :
    getNext SL.init.nodes headId l = (tailId, false) := by
  have : l < Gen.maxLevel + 1 := Nat.lt_succ_of_le hl
  simp [SL.init, getNext, headId, List.getD_eq_getElem?_getD, this]

theorem getNext_init_tail (l : Nat) : (getNext SL.init.nodes tailId l).2 = false := by
  simp only [SL.init, getNext, tailId, List.getD_eq_getElem?_getD]
  by_cases h : l < Gen.maxLevel + 1 <;> simp [h, nilId]

theorem rep_init : Rep SL.init [] where
  base :=
    { len := by simp [SL.init]
      headKey := by simp [SL.init, keyOf, headId]
      tailKey := by simp [SL.init, keyOf, tailId]
      headLen := by simp [SL.init, nextLen, headId]
      tailFlag := getNext_init_tail }
  lvl := by simp [SL.init]
  nodes := by simp
  sorted := by simp
  paths := fun l hl => by
    simp only [LL, List.filter_nil, List.cons_append, List.nil_append, path_cons_cons, path_single, and_true]
    rw [getNext_init_head l hl]; rfl
  stats :=
    { len := by simp [SL.init, Stats.zero]
      dist := fun g hg => by
        have : g < Gen.maxLevel + 1 := Nat.lt_succ_of_le hg
        simp [SL.init, Stats.zero, cntLevel, List.getD_eq_getElem?_getD, this]
      soft := by simp [SL.init, Stats.zero]
      frees := by simp [SL.init, Stats.zero] }
  size := by simp [SL.init]
  bufP := by simp [SL.init]
  bufS := by simp [SL.init]
  live := by simp [SL.init]

end NitroVerif.SkipSeq
