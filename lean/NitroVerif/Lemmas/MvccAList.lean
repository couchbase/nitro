/-
  The association lists of `Spec/SetSpec.lean` (iterators and node handles named by numbers).
-/
import NitroVerif.Spec.SetSpec

namespace NitroVerif.Mvcc
open SetSpec

theorem aset_cons {α : Type} (n : Nat) (a : α) (p : Nat × α) (r : List (Nat × α)) :
    aset n a (p :: r) = if p.1 = n then (n, a) :: r else p :: aset n a r := rfl

theorem alookup_cons {α : Type} (n : Nat) (p : Nat × α) (r : List (Nat × α)) :
    alookup n (p :: r) = if p.1 = n then some p.2 else alookup n r := rfl

theorem alookup_aset_self {α : Type} (i : Nat) (a : α) (l : List (Nat × α)) :
    alookup i (aset i a l) = some a := by
  induction l with
  | nil => exact if_pos rfl
  | cons p r ih =>
    rw [aset_cons]; split
    · exact if_pos rfl
    · rename_i hp; rw [alookup_cons, if_neg hp, ih]

theorem alookup_aset_ne {α : Type} {i j : Nat} (h : j ≠ i) (a : α) (l : List (Nat × α)) :
    alookup i (aset j a l) = alookup i l := by
  induction l with
  | nil => exact if_neg h
  | cons p r ih =>
    rw [aset_cons]; split
    · rename_i hp; rw [alookup_cons, alookup_cons, if_neg h, if_neg (hp ▸ h)]
    · rw [alookup_cons, alookup_cons, ih]

theorem alookup_aerase_ne {α : Type} {i j : Nat} (h : j ≠ i) (l : List (Nat × α)) :
    alookup i (aerase j l) = alookup i l := by
  induction l with
  | nil => rfl
  | cons p r ih =>
    unfold aerase at ih ⊢
    rw [List.filter_cons]; split
    · rw [alookup_cons, alookup_cons, ih]
    · rename_i hp
      have hp : p.1 = j := Decidable.of_not_not fun hne => hp (bne_iff_ne.mpr hne)
      rw [ih, alookup_cons, if_neg (hp ▸ h)]

theorem alookup_mem {α : Type} {n : Nat} {a : α} {l : List (Nat × α)} (h : alookup n l = some a) :
    (n, a) ∈ l := by
  induction l with
  | nil => cases h
  | cons p r ih =>
    rw [alookup_cons] at h; split at h
    · rename_i hp; cases h; cases hp; exact List.mem_cons_self ..
    · exact List.mem_cons_of_mem _ (ih h)

theorem mem_aerase {α : Type} {n : Nat} {l : List (Nat × α)} {p : Nat × α} :
    p ∈ aerase n l ↔ p ∈ l ∧ p.1 ≠ n := by
  unfold aerase; rw [List.mem_filter, bne_iff_ne]

theorem mem_aset {α : Type} {n : Nat} {a : α} {p : Nat × α} {l : List (Nat × α)}
    (h : p ∈ aset n a l) : p = (n, a) ∨ p ∈ l := by
  induction l with
  | nil => exact Or.inl (List.mem_singleton.mp h)
  | cons q r ih =>
    rw [aset_cons] at h; split at h
    · exact (List.mem_cons.mp h).imp_right (List.mem_cons_of_mem _)
    · rcases List.mem_cons.mp h with h1 | h1
      · exact Or.inr (h1 ▸ List.mem_cons_self ..)
      · exact (ih h1).imp_right (List.mem_cons_of_mem _)

theorem aset_of_lookup_none {α : Type} {i : Nat} {a : α} {l : List (Nat × α)} (h : alookup i l = none) :
    aset i a l = l ++ [(i, a)] := by
  induction l with
  | nil => rfl
  | cons p r ih =>
    rw [alookup_cons] at h; split at h
    · cases h
    · rename_i hp; rw [aset_cons, if_neg hp, ih h]; rfl

theorem aset_same {α : Type} {n : Nat} {a : α} {l : List (Nat × α)} (h : alookup n l = some a) :
    aset n a l = l := by
  induction l with
  | nil => cases h
  | cons p r ih =>
    rw [alookup_cons] at h; rw [aset_cons]; split at h
    · rename_i hp; cases h; rw [if_pos hp, ← hp]
    · rename_i hp; rw [if_neg hp, ih h]

theorem alookup_map {α β : Type} (g : Nat × α → Nat × β) (hg : ∀ p, (g p).1 = p.1) (n : Nat)
    (l : List (Nat × α)) : alookup n (l.map g) = (alookup n l).map (fun a => (g (n, a)).2) := by
  induction l with
  | nil => rfl
  | cons p r ih =>
    rw [List.map_cons, alookup_cons, alookup_cons, hg p]; split
    · rename_i hp; rw [← hp]; rfl
    · exact ih

theorem map_aerase {α β : Type} (g : Nat × α → Nat × β) (hg : ∀ p, (g p).1 = p.1) (n : Nat)
    (l : List (Nat × α)) : (aerase n l).map g = aerase n (l.map g) := by
  unfold aerase
  rw [List.filter_map]
  exact congrArg _ (List.filter_congr fun p _ => by rw [Function.comp_apply, hg])

theorem map_aset {α β : Type} (g : Nat × α → Nat × β) (hg : ∀ p, (g p).1 = p.1) (n : Nat) (a : α)
    (l : List (Nat × α)) : (aset n a l).map g = aset n (g (n, a)).2 (l.map g) := by
  have hn : g (n, a) = (n, (g (n, a)).2) := Prod.ext (hg _) rfl
  induction l with
  | nil => exact congrArg (· :: []) hn
  | cons p r ih =>
    rw [aset_cons, List.map_cons, aset_cons, hg p]; split
    · rw [List.map_cons, ← hn]
    · rw [List.map_cons, ih]

end NitroVerif.Mvcc
