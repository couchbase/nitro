/-
  `GC()` re-establishes the full invariant from the state left by a retiring `Close`.
-/
import NitroVerif.Lemmas.MvccInvRc
import NitroVerif.Lemmas.MvccGC

namespace NitroVerif.Mvcc

/-- where a pass started in a state satisfying `PreGC` can end -/
structure Frontier (σ : State) (g' : Nat) : Prop where
  ge : σ.lastGCSn ≤ g'
  lt : g' < σ.currSn
  range : ∀ n, σ.lastGCSn < n → n ≤ g' → ∃ s ∈ σ.snaps, s.st = .retired ∧ s.sn = n
  stop : ∀ s ∈ σ.snaps, s.st = .retired → s.sn ≠ g' + 1

theorem Frontier.done {σ : State} (h : PreGC σ) {g' : Nat} (hf : Frontier σ g') {z : Snap}
    (hz : z ∈ σ.snaps) (hle : z.sn ≤ g') : z.st = .collected ∨ z.st = .retired := by
  by_cases hg : z.sn ≤ σ.lastGCSn
  · exact Or.inl ((h.coll z hz).mpr hg)
  · obtain ⟨z', hz', hr, hzs⟩ := hf.range z.sn (Nat.not_le.mp hg) hle
    rw [← snap_unique h.inc hz' hz hzs]; exact Or.inr hr

theorem Frontier.collected_iff {σ : State} (h : PreGC σ) {g' : Nat} (hf : Frontier σ g') {z : Snap}
    (hz : z ∈ σ.snaps) : (collectUpTo g' z).st = .collected ↔ z.sn ≤ g' := by
  show (if z.sn ≤ g' then SnapSt.collected else z.st) = .collected ↔ _
  by_cases hle : z.sn ≤ g'
  · rw [if_pos hle]; exact ⟨fun _ => hle, fun _ => rfl⟩
  · rw [if_neg hle, h.coll z hz]
    exact ⟨fun h1 => Nat.le_trans h1 hf.ge, fun h1 => absurd h1 hle⟩

theorem Frontier.live_iff {σ : State} (h : PreGC σ) {g' : Nat} (hf : Frontier σ g') {z : Snap}
    (hz : z ∈ σ.snaps) : (collectUpTo g' z).st = .live ↔ z.st = .live := by
  show (if z.sn ≤ g' then SnapSt.collected else z.st) = .live ↔ _
  by_cases hle : z.sn ≤ g'
  · rw [if_pos hle]
    rcases hf.done h hz hle with hc | hc <;> rw [hc] <;> exact ⟨nofun, nofun⟩
  · rw [if_neg hle]

theorem gc_eq {σ : State} (h : PreGC σ) : ∃ g', Frontier σ g' ∧
    gc σ = { σ with snaps := σ.snaps.map (collectUpTo g'), lastGCSn := g',
                    store := σ.store.filter (keptAfter g') } := by
  obtain ⟨g', hge, hrange, hstop, e⟩ := collectDead_eq σ.snaps σ.lastGCSn σ.store h.inc h.coll
    (fun s hs hr v hv => by
      have hst : s.st ≠ .collected := by rw [hr]; decide
      rw [List.any_eq_true]
      constructor
      · rintro ⟨x, hx, hsid⟩; exact (h.garb.ssound s hs hst x hx).2 v hv hsid
      · intro hd
        obtain ⟨z, hz, hzs, x, hx, hsid⟩ := h.garb.sgc v hv (hd ▸ Nat.ne_of_gt (h.lt s hs).1) (hd ▸ (h.lt s hs).2)
        rw [snap_unique h.inc hz hs (hzs.trans hd)] at hx
        exact ⟨x, hx, hsid⟩)
    (fun v hv => Decidable.or_iff_not_imp_left.mpr (h.garb.exact v hv))
  refine ⟨g', ⟨hge, ?_, hrange, hstop⟩, ?_⟩
  · rcases Nat.eq_or_lt_of_le hge with he | hlt
    · rw [← he]; exact h.gclt
    · obtain ⟨z, hz, _, hzs⟩ := hrange g' hlt (Nat.le_refl _)
      rw [← hzs]; exact (h.lt z hz).2
  · simp only [gc, e]

theorem inv_collect {σ : State} (h : PreGC σ) {g' : Nat} (hf : Frontier σ g') :
    Inv { σ with snaps := σ.snaps.map (collectUpTo g'), lastGCSn := g',
                 store := σ.store.filter (keptAfter g') } := by
  have hg := h.garb
  have hsub : ∀ v ∈ σ.store.filter (keptAfter g'), v ∈ σ.store := fun v hv => (List.mem_filter.mp hv).1
  have hto : ∀ z ∈ σ.snaps, collectUpTo g' z ∈ σ.snaps.map (collectUpTo g') :=
    fun z hz => List.mem_map_of_mem hz
  -- a snapshot that is not collected after the pass was not collected before and is above `g'`
  have hopen : ∀ z ∈ σ.snaps, (collectUpTo g' z).st ≠ .collected → z.st ≠ .collected ∧ g' < z.sn := by
    intro z hz hst
    have hlt : g' < z.sn := Nat.not_le.mp fun hle => hst ((hf.collected_iff h hz).mpr hle)
    exact ⟨fun hc => Nat.not_le.mpr hlt (Nat.le_trans ((h.coll z hz).mp hc) hf.ge), hlt⟩
  refine Inv.of_fields (List.Pairwise.filter _ h.sorted) (chains_filter h.chains _) ?_ ?_ ?_ ?_ ?_ ?_
  · unfold CountInv
    rw [filter_alive_keptAfter]; exact h.count
  · refine ⟨List.forall_mem_map.mpr h.lt, ?_, List.pairwise_map.mpr h.inc,
      List.forall_mem_map.mpr fun z hz => ⟨(h.rc z hz).1, (hf.live_iff h hz).trans (h.rc z hz).2⟩, hf.lt,
      List.forall_mem_map.mpr fun z hz => hf.collected_iff h hz, List.forall_mem_map.mpr fun z hz hys => ?_,
      List.forall_mem_map.mpr h.cnt⟩
    · intro n h0 hn
      obtain ⟨z, hz, hzn⟩ := h.all n h0 hn
      exact ⟨_, hto z hz, hzn⟩
    · have hys : z.sn = g' + 1 := hys
      -- above the old frontier, and the pass stopped before it: neither collected nor retired
      have h1 : z.st ≠ .collected := fun hc => by
        have hle := Nat.le_trans ((h.coll z hz).mp hc) hf.ge
        rw [hys] at hle
        exact Nat.not_succ_le_self g' hle
      have h2 : z.st ≠ .retired := fun hr => hf.stop z hz hr hys
      refine (hf.live_iff h hz).mpr ?_
      cases hst : z.st with
      | live => rfl
      | retired => exact absurd hst h2
      | collected => exact absurd hst h1
  · refine List.forall_mem_map.mpr fun z hz hrc => ?_
    -- `z` is live, hence above the new frontier, and what was unlinked died at or below it
    have hlt : g' < z.sn := (hopen z hz (by
      rw [(hf.live_iff h hz).mpr ((h.rc z hz).2.mpr hrc)]; decide)).2
    show view (σ.store.filter (keptAfter g')) z.sn = z.content
    rw [view_filter]
    · exact h.view z hz hrc
    · intro v _ hk
      have ⟨hd, hle⟩ := keptAfter_false hk
      refine Bool.eq_false_iff.mpr fun hvis => ?_
      exact ((visible_iff z.sn v).mp hvis).2.elim hd fun h1 =>
        Nat.lt_irrefl _ (Nat.lt_trans (Nat.lt_of_le_of_lt hle hlt) h1)
  · refine ⟨fun v hv => hg.wgc v (hsub v hv), ?_,
      fun x hx => ⟨(hg.wsound x hx).1, fun v hv => (hg.wsound x hx).2 v (hsub v hv)⟩,
      List.forall_mem_map.mpr fun z hz hyst x hx => ?_,
      fun v hv hd => (keptAfter_iff.mp (List.mem_filter.mp hv).2).resolve_left hd, ?_,
      List.forall_mem_map.mpr fun z hz hyst x hx => ?_⟩
    · intro v hv hd hlt
      obtain ⟨z, hz, hzs, x, hx, hs⟩ := hg.sgc v (hsub v hv) hd hlt
      exact ⟨_, hto z hz, hzs, x, hx, hs⟩
    · have hs := hg.ssound z hz (hopen z hz hyst).1 x hx
      exact ⟨hs.1, fun v hv => hs.2 v (hsub v hv)⟩
    · intro x hx
      obtain ⟨v, hv, hsid⟩ := hg.wpres x hx
      have hd := (hg.wsound x hx).2 v hv hsid
      exact ⟨v, mem_keptAfter hv (hd ▸ hf.lt), hsid⟩
    · have ⟨hzst, hlt⟩ := hopen z hz hyst
      obtain ⟨v, hv, hsid⟩ := hg.spres z hz hzst x hx
      have hd := (hg.ssound z hz hzst x hx).2 v hv hsid
      exact ⟨v, mem_keptAfter hv (hd ▸ hlt), hsid⟩
  · refine ⟨fun p hp => ?_, List.forall_mem_map.mpr h.iters.refs⟩
    obtain ⟨z, hz, hzs, hc⟩ := h.iters.snap p hp
    exact ⟨_, hto z hz, hzs, hc⟩
  · intro p hp hgone
    rcases h.handles p hp hgone with h1 | ⟨v, hv, hk⟩
    · exact Or.inl h1
    · by_cases hkept : keptAfter g' v = true
      · exact Or.inr ⟨v, List.mem_filter.mpr ⟨hv, hkept⟩, hk⟩
      · -- unlinked: it died at or below `g'`, so it was born in an earlier epoch
        have ⟨hd, hle⟩ := keptAfter_false (Bool.not_eq_true _ ▸ hkept)
        have h1 := (h.chains.1 v hv).2 hd
        exact Or.inl (hk.2 ▸ Nat.lt_trans h1.1 (Nat.lt_of_le_of_lt hle hf.lt))

theorem inv_gc {σ : State} (h : PreGC σ) : Inv (gc σ) := by
  obtain ⟨g', hf, e⟩ := gc_eq h
  rw [e]; exact inv_collect h hf

end NitroVerif.Mvcc
