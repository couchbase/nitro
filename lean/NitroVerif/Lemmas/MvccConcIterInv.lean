/-
  Readers under concurrent modification (C01, concurrent part): what an iterator's cursor knows about the
  node it stands on (`IterInv`), kept by every quiet action, by NewSnapshot and by every effect.
-/
import NitroVerif.Lemmas.MvccConcIterClose

namespace NitroVerif.MvccConc

/-- what the cursors of the open iterators know, and what makes a re-search after an unlink land
    strictly ahead -/
structure IterC (iters : List ((Nat × Nat) × Iter)) (snaps : List Snap) (store unlinked : List Node) (cur : Nat) :
    Prop where
  cache : ∀ (key : Nat × Nat) (it : Iter) (c : Cur), (key, it) ∈ iters → it.cur = some c →
            ∀ x ∈ store ++ unlinked, x.id = c.id → x.ver.key = c.key ∧ x.ver.born = c.born
  /-- every iterator's snapshot is in the table (hence older than the epoch) -/
  snap : ∀ (key : Nat × Nat) (it : Iter), (key, it) ∈ iters → ∃ s ∈ snaps, s.sn = it.sn
  /-- born before the current epoch: a Put, born now, cannot become its namesake -/
  unl : ∀ x ∈ unlinked, x.ver.dead ≠ 0 → x.ver.born < cur
  /-- an unlinked node with a death mark has no linked namesake `(key, bornSn)`: a re-search for it cannot stop
      on an equal item, so it lands strictly ahead — no version is delivered twice -/
  uniq : ∀ x ∈ unlinked, x.ver.dead ≠ 0 →
            ∀ y ∈ store, ¬ (y.ver.key = x.ver.key ∧ y.ver.born = x.ver.born)
  /-- the node under a cursor, if born at or before the iterator's snapshot and unlinked, carries a death mark: a
      same-epoch Delete unlinks only nodes born in the current epoch (after every snapshot), so it was a
      collection job -/
  gone : ∀ (key : Nat × Nat) (it : Iter) (c : Cur), (key, it) ∈ iters → it.cur = some c → c.born ≤ it.sn →
            ∀ x ∈ unlinked, x.id = c.id → x.ver.dead ≠ 0
  somewhere : ∀ (key : Nat × Nat) (it : Iter) (c : Cur), (key, it) ∈ iters → it.cur = some c →
            c.id ∈ storeIds store ∨ ∃ x ∈ unlinked, x.id = c.id

def IterInv (σ : State) : Prop := IterC σ.iters σ.snaps σ.store σ.unlinked σ.currSn

theorem IterInv.sn_lt {σ : State} (hi : Inv σ) (hk : IterInv σ) {key : Nat × Nat} {it : Iter}
    (hm : (key, it) ∈ σ.iters) : it.sn < σ.currSn := by
  obtain ⟨s, hs, e⟩ := hk.snap key it hm
  exact e ▸ hi.store.snaps_lt s hs

theorem iterInv_init (nw nr : Nat) (fx : Bool) : IterInv (init nw nr fx) := by
  have hi : ∀ q, q ∉ (init nw nr fx).iters := fun _ => List.not_mem_nil
  have hu : ∀ x, x ∉ (init nw nr fx).unlinked := fun _ => List.not_mem_nil
  exact ⟨fun _ _ _ hm => absurd hm (hi _), fun _ _ hm => absurd hm (hi _), fun x hx => absurd hx (hu x),
    fun x hx => absurd hx (hu x), fun _ _ _ hm => absurd hm (hi _), fun _ _ _ hm => absurd hm (hi _)⟩

theorem cursor_not_reserved {σ : State} (hi : Inv σ) (hk : IterInv σ) {key : Nat × Nat} {it : Iter} {c : Cur}
    (hm : (key, it) ∈ σ.iters) (hc : it.cur = some c) : ¬ reserved σ.threads c.id := by
  rcases hk.somewhere key it c hm hc with h | ⟨x, hx, hid⟩
  · obtain ⟨y, hy, he⟩ := List.mem_map.mp h
    rw [← he]; exact (hi.store.id_lt y hy).2
  · rw [← hid]; exact (hi.store.unl x hx).2.2

theorem iterInv_quiet {σ σ' : State} (hi : Inv σ) (hk : IterInv σ) (hq : QStep σ σ') : IterInv σ' := by
  show IterC σ'.iters σ'.snaps σ'.store σ'.unlinked σ'.currSn
  rw [hq.iters, hq.snaps, hq.currSn]
  rcases hq.store with ⟨hs, hu⟩ | ⟨n, k, v, hres, hs, hu⟩ | ⟨n, x, hf, hcond, hs, hu⟩ | ⟨n, x, hf, _, hs, hu⟩
  · rw [hs, hu]; exact hk
  · rw [hs, hu]
    refine ⟨?_, hk.snap, hk.unl, ?_, hk.gone, ?_⟩
    · intro key it c hm hcur x hx hid
      rcases List.mem_append.mp hx with hx | hx
      · rcases mem_insertN.mp hx with rfl | hx
        · exfalso
          simp only at hid
          exact cursor_not_reserved hi hk hm hcur (hid ▸ hres)
        · exact hk.cache key it c hm hcur x (List.mem_append_left _ hx) hid
      · exact hk.cache key it c hm hcur x (List.mem_append_right _ hx) hid
    · intro x hx hd y hy
      rcases mem_insertN.mp hy with rfl | hy
      · exact fun h => Nat.ne_of_gt (hk.unl x hx hd) h.2
      · exact hk.uniq x hx hd y hy
    · intro key it c hm hcur
      rcases hk.somewhere key it c hm hcur with h | h
      · left
        obtain ⟨y, hy, he⟩ := List.mem_map.mp h
        exact List.mem_map.mpr ⟨y, mem_insertN.mpr (Or.inr hy), he⟩
      · exact Or.inr h
  · rw [hs, hu]
    have ⟨hx, hid⟩ := findNode_some hf
    refine ⟨?_, hk.snap, ?_, ?_, ?_, ?_⟩
    · intro key it c hm hcur y hy hyid
      have : y ∈ σ.store ++ σ.unlinked := by
        rcases List.mem_append.mp hy with hy | hy
        · exact List.mem_append_left _ (mem_removeNode.mp hy).1
        · rcases List.mem_append.mp hy with hy | hy
          · exact List.mem_append_right _ hy
          · simp at hy; subst hy; exact List.mem_append_left _ hx
      exact hk.cache key it c hm hcur y this hyid
    · intro y hy hd
      rcases List.mem_append.mp hy with hy | hy
      · exact hk.unl y hy hd
      · simp at hy; subst hy
        have := (hi.store.chains.1 y.ver (List.mem_map.mpr ⟨y, hx, rfl⟩)).2 hd
        exact Nat.lt_of_lt_of_le this.1 this.2
    · intro y hy hd z hz
      have hz' := mem_removeNode.mp hz
      rcases List.mem_append.mp hy with hy | hy
      · exact hk.uniq y hy hd z hz'.1
      · simp at hy; subst hy
        intro hsame
        have : z = y := sorted_node_unique hi.store.sorted hz'.1 hx ((Mvcc.sameId_iff _ _).mpr hsame)
        subst this; exact hz'.2 hid
    · intro key it c hm hcur hvis y hy hyid
      rcases List.mem_append.mp hy with hy | hy
      · exact hk.gone key it c hm hcur hvis y hy hyid
      · simp at hy; subst hy
        rcases hcond with h | h
        · exfalso
          rw [← (hk.cache key it c hm hcur y (List.mem_append_left _ hx) hyid).2, h] at hvis
          exact Nat.not_le_of_lt (hk.sn_lt hi hm) hvis
        · exact h.2
    · intro key it c hm hcur
      rcases hk.somewhere key it c hm hcur with h | ⟨y, hy, hyid⟩
      · by_cases he : c.id = n
        · exact Or.inr ⟨x, by simp, hid.trans he.symm⟩
        · exact Or.inl (mem_storeIds_removeNode_iff.mpr ⟨h, he⟩)
      · exact Or.inr ⟨y, List.mem_append_left _ hy, hyid⟩
  · rw [hs, hu]
    refine ⟨?_, hk.snap, hk.unl, ?_, hk.gone, ?_⟩
    · intro key it c hm hcur y hy hyid
      rcases List.mem_append.mp hy with hy | hy
      · obtain ⟨z, hz, h1, h2, _, h4, _⟩ := mem_markDeadNode hy
        rw [h2, h4]
        exact hk.cache key it c hm hcur z (List.mem_append_left _ hz) (h1.symm.trans hyid)
      · exact hk.cache key it c hm hcur y (List.mem_append_right _ hy) hyid
    · intro y hy hd z hz
      obtain ⟨w, hw, _, h2, _, h4, _⟩ := mem_markDeadNode hz
      rw [h2, h4]; exact hk.uniq y hy hd w hw
    · rw [storeIds_markDeadNode]; exact hk.somewhere

theorem iterInv_snap {σ : State} (hk : IterInv σ) : IterInv (snap σ).1 :=
  ⟨hk.cache, fun key it hm => (hk.snap key it hm).imp fun _ hs => ⟨List.mem_append_left _ hs.1, hs.2⟩,
    fun x hx hd => Nat.lt_succ_of_lt (hk.unl x hx hd), hk.uniq, hk.gone, hk.somewhere⟩

theorem iterInv_tail {σ σ1 : State} {t : Nat} {after : Option Nat} {p : State × Resp} (hk : IterInv σ)
    (htl : CloseTail σ1 t after p) (e1 : σ1.store = σ.store) (e2 : σ1.unlinked = σ.unlinked)
    (e3 : σ1.currSn = σ.currSn) (e4 : σ1.iters = σ.iters)
    (hsn : ∀ s ∈ σ.snaps, ∃ s' ∈ σ1.snaps, s'.sn = s.sn) : IterInv p.1 := by
  have hm := htl.mild
  show IterC p.1.iters p.1.snaps p.1.store p.1.unlinked p.1.currSn
  rw [hm.store, hm.unlinked, hm.currSn, htl.tail.1, e1, e2, e3]
  have hsub : ∀ q ∈ p.1.iters, q ∈ σ.iters := e4 ▸ htl.iters_sub
  have hsnap : ∀ (key : Nat × Nat) (it : Iter), (key, it) ∈ p.1.iters → ∃ s ∈ σ1.snaps, s.sn = it.sn := by
    intro key it hm
    obtain ⟨s, hs, e⟩ := hk.snap key it (hsub _ hm)
    obtain ⟨s', hs', e'⟩ := hsn s hs
    exact ⟨s', hs', e'.trans e⟩
  exact ⟨fun key it c hm => hk.cache key it c (hsub _ hm), hsnap, hk.unl,
    hk.uniq, fun key it c hm => hk.gone key it c (hsub _ hm), fun key it c hm => hk.somewhere key it c (hsub _ hm)⟩

theorem IterC.setIter {iters : List ((Nat × Nat) × Iter)} {snaps snaps' : List Snap} {store unlinked : List Node}
    {cur : Nat} (h : IterC iters snaps store unlinked cur) (hids : (storeIds store).Nodup)
    (hdisj : ∀ y ∈ store, ∀ x ∈ unlinked, x.id ≠ y.id) (hsn : ∀ s ∈ snaps, ∃ s' ∈ snaps', s'.sn = s.sn)
    (k : Nat × Nat) {it' : Iter} (hsnap : ∃ s ∈ snaps', s.sn = it'.sn)
    (hcur : ∀ c, it'.cur = some c → ∃ y ∈ store, c = curAt y) :
    IterC (setIter k it' iters) snaps' store unlinked cur := by
  have split : ∀ {key : Nat × Nat} {it0 : Iter}, (key, it0) ∈ MvccConc.setIter k it' iters →
      (key, it0) ∈ iters ∨ it0 = it' := by
    intro key it0 hm0
    rcases mem_setIter.mp hm0 with ⟨h1, _⟩ | h1
    · exact Or.inl h1
    · injection h1 with _ h3; exact Or.inr h3
  refine ⟨?_, ?_, h.unl, h.uniq, ?_, ?_⟩
  · intro key it0 c hm0 hc0 x hx hxid
    rcases split hm0 with h1 | rfl
    · exact h.cache key it0 c h1 hc0 x hx hxid
    · obtain ⟨y, hy, rfl⟩ := hcur c hc0
      rcases List.mem_append.mp hx with hx | hx
      · rw [id_unique hids hx hy hxid]; exact ⟨rfl, rfl⟩
      · exact absurd hxid (hdisj y hy x hx)
  · intro key it0 hm0
    rcases split hm0 with h1 | rfl
    · obtain ⟨z, hz, e⟩ := h.snap key it0 h1
      obtain ⟨z', hz', e'⟩ := hsn z hz
      exact ⟨z', hz', e'.trans e⟩
    · exact hsnap
  · intro key it0 c hm0 hc0 hvis x hx hxid
    rcases split hm0 with h1 | rfl
    · exact h.gone key it0 c h1 hc0 hvis x hx hxid
    · obtain ⟨y, hy, rfl⟩ := hcur c hc0
      exact absurd hxid (hdisj y hy x hx)
  · intro key it0 c hm0 hc0
    rcases split hm0 with h1 | rfl
    · exact h.somewhere key it0 c h1 hc0
    · obtain ⟨y, hy, rfl⟩ := hcur c hc0
      exact Or.inl (List.mem_map.mpr ⟨y, hy, rfl⟩)

theorem iterInv_eff {σ : State} {a : Act} {t : Nat} {p : State × Resp} (hi : Inv σ) (hk : IterInv σ)
    (h : REff σ a t p) : IterInv p.1 := by
  have hdisj : ∀ y ∈ σ.store, ∀ x ∈ σ.unlinked, x.id ≠ y.id :=
    fun y hy x hx he => (hi.store.unl x hx).1 (he ▸ List.mem_map.mpr ⟨y, hy, rfl⟩)
  cases h with
  | land i it land pc' hf hwhich _ he =>
    rw [he]
    refine hk.setIter hi.store.ids hdisj (fun s hs => ⟨s, hs, rfl⟩) (t, i) (hk.snap _ it (findIter_some hf)) ?_
    intro c hc
    cases land with
    | none => cases hc
    | some y =>
      injection hc with hc
      refine ⟨y, ?_, hc.symm⟩
      rcases hwhich with ⟨_, _, hl⟩ | ⟨_, _, _, _, hl⟩
      · exact List.mem_of_head? hl.symm
      · exact hl.mem rfl
  | open_ i s x _ hfs _ _ he =>
    have ⟨hxm, hxs⟩ := findSnap_some hfs
    have hm := fun (z : Snap) (hz : z ∈ σ.snaps) =>
      updSnap_keeps_sn σ.snaps s (f := fun y => { y with rc := y.rc + 1 }) (fun _ => rfl) hz
    rw [he]
    exact hk.setIter hi.store.ids hdisj hm (t, i) ((hm x hxm).imp fun _ h => ⟨h.1, h.2.trans hxs⟩) nofun
  | close s x f after _ _ _ hf htl =>
    exact iterInv_tail hk htl rfl rfl rfl rfl (fun _ hz => updSnap_keeps_sn σ.snaps s hf.sn hz)
  | collect sn x after _ _ _ htl =>
    exact iterInv_tail hk htl rfl rfl rfl rfl (fun _ hz =>
      updSnap_keeps_sn σ.snaps sn (f := fun y => { y with st := .collected }) (fun _ => rfl) hz)

end NitroVerif.MvccConc
