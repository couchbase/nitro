/-
  Refinement, snapshot operations.  A collection pass unlinks dead versions only and does not show through `abs`.
-/
import NitroVerif.Lemmas.MvccSimWrite
import NitroVerif.Lemmas.MvccInvStep
import NitroVerif.Lemmas.MvccScanLemmas

namespace NitroVerif.Mvcc
open SetSpec

theorem sim_snap {σ : State} (h : Inv σ) : Refines σ .snap := by
  unfold Refines
  simp only [SetSpec.step, step, newSnapshot]
  have hcnt : σ.itemsCount + (σ.writers.map (·.count)).sum = ((absAlive σ.store).length : Nat) := by
    rw [absAlive_length]; exact h.count
  refine Prod.ext (state_ext ?_ rfl rfl ?_ ?_ rfl rfl) ?_
  · simp [abs]
  · simp only [abs, List.length_map]; exact hcnt.symm
  · simp only [abs, List.map_append, List.map_cons, List.map_nil, absSnap]
    rw [absAlive_items h.chains]
  · simp only [abs, List.length_map]
    rw [hcnt]

theorem rc_abs (x : Snap) : (absSnap x).rc = x.rc := rfl

theorem refines_refuse {rc : Int} {A A' : SetSpec.State × Out} {B B' : State × Out}
    (h0 : A = (abs B.1, B.2)) (h1 : rc ≠ 0 → A' = (abs B'.1, B'.2)) :
    (if rc = 0 then A else A') =
      (abs (if Gen.openRefuse rc = true then B else B').1, (if Gen.openRefuse rc = true then B else B').2) := by
  by_cases hrc : rc = 0
  · rw [if_pos hrc, if_pos ((Gen.openRefuse_iff rc).mpr hrc)]; exact h0
  · rw [if_neg hrc, if_neg (fun ho => hrc ((Gen.openRefuse_iff rc).mp ho))]; exact h1 hrc

theorem sim_open (σ : State) (s : Nat) : Refines σ (.open s) := by
  unfold Refines
  rw [SetSpec.step, step]
  rw [findSnap_abs]
  cases findSnap s σ.snaps with
  | none => rfl
  | some x =>
    refine refines_refuse rfl fun _ => Prod.ext (state_ext rfl rfl rfl rfl ?_ rfl rfl) rfl
    exact (updSnap_abs s _ _ (fun _ => rfl) σ.snaps).symm

theorem abs_gc {σ : State} (h : PreGC σ) : abs (gc σ) = abs σ := by
  obtain ⟨g', _, e⟩ := gc_eq h
  rw [e]
  have hal := filter_alive_keptAfter g' σ.store
  exact state_ext rfl (congrArg (List.map entryOf) hal) rfl rfl
    ((List.map_map ..).trans (List.map_congr_left fun _ _ => rfl)) rfl
    (List.map_congr_left fun p _ => by unfold absHandle; rw [hasAlive_congr hal])

theorem abs_closeSnap {σ : State} (h : Inv σ) {s : Nat} {x : Snap} (hx : findSnap s σ.snaps = some x)
    (iters' : List (Nat × Iter))
    (hok : ItersOk σ s iters' (x.rc - 1)) :
    abs (closeSnap { σ with iters := iters' } s x.rc) =
      { abs σ with snaps := SetSpec.updSnap s (fun y => { y with rc := y.rc - 1 }) (abs σ).snaps,
                   iters := iters'.map absIter } := by
  unfold closeSnap
  split
  · rename_i hret
    rw [abs_gc (pre_retire h hx iters' hok ((Gen.closeRetire_iff _).mp hret))]
    exact state_ext rfl rfl rfl rfl (updSnap_abs s _ _ (fun _ => rfl) σ.snaps) rfl rfl
  · exact state_ext rfl rfl rfl rfl (updSnap_abs s _ _ (fun _ => rfl) σ.snaps) rfl rfl

theorem sim_close {σ : State} (h : Inv σ) (s : Nat) : Refines σ (.close s) := by
  unfold Refines
  rw [SetSpec.step, step]
  have hio : SetSpec.itersOn s (abs σ).iters = itersOn s σ.iters := itersOn_abs s σ.iters
  rw [findSnap_abs, hio]
  cases hx : findSnap s σ.snaps with
  | none => rfl
  | some x =>
    dsimp only [Option.map, rc_abs]
    by_cases hc : x.rc - itersOn s σ.iters > 0
    · simp only [hc, if_true]
      exact Prod.ext (abs_closeSnap h hx σ.iters (.same h (Int.le_sub_one_of_lt (Int.lt_of_sub_pos hc)))).symm rfl
    · simp only [hc, if_false]

theorem sim_count {σ : State} (h : Inv σ) (s : Nat) : Refines σ (.count s) := by
  unfold Refines
  simp only [SetSpec.step, step]
  rw [findSnap_abs]
  cases hx : findSnap s σ.snaps with
  | none => rfl
  | some x =>
    have ⟨hxm, _⟩ := findSnap_some hx
    simp only [Option.map, absSnap, List.length_map]
    rw [h.snaps.cnt x hxm]

theorem sim_items {σ : State} : Refines σ .items := rfl

theorem content_items {σ : State} (h : Inv σ) {s : Nat} {x : Snap} (hx : findSnap s σ.snaps = some x)
    (hrc : x.rc ≠ 0) : x.content.map Ver.item = (vis σ.store s).map Ver.item := by
  have ⟨hxm, hxs⟩ := findSnap_some hx
  rw [← h.view x hxm (Int.lt_iff_le_and_ne.mpr ⟨(h.snaps.rc x hxm).1, Ne.symm hrc⟩), hxs, view_item]

theorem sim_scan {σ : State} (h : Inv σ) (s : Nat) (rate : Int) : Refines σ (.scan s rate) := by
  unfold Refines
  rw [SetSpec.step, step]
  rw [findSnap_abs]
  cases hx : findSnap s σ.snaps with
  | none => rfl
  | some x =>
    refine refines_refuse rfl fun (hrc : x.rc ≠ 0) => ?_
    rw [withRef_eq σ s hrc, scanAll_eq h.sorted h.chains]
    exact congrArg (fun l => (abs σ, Out.items l)) (content_items h hx hrc)

end NitroVerif.Mvcc
