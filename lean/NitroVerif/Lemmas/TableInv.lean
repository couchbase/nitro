import NitroVerif.Lemmas.TableAL
import NitroVerif.Lemmas.TableBucket
/-!
  The node table against its buckets: the structural invariant of the two Go maps and the three
  counters, how both are rebuilt after a change confined to the entries of one hash value
  (`SInv.local`, `bucket_local`), and what `find` returns.
-/
namespace NitroVerif.Table

/-- the bucket described by a fast entry and a slow entry -/
def bucketOf (fe : Option (Ptr × Bool)) (se : Option (List Ptr)) : List Ptr :=
  match fe with
  | none => []
  | some (p, _) => p :: se.getD []

/-- all pointers stored under hash `h`: the fast entry, then the slow list -/
def bucket (t : Table) (h : Hash) : List Ptr := bucketOf (AL.get t.fastHT h) (AL.get t.slowHT h)

structure SInv (t : Table) : Prop where
  notPanicked : t.panicked = false
  fastNodup : (AL.keys t.fastHT).Nodup
  slowNodup : (AL.keys t.slowHT).Nodup
  /-- a slow list exists only under a fast entry -/
  slowNeedsFast : ∀ h, AL.get t.fastHT h = none → AL.get t.slowHT h = none
  /-- conflict bit set ⇔ the hash has a slow list -/
  conflictIff : ∀ h p c, AL.get t.fastHT h = some (p, c) → (c = true ↔ (AL.get t.slowHT h).isSome)
  /-- slow lists in the map are non-empty (empty ones are deleted) -/
  slowNonempty : ∀ h vs, AL.get t.slowHT h = some vs → vs ≠ []
  fastCount : t.fastHTCount = t.fastHT.length
  slowCount : t.slowHTCount = AL.total t.slowHT
  conflictCount : t.conflicts = t.slowHT.length

theorem SInv_empty : SInv {} := by
  constructor <;> simp [AL.keys, AL.get, AL.total]

theorem counter_local {c c' n n' a b : Nat} (h : c = n) (hn : n' + a = n + b) (hc : c' + a = c + b) :
    c' = n' :=
  Nat.add_right_cancel (hc.trans (h ▸ hn.symm))

theorem SInv.local {t t' : Table} (hI : SInv t) {h : Hash}
    {fe₀ fe : Option (Ptr × Bool)} {se₀ se : Option (List Ptr)}
    (hf : AL.Upd t.fastHT t'.fastHT h fe₀ fe) (hs : AL.Upd t.slowHT t'.slowHT h se₀ se)
    (hp : t'.panicked = false)
    (h1 : fe = none → se = none)
    (h2 : ∀ p c, fe = some (p, c) → (c = true ↔ se.isSome))
    (h3 : ∀ vs, se = some vs → vs ≠ [])
    (hc1 : t'.fastHTCount + (fe₀.map fun _ => 1).getD 0 = t.fastHTCount + (fe.map fun _ => 1).getD 0)
    (hc2 : t'.slowHTCount + (se₀.map List.length).getD 0 = t.slowHTCount + (se.map List.length).getD 0)
    (hc3 : t'.conflicts + (se₀.map fun _ => 1).getD 0 = t.conflicts + (se.map fun _ => 1).getD 0) :
    SInv t' := by
  refine ⟨hp, hf.nodup hI.fastNodup, hs.nodup hI.slowNodup, ?_, ?_, ?_, ?_, ?_, ?_⟩
  · intro h'
    rw [hf.lookup, hs.lookup]
    by_cases e : h' = h
    · rw [if_pos e, if_pos e]; exact h1
    · rw [if_neg e, if_neg e]; exact hI.slowNeedsFast h'
  · intro h' p c
    rw [hf.lookup, hs.lookup]
    by_cases e : h' = h
    · rw [if_pos e, if_pos e]; exact h2 p c
    · rw [if_neg e, if_neg e]; exact hI.conflictIff h' p c
  · intro h' vs
    rw [hs.lookup]
    by_cases e : h' = h
    · rw [if_pos e]; exact h3 vs
    · rw [if_neg e]; exact hI.slowNonempty h' vs
  · exact counter_local hI.fastCount hf.length hc1
  · exact counter_local (hI.slowCount.trans (AL.total_eq_wsum _)) (hs.sum List.length) hc2
  · exact counter_local hI.conflictCount hs.length hc3

theorem bucket_local {t t' : Table} {h : Hash} {fe₀ fe : Option (Ptr × Bool)}
    {se₀ se : Option (List Ptr)} (hf : AL.Upd t.fastHT t'.fastHT h fe₀ fe)
    (hs : AL.Upd t.slowHT t'.slowHT h se₀ se) (h' : Hash) :
    bucket t' h' = if h' = h then bucketOf fe se else bucket t h' := by
  unfold bucket
  rw [hf.lookup, hs.lookup]
  by_cases e : h' = h
  · rw [if_pos e, if_pos e, if_pos e]
  · rw [if_neg e, if_neg e, if_neg e]

theorem SInv.slow_le {t : Table} (hI : SInv t) {h : Hash} {vs : List Ptr}
    (hs : AL.get t.slowHT h = some vs) : vs.length ≤ t.slowHTCount ∧ 1 ≤ t.conflicts := by
  refine ⟨(hI.slowCount.trans (AL.total_eq_wsum _)) ▸ AL.wsum_ge List.length hs, ?_⟩
  have := AL.wsum_ge (fun _ => 1) hs
  rw [AL.wsum_one] at this
  exact hI.conflictCount ▸ this

theorem SInv.fast_pos {t : Table} (hI : SInv t) {h : Hash} {e : Ptr × Bool}
    (hf : AL.get t.fastHT h = some e) : 1 ≤ t.fastHTCount := by
  have := AL.wsum_ge (fun _ => 1) hf
  rw [AL.wsum_one] at this
  exact hI.fastCount ▸ this

variable (hash : Key → Hash) (keyOf : Ptr → Key)

theorem find_noEntry {t : Table} {key : Key} (hf : AL.get t.fastHT (hash key) = none) :
    find hash keyOf t key =
      { status := Gen.ntNotFound, hash := hash key, hasConflict := false, fastHTHasEntry := false,
        fastHTValue := 0, slowHTValues := [], slowHTPos := 0 } := by
  simp [find, hf]

theorem find_inFast {t : Table} {key : Key} {p : Ptr} {c : Bool}
    (hf : AL.get t.fastHT (hash key) = some (p, c)) (hk : keyOf p = key) :
    find hash keyOf t key =
      { status := Gen.ntFoundInFast, hash := hash key, hasConflict := c, fastHTHasEntry := true,
        fastHTValue := p, slowHTValues := [], slowHTPos := 0 } := by
  simp [find, hf, hk]

theorem find_inSlow {t : Table} {key : Key} {p : Ptr} {vs : List Ptr} {i : Nat}
    (hf : AL.get t.fastHT (hash key) = some (p, true)) (hk : keyOf p ≠ key)
    (hs : AL.get t.slowHT (hash key) = some vs) (hi : slowPos keyOf key vs = some i) :
    find hash keyOf t key =
      { status := Gen.ntFoundInSlow, hash := hash key, hasConflict := true, fastHTHasEntry := true,
        fastHTValue := 0, slowHTValues := vs, slowHTPos := i } := by
  simp [find, hf, hk, hs, hi]

theorem find_missSlow {t : Table} {key : Key} {p : Ptr} {vs : List Ptr}
    (hf : AL.get t.fastHT (hash key) = some (p, true)) (hk : keyOf p ≠ key)
    (hs : AL.get t.slowHT (hash key) = some vs) (hi : slowPos keyOf key vs = none) :
    find hash keyOf t key =
      { status := Gen.ntNotFound, hash := hash key, hasConflict := true, fastHTHasEntry := true,
        fastHTValue := 0, slowHTValues := [], slowHTPos := 0 } := by
  simp [find, hf, hk, hs, hi]

theorem find_missNoConflict {t : Table} {key : Key} {p : Ptr}
    (hf : AL.get t.fastHT (hash key) = some (p, false)) (hk : keyOf p ≠ key) :
    find hash keyOf t key =
      { status := Gen.ntNotFound, hash := hash key, hasConflict := false, fastHTHasEntry := true,
        fastHTValue := 0, slowHTValues := [], slowHTPos := 0 } := by
  simp [find, hf, hk]

/-- the five situations `find` distinguishes, each with the bucket of the key's hash and the lookup in it -/
inductive FindCase (t : Table) (key : Key) : Prop where
  | noEntry (hf : AL.get t.fastHT (hash key) = none) (hs : AL.get t.slowHT (hash key) = none)
      (hfind : find hash keyOf t key =
        { status := Gen.ntNotFound, hash := hash key, hasConflict := false, fastHTHasEntry := false,
          fastHTValue := 0, slowHTValues := [], slowHTPos := 0 })
      (hb : bucket t (hash key) = []) (hl : lookupB keyOf key (bucket t (hash key)) = none)
  | inFast (p : Ptr) (c : Bool) (hf : AL.get t.fastHT (hash key) = some (p, c)) (hk : keyOf p = key)
      (hfind : find hash keyOf t key =
        { status := Gen.ntFoundInFast, hash := hash key, hasConflict := c, fastHTHasEntry := true,
          fastHTValue := p, slowHTValues := [], slowHTPos := 0 })
      (hb : bucket t (hash key) = p :: (AL.get t.slowHT (hash key)).getD [])
      (hl : lookupB keyOf key (bucket t (hash key)) = some p)
  | inSlow (p : Ptr) (vs : List Ptr) (i : Nat) (hf : AL.get t.fastHT (hash key) = some (p, true))
      (hk : keyOf p ≠ key) (hs : AL.get t.slowHT (hash key) = some vs)
      (hi : slowPos keyOf key vs = some i)
      (hfind : find hash keyOf t key =
        { status := Gen.ntFoundInSlow, hash := hash key, hasConflict := true, fastHTHasEntry := true,
          fastHTValue := 0, slowHTValues := vs, slowHTPos := i })
      (hb : bucket t (hash key) = p :: vs)
      (hl : lookupB keyOf key (bucket t (hash key)) = lookupB keyOf key vs)
  | missSlow (p : Ptr) (vs : List Ptr) (hf : AL.get t.fastHT (hash key) = some (p, true))
      (hk : keyOf p ≠ key) (hs : AL.get t.slowHT (hash key) = some vs)
      (hi : slowPos keyOf key vs = none)
      (hfind : find hash keyOf t key =
        { status := Gen.ntNotFound, hash := hash key, hasConflict := true, fastHTHasEntry := true,
          fastHTValue := 0, slowHTValues := [], slowHTPos := 0 })
      (hb : bucket t (hash key) = p :: vs)
      (hl : lookupB keyOf key (bucket t (hash key)) = none)
  | missNoConflict (p : Ptr) (hf : AL.get t.fastHT (hash key) = some (p, false))
      (hk : keyOf p ≠ key) (hs : AL.get t.slowHT (hash key) = none)
      (hfind : find hash keyOf t key =
        { status := Gen.ntNotFound, hash := hash key, hasConflict := false, fastHTHasEntry := true,
          fastHTValue := 0, slowHTValues := [], slowHTPos := 0 })
      (hb : bucket t (hash key) = [p])
      (hl : lookupB keyOf key (bucket t (hash key)) = none)

theorem findCase {t : Table} (hI : SInv t) (key : Key) : FindCase hash keyOf t key := by
  cases hf : AL.get t.fastHT (hash key) with
  | none =>
    have hs := hI.slowNeedsFast _ hf
    have hb : bucket t (hash key) = [] := by simp [bucket, bucketOf, hf]
    exact .noEntry hf hs (find_noEntry hash keyOf hf) hb (by rw [hb]; rfl)
  | some e =>
    obtain ⟨p, c⟩ := e
    by_cases hk : keyOf p = key
    · have hb : bucket t (hash key) = p :: (AL.get t.slowHT (hash key)).getD [] := by
        simp [bucket, bucketOf, hf]
      exact .inFast p c hf hk (find_inFast hash keyOf hf hk) hb (by rw [hb]; exact if_pos hk)
    · have hc := hI.conflictIff _ p c hf
      cases c with
      | false =>
        have hs : AL.get t.slowHT (hash key) = none := by
          cases hs : AL.get t.slowHT (hash key) with
          | none => rfl
          | some vs => simp [hs] at hc
        have hb : bucket t (hash key) = [p] := by simp [bucket, bucketOf, hf, hs]
        exact .missNoConflict p hf hk hs (find_missNoConflict hash keyOf hf hk) hb (by rw [hb]; simp [lookupB, hk])
      | true =>
        cases hs : AL.get t.slowHT (hash key) with
        | none => simp [hs] at hc
        | some vs =>
          have hb : bucket t (hash key) = p :: vs := by simp [bucket, bucketOf, hf, hs]
          have hl : lookupB keyOf key (bucket t (hash key)) = lookupB keyOf key vs := by
            rw [hb]; exact if_neg hk
          cases hi : slowPos keyOf key vs with
          | none =>
            exact .missSlow p vs hf hk hs hi (find_missSlow hash keyOf hf hk hs hi) hb (hl.trans (slowPos_none keyOf hi))
          | some i => exact .inSlow p vs i hf hk hs hi (find_inSlow hash keyOf hf hk hs hi) hb hl

end NitroVerif.Table
