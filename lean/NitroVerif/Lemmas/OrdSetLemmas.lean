import NitroVerif.Spec.OrdSet
/-!
  Facts about the ordered-set specification (`Spec/OrdSet.lean`): `insert`/`delete` on ascending lists,
  the equations of `specStep`, dead handles (a handle whose node was deleted stays dead until the script
  re-binds its name), and the sorted multiset union (`merge` is core's `List.merge`).
-/
namespace NitroVerif.OrdSet
open NitroVerif.SkipSeq

theorem member_iff (x : Int) (l : List Int) : member x l = true ↔ x ∈ l := by
  simp [member]

theorem member_eq_decide (x : Int) (l : List Int) : member x l = decide (x ∈ l) := by
  by_cases h : x ∈ l <;> simp [member, h]

theorem insert_split (k : Int) : ∀ (as bs : List Int), (∀ a ∈ as, a < k) → (∀ b ∈ bs, k < b) →
    insert k (as ++ bs) = as ++ k :: bs := by
  intro as
  induction as with
  | nil =>
    intro bs _ hb
    cases bs with
    | nil => rfl
    | cons b r =>
      have := hb b (by simp)
      simp [insert, this]
  | cons a r ih =>
    intro bs ha hb
    have h1 := ha a (by simp)
    have h2 : ¬ k < a := Int.lt_asymm h1
    have h3 : ¬ k = a := fun e => Int.lt_irrefl a (e ▸ h1)
    simp only [List.cons_append, insert, h2, h3, if_false]
    rw [ih bs (fun x hx => ha x (List.mem_cons_of_mem _ hx)) hb]

theorem delete_split (k : Int) (as bs : List Int) (ha : ∀ a ∈ as, a < k) (hb : ∀ b ∈ bs, k < b) :
    delete k (as ++ k :: bs) = as ++ bs := by
  unfold delete
  rw [List.filter_append, List.filter_cons]
  have e1 : as.filter (fun x => decide (x ≠ k)) = as := by
    rw [List.filter_eq_self]; intro a h; have := ha a h; simpa using Int.ne_of_lt this
  have e2 : bs.filter (fun x => decide (x ≠ k)) = bs := by
    rw [List.filter_eq_self]; intro b h; have := hb b h; simpa using Int.ne_of_gt this
  rw [e1, e2]; simp

theorem mem_insert {k b : Int} : ∀ {l : List Int}, b ∈ insert k l → b = k ∨ b ∈ l := by
  intro l
  induction l with
  | nil => intro h; exact Or.inl (List.mem_singleton.mp h)
  | cons y r ih =>
    intro h
    unfold insert at h
    split at h
    · exact List.mem_cons.mp h
    · split at h
      · exact Or.inr h
      · rcases List.mem_cons.mp h with e | e
        · exact Or.inr (e ▸ List.mem_cons_self)
        · exact (ih e).imp id (List.mem_cons_of_mem _)

theorem insert_asc {k : Int} : ∀ {l : List Int}, Asc l → Asc (insert k l) := by
  intro l
  unfold Asc
  induction l with
  | nil => intro _; simp [insert]
  | cons y r ih =>
    intro h
    have h' := List.pairwise_cons.mp h
    unfold insert
    split
    · rename_i h1
      exact List.pairwise_cons.mpr
        ⟨fun b hb => (List.mem_cons.mp hb).elim (fun e => e ▸ h1) (fun hb' => Int.lt_trans h1 (h'.1 b hb')), h⟩
    · split
      · exact h
      · rename_i h1 h2
        refine List.pairwise_cons.mpr ⟨fun b hb => ?_, ih h'.2⟩
        rcases mem_insert hb with rfl | hb'
        · omega
        · exact h'.1 b hb'

theorem delete_asc {k : Int} {l : List Int} (h : Asc l) : Asc (delete k l) :=
  List.Pairwise.filter _ h

theorem findHandle_cons (e : String × Int × Bool) (r : List (String × Int × Bool)) (h : String) :
    findHandle (e :: r) h = if e.1 = h then some e.2 else findHandle r h := by
  by_cases hn : e.1 = h <;> simp [findHandle, hn]

theorem kill_cons (k' : Int) (e : String × Int × Bool) (r : List (String × Int × Bool)) :
    kill k' (e :: r) = (if e.2.1 = k' then (e.1, e.2.1, false) else e) :: kill k' r := by
  simp [kill]

theorem specStep_ins (sp : SpecSt) (k : Int) (l : Nat) :
    specStep sp (.ins k l) = if k ∈ sp.set then (sp, .bool false) else ({ sp with set := insert k sp.set }, .bool true) := by
  simp only [specStep, member_iff]

theorem specStep_del (sp : SpecSt) (k : Int) :
    specStep sp (.del k) = if k ∈ sp.set then ({ set := delete k sp.set, handles := kill k sp.handles }, .bool true)
      else (sp, .bool false) := by
  simp only [specStep, member_iff]

theorem specStep_look (sp : SpecSt) (k : Int) : specStep sp (.look k) = (sp, .bool (decide (k ∈ sp.set))) := by
  simp only [specStep, member_eq_decide]

theorem specStep_getnode (sp : SpecSt) (k : Int) (h : String) :
    specStep sp (.getnode k h) = if k ∈ sp.set then ({ sp with handles := (h, k, true) :: sp.handles }, .node true)
      else (sp, .node false) := by
  simp only [specStep, member_iff]

theorem specStep_delnode (sp : SpecSt) (h : String) :
    specStep sp (.delnode h) = match findHandle sp.handles h with
      | some (k, true) => ({ set := delete k sp.set, handles := kill k sp.handles }, .bool true)
      | some (_, false) => (sp, .bool false)
      | none => (sp, .bad) := by
  simp only [specStep]
  cases findHandle sp.handles h with
  | none => rfl
  | some e => rcases e with ⟨k, _ | _⟩ <;> simp

theorem specStep_seek (sp : SpecSt) (k : Int) :
    specStep sp (.seek k) = (sp, .seekAt (decide (k ∈ sp.set)) ((seekGE k sp.set).map Key.item)) := by
  simp only [specStep, member_eq_decide]

theorem specStep_asc {sp : SpecSt} (h : Asc sp.set) (op : Op) : Asc (specStep sp op).1.set := by
  cases op with
  | ins k l =>
    rw [specStep_ins]; split
    · exact h
    · exact insert_asc h
  | del k =>
    rw [specStep_del]; split
    · exact delete_asc h
    · exact h
  | look k => exact h
  | getnode k n => rw [specStep_getnode]; split <;> exact h
  | delnode n =>
    rw [specStep_delnode]; split
    · exact delete_asc h
    · exact h
    · exact h
  | iter => exact h
  | seek k => exact h

theorem specRun_asc : ∀ (ops : List Op) {sp : SpecSt}, Asc sp.set → Asc (specRun sp ops).1.set
  | [], _, h => h
  | op :: ops, _, h => specRun_asc ops (specStep_asc h op)

theorem specRun_outs_length (sp : SpecSt) (a : List Op) : (specRun sp a).2.length = a.length := by
  induction a generalizing sp with
  | nil => simp [specRun]
  | cons op r ih => simp [specRun, ih]

theorem findHandle_kill (k' : Int) (h : String) (hs : List (String × Int × Bool)) :
    findHandle (kill k' hs) h
      = (findHandle hs h).map fun e => if e.1 = k' then (e.1, false) else e := by
  induction hs with
  | nil => simp [findHandle, kill]
  | cons e r ih =>
    rw [kill_cons, findHandle_cons, findHandle_cons]
    by_cases hk : e.2.1 = k'
    · by_cases hn : e.1 = h
      · simp [hk, hn]
      · simp only [hk, if_true, hn, if_false]; exact ih
    · by_cases hn : e.1 = h
      · simp [hk, hn]
      · simp only [hk, if_false, hn]; exact ih

/-- the handle `h` is bound to a node that has been deleted -/
def DeadHandle (sp : SpecSt) (h : String) : Prop := ∃ k, findHandle sp.handles h = some (k, false)

theorem deadHandle_kill {sp : SpecSt} {h : String} (hd : DeadHandle sp h) (k' : Int) (set' : List Int) :
    DeadHandle { set := set', handles := kill k' sp.handles } h := by
  rcases hd with ⟨k, hk⟩
  refine ⟨k, ?_⟩
  simp only
  rw [findHandle_kill, hk]
  by_cases h1 : k = k' <;> simp [h1]

theorem deadHandle_step {sp : SpecSt} {h : String} (hd : DeadHandle sp h) (op : Op)
    (hop : ∀ k, op ≠ .getnode k h) : DeadHandle (specStep sp op).1 h := by
  cases op with
  | ins k lvl => rw [specStep_ins]; split <;> exact hd
  | del k =>
    rw [specStep_del]; split
    · exact deadHandle_kill hd _ _
    · exact hd
  | look k => exact hd
  | getnode k h' =>
    rw [specStep_getnode]
    split
    · rcases hd with ⟨k0, hk0⟩
      exact ⟨k0, by simp only; rw [findHandle_cons, if_neg (fun e : h' = h => hop k (by rw [e]))]; exact hk0⟩
    · exact hd
  | delnode h' =>
    rw [specStep_delnode]
    split
    · exact deadHandle_kill hd _ _
    · exact hd
    · exact hd
  | iter => exact hd
  | seek k => exact hd

theorem deadHandle_run {h : String} : ∀ (ops : List Op) (sp : SpecSt), DeadHandle sp h →
    (∀ op ∈ ops, ∀ k, op ≠ .getnode k h) → DeadHandle (specRun sp ops).1 h := by
  intro ops
  induction ops with
  | nil => intro sp hd _; exact hd
  | cons op r ih =>
    intro sp hd hops
    simp only [specRun]
    exact ih _ (deadHandle_step hd op (hops op (by simp))) (fun o ho => hops o (List.mem_cons_of_mem _ ho))

theorem delnode_true_dead {sp : SpecSt} {h : String} (ht : (specStep sp (.delnode h)).2 = .bool true) :
    DeadHandle (specStep sp (.delnode h)).1 h := by
  rw [specStep_delnode] at ht ⊢
  split at ht
  · rename_i k hf
    exact ⟨k, by simp only; rw [findHandle_kill, hf]; simp⟩
  · cases ht
  · cases ht

theorem delnode_dead_false {sp : SpecSt} {h : String} (hd : DeadHandle sp h) :
    (specStep sp (.delnode h)).2 = .bool false := by
  rcases hd with ⟨k, hk⟩
  rw [specStep_delnode, hk]

theorem merge_eq (a b : List Int) : merge a b = List.merge a b (fun x y => decide (x ≤ y)) := by
  fun_induction merge a b <;> simp_all

theorem merge_perm (a b : List Int) : (merge a b).Perm (a ++ b) := by
  rw [merge_eq]; exact List.merge_perm_append _

theorem merge_sorted (a b : List Int) (ha : AscLe a) (hb : AscLe b) : AscLe (merge a b) := by
  rw [merge_eq]
  have := List.pairwise_merge (le := fun x y : Int => decide (x ≤ y))
    (fun a b c h1 h2 => decide_eq_true (Int.le_trans (of_decide_eq_true h1) (of_decide_eq_true h2)))
    (fun a b => by simp only [Bool.or_eq_true, decide_eq_true_eq]; exact Int.le_total a b) a b
    (ha.imp decide_eq_true) (hb.imp decide_eq_true)
  exact this.imp of_decide_eq_true

theorem mergeAll_perm (ls : List (List Int)) : (mergeAll ls).Perm ls.flatten := by
  induction ls with
  | nil => simp [mergeAll]
  | cons l r ih =>
    simp only [mergeAll, List.flatten_cons]
    exact (merge_perm l (mergeAll r)).trans (List.Perm.append (List.Perm.refl l) ih)

theorem mergeAll_sorted (ls : List (List Int)) (h : ∀ l ∈ ls, AscLe l) : AscLe (mergeAll ls) := by
  induction ls with
  | nil => simp [mergeAll, AscLe]
  | cons l r ih =>
    simp only [mergeAll]
    exact merge_sorted _ _ (h l (by simp)) (ih (fun l' hl' => h l' (List.mem_cons_of_mem _ hl')))

theorem asc_ascLe {l : List Int} (h : Asc l) : AscLe l := by
  unfold Asc at h; unfold AscLe
  exact List.Pairwise.imp (fun hab => Int.le_of_lt hab) h

end NitroVerif.OrdSet
