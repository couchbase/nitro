import NitroVerif.Model.VisitPool
import NitroVerif.Lemmas.ListFacts
/-!
  The Visitor's worker pool.  Every schedule is finite (`run_length`); the safety invariant `Inv` holds for EVERY
  capacity.  A state is final, has an enabled action, or is `Full` (the dispatcher has an index to send, the buffer
  is full, no worker can take one out); `Full` with every worker gone is a deadlock (`stuck_of`); `progress`: no
  `Full` when `n ≤ cap`.  Last, what `Inv` says about `processed` and `result`.
-/
namespace NitroVerif.VisitPool

def after (failed : Bool) : WState := if failed then .done else .idle

/-- `finish` merges the model's two `finish` branches through `after` and `if fails s` -/
inductive Step (fails : Nat → Bool) (n cap : Nat) (st : State) : Action → State → Prop
  | send (hn : st.next < n) (hcl : st.closed = false) (hroom : st.chan.length < cap) :
      Step fails n cap st .send { st with next := st.next + 1, chan := st.chan ++ [st.next] }
  | recv (w s : Nat) (rest : List Nat) (hch : st.chan = s :: rest) (hw : st.workers[w]? = some .idle) :
      Step fails n cap st (.recv w) { st with chan := rest, workers := st.workers.set w (.busy s) }
  | finish (w s : Nat) (hw : st.workers[w]? = some (.busy s)) :
      Step fails n cap st (.finish w)
        { st with workers := st.workers.set w (after (fails s)),
                  errors := if fails s then st.errors.set s true else st.errors,
                  log := st.log ++ [(w, s)] }
  | close (hn : st.next = n) (hcl : st.closed = false) : Step fails n cap st .close { st with closed := true }
  | exit (w : Nat) (hcl : st.closed = true) (hch : st.chan = []) (hw : st.workers[w]? = some .idle) :
      Step fails n cap st (.exit w) { st with workers := st.workers.set w .done }

theorem step_iff {fails : Nat → Bool} {n cap : Nat} {st st' : State} {a : Action} :
    step fails n cap st a = some st' ↔ Step fails n cap st a st' := by
  constructor
  · intro h
    cases a with
    | send =>
      simp only [step] at h
      split at h <;> cases h
      rename_i hc
      exact .send hc.1 hc.2.1 hc.2.2
    | recv w =>
      simp only [step] at h
      split at h
      · rename_i s rest hch
        split at h <;> cases h
        exact .recv w s rest hch ‹_›
      · cases h
    | finish w =>
      simp only [step] at h
      split at h
      · rename_i s hw
        have hstep := Step.finish (fails := fails) (n := n) (cap := cap) w s hw
        cases hf : fails s with
        | true =>
          rw [hf] at h hstep
          cases h
          exact hstep
        | false =>
          rw [hf] at h hstep
          cases h
          exact hstep
      · cases h
    | close =>
      simp only [step] at h
      split at h <;> cases h
      rename_i hc
      exact .close hc.1 hc.2
    | exit w =>
      simp only [step] at h
      split at h <;> cases h
      rename_i hc
      exact .exit w hc.1 hc.2.1 hc.2.2
  · intro h
    cases h with
    | send h1 h2 h3 => exact if_pos ⟨h1, h2, h3⟩
    | recv w s rest hch hw => simp only [step, hch, hw, if_true]
    | finish w s hw => simp only [step, hw]; cases fails s <;> rfl
    | close h1 h2 => exact if_pos ⟨h1, h2⟩
    | exit w h1 h2 h3 => exact if_pos ⟨h1, h2, h3⟩

theorem Step.enabled {fails : Nat → Bool} {n cap : Nat} {st st' : State} {a : Action}
    (h : Step fails n cap st a st') : ∃ a st', step fails n cap st a = some st' :=
  ⟨a, st', step_iff.mpr h⟩

/-- every step makes the measure smaller, whatever the capacity.  The weights: an index still to be
    sent counts 3, in the buffer 2; `recv` turns buffer 2 + idle 1 into busy 2; `finish` turns busy 2
    into idle 1 or done 0; `exit` idle 1 into done 0; `close` uses up the 1 of the open channel. -/
theorem step_measure {fails : Nat → Bool} {n cap : Nat} {st st' : State} {a : Action}
    (h : step fails n cap st a = some st') : measure n st' < measure n st := by
  cases step_iff.mp h with
  | send h1 _ _ =>
    simp only [measure, List.length_append, List.length_cons, List.length_nil]
    omega
  | recv w s rest hch hw =>
    have := sum_map_set weight st.workers w (.busy s) .idle hw
    simp only [measure, weight, hch, List.length_cons] at this ⊢
    omega
  | finish w s hw =>
    refine Nat.add_lt_add_left (sum_map_set_lt weight hw ?_) _
    cases fails s <;> simp [weight, after]
  | close _ hcl =>
    simp only [measure, hcl]
    simp
  | exit w _ _ hw =>
    exact Nat.add_lt_add_left (sum_map_set_lt weight hw (by decide)) _

theorem run_ind {fails : Nat → Bool} {n cap : Nat} {P : State → Prop}
    (hstep : ∀ st a st', P st → step fails n cap st a = some st' → P st')
    (sched : List Action) (st st' : State) (hp : P st) (h : run fails n cap st sched = some st') :
    P st' := by
  induction sched generalizing st with
  | nil => cases h; exact hp
  | cons a r ih =>
    rw [run] at h
    split at h
    · cases h
    · rename_i s1 hs; exact ih s1 (hstep st a s1 hp hs) h

theorem run_length {fails : Nat → Bool} {n cap : Nat} (sched : List Action) (st st' : State)
    (h : run fails n cap st sched = some st') : sched.length + measure n st' ≤ measure n st := by
  induction sched generalizing st with
  | nil => cases h; exact Nat.le_of_eq (Nat.zero_add _)
  | cons a r ih =>
    rw [run] at h
    split at h
    · cases h
    · rename_i s1 hs
      have := ih s1 h
      have := step_measure hs
      rw [List.length_cons]
      omega

theorem measure_init (n c : Nat) : measure n (init n c) = 3 * n + 1 + c := by
  simp only [measure, init, Nat.sub_zero, sum_map_replicate, weight, Nat.mul_one]
  simp

theorem run_length_init {fails : Nat → Bool} {n cap c : Nat} {sched : List Action} {st : State}
    (h : run fails n cap (init n c) sched = some st) : sched.length ≤ 3 * n + 1 + c :=
  Nat.le_trans (Nat.le_add_right _ _) (measure_init n c ▸ run_length sched _ _ h)

structure Inv (fails : Nat → Bool) (n c : Nat) (st : State) : Prop where
  /-- the dispatcher never overruns -/
  next_le : st.next ≤ n
  /-- the channel is closed only after the last send -/
  closed_next : st.closed = true → st.next = n
  /-- the buffer never holds more than what was sent -/
  chan_le : st.chan.length ≤ st.next
  nworkers : st.workers.length = c
  nerrors : st.errors.length = n
  /-- every index sent so far is in exactly one place — the buffer, a busy worker, or the log — exactly once;
      an index not sent yet is nowhere -/
  once : ∀ s, st.chan.count s + st.workers.count (.busy s) + (processed st).count s
              = if s < st.next then 1 else 0
  /-- `errors[s]` is set exactly for the shards that a worker has been through and that fail -/
  errs : ∀ s, st.errors[s]? = some true ↔ (s ∈ processed st ∧ fails s = true)
  /-- a worker that has returned either hit a failing shard or saw the channel closed and drained -/
  gone : ∀ w, st.workers[w]? = some .done →
              (∃ s, (w, s) ∈ st.log ∧ fails s = true) ∨ (st.chan = [] ∧ st.closed = true)
  /-- the log only names workers of the pool -/
  logw : ∀ e ∈ st.log, e.1 < c

theorem inv_init (fails : Nat → Bool) (n c : Nat) : Inv fails n c (init n c) where
  next_le := Nat.zero_le _
  closed_next := by simp [init]
  chan_le := by simp [init]
  nworkers := by simp [init]
  nerrors := by simp [init]
  once := by intro s; simp [init, processed, List.count_replicate]
  errs := by
    intro s
    simp only [init, processed, List.map_nil, List.not_mem_nil, false_and, iff_false]
    intro h
    have := List.mem_of_getElem? h
    simp at this
  gone := by
    intro w h
    have := List.mem_of_getElem? h
    simp [init] at this
  logw := by simp [init]

theorem Inv.placed {fails : Nat → Bool} {n c : Nat} {st : State} (hi : Inv fails n c st) {s : Nat}
    (h : 0 < st.chan.count s + st.workers.count (.busy s) + (processed st).count s) :
    s < n ∧ st.chan.count s + st.workers.count (.busy s) + (processed st).count s = 1 := by
  have h1 := hi.once s
  by_cases hlt : s < st.next
  · rw [if_pos hlt] at h1; exact ⟨Nat.lt_of_lt_of_le hlt hi.next_le, h1⟩
  · rw [if_neg hlt] at h1; rw [h1] at h; cases h

theorem ite_lt_succ (s k : Nat) :
    (if s < k + 1 then 1 else 0) = (if s < k then 1 else 0) + (if k = s then 1 else 0) := by
  by_cases h1 : s < k
  · rw [if_pos h1, if_pos (Nat.lt_succ_of_lt h1), if_neg (fun e : k = s => Nat.lt_irrefl s (e ▸ h1))]
  · by_cases h2 : k = s
    · subst h2; rw [if_neg h1, if_pos (Nat.lt_succ_self _), if_pos rfl]
    · rw [if_neg h1, if_neg h2,
        if_neg (fun h => h1 (Nat.lt_of_le_of_ne (Nat.le_of_lt_succ h) (Ne.symm h2)))]

theorem inv_step {fails : Nat → Bool} {n cap c : Nat} {st st' : State} {a : Action}
    (hi : Inv fails n c st) (h : step fails n cap st a = some st') : Inv fails n c st' := by
  cases step_iff.mp h with
  | send h1 hcl _ =>
    refine { hi with
      next_le := by simp only; omega
      closed_next := ?_
      chan_le := ?_
      once := ?_
      gone := ?_ }
    · intro hc; simp only at hc; rw [hcl] at hc; cases hc
    · have := hi.chan_le
      simp only [List.length_append, List.length_cons, List.length_nil]; omega
    · intro s
      have := hi.once s
      simp only [processed, List.count_append, List.count_cons, List.count_nil, beq_iff_eq] at this ⊢
      rw [ite_lt_succ]; omega
    · intro w hw
      rcases hi.gone w hw with hg | ⟨_, hg⟩
      · exact Or.inl hg
      · rw [hcl] at hg; cases hg
  | recv w s rest hch hw =>
    refine { hi with
      chan_le := ?_
      nworkers := (List.length_set ..).trans hi.nworkers
      once := ?_
      gone := ?_ }
    · exact Nat.le_of_succ_le (hch ▸ hi.chan_le : (s :: rest).length ≤ st.next)
    · intro s'
      have := hi.once s'
      simp only [processed, hch, List.count_cons, beq_iff_eq] at this ⊢
      rw [count_set_of hw]
      simp only [reduceCtorEq, if_false, WState.busy.injEq, Nat.sub_zero]
      omega
    · intro w' hw'
      rcases getElem?_set_cases hw' with ⟨_, hx⟩ | ⟨_, hw'⟩
      · cases hx
      · rcases hi.gone w' hw' with hg | ⟨hg, _⟩
        · exact Or.inl hg
        · rw [hch] at hg; cases hg
  | finish w s hw =>
    have hpos : 0 < st.workers.count (.busy s) := List.count_pos_iff.mpr (List.mem_of_getElem? hw)
    have hnb : ∀ s', ¬ after (fails s) = .busy s' := by intro s'; cases fails s <;> nofun
    have hsn : s < n := (hi.placed (by omega)).1
    refine { hi with
      nworkers := (List.length_set ..).trans hi.nworkers
      nerrors := ?_
      once := ?_
      errs := ?_
      gone := ?_
      logw := ?_ }
    · show (if fails s then st.errors.set s true else st.errors).length = n
      split
      · rw [List.length_set]; exact hi.nerrors
      · exact hi.nerrors
    · -- the index moves from the worker to the log
      intro s'
      have := hi.once s'
      simp only [processed, List.map_append, List.map_cons, List.map_nil, List.count_append, List.count_cons,
        List.count_nil, beq_iff_eq] at this ⊢
      rw [count_set_of hw]
      simp only [hnb s', if_false, WState.busy.injEq, Nat.add_zero]
      by_cases hs : s = s'
      · subst hs; simp only [if_true]; omega
      · simp only [hs, if_false]; omega
    · intro s'
      have := hi.errs s'
      simp only [processed, List.map_append, List.map_cons, List.map_nil, List.mem_append,
        List.mem_singleton] at this ⊢
      cases hf : fails s with
      | true =>
        simp only [if_true, List.getElem?_set]
        by_cases hs : s = s'
        · subst hs; simp only [if_true, hi.nerrors, hsn, hf, or_true, and_self]
        · simp only [hs, if_false]
          rw [this]
          exact ⟨fun ⟨h1, h2⟩ => ⟨Or.inl h1, h2⟩,
            fun ⟨h1, h2⟩ => h1.elim (fun h1 => ⟨h1, h2⟩) (fun h1 => absurd h1.symm hs)⟩
      | false =>
        simp only [Bool.false_eq_true, if_false]
        rw [this]
        exact ⟨fun ⟨h1, h2⟩ => ⟨Or.inl h1, h2⟩,
          fun ⟨h1, h2⟩ => h1.elim (fun h1 => ⟨h1, h2⟩) (fun h1 => by subst h1; rw [hf] at h2; cases h2)⟩
    · intro w' hw'
      rcases getElem?_set_cases hw' with ⟨rfl, hx⟩ | ⟨_, hw'⟩
      · cases hf : fails s with
        | true => exact Or.inl ⟨s, by simp, hf⟩
        | false => rw [hf] at hx; cases hx
      · rcases hi.gone w' hw' with ⟨s0, hs0, hf0⟩ | hg
        · exact Or.inl ⟨s0, by simp [hs0], hf0⟩
        · exact Or.inr hg
    · intro e he
      simp only [List.mem_append, List.mem_singleton] at he
      rcases he with he | rfl
      · exact hi.logw e he
      · have := lt_length_of_getElem? hw
        have := hi.nworkers
        simp only; omega
  | close hn hcl =>
    refine { hi with
      closed_next := fun _ => hn
      gone := ?_ }
    intro w hw
    rcases hi.gone w hw with hg | ⟨hg, _⟩
    · exact Or.inl hg
    · exact Or.inr ⟨hg, rfl⟩
  | exit w hcl hch hw =>
    refine { hi with
      nworkers := (List.length_set ..).trans hi.nworkers
      once := ?_
      gone := ?_ }
    · intro s'
      have := hi.once s'
      simp only [processed] at this ⊢
      rw [count_set_of hw]
      simp only [reduceCtorEq, if_false, Nat.sub_zero, Nat.add_zero]
      exact this
    · intro w' hw'
      rcases getElem?_set_cases hw' with _ | ⟨_, hw'⟩
      · exact Or.inr ⟨hch, hcl⟩
      · exact hi.gone w' hw'

theorem inv_run {fails : Nat → Bool} {n cap c : Nat} (sched : List Action) (st st' : State)
    (hi : Inv fails n c st) (h : run fails n cap st sched = some st') : Inv fails n c st' :=
  run_ind (fun _ _ _ => inv_step) sched st st' hi h

theorem undone_enabled {fails : Nat → Bool} {n cap : Nat} {st : State} {x : WState} (hx : x ∈ st.workers)
    (hxd : x ≠ .done) (hch : st.chan ≠ [] ∨ st.closed = true) : ∃ a st', step fails n cap st a = some st' := by
  obtain ⟨w, hw⟩ := List.getElem?_of_mem hx
  cases x with
  | done => exact absurd rfl hxd
  | busy s => exact (Step.finish w s hw).enabled
  | idle =>
    cases hc : st.chan with
    | cons s rest => exact (Step.recv w s rest hc hw).enabled
    | nil => exact (Step.exit w (hch.resolve_left (fun h => h hc)) hc hw).enabled

/-- the dispatcher has an index to send, the buffer is full, and no worker can take one out (all have
    returned, or `cap = 0`) -/
def Full (n cap : Nat) (st : State) : Prop :=
  st.closed = false ∧ st.next < n ∧ cap ≤ st.chan.length ∧ (st.chan = [] ∨ ∀ x ∈ st.workers, x = .done)

theorem final_or_enabled_or_full {fails : Nat → Bool} {n cap c : Nat} {st : State} (hi : Inv fails n c st) :
    final n st ∨ (∃ a st', step fails n cap st a = some st') ∨ Full n cap st := by
  cases hcl : st.closed with
  | true =>
    by_cases hall : ∀ x ∈ st.workers, x = .done
    · exact Or.inl ⟨hi.closed_next hcl, hcl, hall⟩
    · obtain ⟨x, hx, hxd⟩ := exists_not_of_not_forall hall
      exact Or.inr (Or.inl (undone_enabled hx hxd (Or.inr hcl)))
  | false =>
    by_cases hn : st.next = n
    · exact Or.inr (Or.inl (Step.close hn hcl).enabled)
    · have hlt := Nat.lt_of_le_of_ne hi.next_le hn
      by_cases hroom : st.chan.length < cap
      · exact Or.inr (Or.inl (Step.send hlt hcl hroom).enabled)
      · by_cases hch : st.chan = []
        · exact Or.inr (Or.inr ⟨hcl, hlt, Nat.le_of_not_lt hroom, Or.inl hch⟩)
        · by_cases hall : ∀ x ∈ st.workers, x = .done
          · exact Or.inr (Or.inr ⟨hcl, hlt, Nat.le_of_not_lt hroom, Or.inr hall⟩)
          · obtain ⟨x, hx, hxd⟩ := exists_not_of_not_forall hall
            exact Or.inr (Or.inl (undone_enabled hx hxd (Or.inl hch)))

theorem stuck_of {fails : Nat → Bool} {n cap : Nat} {st : State} (h1 : st.next < n) (h2 : cap ≤ st.chan.length)
    (h3 : ∀ w ∈ st.workers, w = .done) : ¬ final n st ∧ ∀ a, step fails n cap st a = none := by
  refine ⟨fun hf => Nat.ne_of_lt h1 hf.1, fun a => ?_⟩
  have hw : ∀ {w : Nat} {x : WState}, st.workers[w]? = some x → x = .done :=
    fun hx => h3 _ (List.mem_of_getElem? hx)
  cases h : step fails n cap st a with
  | none => rfl
  | some st' =>
    cases step_iff.mp h with
    | send _ _ hroom => exact absurd h2 (Nat.not_le_of_lt hroom)
    | recv w s rest _ hi => cases hw hi
    | finish w s hb => cases hw hb
    | close hn _ => exact absurd hn (Nat.ne_of_lt h1)
    | exit w _ _ hi => cases hw hi

/-- a state that is not final has an enabled action, provided the channel holds every shard index -/
theorem progress {fails : Nat → Bool} {n cap c : Nat} (hcap : n ≤ cap) {st : State} (hi : Inv fails n c st) :
    final n st ∨ ∃ a st', step fails n cap st a = some st' := by
  rcases final_or_enabled_or_full (cap := cap) hi with h | h | ⟨_, hlt, hfull, _⟩
  · exact Or.inl h
  · exact Or.inr h
  · -- the buffer never holds more than what was sent, and that is less than `n ≤ cap`
    exact absurd (Nat.le_trans hfull hi.chan_le) (Nat.not_le_of_lt (Nat.lt_of_lt_of_le hlt hcap))

theorem mem_processed {st : State} {w s : Nat} (h : (w, s) ∈ st.log) : s ∈ processed st :=
  List.mem_map.mpr ⟨(w, s), h, rfl⟩

theorem processed_count_le_one {fails : Nat → Bool} {n c : Nat} {st : State} (hi : Inv fails n c st) (s : Nat) :
    (processed st).count s ≤ 1 := by
  by_cases h : 0 < (processed st).count s
  · have := (hi.placed (Nat.lt_of_lt_of_le h (Nat.le_add_left _ _))).2; omega
  · omega

theorem processed_lt {fails : Nat → Bool} {n c : Nat} {st : State} (hi : Inv fails n c st) {s : Nat}
    (hs : s ∈ processed st) : s < n :=
  (hi.placed (Nat.lt_of_lt_of_le (List.count_pos_iff.mpr hs) (Nat.le_add_left _ _))).1

theorem final_no_busy {n : Nat} {st : State} (hf : final n st) (s : Nat) : st.workers.count (.busy s) = 0 := by
  rw [List.count_eq_zero]
  intro hm
  have := hf.2.2 _ hm
  cases this

theorem final_partition {fails : Nat → Bool} {n c : Nat} {st : State} (hi : Inv fails n c st) (hf : final n st)
    {s : Nat} (hs : s < n) : st.chan.count s + (processed st).count s = 1 := by
  have := hi.once s
  rw [final_no_busy hf, hf.1, if_pos hs] at this
  omega

theorem result_none_iff {fails : Nat → Bool} {n c : Nat} {st : State} (hi : Inv fails n c st) :
    result st = none ↔ ∀ s ∈ processed st, fails s = false := by
  simp only [result, List.findIdx?_eq_none_iff]
  constructor
  · intro h s hs
    cases hf : fails s with
    | false => rfl
    | true =>
      have := List.mem_of_getElem? ((hi.errs s).mpr ⟨hs, hf⟩)
      have := h _ this
      cases this
  · intro h x hx
    cases x with
    | false => rfl
    | true =>
      obtain ⟨i, hi'⟩ := List.getElem?_of_mem hx
      obtain ⟨h1, h2⟩ := (hi.errs i).mp hi'
      rw [h _ h1] at h2; cases h2

theorem result_some_iff {fails : Nat → Bool} {n c : Nat} {st : State} (hi : Inv fails n c st) (s : Nat) :
    result st = some s ↔
      (s ∈ processed st ∧ fails s = true ∧ ∀ s', s' < s → ¬ (s' ∈ processed st ∧ fails s' = true)) := by
  simp only [result, List.findIdx?_eq_some_iff_getElem]
  constructor
  · rintro ⟨hlt, hs, hmin⟩
    have h1 : st.errors[s]? = some true := by rw [List.getElem?_eq_getElem hlt, hs]
    obtain ⟨hp, hf⟩ := (hi.errs s).mp h1
    refine ⟨hp, hf, ?_⟩
    intro s' hs' hpf
    have h2 := (hi.errs s').mpr hpf
    have hlt' : s' < st.errors.length := by omega
    rw [List.getElem?_eq_getElem hlt'] at h2
    exact hmin s' hs' (Option.some.inj h2)
  · rintro ⟨hp, hf, hmin⟩
    have h1 := (hi.errs s).mpr ⟨hp, hf⟩
    have hlt := lt_length_of_getElem? h1
    refine ⟨hlt, ?_, ?_⟩
    · rw [List.getElem?_eq_getElem hlt] at h1
      exact Option.some.inj h1
    · intro j hj hje
      have hlt' : j < st.errors.length := by omega
      have : st.errors[j]? = some true := by rw [List.getElem?_eq_getElem hlt', hje]
      exact hmin j hj ((hi.errs j).mp this)

theorem final_leftover {fails : Nat → Bool} {n c : Nat} {st : State} (hi : Inv fails n c st) (hf : final n st)
    (hch : st.chan ≠ []) {w : Nat} (hw : w < c) : ∃ s, (w, s) ∈ st.log ∧ fails s = true := by
  have hlt : w < st.workers.length := by rw [hi.nworkers]; exact hw
  have hd : st.workers[w]? = some .done := by
    rw [List.getElem?_eq_getElem hlt, hf.2.2 _ (List.getElem_mem hlt)]
  rcases hi.gone w hd with hg | ⟨hg, _⟩
  · exact hg
  · exact absurd hg hch

end NitroVerif.VisitPool
