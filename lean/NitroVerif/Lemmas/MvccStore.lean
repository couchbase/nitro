/-
  Lifetimes (`Chains`); the search of `Put2`/`GetNode` (exact hit under the insert comparator, else
  exists-comparison with the predecessor) finds exactly the alive version of the key.
-/
import NitroVerif.Lemmas.MvccOrder

namespace NitroVerif.Mvcc

/-- per key the lifetimes `[born, dead)` are disjoint, so at most one version is alive, one visible -/
def Chains (cur : Nat) (s : List Ver) : Prop :=
  (∀ v ∈ s, v.born ≤ cur ∧ (v.dead ≠ 0 → v.born < v.dead ∧ v.dead ≤ cur)) ∧
  (∀ a ∈ s, ∀ b ∈ s, a.key = b.key → a.born < b.born → a.dead ≠ 0 ∧ a.dead ≤ b.born)

def aliveOf (s : List Ver) (k : Nat) : Option Ver := s.find? (fun x => x.key == k && x.dead == 0)

theorem alive_of_born_cur {cur : Nat} {s : List Ver} (hc : Chains cur s) {v : Ver} (hv : v ∈ s)
    (hb : v.born = cur) : v.dead = 0 :=
  Decidable.byContradiction fun hd => by
    have h2 := (hc.1 v hv).2 hd
    rw [hb] at h2
    exact Nat.lt_irrefl _ (Nat.lt_of_lt_of_le h2.1 h2.2)

theorem alive_unique {cur : Nat} {s : List Ver} (hs : Sorted s) (hc : Chains cur s) {a b : Ver}
    (ha : a ∈ s) (hb : b ∈ s) (hk : a.key = b.key) (hda : a.dead = 0) (hdb : b.dead = 0) : a = b :=
  sorted_id_unique hs ha hb hk (Nat.le_antisymm
    (Nat.not_lt.mp fun hlt => (hc.2 b hb a ha hk.symm hlt).1 hdb)
    (Nat.not_lt.mp fun hlt => (hc.2 a ha b hb hk hlt).1 hda))

theorem aliveOf_eq_some {cur : Nat} {s : List Ver} (hs : Sorted s) (hc : Chains cur s) {k : Nat} {x : Ver}
    (hx : x ∈ s) (hk : x.key = k) (hd : x.dead = 0) : aliveOf s k = some x := by
  unfold aliveOf
  cases h : s.find? (fun x => x.key == k && x.dead == 0) with
  | none =>
    exact absurd (Bool.and_eq_true _ _ ▸ ⟨beq_iff_eq.mpr hk, beq_iff_eq.mpr hd⟩) (List.find?_eq_none.mp h x hx)
  | some y =>
    have hy : y.key = k ∧ y.dead = 0 := by
      have := List.find?_some h
      rw [Bool.and_eq_true, beq_iff_eq, beq_iff_eq] at this; exact this
    rw [alive_unique hs hc (List.mem_of_find?_eq_some h) hx (hy.1.trans hk.symm) hy.2 hd]

theorem aliveOf_some {s : List Ver} {k : Nat} {x : Ver} (h : aliveOf s k = some x) :
    x ∈ s ∧ x.key = k ∧ x.dead = 0 := by
  unfold aliveOf at h
  have hy := List.find?_some h
  simp at hy
  exact ⟨List.mem_of_find?_eq_some h, hy.1, hy.2⟩

theorem aliveOf_none {s : List Ver} {k : Nat} (h : aliveOf s k = none) :
    ∀ x ∈ s, x.key = k → x.dead ≠ 0 := by
  intro x hx hk hd
  unfold aliveOf at h
  have := List.find?_eq_none.mp h x hx
  simp [hk, hd] at this

theorem foundAt_some {cmp : Ver → Ver → Int} {p : Ver} {r : List Ver} {x : Ver}
    (h : foundAt cmp p r = some x) : r.head? = some x ∧ cmp x p = 0 := by
  cases r with
  | nil => simp [foundAt] at h
  | cons y ys =>
    simp only [foundAt] at h
    by_cases hf : Gen.findFound (cmp y p) = true
    · simp [hf] at h; subst h
      exact ⟨rfl, (Gen.findFound_iff _).mp hf⟩
    · simp [hf] at h

theorem foundAt_none {cmp : Ver → Ver → Int} {p : Ver} {y : Ver} {ys : List Ver}
    (h : foundAt cmp p (y :: ys) = none) : cmp y p ≠ 0 := by
  simp only [foundAt] at h
  intro h0
  simp [(Gen.findFound_iff _).mpr h0] at h

theorem lookup_sound {cur : Nat} {s : List Ver} (hc : Chains cur s) {k v : Nat} {x : Ver}
    (h : lookup s ⟨k, v, cur, 0⟩ = some x) : x ∈ s ∧ x.key = k ∧ x.dead = 0 := by
  unfold lookup at h
  have happ := findPath_append insCmp ⟨k, v, cur, 0⟩ s
  split at h
  · rename_i y hy
    cases h
    have ⟨hh, hz⟩ := foundAt_some hy
    have hm : x ∈ s := by
      rw [← happ]; exact List.mem_append_right _ (List.mem_of_mem_head? hh)
    have hid : x.key = k ∧ x.born = cur := (insCmp_zero _ _).mp hz
    exact ⟨hm, hid.1, alive_of_born_cur hc hm hid.2⟩
  · split at h
    · rename_i p hp
      split at h
      · rename_i he
        cases h
        have hz : _ ∧ x.dead = 0 ∧ k = x.key := (existCmp_zero _ _).mp he
        have hm : x ∈ s := by
          rw [← happ]; exact List.mem_append_left _ (List.mem_of_getLast? hp)
        exact ⟨hm, hz.2.2.symm, hz.2.1⟩
      · cases h
    · cases h

theorem lookup_complete {cur : Nat} {s : List Ver} (hs : Sorted s) (hc : Chains cur s) {k v : Nat}
    (h : lookup s ⟨k, v, cur, 0⟩ = none) : ∀ y ∈ s, y.key = k → y.dead ≠ 0 := by
  intro y hy hk hd
  have ⟨h1, h2⟩ := findPath_ins hs ⟨k, v, cur, 0⟩
  have hyb := hc.1 y hy
  unfold lookup at h
  split at h
  · simp at h
  · rename_i hfa
    by_cases hlt : vlt y ⟨k, v, cur, 0⟩
    · -- y is among the passed nodes, so the predecessor exists and is y
      have hyl : y ∈ (findPath insCmp ⟨k, v, cur, 0⟩ s).1 := by
        rw [h1]; exact List.mem_filter.mpr ⟨hy, (insLt_iff _ _).mpr hlt⟩
      split at h
      · rename_i p hp
        have hsl : Sorted (findPath insCmp ⟨k, v, cur, 0⟩ s).1 := by rw [h1]; exact List.Pairwise.filter _ hs
        have ⟨hpm, hmax⟩ := getLast_max hsl hp
        have hps : p ∈ s ∧ vlt p ⟨k, v, cur, 0⟩ := by
          rw [h1] at hpm
          have := List.mem_filter.mp hpm
          exact ⟨this.1, (insLt_iff _ _).mp this.2⟩
        have hyp : y = p := by
          rcases hmax y hyl with h' | h'
          · exact h'
          · -- a later version of the same key below the probe: `y` would be dead
            exfalso
            have hpk : p.key = y.key ∧ y.born < p.born := by
              rcases h' with h' | h'
              · rcases hps.2 with h2 | h2
                · exact absurd (hk ▸ h') (Nat.lt_asymm h2)
                · exact absurd (hk ▸ h2.1 ▸ h') (Nat.lt_irrefl _)
              · exact ⟨h'.1.symm, h'.2⟩
            exact (hc.2 y hy p hps.1 hpk.1.symm hpk.2).1 hd
        subst hyp
        split at h
        · simp at h
        · rename_i he
          apply he
          exact (existCmp_zero _ _).mpr ⟨rfl, hd, hk.symm⟩
      · rename_i hnone
        have : (findPath insCmp ⟨k, v, cur, 0⟩ s).1 = [] := List.getLast?_eq_none_iff.mp hnone
        rw [this] at hyl; simp at hyl
    · -- y is not below the probe: it is the exact hit
      have hyr : y ∈ (findPath insCmp ⟨k, v, cur, 0⟩ s).2 := by
        rw [h2]; apply List.mem_filter.mpr
        refine ⟨hy, ?_⟩
        cases hb : insLt y ⟨k, v, cur, 0⟩
        · rfl
        · exact absurd ((insLt_iff _ _).mp hb) hlt
      have hborn : y.born = cur :=
        Nat.le_antisymm hyb.1 (Nat.not_lt.mp fun h => hlt (Or.inr ⟨hk, h⟩))
      cases hr : (findPath insCmp ⟨k, v, cur, 0⟩ s).2 with
      | nil => rw [hr] at hyr; exact absurd hyr List.not_mem_nil
      | cons z zs =>
        rw [hr] at hfa hyr
        have hzn : insCmp z ⟨k, v, cur, 0⟩ ≠ 0 := foundAt_none hfa
        rcases List.mem_cons.mp hyr with hyz | hyz
        · exact hzn (hyz ▸ (insCmp_zero _ _).mpr ⟨hk, hborn⟩)
        · -- `z` is before `y`, which has the identity of the probe, and yet not below the probe
          have hzf : z ∈ s.filter (fun x => !insLt x ⟨k, v, cur, 0⟩) := by
            rw [← h2, hr]; exact List.mem_cons_self ..
          have hsr : Sorted (z :: zs) := by rw [← hr, h2]; exact List.Pairwise.filter _ hs
          have hzy : vlt z y := (List.pairwise_cons.mp hsr).1 y hyz
          have hzp : vlt z ⟨k, v, cur, 0⟩ :=
            hzy.elim (fun h => Or.inl (hk ▸ h)) (fun h => Or.inr ⟨h.1.trans hk, hborn ▸ h.2⟩)
          have hnot : (!insLt z ⟨k, v, cur, 0⟩) = true := (List.mem_filter.mp hzf).2
          rw [(insLt_iff _ _).mpr hzp] at hnot
          cases hnot

theorem lookup_eq_aliveOf {cur : Nat} {s : List Ver} (hs : Sorted s) (hc : Chains cur s) (k v : Nat) :
    lookup s ⟨k, v, cur, 0⟩ = aliveOf s k := by
  cases h : lookup s ⟨k, v, cur, 0⟩ with
  | some x =>
    have ⟨hm, hk, hd⟩ := lookup_sound hc h
    exact (aliveOf_eq_some hs hc hm hk hd).symm
  | none =>
    have := lookup_complete hs hc h
    unfold aliveOf
    symm; apply List.find?_eq_none.mpr
    intro x hx; simp
    intro hk; exact this x hx hk

end NitroVerif.Mvcc
