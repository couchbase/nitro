import NitroVerif.Gen.Guards
/-!
  Characterisation of the generated guards of `skiplist/access_barrier.go` that the M4 model calls.
  A change of the Go condition/constant changes the generated definition and breaks the lemma here.
-/
namespace NitroVerif.Barrier

/-- `barrierFlushOffset = math.MaxInt32 / 2 = 2^30 - 1` -/
theorem barrierFlushOffset_eq : Gen.barrierFlushOffset = 2 ^ 30 - 1 := by decide

theorem barrierFlushOffset_val : Gen.barrierFlushOffset = 1073741823 := by decide

theorem flushAdd_val : Gen.flushAdd = 1073741824 := by decide

theorem acquireBackoff_iff (v : Int) : Gen.acquireBackoff v = true ↔ Gen.barrierFlushOffset < v := by
  simp [Gen.acquireBackoff]

theorem releaseIsLast_iff (v : Int) : Gen.releaseIsLast v = true ↔ v = Gen.barrierFlushOffset := by
  simp [Gen.releaseIsLast]

/-- the "Unsafe memory reclamation" panic: count negative, or one below the offset -/
theorem releasePanic_iff (v : Int) :
    Gen.releasePanic v = true ↔ (v < 0 ∨ v = Gen.barrierFlushOffset - 1) := by
  simp [Gen.releasePanic]

theorem closedFirst_iff (v : Int) : Gen.closedFirst v = true ↔ v = 1 := by
  simp [Gen.closedFirst]

theorem cleanupStop_eq_false_iff (seqno freeSeqno : Nat) :
    Gen.cleanupStop seqno freeSeqno = false ↔ seqno = freeSeqno + 1 := by
  simp [Gen.cleanupStop]

theorem readyHead_iff (seqno freeSeqno : Nat) :
    Gen.readyHead seqno freeSeqno = true ↔ seqno = freeSeqno + 1 := by
  simp [Gen.readyHead]

/-- the two tests on the queue head agree (cleanup continues exactly when the re-check says "ready") -/
theorem readyHead_eq_not_cleanupStop (seqno freeSeqno : Nat) :
    Gen.readyHead seqno freeSeqno = !Gen.cleanupStop seqno freeSeqno := by
  simp [Gen.readyHead, Gen.cleanupStop]

theorem flushAdd_eq : Gen.flushAdd = Gen.barrierFlushOffset + 1 := rfl

/-! ### skeletons: source-order list of the shared-memory operations of each function.
    The program counters of `Model/Barrier.lean` follow these lists; a change in the order or
    presence of an operation breaks the lemma. -/

theorem skeleton_Acquire_ok : Gen.skeleton_Acquire =
    ["atomic.LoadPointer(ab.session)", "atomic.AddInt32(bs.liveCount)", "ab.Release"] := rfl

theorem skeleton_Release_ok : Gen.skeleton_Release =
    ["atomic.AddInt32(bs.liveCount)", "defer", "atomic.AddInt32(bs.closed)", "ab.freeq.Insert",
     "atomic.CompareAndSwapInt32(ab.isDestructorRunning)", "ab.doCleanup",
     "atomic.CompareAndSwapInt32(ab.isDestructorRunning)", "ab.hasReadySession"] := rfl

theorem skeleton_doCleanup_ok : Gen.skeleton_doCleanup =
    ["defer", "defer", "defer", "iter.Close", "iter.SeekFirst", "iter.Next",
     "atomic.LoadUint64(ab.freeSeqno)", "atomic.AddUint64(ab.freeSeqno)", "ab.callb",
     "ab.freeq.DeleteNode"] := rfl

theorem skeleton_FlushSession_ok : Gen.skeleton_FlushSession =
    ["ab.Lock", "defer", "ab.Unlock", "atomic.LoadPointer(ab.session)",
     "atomic.CompareAndSwapPointer(ab.session)", "atomic.AddInt32(bs.liveCount)", "ab.Release"] := rfl

end NitroVerif.Barrier
