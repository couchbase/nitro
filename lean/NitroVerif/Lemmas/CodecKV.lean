import NitroVerif.Lemmas.Codec
/-!
  KVToBytes / KVFromBytes / CompareKV: the key length is stored modulo 2^16, and KVFromBytes splits
  at the stored length (`kvFromBytes_kvToBytes_general`).  `bytes.Compare` (`cmpBytes`) is the sign of
  the lexicographic order of byte lists (`cmpBytes_eq`); its other properties are corollaries.
-/
namespace NitroVerif.Codec
open NitroVerif.Codec.GenLemmas

@[simp] theorem length_leBytes (w n : Nat) : (leBytes w n).length = w := by
  induction w generalizing n with
  | zero => rfl
  | succ w ih => simp [leBytes, ih]

theorem leVal_leBytes (w n : Nat) : leVal (leBytes w n) = n % 256 ^ w := by
  induction w generalizing n with
  | zero => simp [leBytes, leVal, Nat.mod_one]
  | succ w ih =>
    simp only [leBytes, leVal, ih]
    have h1 : (UInt8.ofNat (n % 256)).toNat = n % 256 := by simp
    rw [h1, Nat.pow_succ, Nat.mul_comm (256 ^ w) 256, Nat.mod_mul]

/-- the key length field of a KV item: 2 bytes, little endian -/
theorem lenEnc_kv (n : Nat) : lenEnc (!Gen.kvLittleEndian) Gen.kvLenWidth n = leBytes 2 n := by
  have hle := kvLittleEndian_eq
  have hw := kvLenWidth_eq
  simp [lenEnc, hle, hw]

theorem kvKeyLen_eq (bs : Bytes) : kvKeyLen bs = leVal (bs.take 2) := by
  have hle := kvLittleEndian_eq
  have hw := kvLenWidth_eq
  simp [kvKeyLen, lenDec, hle, hw]

theorem kvToBytes_eq (k v : Bytes) : kvToBytes k v = leBytes 2 k.length ++ (k ++ v) := by
  rw [kvToBytes, lenEnc_kv, List.append_assoc]

/-- the key length is stored as `uint16(klen)`, i.e. modulo 2^16 -/
theorem kvKeyLen_kvToBytes (k v : Bytes) : kvKeyLen (kvToBytes k v) = k.length % 2 ^ 16 := by
  rw [kvKeyLen_eq, kvToBytes_eq, List.take_left' (length_leBytes _ _), leVal_leBytes]

theorem kvFromBytes_kvToBytes_general (k v : Bytes) :
    kvFromBytes (kvToBytes k v)
      = ((k ++ v).take (k.length % 2 ^ 16), (k ++ v).drop (k.length % 2 ^ 16)) := by
  have hdrop : (kvToBytes k v).drop 2 = k ++ v := by
    rw [kvToBytes_eq]; exact List.drop_left' (length_leBytes _ _)
  rw [kvFromBytes, kvKeyLen_kvToBytes, kvLenWidth_eq, ← List.drop_drop, hdrop]

theorem kvWellFormed_kvToBytes_general (k v : Bytes) : kvWellFormed (kvToBytes k v) = true := by
  have hlen : (kvToBytes k v).length = 2 + (k.length + v.length) := by
    rw [kvToBytes_eq, List.length_append, length_leBytes, List.length_append]
  rw [kvWellFormed, kvKeyLen_kvToBytes, kvLenWidth_eq, hlen, Bool.and_eq_true, decide_eq_true_eq,
    decide_eq_true_eq]
  exact ⟨Nat.le_add_right _ _, Nat.add_le_add_left
    (Nat.le_trans (Nat.mod_le _ _) (Nat.le_add_right _ _)) _⟩

theorem kvFromBytes_kvToBytes {k : Bytes} (v : Bytes) (hk : k.length < 2 ^ 16) :
    kvFromBytes (kvToBytes k v) = (k, v) := by
  rw [kvFromBytes_kvToBytes_general, Nat.mod_eq_of_lt hk]
  simp

/-- `bytes.Compare` is the sign of the lexicographic order of byte lists (core `List` order on
    `UInt8`) -/
theorem cmpBytes_eq (a b : Bytes) : cmpBytes a b = if a < b then -1 else if b < a then 1 else 0 := by
  induction a generalizing b with
  | nil => cases b <;> simp [cmpBytes]
  | cons x xs ih =>
    cases b with
    | nil => simp [cmpBytes]
    | cons y ys =>
      rw [cmpBytes, ih ys]
      simp only [List.cons_lt_cons_iff]
      by_cases h1 : x < y
      · rw [if_pos h1, if_pos (Or.inl h1)]
      · by_cases h2 : y < x
        · have hne : x ≠ y := fun e => UInt8.lt_irrefl _ (e ▸ h2)
          rw [if_neg h1, if_pos h2, if_neg (by simp [h1, hne]), if_pos (Or.inl h2)]
        · have he : x = y := UInt8.le_antisymm (UInt8.not_lt.1 h2) (UInt8.not_lt.1 h1)
          subst he
          simp [UInt8.lt_irrefl]

theorem cmpBytes_refl (a : Bytes) : cmpBytes a a = 0 := by
  rw [cmpBytes_eq, if_neg (List.lt_irrefl a), if_neg (List.lt_irrefl a)]

theorem cmpBytes_eq_zero_iff (a b : Bytes) : cmpBytes a b = 0 ↔ a = b := by
  rw [cmpBytes_eq]
  by_cases h1 : a < b
  · rw [if_pos h1]
    exact ⟨fun h => (by cases h), fun e => absurd (e ▸ h1) (List.lt_irrefl b)⟩
  · by_cases h2 : b < a
    · rw [if_neg h1, if_pos h2]
      exact ⟨fun h => (by cases h), fun e => absurd (e ▸ h2) (List.lt_irrefl a)⟩
    · rw [if_neg h1, if_neg h2]
      exact ⟨fun _ => List.le_antisymm (List.not_lt.1 h2) (List.not_lt.1 h1), fun _ => rfl⟩

theorem cmpBytes_range (a b : Bytes) : cmpBytes a b = -1 ∨ cmpBytes a b = 0 ∨ cmpBytes a b = 1 := by
  rw [cmpBytes_eq]
  split
  · exact Or.inl rfl
  · split
    · exact Or.inr (Or.inr rfl)
    · exact Or.inr (Or.inl rfl)

theorem cmpBytes_antisymm (a b : Bytes) : cmpBytes a b = - cmpBytes b a := by
  rw [cmpBytes_eq a b, cmpBytes_eq b a]
  by_cases h1 : a < b
  · rw [if_pos h1, if_neg (List.lt_asymm h1), if_pos h1]
  · by_cases h2 : b < a
    · rw [if_neg h1, if_pos h2, if_pos h2]; rfl
    · rw [if_neg h1, if_neg h2, if_neg h2, if_neg h1]; rfl

theorem cmpBytes_neg_iff_lt (a b : Bytes) : cmpBytes a b < 0 ↔ a < b := by
  rw [cmpBytes_eq]
  by_cases h : a < b
  · simp [h]
  · rw [if_neg h]
    split <;> simp [h]

theorem cmpBytes_pos_iff_gt (a b : Bytes) : 0 < cmpBytes a b ↔ b < a := by
  rw [← cmpBytes_neg_iff_lt, cmpBytes_antisymm a b]; omega

theorem cmpBytes_trans {a b c : Bytes} (h1 : cmpBytes a b < 0) (h2 : cmpBytes b c < 0) :
    cmpBytes a c < 0 :=
  (cmpBytes_neg_iff_lt a c).2
    (List.lt_trans ((cmpBytes_neg_iff_lt a b).1 h1) ((cmpBytes_neg_iff_lt b c).1 h2))

end NitroVerif.Codec
