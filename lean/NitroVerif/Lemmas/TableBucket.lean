import NitroVerif.Model.Table
import NitroVerif.Lemmas.KeyedList
/-!
  One bucket of the node table (the fast entry followed by the slow list of one hash value) as a
  plain list of pointers: first-match lookup / replace / erase, and how the index loop of `find`
  (`slowPos`) relates to them.
-/
namespace NitroVerif.Table

variable (keyOf : Ptr → Key)

/-- first pointer of the bucket whose key is `key` -/
def lookupB (key : Key) : List Ptr → Option Ptr
  | [] => none
  | v :: vs => if keyOf v = key then some v else lookupB key vs

/-- what Update does to the bucket of `hash key`: the first pointer whose key is `key` is replaced;
    if there is none the new pointer is appended -/
def updateB (key : Key) (np : Ptr) : List Ptr → List Ptr
  | [] => [np]
  | v :: vs => if keyOf v = key then np :: vs else v :: updateB key np vs

structure SlowHit (key : Key) (vs : List Ptr) (i : Nat) : Prop where
  get : vs[i]? = lookupB keyOf key vs
  found : (lookupB keyOf key vs).isSome
  lt : i < vs.length
  set_eq : ∀ np, vs.set i np = updateB keyOf key np vs
  erase_eq : vs.take i ++ vs.drop (i + 1) = vs.eraseP (keyOf · == key)

theorem slowPos_some {key : Key} {vs : List Ptr} {i : Nat} (h : slowPos keyOf key vs = some i) :
    SlowHit keyOf key vs i := by
  induction vs generalizing i with
  | nil => simp [slowPos] at h
  | cons v vs ih =>
    simp only [slowPos] at h
    by_cases hv : keyOf v = key
    · simp only [hv, if_true, Option.some.injEq] at h
      subst h
      refine ⟨?_, ?_, Nat.succ_pos _, fun np => ?_, ?_⟩
      · simp [lookupB, hv]
      · simp [lookupB, hv]
      · simp [updateB, hv]
      · simp [hv]
    · simp only [hv, if_false, Option.map_eq_some_iff] at h
      obtain ⟨j, hj, rfl⟩ := h
      have hp := ih hj
      refine ⟨?_, ?_, Nat.succ_lt_succ hp.lt, fun np => ?_, ?_⟩
      · simpa [lookupB, hv] using hp.get
      · simpa [lookupB, hv] using hp.found
      · simp [updateB, hv, hp.set_eq np]
      · simp [hv, ← hp.erase_eq]

theorem slowPos_none {key : Key} {vs : List Ptr} (h : slowPos keyOf key vs = none) :
    lookupB keyOf key vs = none := by
  induction vs with
  | nil => rfl
  | cons v vs ih =>
    simp only [slowPos] at h
    by_cases hv : keyOf v = key
    · simp [hv] at h
    · simp only [hv, if_false, Option.map_eq_none_iff] at h
      simp [lookupB, hv, ih h]

theorem lookupB_eq_find? (key : Key) (b : List Ptr) :
    lookupB keyOf key b = b.find? (fun v => keyOf v == key) := by
  induction b with
  | nil => rfl
  | cons v vs ih =>
    rw [List.find?_cons, lookupB, ih]
    by_cases hv : keyOf v = key
    · rw [if_pos hv, beq_iff_eq.mpr hv]
    · rw [if_neg hv, beq_eq_false_iff_ne.mpr hv]

theorem lookupB_some {key : Key} {b : List Ptr} {p : Ptr} (h : lookupB keyOf key b = some p) :
    p ∈ b ∧ keyOf p = key :=
  find?_key_some (key := keyOf) (lookupB_eq_find? keyOf key b ▸ h)

theorem lookupB_none_iff {key : Key} {b : List Ptr} :
    lookupB keyOf key b = none ↔ key ∉ b.map keyOf := by
  rw [lookupB_eq_find?]; exact find?_key_eq_none_iff

theorem updateB_of_none {key : Key} {b : List Ptr} (np : Ptr) (h : lookupB keyOf key b = none) :
    updateB keyOf key np b = b ++ [np] := by
  induction b with
  | nil => rfl
  | cons v vs ih =>
    simp only [lookupB] at h
    by_cases hv : keyOf v = key
    · simp [hv] at h
    · simp only [hv, if_false] at h
      simp [updateB, hv, ih h]

theorem mem_updateB {key : Key} {np : Ptr} {b : List Ptr} {x : Ptr}
    (h : x ∈ updateB keyOf key np b) : x = np ∨ x ∈ b := by
  induction b with
  | nil => exact Or.inl (List.mem_singleton.mp h)
  | cons v vs ih =>
    simp only [updateB] at h
    by_cases hv : keyOf v = key
    · simp only [hv, if_true, List.mem_cons] at h
      exact h.imp_right (List.mem_cons_of_mem _)
    · simp only [hv, if_false, List.mem_cons] at h
      rcases h with h | h
      · exact Or.inr (h ▸ List.mem_cons_self)
      · exact (ih h).imp_right (List.mem_cons_of_mem _)

theorem nodup_updateB {key : Key} {np : Ptr} (hnp : keyOf np = key) {b : List Ptr}
    (hn : (b.map keyOf).Nodup) : ((updateB keyOf key np b).map keyOf).Nodup := by
  induction b with
  | nil => simp [updateB]
  | cons v vs ih =>
    simp only [List.map_cons, List.nodup_cons] at hn
    simp only [updateB]
    by_cases hv : keyOf v = key
    · rw [if_pos hv, List.map_cons, hnp, ← hv]; exact List.nodup_cons.mpr hn
    · rw [if_neg hv, List.map_cons, List.nodup_cons]
      refine ⟨fun hm => ?_, ih hn.2⟩
      obtain ⟨x, hx, hxk⟩ := List.mem_map.mp hm
      rcases mem_updateB keyOf hx with rfl | hx
      · exact hv (hxk ▸ hnp)
      · exact hn.1 (List.mem_map.mpr ⟨x, hx, hxk⟩)

theorem lookupB_updateB {key : Key} {np : Ptr} (hnp : keyOf np = key) (b : List Ptr) (k' : Key) :
    lookupB keyOf k' (updateB keyOf key np b)
      = if k' = key then some np else lookupB keyOf k' b := by
  have hhit : lookupB keyOf k' (np :: ([] : List Ptr)) = if k' = key then some np else none := by
    by_cases hk : k' = key
    · simp [lookupB, hnp, hk]
    · have : ¬ key = k' := fun e => hk e.symm
      simp [lookupB, hnp, hk, this]
  induction b with
  | nil => exact hhit
  | cons v vs ih =>
    simp only [updateB]
    by_cases hv : keyOf v = key
    · simp only [hv, if_true, lookupB, hnp]
      by_cases hk : k' = key
      · simp [hk]
      · have : ¬ key = k' := fun e => hk e.symm
        simp [hk, this]
    · simp only [hv, if_false, lookupB, ih]
      by_cases hk : k' = key
      · subst hk; simp [hv]
      · simp [hk]

theorem eraseP_cons_self {key : Key} {p : Ptr} (hk : keyOf p = key) (vs : List Ptr) :
    (p :: vs).eraseP (keyOf · == key) = vs :=
  List.eraseP_cons_of_pos (p := (keyOf · == key)) (beq_iff_eq.mpr hk)

theorem eraseP_cons_ne {key : Key} {p : Ptr} (hk : keyOf p ≠ key) (vs : List Ptr) :
    (p :: vs).eraseP (keyOf · == key) = p :: vs.eraseP (keyOf · == key) :=
  List.eraseP_cons_of_neg (p := (keyOf · == key)) (fun e => hk (eq_of_beq e))

theorem lookupB_eraseP {key : Key} (b : List Ptr) (hn : (b.map keyOf).Nodup) (k' : Key) :
    lookupB keyOf k' (b.eraseP (keyOf · == key)) = if k' = key then none else lookupB keyOf k' b := by
  induction b with
  | nil => simp [lookupB]
  | cons v vs ih =>
    simp only [List.map_cons, List.nodup_cons] at hn
    by_cases hv : keyOf v = key
    · rw [eraseP_cons_self keyOf hv]
      simp only [lookupB, hv]
      by_cases hk : k' = key
      · subst hk
        rw [if_pos rfl, lookupB_none_iff, ← hv]; exact hn.1
      · rw [if_neg hk, if_neg (fun e => hk e.symm)]
    · rw [eraseP_cons_ne keyOf hv]
      simp only [lookupB, ih hn.2]
      by_cases hk : k' = key
      · subst hk; rw [if_pos rfl, if_pos rfl, if_neg hv]
      · rw [if_neg hk, if_neg hk]

theorem eraseP_of_lookupB_none {key : Key} {b : List Ptr} (h : lookupB keyOf key b = none) :
    b.eraseP (keyOf · == key) = b := by
  rw [lookupB_eq_find?] at h
  exact List.eraseP_of_forall_not fun a ha hk => find?_key_none (key := keyOf) h a ha (eq_of_beq hk)

theorem length_eraseP_of_lookupB {key : Key} {b : List Ptr} (h : (lookupB keyOf key b).isSome) :
    (b.eraseP (keyOf · == key)).length + 1 = b.length := by
  rw [lookupB_eq_find?, List.find?_isSome] at h
  obtain ⟨x, hx, hp⟩ := h
  rw [List.length_eraseP_of_mem hx hp, Nat.sub_add_cancel (List.length_pos_of_mem hx)]

end NitroVerif.Table
