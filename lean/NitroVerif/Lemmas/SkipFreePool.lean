import NitroVerif.Model.SkipFree
import NitroVerif.Lemmas.ListFacts
/-!
  M5F (`Model/SkipFree.lean`): the POOL of freed nodes and of nodes waiting in a session not yet destructed.  The
  barrier operations leave it alone (`Bar`; `FlushSession(n)` appends `n`); so do the barrier steps around a segment
  (`enter`, `settle`) except for the one node a returning `delf` flushes.  Hence one action appends at most one node
  (`act_pool`), and along every run the pool has no duplicates if no node is flushed twice (`run_pool_nodup`) and
  every node of it was flushed by some segment (`run_pool_origin`).
-/
namespace NitroVerif.SkipFree
open NitroVerif.SkipConc

/-- freed nodes and nodes waiting in a session -/
def pool (s : Sys) : List Nat := s.freed ++ attached (s.sess.drop s.freeSeq)

/-- the current session is open, carries nothing, and is not destructed (`freeSeq ≤ ini.length`: only flushed
    sessions are destructed, and the current one is not flushed) -/
def Last (s : Sys) : Prop :=
  ∃ ini la, s.sess = ini ++ [la] ∧ la.flushed = false ∧ la.list = [] ∧ s.freeSeq ≤ ini.length

theorem attached_append (a b : List Sess) : attached (a ++ b) = attached a ++ attached b := by
  simp [attached]

theorem pool_cleanup (s : Sys) : pool (cleanup s) = pool s := by
  simp only [pool, cleanup, readySess]
  rw [← List.drop_drop, drop_length_takeWhile, List.append_assoc, ← attached_append, List.takeWhile_append_dropWhile]

theorem Last_cleanup {s : Sys} (h : Last s) : Last (cleanup s) := by
  obtain ⟨ini, la, hs, hf, hl, hle⟩ := h
  refine ⟨ini, la, hs, hf, hl, ?_⟩
  simp only [cleanup, readySess, hs]
  rw [List.drop_append_of_le_length hle]
  have h1 := takeWhile_snoc_len Sess.terminated la (by simp [Sess.terminated, hf]) (ini.drop s.freeSeq)
  simp only [List.length_drop] at h1
  omega

theorem modify_snoc {f : Sess → Sess} (hf : ∀ x, (f x).list = x.list ∧ (f x).flushed = x.flushed) :
    ∀ (ini : List Sess) (la : Sess) (i : Nat), ∃ ini' la', (ini ++ [la]).modify i f = ini' ++ [la'] ∧
      ini'.length = ini.length ∧ la'.flushed = la.flushed ∧ la'.list = la.list := by
  intro ini
  induction ini with
  | nil =>
    intro la i
    cases i with
    | zero => exact ⟨[], f la, by simp, rfl, (hf la).2, (hf la).1⟩
    | succ i => exact ⟨[], la, by simp, rfl, rfl, rfl⟩
  | cons x xs ih =>
    intro la i
    cases i with
    | zero => exact ⟨f x :: xs, la, by simp, by simp, rfl, rfl⟩
    | succ i =>
      obtain ⟨ini', la', h1, h2, h3, h4⟩ := ih la i
      exact ⟨x :: ini', la', by simp [h1], by simp [h2], h3, h4⟩

/-- a barrier step that leaves the skiplist (`base`) and the pool alone -/
structure Bar (s s' : Sys) : Prop where
  base : s'.base = s.base
  last : Last s'
  pool : pool s' = pool s

theorem Bar.refl {s : Sys} (h : Last s) : Bar s s := ⟨rfl, h, rfl⟩

theorem Bar.trans {a b c : Sys} (h1 : Bar a b) (h2 : Bar b c) : Bar a c :=
  ⟨h2.base.trans h1.base, h2.last, h2.pool.trans h1.pool⟩

theorem Bar_modify {s : Sys} (h : Last s) (i : Nat) {f : Sess → Sess}
    (hf : ∀ x, (f x).list = x.list ∧ (f x).flushed = x.flushed) :
    Bar s { s with sess := s.sess.modify i f } := by
  obtain ⟨ini, la, hs, hfl, hl, hle⟩ := h
  refine ⟨rfl, ?_, ?_⟩
  · obtain ⟨ini', la', h1, h2, h3, h4⟩ := modify_snoc hf ini la i
    exact ⟨ini', la', by simp only [hs, h1], by rw [h3, hfl], by rw [h4, hl], by show s.freeSeq ≤ ini'.length; omega⟩
  · simp only [pool]
    exact congrArg _ (flatMap_drop_modify (fun x : Sess => x.list) f (fun x => (hf x).1) _ _ _)

theorem Bar_cleanup {s : Sys} (h : Last s) : Bar s (cleanup s) :=
  ⟨rfl, Last_cleanup h, pool_cleanup s⟩

theorem Bar_acquire {s : Sys} (h : Last s) (x : Holder) : Bar s (acquire s x) :=
  Bar_modify h _ (fun _ => ⟨rfl, rfl⟩)

theorem Bar_release {s : Sys} (h : Last s) (tok : Nat) (x : Holder) : Bar s (release s tok x) := by
  have h1 : Bar s { s with sess := relSess s.sess tok x } := Bar_modify h _ (fun _ => ⟨rfl, rfl⟩)
  exact h1.trans (Bar_cleanup h1.last)

theorem Bar_setIterTok {s : Sys} (h : Last s) (t i tok : Nat) : Bar s (setIterTok s t i tok) :=
  ⟨rfl, h, rfl⟩

theorem Bar_dropIterTok {s : Sys} (h : Last s) (t i : Nat) : Bar s (dropIterTok s t i) :=
  ⟨rfl, h, rfl⟩

/-- `FlushSession(n)`: `n` joins the pool -/
theorem flush_spec {s : Sys} (h : Last s) (n : Nat) :
    (flush s [n]).base = s.base ∧ Last (flush s [n]) ∧ pool (flush s [n]) = pool s ++ [n] := by
  obtain ⟨ini, la, hs, hfl, hl, hle⟩ := h
  have hm : flushSess s.sess [n] = (ini ++ [{ la with flushed := true, list := [n] }]) ++ [({} : Sess)] := by
    simp only [flushSess, hs]
    have : (ini ++ [la]).length - 1 = ini.length := by simp
    rw [this, modify_at_length]
  have hL : Last { s with sess := flushSess s.sess [n] } :=
    ⟨ini ++ [{ la with flushed := true, list := [n] }], {}, hm, rfl, rfl, by simp; omega⟩
  have hb := Bar_cleanup hL
  refine ⟨hb.base, hb.last, ?_⟩
  have : flush s [n] = cleanup { s with sess := flushSess s.sess [n] } := rfl
  rw [this, hb.pool]
  simp only [pool]
  rw [hm, hs, List.append_assoc, List.drop_append_of_le_length hle, List.drop_append_of_le_length hle]
  simp [attached, hl]

theorem Bar_relRefresh {s : Sys} (hL : Last s) (t : Nat) (c : Call) : Bar s (relRefresh s t c) := by
  unfold relRefresh
  split
  · exact Bar_release hL _ _
  · exact Bar.refl hL

theorem Bar_relCall {s : Sys} (hL : Last s) (t : Nat) (c : Call) : Bar s (relCall s t c) := by
  unfold relCall
  split
  · exact Bar_release hL _ _
  · exact Bar.refl hL

/-- `Bar`, except that the pool may have gained one node `n` with `P n` at its end -/
def BarApp (s s' : Sys) (P : Nat → Prop) : Prop :=
  s'.base = s.base ∧ Last s' ∧ (pool s' = pool s ∨ ∃ n, pool s' = pool s ++ [n] ∧ P n)

theorem Bar.then_app {a b c : Sys} {P : Nat → Prop} (h1 : Bar a b) (h2 : BarApp b c P) : BarApp a c P :=
  ⟨h2.1.trans h1.base, h2.2.1, h2.2.2.imp (fun h => h.trans h1.pool) fun ⟨n, h, p⟩ => ⟨n, by rw [h, h1.pool], p⟩⟩

theorem flushCall_spec {s : Sys} (hL : Last s) (c : Call) (pre : PC) :
    BarApp s (flushCall s c pre) fun n => c.delf = true ∧ inClean pre = true ∧ c.node = some n := by
  unfold flushCall
  split
  · rename_i hd
    simp only [Bool.and_eq_true] at hd
    split
    · rename_i n hn
      obtain ⟨f1, f3, f4⟩ := flush_spec hL n
      exact ⟨f1, f3, .inr ⟨n, f4, hd.1, hd.2, hn⟩⟩
    · exact ⟨rfl, hL, .inl rfl⟩
  · exact ⟨rfl, hL, .inl rfl⟩

theorem nodeAfter_idle (c : Call) : nodeAfter c .idle = c.node := rfl

theorem settle_idle {s : Sys} (hL : Last s) (t : Nat) (pre : PC) (hpc : pcOf s t = .idle) :
    BarApp s (settle s t pre) fun n => (callOf s t).delf = true ∧ inClean pre = true ∧ (callOf s t).node = some n := by
  simp only [settle, hpc, refreshIter, isIdle, if_true, nodeAfter_idle]
  have h3 := Bar_relRefresh hL t (callOf s t)
  have h4 := Bar_relCall h3.last t (callOf s t)
  exact (h3.trans h4).then_app (flushCall_spec (h3.trans h4).last (callOf s t) pre)

theorem Bar_acquireIter {s : Sys} (hL : Last s) (t it : Nat) :
    Bar s (setIterTok (acquire s (.it t it)) t it (curTok s)) :=
  (Bar_acquire hL _).trans (Bar_setIterTok (Bar_acquire hL _).last _ _ _)

theorem settle_busy {s : Sys} (hL : Last s) (t : Nat) (pre : PC) (hpc : pcOf s t ≠ .idle) :
    Bar s (settle s t pre) := by
  have hid : isIdle (pcOf s t) = false := by
    cases hp : pcOf s t with
    | idle => exact absurd hp hpc
    | _ => rfl
  simp only [settle, hid]
  cases hr : refreshIter (pcOf s t) with
  | none => exact ⟨rfl, hL, rfl⟩
  | some it =>
    have hb := Bar_acquireIter hL t it
    exact ⟨hb.base, hb.last, hb.pool⟩

theorem enter_spec {s : Sys} (hL : Last s) (t : Nat) (op : Op) : Bar s (enter s t op) := by
  have hthr : Bar s { acquire s (.thr t) with calls := s.calls.set t { tok := some (curTok s) } } :=
    have hb := Bar_acquire hL (.thr t)
    ⟨hb.base, hb.last, hb.pool⟩
  have hit : ∀ it, Bar s (match iterTok s t it with
      | some _ => s
      | none => setIterTok (acquire s (.it t it)) t it (curTok s)) := by
    intro it
    split
    · exact Bar.refl hL
    · exact Bar_acquireIter hL t it
  cases op with
  | delf k => exact hthr
  | base bop =>
    cases bop with
    | ins | del | look => exact hthr
    | itFirst it | itSeek it _ => exact hit it
    | itNext | itInterval | itRefresh => exact Bar.refl hL
    | itClose it =>
      simp only [enter]
      split
      · rename_i tok _
        exact (Bar_release hL tok (.it t it)).trans (Bar_dropIterTok (Bar_release hL tok (.it t it)).last t it)
      · exact Bar.refl hL

theorem pcOf_of_get {s : Sys} {t : Nat} {th : Thread} (h : s.base.threads[t]? = some th) : pcOf s t = th.pc := by
  simp [pcOf, List.getD, h]

/-- in state `s` the next segment of thread `t` ends a `delf` whose DeleteNode2 said `true` on node `x`
    (it returns from the cleaning search): `Release(tok); FlushSession(x)` run in that segment -/
def Flushes (s : Sys) (t x : Nat) : Prop :=
  (callOf s t).delf = true ∧ inClean (pcOf s t) = true ∧ (callOf s t).node = some x ∧ pcOf (s.step t) t = .idle

theorem act_pool {s : Sys} (hL : Last s) (a : Action) :
    Last (s.act a) ∧
      (pool (s.act a) = pool s ∨ ∃ t n, a = .step t ∧ pool (s.act a) = pool s ++ [n] ∧ Flushes s t n) := by
  cases a with
  | start t op =>
    simp only [Sys.act, Sys.start]
    split
    · have eb := enter_spec hL t op
      generalize hs2 : ({ enter s t op with
          calls := (enter s t op).calls.set t { (callOf (enter s t op) t) with delf := op.isDelf },
          base := ((enter s t op).base.start t op.toBase).1 } : Sys) = s2
      have hL2 : Last s2 := by subst hs2; exact eb.last
      have hp2 : pool s2 = pool s := by subst hs2; exact eb.pool
      by_cases hpc : pcOf s2 t = .idle
      · obtain ⟨_, g2, g4⟩ := settle_idle hL2 t .idle hpc
        refine ⟨g2, .inl ?_⟩
        rcases g4 with g4 | ⟨n, _, _, hc, _⟩
        · exact g4.trans hp2
        · simp [inClean] at hc
      · have g := settle_busy hL2 t .idle hpc
        exact ⟨g.last, .inl (g.pool.trans hp2)⟩
    · exact ⟨hL, .inl rfl⟩
  | step t =>
    simp only [Sys.act, Sys.step]
    split
    · exact ⟨hL, .inl rfl⟩
    · rename_i th hth
      split
      · exact ⟨hL, .inl rfl⟩
      · rename_i hbusy
        generalize hs2 : ({ s with base := (s.base.step t).1 } : Sys) = s2
        have hL2 : Last s2 := by subst hs2; exact hL
        have hp2 : pool s2 = pool s := by subst hs2; rfl
        have hc2 : callOf s2 t = callOf s t := by subst hs2; rfl
        by_cases hpc : pcOf s2 t = .idle
        · obtain ⟨g1, g2, g4⟩ := settle_idle hL2 t th.pc hpc
          refine ⟨g2, ?_⟩
          rcases g4 with g4 | ⟨n, g4, hd, hc, hn⟩
          · exact .inl (g4.trans hp2)
          · refine .inr ⟨t, n, rfl, by rw [g4, hp2], by rw [← hc2]; exact hd, by rw [pcOf_of_get hth]; exact hc,
              by rw [← hc2]; exact hn, ?_⟩
            show pcOf (s.step t) t = .idle
            simp only [Sys.step, hth, if_neg hbusy]
            rw [hs2]
            simp only [pcOf] at hpc ⊢
            rw [g1]; exact hpc
        · have g := settle_busy hL2 t th.pc hpc
          exact ⟨g.last, .inl (g.pool.trans hp2)⟩

theorem Last_init (n : Nat) : Last (Sys.init n) := ⟨[], {}, rfl, rfl, rfl, Nat.le_refl _⟩

theorem run_last {s : Sys} (hL : Last s) (as : List Action) : Last (s.run as) := by
  induction as generalizing s with
  | nil => exact hL
  | cons a r ih => exact ih (act_pool hL a).1

theorem run_cons (s : Sys) (a : Action) (r : List Action) : s.run (a :: r) = (s.act a).run r := rfl

theorem run_pool_nodup {s : Sys} (hL : Last s) (hN : (pool s).Nodup) (as : List Action)
    (hOne : ∀ k t x, Flushes (s.run (as.take k)) t x → x ∉ pool (s.run (as.take k))) :
    (pool (s.run as)).Nodup := by
  induction as generalizing s with
  | nil => exact hN
  | cons a r ih =>
    rw [run_cons]
    refine ih (act_pool hL a).1 ?_ (fun k t x h => hOne (k + 1) t x (by simpa [run_cons] using h))
    rcases (act_pool hL a).2 with h | ⟨t, x, rfl, h, hf⟩
    · rw [h]; exact hN
    · rw [h]
      have hx := hOne 0 t x hf
      simp only [List.take_zero] at hx
      rw [List.nodup_append]
      refine ⟨hN, by simp, ?_⟩
      intro a ha b hb
      simp only [List.mem_singleton] at hb
      subst hb
      intro e; subst e; exact hx ha

theorem run_pool_origin {s : Sys} (hL : Last s) (as : List Action) (x : Nat) (hx : x ∈ pool (s.run as)) :
    x ∈ pool s ∨ ∃ k t, k < as.length ∧ Flushes (s.run (as.take k)) t x := by
  induction as generalizing s with
  | nil => exact .inl hx
  | cons a r ih =>
    rw [run_cons] at hx
    rcases ih (act_pool hL a).1 hx with h | ⟨k, t, hk, hf⟩
    · rcases (act_pool hL a).2 with e | ⟨t, y, rfl, e, h1, h2, h3, h4⟩
      · rw [e] at h; exact .inl h
      · rw [e, List.mem_append, List.mem_singleton] at h
        rcases h with h | rfl
        · exact .inl h
        · exact .inr ⟨0, t, by simp, h1, h2, h3, h4⟩
    · exact .inr ⟨k + 1, t, by simp; omega, by simpa [run_cons] using hf⟩

theorem pool_init (n : Nat) : pool (Sys.init n) = [] := rfl

end NitroVerif.SkipFree
