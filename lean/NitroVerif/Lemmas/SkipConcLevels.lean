import NitroVerif.Lemmas.SkipConcCore
/-!
  Index levels of M5, heap side.  `LvInv`: a node that is unmarked at an index level is on the chain of that level
  (`OnChain`) or nothing points to it yet at that level or above (`Unlinked`), and chains are strictly sorted.
  `Lk h c j`, "linked up to level `j`", is what a search knows about a node it has read from a word of level `j`
  (`LvInv.pointed`).  The heap writes a segment can make (`LStep`) each keep `LvInv`.
-/
namespace NitroVerif.SkipConc

def OnChain (h : Heap) (l n : Nat) : Prop := ReachL h l 0 n

theorem OnChain.head (h : Heap) (l : Nat) : OnChain h l 0 := .refl 0

theorem OnChain.snoc {h : Heap} {l a b : Nat} {m : Bool} (r : OnChain h l a) (hw : word? h a l = some (b, m)) :
    OnChain h l b := ReachL.snoc r hw

/-- no word of a level `≥ l` points to `n` -/
def Unlinked (h : Heap) (n l : Nat) : Prop := ∀ a l' q m, l ≤ l' → word? h a l' = some (q, m) → q ≠ n

/-- at every upper level `≤ j` at which `c` is unmarked, `c` is on the chain -/
def Lk (h : Heap) (c j : Nat) : Prop := ∀ l, 1 ≤ l → l ≤ j → unmarkedAt h l c → OnChain h l c

theorem Lk.mono {h : Heap} {c j j' : Nat} (k : Lk h c j) (hj : j' ≤ j) : Lk h c j' :=
  fun l h1 h2 hu => k l h1 (Nat.le_trans h2 hj) hu

theorem Lk_head (h : Heap) (j : Nat) : Lk h 0 j := fun l _ _ _ => .head h l

theorem Lk_zero (h : Heap) (c : Nat) : Lk h c 0 := fun _ h1 h2 => by omega

theorem Lk_tail {h : Heap} (H : HInv h) (j : Nat) : Lk h 1 j := by
  intro l _ _ hu
  obtain ⟨p, hp⟩ := hu
  rw [H.tailNoWord] at hp; simp at hp

structure LvInv (h : Heap) : Prop where
  /-- the tail is reachable from the head on every level -/
  tail : ∀ l, 1 ≤ l → l ≤ Gen.maxLevel → ReachL h l 0 1
  /-- keys strictly increase along the chain of every level -/
  sorted : ∀ l n p m, 1 ≤ l → OnChain h l n → word? h n l = some (p, m) → Key.lt (keyOf h n) (keyOf h p)
  /-- a node that is unmarked at a level is on the chain of that level, or has never been linked there or above -/
  chain : ∀ l n, 1 ≤ l → unmarkedAt h l n → OnChain h l n ∨ Unlinked h n l

/-- a node some word of level `l'` points to is on the chain of every level `≤ l'` at which it is unmarked -/
theorem LvInv.pointed {h : Heap} (L : LvInv h) {a l' c : Nat} {m : Bool} (hw : word? h a l' = some (c, m)) :
    Lk h c l' := by
  intro l h1 h2 hu
  rcases L.chain l c h1 hu with r | u
  · exact r
  · exact absurd rfl (u a l' c m h2 hw)

theorem LvInv.getNext_Lk {h : Heap} (L : LvInv h) (n l : Nat) : Lk h (getNext h n l).1 l := by
  unfold getNext
  cases hw : word? h n l with
  | none => exact Lk_head h l
  | some w => obtain ⟨p, m⟩ := w; exact L.pointed hw

theorem OnChain.pointed {h : Heap} {l n : Nat} (r : OnChain h l n) (hn : n ≠ 0) :
    ∃ b m, word? h b l = some (n, m) := by
  rcases ReachL.last r with e | e
  · exact absurd e.symm hn
  · exact e

theorem Unlinked.reach_eq {h : Heap} {x l a : Nat} (u : Unlinked h x l) (r : ReachL h l a x) : a = x := by
  rcases ReachL.last r with e | ⟨b, m, hb⟩
  · exact e
  · exact absurd rfl (u b l x m (Nat.le_refl _) hb)

theorem Unlinked.not_onChain {h : Heap} {n l : Nat} (u : Unlinked h n l) (hn : n ≠ 0) : ¬ OnChain h l n :=
  fun r => hn (u.reach_eq r).symm

theorem LvInv.key {h : Heap} (L : LvInv h) {l a b : Nat} (hl : 1 ≤ l) (ha : OnChain h l a) (r : ReachL h l a b) :
    a = b ∨ Key.lt (keyOf h a) (keyOf h b) := by
  induction r with
  | refl => exact .inl rfl
  | step hw _ ih =>
    have h1 := L.sorted _ _ _ _ hl ha hw
    rcases ih (ha.snoc hw) with rfl | h2
    · exact .inr h1
    · exact .inr (Key.lt_trans h1 h2)

/-- what the other threads and the charges must know of a write: `own x` / `link x` are aimed at a node `x` already
    being inserted, by its inserter (`TL.keep` excludes only these); an unlink and the publish are `other` -/
inductive LEv where
  | other
  | own (x : Nat)
  | link (x l : Nat)
  /-- node `d` is marked at level `l` (at level 0: the soft delete that wins) -/
  | mark (d l : Nat)

/-- Heap writes.  Whoever becomes the target of a level-`l` word is `Lk` up to `l` (`own`, `publish`;
    for `link` it is `Lk h x (l - 1)`), or `LvInv.pointed` breaks; `unlink` carries `Lk h prev l` for `ReachL.keep`
    and `wordX_keep`, not for `LvInv`. -/
inductive LStep (h : Heap) : LEv → Heap → Prop
  | none : LStep h .other h
  /-- helpDelete at any level -/
  | unlink {l prev curr next : Nat} : word? h prev l = some (curr, false) →
      word? h curr l = some (next, true) → Lk h prev l → LStep h .other (setWord h prev l (next, false))
  /-- softDelete at any level -/
  | mark {l n e : Nat} : word? h n l = some (e, false) → LStep h (.mark n l) (setWord h n l (e, true))
  /-- Insert4 redirects the upper-level word of its own, not yet linked node -/
  | own {l x old s : Nat} : 1 ≤ l → x ≠ 0 → word? h x l = some (old, false) → Unlinked h x l → Lk h s l →
      LStep h (.own x) (setWord h x l (s, false))
  /-- Insert4 links its node at an upper level -/
  | link {l pred x next : Nat} {m : Bool} : 1 ≤ l → word? h pred l = some (next, false) →
      word? h x l = some (next, m) → Lk h pred l → Key.lt (keyOf h pred) (keyOf h x) →
      Key.lt (keyOf h x) (keyOf h next) → Lk h x (l - 1) →
      LStep h (.link x l) (setWord h pred l (x, false))
  /-- the publish CAS with the materialisation of the node -/
  | publish {p c : Nat} (nd : Node) : word? h p 0 = some (c, false) → nd.next[0]? = some (c, false) →
      (∀ (j : Nat) q m, nd.next[j]? = some (q, m) → q < h.length ∧ Lk h q j) →
      (∀ (j : Nat) q m, nd.next[j]? = some (q, m) → m = false) →
      LStep h .other (setWord h p 0 (h.length, false) ++ [nd])

/-- the content of a word that a write has changed (or created) -/
inductive LWritten (h : Heap) : LEv → Nat → Nat → Nat × Bool → Prop
  | unlink {l prev curr next : Nat} : word? h curr l = some (next, true) → LWritten h .other prev l (next, false)
  | mark {l n e : Nat} : word? h n l = some (e, false) → LWritten h (.mark n l) n l (e, true)
  | own {l x s : Nat} : Lk h s l → LWritten h (.own x) x l (s, false)
  | link {l pred x : Nat} : LWritten h (.link x l) pred l (x, false)
  | publishPred {p : Nat} : LWritten h .other p 0 (h.length, false)
  | publishNew {l q : Nat} : Lk h q l → LWritten h .other h.length l (q, false)

theorem LStep.ext {h h' : Heap} {ev : LEv} (s : LStep h ev h') : Ext h h' := by
  cases s with
  | none => exact .refl _
  | unlink hw _ _ | mark hw | own _ _ hw _ _ | link _ hw _ _ _ _ _ => exact .setWord hw _
  | publish nd hw _ _ _ => exact (Ext.setWord hw _).trans (.append _ nd)

theorem LStep.word_back {h h' : Heap} {ev : LEv} (s : LStep h ev h') {a l : Nat} {v : Nat × Bool}
    (hw : word? h' a l = some v) : word? h a l = some v ∨ LWritten h ev a l v := by
  cases s with
  | none => exact .inl hw
  | unlink _ hc _ =>
    rcases word?_setWord_back hw with ⟨rfl, rfl, rfl⟩ | h0
    · exact .inr (.unlink hc)
    · exact .inl h0
  | mark hn =>
    rcases word?_setWord_back hw with ⟨rfl, rfl, rfl⟩ | h0
    · exact .inr (.mark hn)
    · exact .inl h0
  | own _ _ _ _ hs =>
    rcases word?_setWord_back hw with ⟨rfl, rfl, rfl⟩ | h0
    · exact .inr (.own hs)
    · exact .inl h0
  | link _ _ _ _ _ _ _ =>
    rcases word?_setWord_back hw with ⟨rfl, rfl, rfl⟩ | h0
    · exact .inr .link
    · exact .inl h0
  | @publish p c nd hp _ hnd hnm =>
    rw [setWord_append h nd (word?_lt hp)] at hw
    rcases word?_setWord_back hw with ⟨rfl, rfl, rfl⟩ | h0
    · exact .inr .publishPred
    · rcases word?_append_inv h0 with ⟨_, h1⟩ | ⟨rfl, h1⟩
      · exact .inl h1
      · obtain ⟨q, m⟩ := v
        cases hnm _ _ _ h1
        exact .inr (.publishNew (hnd _ _ _ h1).2)

theorem Unlinked.of_words {h h' : Heap} {n l : Nat} (u : Unlinked h n l)
    (hw : ∀ a l' m, l ≤ l' → word? h' a l' = some (n, m) → ∃ a' m', word? h a' l' = some (n, m')) :
    Unlinked h' n l := by
  intro a l' q m hl hq e
  subst e
  obtain ⟨a', m', hw'⟩ := hw a l' m hl hq
  exact u a' l' q m' hl hw' rfl

theorem LvInv.of_eq {h h' : Heap} (L : LvInv h) (he : ∀ a l, 1 ≤ l → word? h' a l = word? h a l)
    (hk : ∀ a, keyOf h' a = keyOf h a) : LvInv h' where
  tail l h1 h2 := (reachL_of_eq (he · l h1)).mpr (L.tail l h1 h2)
  sorted l n p m h1 hc hw := by
    rw [hk, hk]
    rw [he _ _ h1] at hw
    exact L.sorted l n p m h1 ((reachL_of_eq (he · l h1)).mp hc) hw
  chain l n h1 hu := by
    have hu' : unmarkedAt h l n := by
      obtain ⟨p, hp⟩ := hu; rw [he _ _ h1] at hp; exact ⟨p, hp⟩
    rcases L.chain l n h1 hu' with r | u
    · exact .inl ((reachL_of_eq (he · l h1)).mpr r)
    · refine .inr (u.of_words (fun a l' m hl hw => ?_))
      rw [he _ _ (Nat.le_trans h1 hl)] at hw
      exact ⟨a, m, hw⟩

theorem LvInv.unlink_any {h : Heap} (H : HInv h) (L : LvInv h) {l prev curr next : Nat}
    (hp : word? h prev l = some (curr, false)) (hc : word? h curr l = some (next, true)) :
    LvInv (setWord h prev l (next, false)) := by
  have fwd : ∀ l0 n, (l0 = l → n ≠ curr) → ReachL h l0 0 n → ReachL (setWord h prev l (next, false)) l0 0 n := by
    intro l0 n hn r
    by_cases e : l0 = l
    · subst e; exact unlink_reachL hp hc r (hn rfl)
    · exact (reachL_setWord_level _ e).mpr r
  have back : ∀ l0 n, ReachL (setWord h prev l (next, false)) l0 0 n → ReachL h l0 0 n := by
    intro l0 n r
    by_cases e : l0 = l
    · subst e; exact unlink_reachL_back hp hc r
    · exact (reachL_setWord_level _ e).mp r
  refine ⟨fun l0 h1 h2 => fwd l0 1 ?_ (L.tail l0 h1 h2), ?_, ?_⟩
  · intro _ e
    rw [← e, H.tailNoWord] at hc; simp at hc
  · intro l0 n p m h1 hcn hw
    rw [keyOf_setWord, keyOf_setWord]
    have hcn' := back l0 n hcn
    rcases word?_setWord_back hw with ⟨rfl, rfl, e⟩ | h0
    · cases e
      exact Key.lt_trans (L.sorted _ _ _ _ h1 hcn' hp) (L.sorted _ _ _ _ h1 (ReachL.snoc hcn' hp) hc)
    · exact L.sorted l0 n p m h1 hcn' h0
  · intro l0 n h1 hu
    have hu' : unmarkedAt h l0 n := unmarkedAt_back (Ext.setWord hp _) (by simpa [length_setWord] using unmarkedAt_lt hu) hu
    have hncurr : l0 = l → n ≠ curr := by
      intro e1 e2
      subst e1 e2
      obtain ⟨q, hq⟩ := hu'
      rw [hc] at hq; simp at hq
    rcases L.chain l0 n h1 hu' with r | u
    · exact .inl (fwd l0 n hncurr r)
    · refine .inr (u.of_words (fun a l' m hl' hw => ?_))
      rcases word?_setWord_back hw with ⟨_, rfl, e⟩ | h0
      · cases e; exact ⟨curr, true, hc⟩
      · exact ⟨a, m, h0⟩

theorem LvInv.unlink {h : Heap} (H : HInv h) (L : LvInv h) {l prev curr next : Nat} (hl : 1 ≤ l)
    (hp : word? h prev l = some (curr, false)) (hc : word? h curr l = some (next, true)) :
    LvInv (setWord h prev l (next, false)) :=
  L.unlink_any H hp hc

theorem LvInv.mark {h : Heap} (L : LvInv h) {l n e : Nat} (hw : word? h n l = some (e, false)) :
    LvInv (setWord h n l (e, true)) := by
  refine ⟨fun l0 h1 h2 => (reachL_setWord_mark hw).mpr (L.tail l0 h1 h2), ?_, ?_⟩
  · intro l0 a p m h1 hc hw'
    rw [keyOf_setWord, keyOf_setWord]
    have hc' := (reachL_setWord_mark hw).mp hc
    rcases word?_setWord_back hw' with ⟨rfl, rfl, e⟩ | h0
    · cases e; exact L.sorted _ _ _ _ h1 hc' hw
    · exact L.sorted _ _ _ _ h1 hc' h0
  · intro l0 a h1 hu
    have hu' : unmarkedAt h l0 a :=
      unmarkedAt_back (Ext.setWord hw _) (by simpa [length_setWord] using unmarkedAt_lt hu) hu
    rcases L.chain l0 a h1 hu' with r | u
    · exact .inl ((reachL_setWord_mark hw).mpr r)
    · refine .inr (u.of_words (fun b l' m hl' hwb => ?_))
      rcases word?_setWord_back hwb with ⟨rfl, rfl, e⟩ | h0
      · cases e; exact ⟨b, false, hw⟩
      · exact ⟨b, m, h0⟩

theorem LvInv.own {h : Heap} (L : LvInv h) {l x old s : Nat} (hx0 : x ≠ 0)
    (hw : word? h x l = some (old, false)) (hu : Unlinked h x l) (hs : Lk h s l) :
    LvInv (setWord h x l (s, false)) := by
  have hoff : ¬ ReachL h l 0 x := hu.not_onChain hx0
  have iff : ∀ l0 n, ReachL (setWord h x l (s, false)) l0 0 n ↔ ReachL h l0 0 n := by
    intro l0 n
    by_cases e : l0 = l
    · subst e
      refine reachL_off (fun a ha => ?_) hoff
      rw [word?_setWord_same hw, if_neg ha]
    · exact reachL_setWord_level _ e
  refine ⟨fun l0 h1 h2 => (iff l0 1).mpr (L.tail l0 h1 h2), ?_, ?_⟩
  · intro l0 a p m h1 hc hw'
    rw [keyOf_setWord, keyOf_setWord]
    have hc' := (iff l0 a).mp hc
    rcases word?_setWord_back hw' with ⟨rfl, rfl, _⟩ | h0
    · exact absurd hc' hoff
    · exact L.sorted _ _ _ _ h1 hc' h0
  · intro l0 a h1 hua
    have hua' : unmarkedAt h l0 a :=
      unmarkedAt_back (Ext.setWord hw _) (by simpa [length_setWord] using unmarkedAt_lt hua) hua
    rcases L.chain l0 a h1 hua' with r | u
    · exact .inl ((iff l0 a).mpr r)
    · by_cases hcase : s = a ∧ l0 ≤ l
      · obtain ⟨rfl, hle⟩ := hcase
        exact .inl ((iff l0 s).mpr (hs l0 h1 hle hua'))
      · refine .inr (u.of_words (fun b l' m hl' hwb => ?_))
        rcases word?_setWord_back hwb with ⟨_, rfl, e⟩ | h0
        · exact absurd ⟨(congrArg Prod.fst e).symm, hl'⟩ hcase
        · exact ⟨b, m, h0⟩

theorem LvInv.link {h : Heap} (L : LvInv h) {l pred x next : Nat} {m : Bool} (hl : 1 ≤ l)
    (hp : word? h pred l = some (next, false)) (hx : word? h x l = some (next, m)) (kp : Lk h pred l)
    (k1 : Key.lt (keyOf h pred) (keyOf h x)) (k2 : Key.lt (keyOf h x) (keyOf h next)) (kx : Lk h x (l - 1)) :
    LvInv (setWord h pred l (x, false)) := by
  have hne : x ≠ pred := by
    intro e; subst e; exact Key.lt_irrefl _ k1
  have hpc : OnChain h l pred := kp l hl (Nat.le_refl _) ⟨next, hp⟩
  have fwd : ∀ l0 n, ReachL h l0 0 n → ReachL (setWord h pred l (x, false)) l0 0 n := by
    intro l0 n r
    by_cases e : l0 = l
    · subst e; exact link_reachL hp hx hne r
    · exact (reachL_setWord_level _ e).mpr r
  have back : ∀ l0 n, ReachL (setWord h pred l (x, false)) l0 0 n → ReachL h l0 0 n ∨ (l0 = l ∧ n = x) := by
    intro l0 n r
    by_cases e : l0 = l
    · subst e
      rcases link_reachL_back hp hx r with r1 | ⟨_, e2⟩
      · exact .inl r1
      · exact .inr ⟨rfl, e2⟩
    · exact .inl ((reachL_setWord_level _ e).mp r)
  have hxc : OnChain (setWord h pred l (x, false)) l x :=
    (fwd l pred hpc).snoc (setWord_at hp _)
  refine ⟨fun l0 h1 h2 => fwd l0 1 (L.tail l0 h1 h2), ?_, ?_⟩
  · intro l0 a p m' h1 hc hw'
    rw [keyOf_setWord, keyOf_setWord]
    rcases word?_setWord_back hw' with ⟨rfl, rfl, e⟩ | h0
    · cases e; exact k1
    · rcases back l0 a hc with r | ⟨rfl, rfl⟩
      · exact L.sorted _ _ _ _ h1 r h0
      · rw [hx] at h0; cases h0; exact k2
  · intro l0 a h1 hua
    have hua' : unmarkedAt h l0 a :=
      unmarkedAt_back (Ext.setWord hp _) (by simpa [length_setWord] using unmarkedAt_lt hua) hua
    rcases L.chain l0 a h1 hua' with r | u
    · exact .inl (fwd l0 a r)
    · by_cases hcase : x = a ∧ l0 ≤ l
      · obtain ⟨rfl, hle⟩ := hcase
        by_cases e : l0 = l
        · subst e; exact .inl hxc
        · exact .inl (fwd l0 x (kx l0 h1 (by omega) hua'))
      · refine .inr (u.of_words (fun b l' m' hl' hwb => ?_))
        rcases word?_setWord_back hwb with ⟨_, rfl, e⟩ | h0
        · exact absurd ⟨(congrArg Prod.fst e).symm, hl'⟩ hcase
        · exact ⟨b, m', h0⟩

theorem OnChain.word {h : Heap} (H : HInv h) {j d : Nat} (r : OnChain h j d) (hd0 : d ≠ 0) (hd1 : d ≠ 1) :
    (word? h d j).isSome := by
  obtain ⟨b, m, hb⟩ := r.pointed hd0
  exact (H.hl _ _ _ _ hb).resolve_left hd1

theorem OnChain.lt {h : Heap} (H : HInv h) {l n : Nat} (r : OnChain h l n) : n < h.length := by
  rcases ReachL.last r with e | ⟨b, m, hw⟩
  · rw [← e]; have := H.len; omega
  · exact H.lt_of_word hw

theorem LvInv.append {h : Heap} (H : HInv h) (L : LvInv h) (nd : Node)
    (hnd : ∀ (j : Nat) q m, nd.next[j]? = some (q, m) → q < h.length ∧ Lk h q j) : LvInv (h ++ [nd]) := by
  have h0 : 0 < h.length := by have := H.len; omega
  have iff : ∀ l0 n, ReachL (h ++ [nd]) l0 0 n ↔ ReachL h l0 0 n := fun l0 n =>
    reachL_grow (fun a ha => word?_append_lt h nd ha l0) (fun a q m hw => H.lt_of_word hw) h0
  refine ⟨fun l0 h1 h2 => (iff l0 1).mpr (L.tail l0 h1 h2), ?_, ?_⟩
  · intro l0 a p m h1 hc hw
    have hc' := (iff l0 a).mp hc
    have ha := OnChain.lt H hc'
    rw [word?_append_lt h nd ha] at hw
    rw [keyOf_append_lt h nd ha, keyOf_append_lt h nd (H.lt_of_word hw)]
    exact L.sorted _ _ _ _ h1 hc' hw
  · intro l0 a h1 hua
    by_cases ha : a < h.length
    · have hua' : unmarkedAt h l0 a := by
        obtain ⟨p, hp⟩ := hua; rw [word?_append_lt h nd ha] at hp; exact ⟨p, hp⟩
      rcases L.chain l0 a h1 hua' with r | u
      · exact .inl ((iff l0 a).mpr r)
      · by_cases hcase : ∃ l' m, l0 ≤ l' ∧ nd.next[l']? = some (a, m)
        · obtain ⟨l', m, hle, hw⟩ := hcase
          exact .inl ((iff l0 a).mpr ((hnd _ _ _ hw).2 l0 h1 hle hua'))
        · refine .inr (u.of_words (fun b l' m hl' hwb => ?_))
          rcases word?_append_inv hwb with ⟨_, hwb⟩ | ⟨_, hwb⟩
          · exact ⟨b, m, hwb⟩
          · exact absurd ⟨l', m, hl', hwb⟩ hcase
    · right
      intro b l' q m hl' hwb e
      subst e
      rcases word?_append_inv hwb with ⟨_, hwb⟩ | ⟨_, hwb⟩
      · exact ha (H.lt_of_word hwb)
      · exact ha (hnd _ _ _ hwb).1

theorem LvInv.low {h : Heap} (L : LvInv h) (n : Nat) (w : Nat × Bool) : LvInv (setWord h n 0 w) :=
  L.of_eq (fun a l hl => word?_setWord_level w (by omega) a) (fun a => keyOf_setWord ..)

theorem LStep.lvInv {h h' : Heap} {ev : LEv} (H : HInv h) (L : LvInv h) (s : LStep h ev h') : LvInv h' := by
  cases s with
  | none => exact L
  | unlink hp hc _ => exact L.unlink_any H hp hc
  | mark hw => exact L.mark hw
  | own _ hx0 hw hu hs => exact L.own hx0 hw hu hs
  | link hl hp hx kp k1 k2 kx => exact L.link hl hp hx kp k1 k2 kx
  | @publish p c nd hw _ hnd _ =>
    rw [setWord_append h nd (word?_lt hw)]
    exact (L.append H nd hnd).low _ _

theorem chain_edges_sorted {h : Heap} (H : HInv h) (L : LvInv h) (l : Nat) :
    ∀ n p m, OnChain h l n → word? h n l = some (p, m) → Key.lt (keyOf h n) (keyOf h p) := by
  intro n p m hn hw
  cases l with
  | zero => exact H.h5 _ _ _ hw
  | succ l => exact L.sorted _ _ _ _ (by omega) hn hw

theorem chain_linked {h : Heap} (R : ReachInv h) (L : LvInv h) (l : Nat) :
    (l ≤ Gen.maxLevel → OnChain h l 1) ∧
    ∀ n, unmarkedAt h l n → OnChain h l n ∨ (1 ≤ l ∧ Unlinked h n l) := by
  cases l with
  | zero => exact ⟨fun _ => reachL_zero_iff.mpr R.tail, fun n hu => .inl (reachL_zero_iff.mpr (R.live hu))⟩
  | succ l =>
    exact ⟨L.tail _ (Nat.succ_pos l), fun n hu => (L.chain _ n (Nat.succ_pos l) hu).imp id fun u => ⟨Nat.succ_pos l, u⟩⟩

theorem Lk.onChain {h : Heap} (R : ReachInv h) (L : LvInv h) {c i j : Nat} (k : Lk h c i) (hj : j ≤ i)
    (hu : unmarkedAt h j c) : OnChain h j c :=
  ((chain_linked R L j).2 c hu).elim id fun u => k j u.1 hj hu

theorem OnChain.down {h : Heap} (R : ReachInv h) (L : LvInv h) {l l' a : Nat} (hc : OnChain h l a) (hle : l' ≤ l)
    (hu : unmarkedAt h l' a) : OnChain h l' a := by
  by_cases ha : a = 0
  · subst ha; exact .head h l'
  · obtain ⟨b, m, hw⟩ := hc.pointed ha
    exact (L.pointed hw).onChain R L hle hu

theorem chain_key {h : Heap} (H : HInv h) (L : LvInv h) {l a b : Nat} (ha : OnChain h l a) (r : ReachL h l a b) :
    a = b ∨ Key.lt (keyOf h a) (keyOf h b) := by
  cases l with
  | zero => exact (reachL_zero_iff.mp r).key H
  | succ l => exact L.key (Nat.succ_pos l) ha r

theorem reach_of_chain_lt {h : Heap} (H : HInv h) (L : LvInv h) {l c d : Nat} (hc : OnChain h l c)
    (hd : OnChain h l d) (hk : Key.lt (keyOf h c) (keyOf h d)) : ReachL h l c d := by
  rcases ReachL.det hc hd with r | r
  · exact r
  · rcases chain_key H L hd r with e | l'
    · subst e; exact absurd hk (Key.lt_irrefl _)
    · exact absurd hk (Key.lt_asymm l')

theorem markedAt_of_marked0 {h : Heap} (H : HInv h) {d j : Nat} (hd0 : d ≠ 0) (hm : marked0 h d)
    (hc : OnChain h j d) : markedAt h j d := by
  obtain ⟨q, hq⟩ := hm
  have hd1 : d ≠ 1 := fun e => by rw [e, H.tailNoWord] at hq; cases hq
  obtain ⟨⟨p, mp⟩, hw⟩ := Option.isSome_iff_exists.mp (hc.word H hd0 hd1)
  have := H.h4 _ _ _ _ _ _ hq (Nat.zero_le j) hw
  subst this
  exact ⟨p, hw⟩

end NitroVerif.SkipConc
