import NitroVerif.Lemmas.SkipSeqLevel
import NitroVerif.Lemmas.SkipSeqRep
/-!
  A node `z` on its way into or out of the list.  `Half s1 mk A z B j h` is the heap in which `z` is linked
  on the levels `< j` (that it reaches) and on no other.  `Insert4` goes through these heaps with `j`
  rising from `0`, the search that unlinks a marked node with `j` falling to `0`: one store into the
  predecessor per level.  At either end the heap represents a list (`Half.rep_in`, `Half.rep_out`).
-/
namespace NitroVerif.SkipSeq

/-- the place of node `z` between `A` (smaller keys) and `B` (larger keys) -/
abbrev Site (s1 : SL) (A : List Nat) (z : Nat) (B : List Nat) : Prop := Static s1 (A ++ z :: B)

theorem Static.level_nodup {s : SL} {L : List Nat} (c : Static s L) (l : Nat) :
    (headId :: LL s.nodes L l ++ [tailId]).Nodup :=
  SkipSeq.level_nodup c.nodup c.low l

namespace Site
variable {s1 : SL} {A B : List Nat} {z : Nat} (c : Site s1 A z B)
include c

theorem z_notin : z ∉ A ++ B := nodup_mid c.nodup

theorem z_notin_A : z ∉ A := fun h => c.z_notin (List.mem_append_left _ h)

theorem z_notin_B : z ∉ B := fun h => c.z_notin (List.mem_append_right _ h)

theorem zlow : 3 ≤ z := c.low z (by simp)

theorem pred_ne_z (l : Nat) : predAt s1.nodes A l ≠ z := by
  intro e
  rcases List.mem_cons.mp (e ▸ predAt_mem_cons s1.nodes A l) with h1 | h1
  · exact absurd (h1 ▸ c.zlow) (by decide)
  · exact c.z_notin_A h1

theorem pred_slot {l : Nat} (hl : l ≤ Gen.maxLevel) : l < nextLen s1.nodes (predAt s1.nodes A l) := by
  rcases predAt_mem s1.nodes A l with h1 | ⟨h1, h2⟩
  · rw [h1, c.base.headLen]; exact Nat.lt_succ_of_le hl
  · rw [(c.nodes _ (List.mem_append_left _ h1)).len]; exact Nat.lt_succ_of_le h2

theorem key_lt (a : Nat) (ha : a ∈ A) : ikey s1.nodes a < ikey s1.nodes z :=
  (pairwise_mid c.sorted).1 a ha

theorem key_gt (b : Nat) (hb : b ∈ B) : ikey s1.nodes z < ikey s1.nodes b :=
  (pairwise_mid c.sorted).2 b hb

theorem tail_notin : tailId ∉ headId :: A := by
  intro hm
  rcases List.mem_cons.mp hm with e | e
  · exact absurd e (by decide)
  · exact absurd (c.low _ (List.mem_append_left _ e)) (by decide)

theorem out : Static s1 (A ++ B) :=
  ⟨c.base, c.lvl, fun n hn => c.nodes n (mem_append_cons_iff.mpr (Or.inr hn)),
   c.sorted.sublist (List.Sublist.append (List.Sublist.refl A) (List.sublist_cons_self z B))⟩

theorem z_notin_level (l : Nat) : z ∉ headId :: LL s1.nodes (A ++ B) l ++ [tailId] :=
  fun hm => c.z_notin ((mem_level c.zlow).mp hm).1

end Site

/-- heap `h`: the list `A ++ B` with `z` linked in on the levels `< j` (that it reaches) and on no other;
    keys, heights, `LL`, `predAt`/`succAt` are read in `s1`, `h` has the links -/
structure Half (s1 : SL) (mk : Nat → Bool) (A : List Nat) (z : Nat) (B : List Nat) (j : Nat) (h : Heap) :
    Prop where
  shape : SameShape s1.nodes h
  flag : ∀ n, n ≠ z → mk n = false
  paths : ∀ l, l ≤ Gen.maxLevel →
    Path h mk l (headId :: LL s1.nodes (if l < j then A ++ z :: B else A ++ B) l ++ [tailId])
  zlink : ∀ l, l ≤ levelOf s1.nodes z → getNext h z l = (succAt s1.nodes B l, mk z)
  frame : ∀ m, m ∉ headId :: A → ∀ l, getNext h m l = getNext s1.nodes m l

namespace Half
variable {s1 : SL} {mk : Nat → Bool} {A B : List Nat} {z j : Nat} {h : Heap}

theorem pred_off (hh : Half s1 mk A z B j h) (c : Site s1 A z B) {l : Nat} (hl : l ≤ Gen.maxLevel)
    (hoff : ¬ l < j ∨ ¬ l ≤ levelOf s1.nodes z) :
    getNext h (predAt s1.nodes A l) l = (succAt s1.nodes B l, false) := by
  have hp := hh.paths l hl
  have e : LL s1.nodes (if l < j then A ++ z :: B else A ++ B) l = LL s1.nodes A l ++ LL s1.nodes B l := by
    rw [← LL_append]
    split
    · rw [LL_mid, if_neg (hoff.resolve_left (fun h => h ‹_›))]
    · rfl
  rw [e, ← List.cons_append] at hp
  exact hh.flag _ (c.pred_ne_z l) ▸ level_pred_link hp

theorem pred_on (hh : Half s1 mk A z B j h) (c : Site s1 A z B) {l : Nat} (hl : l ≤ Gen.maxLevel)
    (hj : l < j) (hz : l ≤ levelOf s1.nodes z) :
    getNext h (predAt s1.nodes A l) l = (z, false) ∧
    Path h mk l (headId :: LL s1.nodes A l ++ z :: LL s1.nodes B l ++ [tailId]) := by
  have hp := hh.paths l hl
  rw [if_pos hj, LL_mid, if_pos hz, ← List.cons_append] at hp
  refine ⟨?_, hp⟩
  have h1 : Path h mk l ((headId :: LL s1.nodes A l) ++ z :: (LL s1.nodes B l ++ [tailId])) := by
    rwa [List.append_assoc] at hp
  have := path_last_link (LL s1.nodes A l) headId (by simpa using ((path_append_cons _ _ _).mp h1).1)
  have hf := hh.flag _ (c.pred_ne_z l)
  unfold predAt at hf ⊢
  rwa [hf] at this

/-- one store on level `i` into a node of `head :: A`: every other level, `z`'s own words and the frame
    are kept; what level `i` becomes is the caller's `hi` -/
theorem other_level (hh : Half s1 mk A z B j h) {j' i p : Nat} {v : Nat × Bool}
    (hp : p ∈ headId :: A) (hpz : p ≠ z) (hjj : ∀ l, l ≠ i → (l < j' ↔ l < j))
    (hi : Path (setNext h p i v) mk i
      (headId :: LL s1.nodes (if i < j' then A ++ z :: B else A ++ B) i ++ [tailId])) :
    Half s1 mk A z B j' (setNext h p i v) := by
  refine ⟨hh.shape.setNext _ _ _, hh.flag, fun l hl => ?_, fun l hl => ?_, fun m hm l => ?_⟩
  · by_cases e : l = i
    · subst e; exact hi
    · rw [path_frame _ (Or.inl (Ne.symm e)), ite_congr (propext (hjj l e)) (fun _ => rfl) (fun _ => rfl)]; exact hh.paths l hl
  · rw [getNext_setNext_ne (Or.inl hpz)]; exact hh.zlink l hl
  · rw [getNext_setNext_ne (Or.inl (fun e : p = m => hm (e ▸ hp)))]; exact hh.frame m hm l

theorem down {i : Nat} (hh : Half s1 mk A z B (i + 1) h) (c : Site s1 A z B) (hi : i ≤ Gen.maxLevel)
    (hz : i ≤ levelOf s1.nodes z) :
    Half s1 mk A z B i (setNext h (predAt s1.nodes A i) i (succAt s1.nodes B i, false)) := by
  refine hh.other_level (predAt_mem_cons _ _ _) (c.pred_ne_z i)
    (fun l hl => ⟨fun h1 => Nat.lt_succ_of_lt h1, fun h1 => Nat.lt_of_le_of_ne (Nat.le_of_lt_succ h1) hl⟩) ?_
  rw [if_neg (Nat.lt_irrefl i), LL_append, ← List.cons_append]
  have hnd := c.level_nodup i
  rw [LL_mid, if_pos hz, ← List.cons_append] at hnd
  exact level_unlink (hh.pred_on c hi (Nat.lt_succ_self i) hz).2 hnd (hh.flag _ (c.pred_ne_z i))
    (by rw [hh.shape.nlen]; exact c.pred_slot hi)

theorem skip {i : Nat} (hh : Half s1 mk A z B (i + 1) h) (hz : ¬ i ≤ levelOf s1.nodes z) :
    Half s1 mk A z B i h := by
  refine ⟨hh.shape, hh.flag, fun l hl => ?_, hh.zlink, hh.frame⟩
  have hp := hh.paths l hl
  by_cases e : l = i
  · subst e
    rw [if_pos (Nat.lt_succ_self l), LL_mid, if_neg hz] at hp
    rw [if_neg (Nat.lt_irrefl l)]; exact hp
  · rwa [ite_congr (propext (show l < i + 1 ↔ l < i from
      ⟨fun h1 => Nat.lt_of_le_of_ne (Nat.le_of_lt_succ h1) e, fun h1 => Nat.lt_succ_of_lt h1⟩))
      (fun _ => rfl) (fun _ => rfl)] at hp

theorem up (hh : Half s1 nomk A z B j h) (c : Site s1 A z B) (hj : j ≤ Gen.maxLevel)
    (hz : j ≤ levelOf s1.nodes z) :
    Half s1 nomk A z B (j + 1) (setNext h (predAt s1.nodes A j) j (z, false)) := by
  refine hh.other_level (predAt_mem_cons _ _ _) (c.pred_ne_z j)
    (fun l hl => ⟨fun h1 => Nat.lt_of_le_of_ne (Nat.le_of_lt_succ h1) hl, fun h1 => Nat.lt_succ_of_lt h1⟩) ?_
  rw [if_pos (Nat.lt_succ_self j), LL_mid, if_pos hz, ← List.cons_append]
  have hp := hh.paths j hj
  rw [if_neg (Nat.lt_irrefl j), LL_append, ← List.cons_append] at hp
  have hnd := c.out.level_nodup j
  have hx := c.z_notin_level j
  rw [LL_append, ← List.cons_append] at hnd hx
  exact level_link hp hnd hx (hh.zlink j hz) (by rw [hh.shape.nlen]; exact c.pred_slot hj)

theorem tailFlag (hh : Half s1 mk A z B j h) (c : Site s1 A z B) (l : Nat) : (getNext h tailId l).2 = false := by
  rw [hh.frame _ c.tail_notin]; exact c.base.tailFlag l

theorem succ_unmarked (hh : Half s1 mk A z B j h) (c : Site s1 A z B) {l : Nat} (hl : l ≤ Gen.maxLevel) :
    (getNext h (succAt s1.nodes B l) l).2 = false :=
  succ_flag (hh.tailFlag c l) (hh.paths l hl) fun b hb =>
    ⟨by split
        · exact List.mem_append_right _ (List.mem_cons_of_mem _ hb)
        · exact List.mem_append_right _ hb,
     hh.flag _ (fun e => c.z_notin_B (e ▸ hb))⟩

end Half

theorem Half.full {s1 : SL} {mk : Nat → Bool} {A B : List Nat} {z j : Nat} (c : Site s1 A z B)
    (hflag : ∀ n, n ≠ z → mk n = false) (hj : levelOf s1.nodes z < j)
    (hP : ∀ l, l ≤ Gen.maxLevel → Path s1.nodes mk l (headId :: LL s1.nodes (A ++ z :: B) l ++ [tailId])) :
    Half s1 mk A z B j s1.nodes := by
  refine ⟨SameShape.refl _, hflag, fun l hl => ?_, fun l hl => ?_, fun _ _ _ => rfl⟩
  · rw [LL_if_full hj]; exact hP l hl
  · have hp := hP l (Nat.le_trans hl (Nat.le_trans (c.nodes z (by simp)).lvl c.lvl))
    rw [LL_mid, if_pos hl, ← List.cons_append, List.append_assoc] at hp
    exact path_head_link (X := LL s1.nodes B l) (z := tailId) (by simpa using ((path_append_cons _ _ _).mp hp).2)

theorem Half.rep_in {s1 s' : SL} {A B : List Nat} {z j : Nat} (c : Site s1 A z B)
    (hj : levelOf s1.nodes z < j) (hh : Half s1 nomk A z B j s'.nodes) (hlevel : s'.level = s1.level)
    (hst : StatsOK s' (A ++ z :: B)) (hsize : (A ++ z :: B).length + 3 ≤ s1.nodes.length)
    (hbp : s'.buf.preds.length = Gen.maxLevel + 1) (hbs : s'.buf.succs.length = Gen.maxLevel + 1)
    (hstuck : s'.stuck = false) : Rep s' (A ++ z :: B) :=
  Rep.of_shape c hh.shape (hh.tailFlag c) hlevel (fun l hl => LL_if_full hj l ▸ hh.paths l hl) hst hsize hbp hbs
    hstuck

theorem Half.rep_out {s1 s' : SL} {mk : Nat → Bool} {A B : List Nat} {z : Nat} (c : Site s1 A z B)
    (hh : Half s1 mk A z B 0 s'.nodes) (hlevel : s'.level = s1.level)
    (hst : StatsOK s' (A ++ B)) (hsize : (A ++ B).length + 3 ≤ s1.nodes.length)
    (hbp : s'.buf.preds.length = Gen.maxLevel + 1) (hbs : s'.buf.succs.length = Gen.maxLevel + 1)
    (hstuck : s'.stuck = false) : Rep s' (A ++ B) := by
  refine Rep.of_shape c.out hh.shape (hh.tailFlag c) hlevel (fun l hl => ?_) hst hsize hbp hbs hstuck
  have hp := hh.paths l hl
  rw [if_neg (Nat.not_lt_zero l)] at hp
  -- `z` is not on these chains, and `mk` flags nothing else
  exact (path_congr _ (fun a ha => ⟨rfl, (hh.flag a fun e => c.z_notin_level l (e ▸ ha)).symm⟩)).mpr hp

end NitroVerif.SkipSeq
