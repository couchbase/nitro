import NitroVerif.Model.SkipConc
/-!
  The order `Key.lt` that item.go's `compare` decides, `maxLevel`, and the call skeletons of the Go functions the M5
  model transcribes; the guards of the search and of insertion are characterised in `Lemmas/GuardsGen.lean`.  A change
  of the Go condition / call sequence regenerates `Gen/Guards.lean` and breaks the lemma named here.
-/
namespace NitroVerif.SkipConc

theorem maxLevel_eq : Gen.maxLevel = 32 := rfl

/-- the order of item.go's `compare` (`MinItem` < user items by `CompareInt` < `MaxItem`) -/
def Key.lt : Key → Key → Prop
  | .neg, .neg => False
  | .neg, _ => True
  | .fin a, .fin b => a < b
  | .fin _, .pos => True
  | _, _ => False

theorem compare_neg_iff (a : Key) (k : Nat) : compare a (.fin k) < 0 ↔ Key.lt a (.fin k) := by
  cases a <;> simp [compare, Key.lt] <;> omega

theorem compare_zero_iff (a : Key) (k : Nat) : compare a (.fin k) = 0 ↔ a = .fin k := by
  cases a <;> simp [compare] <;> omega

theorem compare_pos_iff (a : Key) (k : Nat) : 0 < compare a (.fin k) ↔ Key.lt (.fin k) a := by
  cases a <;> simp [compare, Key.lt] <;> omega

theorem skeleton_findPath_ok : Gen.skeleton_findPath =
    ["atomic.LoadInt32(s.level)", "prev.getNext", "curr.getNext", "s.helpDelete", "prev.getNext", "curr.getNext"] := rfl

theorem skeleton_Insert4_ok : Gen.skeleton_Insert4 =
    ["s.findPath", "s.freeNode", "buf.preds[0].dcasNext", "x.getNext", "x.dcasNext", "next.getNext", "s.findPath",
     "buf.preds[i].dcasNext", "x.getNext", "s.findPath", "s.findPath"] := rfl

theorem skeleton_softDelete_ok : Gen.skeleton_softDelete =
    ["delNode.getNext", "delNode.dcasNext", "delNode.getNext"] := rfl

theorem skeleton_deleteNode_ok : Gen.skeleton_deleteNode = ["s.softDelete", "s.findPath"] := rfl

theorem skeleton_helpDelete_ok : Gen.skeleton_helpDelete = ["prev.dcasNext"] := rfl

/-- `it.Refresh` is the LAST call of Iterator.Next: the automatic refresh happens after the step (the model's
    `afterNext`); moving it to the top of Next changes this list -/
theorem skeleton_SkiplistIteratorNext_ok : Gen.skeleton_SkiplistIteratorNext =
    ["it.curr.getNext", "atomic.AddUint64(it.s.Stats.readConflicts)", "it.Refresh"] := rfl

end NitroVerif.SkipConc
