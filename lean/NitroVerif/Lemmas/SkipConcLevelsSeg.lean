import NitroVerif.Lemmas.SkipConcQuietResp
import NitroVerif.Lemmas.SkipConcQuietPend
/-!
  What a segment and a call entry establish on the index levels (`GoodL`): the heap change is one of the writes of
  `LStep`, made by the thread entitled to it and leaving it where the charges `RespPC`, `SoftOn` want it (`EvOK`), and
  the thread's `TL` holds again (`Seg.goodL`, `StartR.levels`).  The parts with an argument of their own are
  Insert4's: the publish, the check of the recorded successor (`insCheckSucc_tl`) and the upper-level link
  (`link_facts`).  Which published node a thread is linking (`insNode`) changes only by its own publish.
-/
namespace NitroVerif.SkipConc

/-- who produces an event, and where that thread stands afterwards.  An inserter's write is made by the thread
    inserting that node; if it links the node at a level at which it is already marked, it is responsible for it there
    afterwards (Insert4's re-check of the node's own mark: a fresh findPath for the node's item from the top level);
    so is, at every level, the thread whose level-0 mark wins (DEL_SEARCH); an upper-level mark is made inside
    softDelete of that node -/
def EvOK (th0 : Thread) (r : Res) : LEv → Prop
  | .other => True
  | .own x => insNode th0.pc = some x
  | .link x l => insNode th0.pc = some x ∧
      (markedAt r.1.heap l x → OnChain r.1.heap l x → RespPC r.1.heap x l r.2.1.pc)
  | .mark d 0 => ∀ j, RespPC r.1.heap d j r.2.1.pc
  | .mark d (_ + 1) => SoftOn d th0.pc

theorem EvOK.insNode {th0 : Thread} {r : Res} {ev : LEv} (o : EvOK th0 r ev) {x : Nat}
    (c : ev = .own x ∨ ∃ l, ev = .link x l) : insNode th0.pc = some x := by
  rcases c with rfl | ⟨l, rfl⟩
  · exact o
  · exact o.1

def GoodL (h0 : Heap) (th0 : Thread) (r : Res) : Prop :=
  ∃ ev, LStep h0 ev r.1.heap ∧ EvOK th0 r ev ∧ TL r.1.heap r.1.level r.2.1

theorem enterSoft_marked0 (sh : Shared) (th : Thread) (item n e : Nat) (hw : word? sh.heap n 0 = some (e, true)) :
    (enterSoft sh th item n 0 true).2.1.pc = .delSearch item := by
  simp [enterSoft, softScan, getNext_of_word hw]

theorem publish_unlinked {h : Heap} (H : HInv h) {p c : Nat} (nd : Node) (hw : word? h p 0 = some (c, false))
    (hnd : ∀ (j : Nat) q m, nd.next[j]? = some (q, m) → q < h.length) :
    Unlinked (setWord h p 0 (h.length, false) ++ [nd]) h.length 1 := by
  intro a l' q m hl hq e
  subst e
  rw [setWord_append h nd (word?_lt hw), word?_setWord_level _ (by omega)] at hq
  rcases word?_append_inv hq with ⟨_, hq⟩ | ⟨_, hq⟩
  · exact absurd (H.lt_of_word hq) (Nat.lt_irrefl _)
  · exact absurd (hnd _ _ _ hq) (Nat.lt_irrefl _)

theorem publish_lstep {sh : Shared} {th : Thread} {item lvl : Nat} (hb : BufOK sh.heap th.preds th.succs)
    (bb : BufL sh.heap th.preds th.succs) (hw : word? sh.heap (th.pred 0) 0 = some (th.succ 0, false)) :
    (∀ (j : Nat) q m, (newNode th item lvl).next[j]? = some (q, m) → q < sh.heap.length) ∧
    LStep sh.heap .other (setWord sh.heap (th.pred 0) 0 (sh.heap.length, false) ++ [newNode th item lvl]) := by
  have hnd : ∀ (j : Nat) q m, (newNode th item lvl).next[j]? = some (q, m) →
      q < sh.heap.length ∧ Lk sh.heap q j := by
    intro j q m hq
    have := (newNode_getElem? _ _ _ _ hq).2
    simp only [Prod.mk.injEq, Thread.succ] at this
    rw [this.1]
    exact ⟨hb.succ_lt j, bb.succ_lk j⟩
  exact ⟨fun j q m hq => (hnd j q m hq).1, .publish (newNode th item lvl) hw (newNode_next0 ..) hnd
    (fun j q m hq => by have := (newNode_getElem? _ _ _ _ hq).2; simp at this; exact this.2)⟩

/-- the check of the recorded successor: with both the node and the successor unmarked at level `i`, an equal key
    would make them the same node, but the node has not been linked at level `i` -/
theorem insCheckSucc_tl {sh : Shared} {th : Thread} (item x lvl i next : Nat) (H : HInv sh.heap)
    (R : ReachInv sh.heap) (hfix : sh.fixedSucc = true) (hb : BufOK sh.heap th.preds th.succs)
    (bb : BufL sh.heap th.preds th.succs) (l1 : lvl ≤ sh.level) (ko : KeysOK sh.heap th.preds th.succs item 0 lvl)
    (ins : InsNode sh.heap x i) (hkx : keyOf sh.heap x = .fin item) (h1 : 1 ≤ i)
    (hil : i ≤ lvl) (hlvl : lvl ≤ Gen.maxLevel) (hnext : next = th.succs.getD i 0)
    (hwx : word? sh.heap x i = some (next, false)) :
    TL sh.heap sh.level (insCheckSucc sh th item x lvl i next).2.1 := by
  unfold insCheckSucc
  split
  · exact startFind_tl sh th item _ bb ⟨l1, KeysOK.vacuous _ _ _ _ l1, ins⟩
  · rename_i hc
    refine ⟨bb, l1, ko, ins, ⟨false, hwx⟩, ?_⟩
    have hm : (getNext sh.heap next i).2 = false := by
      cases hh : (getNext sh.heap next i).2
      · rfl
      · rw [hfix, hh] at hc; simp at hc
    have hge := (ko i (by omega) hil).2
    rw [← hnext] at hge
    apply Classical.byContradiction
    intro hnlt
    have hk : keyOf sh.heap next = .fin item := Key.eq_of_not_lt hge hnlt
    have hx0 := ne_head_of_fin H hkx
    have hn1 := ne_tail_of_fin H hk
    have hnlv : next = 1 ∨ (word? sh.heap next i).isSome := by
      rw [hnext]; exact hb.succ_lv _ (by omega)
    -- both are unmarked at level `i`, hence at level 0 (H4)
    obtain ⟨⟨q, mq⟩, hwn⟩ := Option.isSome_iff_exists.mp (hnlv.resolve_left hn1)
    rw [getNext_of_word hwn] at hm
    have hmq : mq = false := hm
    subst hmq
    have un : unmarked0 sh.heap next := unmarked0_iff.mpr (unmarkedAt_down H ⟨q, hwn⟩ (Nat.zero_le i))
    have ux : unmarked0 sh.heap x := unmarked0_iff.mpr (unmarkedAt_down H ⟨next, hwx⟩ (Nat.zero_le i))
    have heq : x = next := live_key_inj H R ux un (by rw [hkx, hk])
    have hu : unmarkedAt sh.heap i x := ⟨next, hwx⟩
    have kx : Lk sh.heap x i := by
      have := bb.succ_lk i
      rw [← hnext, ← heq] at this; exact this
    exact (ins.1 hu).not_onChain hx0 (kx i h1 (Nat.le_refl _) hu)

theorem link_facts {sh : Shared} {th : Thread} {item x lvl i next : Nat} (H : HInv sh.heap)
    (hb : BufOK sh.heap th.preds th.succs) (bb : BufL sh.heap th.preds th.succs)
    (hp : PCInv sh.heap th (.insUpLink item x lvl i next))
    (bp : PCL sh.heap sh.level th.preds th.succs (.insUpLink item x lvl i next))
    (hw : word? sh.heap (th.pred i) i = some (next, false)) :
    LStep sh.heap (.link x i) (setWord sh.heap (th.pred i) i (x, false)) ∧
    BufL (setWord sh.heap (th.pred i) i (x, false)) th.preds th.succs ∧
    KeysOK (setWord sh.heap (th.pred i) i (x, false)) th.preds th.succs item 0 lvl ∧
    keyOf (setWord sh.heap (th.pred i) i (x, false)) x = .fin item ∧
    word? (setWord sh.heap (th.pred i) i (x, false)) (th.pred i) i = some (x, false) ∧
    ∃ m, word? sh.heap x i = some (next, m) ∧ word? (setWord sh.heap (th.pred i) i (x, false)) x i = some (next, m) := by
  obtain ⟨hx, hkx, h1, hn, hil, hlvl, hhx⟩ := hp
  obtain ⟨l1, ko, ins, ⟨m, hwx⟩, klt⟩ := bp
  have k1 : Key.lt (keyOf sh.heap (th.pred i)) (keyOf sh.heap x) := by rw [hkx]; exact (ko i (by omega) hil).1
  have hst : LStep sh.heap (.link x i) (setWord sh.heap (th.pred i) i (x, false)) :=
    .link h1 hw hwx (bb.pred_lk i) k1 (by rw [hkx]; exact klt) ins.2
  have e := Ext.setWord hw (x, false)
  have hne : x ≠ th.pred i := fun c => Key.lt_irrefl _ (c ▸ k1)
  refine ⟨hst, bb.keep H hst hb, ko.ext e hb, (e.key _ hx).trans hkx, ?_, m, hwx, ?_⟩
  · exact setWord_at hw _
  · rw [setWord_off hw _ _ hne]; exact hwx

theorem Seg.goodL {sh : Shared} {th : Thread} {pc : PC} {r : Res} (s : Seg sh th pc r) (hpc : th.pc = pc)
    (H : HInv sh.heap) (R : ReachInv sh.heap) (L : LvInv sh.heap) (hfix : sh.fixedSucc = true)
    (hT : TInv sh.heap th) (hL : TL sh.heap sh.level th) : GoodL sh.heap th r := by
  have hb := hT.buf
  have hp := hT.pc
  have bb := hL.buf
  have bp := hL.pcl
  rw [hpc] at hp bp
  have keep : ∀ {h' : Heap} {ev : LEv}, LStep sh.heap ev h' → (∀ x, ev ≠ .own x) →
      (∀ x l, ev ≠ .link x l) → TL h' sh.level th := fun hs h1 h2 =>
    TL.keep H hs (Nat.le_refl _) hT (fun x c => c.elim (fun c => absurd c (h1 x)) (fun ⟨l, c⟩ => absurd c (h2 x l))) hL
  have hins : ∀ {x : Nat}, insNode pc = some x → insNode th.pc = some x := fun h => by rw [hpc]; exact h
  cases s with
  | idle _ => exact ⟨.other, .none, trivial, hL⟩
  | newLevelBump _ =>
    exact ⟨.other, .none, trivial, startFind_tl { sh with level := _ } th _ _ bb
      ⟨Nat.le_refl _, KeysOK.vacuous _ _ _ _ (Nat.le_refl _)⟩⟩
  | newLevelKeep _ => exact ⟨.other, .none, trivial, startFind_tl sh th _ _ bb ⟨bp, KeysOK.vacuous _ _ _ _ bp⟩⟩
  | findLevel => exact ⟨.other, .none, trivial, bb, bp.1, bp.2.1, fun _ => L.getNext_Lk _ _, bp.2.2⟩
  | @readMarked fp rr c hc _ =>
    exact ⟨.other, .none, trivial, bb, bp.1, bp.2.1, bp.2.2.2⟩
  | @readAdvance fp rr c hc _ _ =>
    have kc : Lk sh.heap c fp.i := hc ▸ bp.read_lk L
    exact ⟨.other, .none, trivial, bb, bp.1, kc, fun _ => L.getNext_Lk _ _, bp.2.2.2⟩
  | @readDown fp rr c i hc _ ha hi =>
    have kc : Lk sh.heap c fp.i := hc ▸ bp.read_lk L
    have k2 : ¬ Key.lt (keyOf sh.heap c) (.fin fp.item) := fun l =>
      ha ((Gen.findAdvance_iff _).mpr ((compare_neg_iff _ _).mpr l))
    obtain ⟨hil, kp, _, cl⟩ := bp
    rw [hi] at hil kp kc cl
    have hmax : i + 1 ≤ Gen.maxLevel := hi ▸ hp.1.lvl
    exact ⟨.other, .none, trivial, bb.record kp kc, Nat.le_of_succ_le hil, kp.mono (Nat.le_succ _),
      cl.record (by rw [bb.1]; omega) (by rw [bb.2.1]; omega) hp.1.key k2⟩
  | @readEnd fp rr c hc _ ha hi =>
    have kc : Lk sh.heap c fp.i := hc ▸ bp.read_lk L
    obtain ⟨_, kp, _, cl⟩ := bp
    rw [hi] at kp kc cl
    refine ⟨.other, by rw [(finishFind_shared ..).1]; exact .none, trivial, ?_⟩
    rw [(finishFind_shared ..).1, (finishFind_shared ..).2]
    refine finishFind_tl sh _ fp.item _ fp.cont (bb.record kp kc) (cl.set_zero _ _) (fun hf => ?_)
    show keyOf sh.heap ((th.succs.set 0 c).getD 0 0) = .fin fp.item
    rw [getD_set_same (by rw [bb.2.1]; omega)]
    exact (compare_zero_iff _ _).mp ((Gen.findFound_iff _).mp hf)
  | @helpOk fp next hw =>
    have hk := keep (.unlink hw hp.2 bp.2.1) nofun nofun
    have bp' := hk.pcl
    rw [hpc] at bp'
    refine ⟨.other, by rw [helpStats_heap]; exact .unlink hw hp.2 bp.2.1, trivial, ?_⟩
    rw [helpStats_heap, helpStats_level]
    exact ⟨hk.buf, bp'.1, bp'.2.1, nofun, bp'.2.2⟩
  | helpFail _ => exact ⟨.other, .none, trivial, bb, Nat.le_refl _, Lk_head _ _, bp.2.2.restart⟩
  | @publishUp item lvl hw _ =>
    obtain ⟨hnd, hst⟩ := publish_lstep (item := item) (lvl := lvl) hb bb hw
    have hk := keep hst nofun nofun
    have hk2 := hk.pcl
    rw [hpc] at hk2
    exact ⟨.other, hst, trivial, hk.buf, hk2.1, hk2.2, fun _ => publish_unlinked H _ hw hnd, Lk_zero _ _⟩
  | @publishDone item lvl hw _ =>
    obtain ⟨_, hst⟩ := publish_lstep (item := item) (lvl := lvl) hb bb hw
    exact ⟨.other, hst, trivial, (keep hst nofun nofun).1, trivial⟩
  | publishFail _ =>
    exact ⟨.other, .none, trivial, startFind_tl { sh with stats := _ } th _ _ bb ⟨bp.1, KeysOK.vacuous _ _ _ _ bp.1⟩⟩
  | upReadMarked _ | upReadLost _ _ _ => exact ⟨.other, .none, trivial, bb, trivial⟩
  | @upReadOwn item x lvl i hm hn hw =>
    obtain ⟨hx, hkx, h1, hil, hlvl, hhx⟩ := hp
    obtain ⟨l1, ko, ins⟩ := bp
    have hx0 := ne_head_of_fin H hkx
    have hst : LStep sh.heap (.own x) (setWord sh.heap x i (th.succ i, false)) :=
      .own h1 hx0 hw (ins.1 ⟨_, hw⟩) (bb.succ_lk i)
    have e := Ext.setWord hw (th.succ i, false)
    refine ⟨.own x, by rw [insCheckSucc_sh]; exact hst, hins rfl, ?_⟩
    rw [insCheckSucc_sh]
    exact insCheckSucc_tl (sh := { sh with heap := setWord sh.heap x i (th.succ i, false) }) item x lvl i (th.succ i)
      (H.setUnmarked hw (by omega) (hb.succ_lv _ (by omega)))
      ((HStep.upper (th.succ i, false) h1 hw).reachInv H R) hfix (hb.ext e) (bb.keep H hst hb) l1 (ko.ext e hb)
      (ins.keep H hst hx hx0 h1 nofun) ((e.key _ hx).trans hkx) h1 hil hlvl rfl
      (setWord_at hw _)
  | @upReadSame item x lvl i hm hn =>
    obtain ⟨hx, hkx, h1, hil, hlvl, hhx⟩ := hp
    obtain ⟨l1, ko, ins⟩ := bp
    have hx1 := ne_tail_of_fin H hkx
    obtain ⟨⟨q, mq⟩, hwq⟩ := Option.isSome_iff_exists.mp (H.full x i hx hx1 (by rw [hhx]; exact hil))
    rw [getNext_of_word hwq] at hm hn
    cases hm; cases hn
    refine ⟨.other, by rw [insCheckSucc_sh]; exact .none, trivial, ?_⟩
    rw [insCheckSucc_sh]
    exact insCheckSucc_tl item x lvl i (th.succ i) H R hfix hb bb l1 ko ins hkx h1 hil hlvl rfl hwq
  | @upLinkMarked item x lvl i next hw _ =>
    obtain ⟨hst, bb', _, hkx', _, _⟩ := link_facts H hb bb hp bp hw
    obtain ⟨_, _, _, _, hil, _⟩ := hp
    exact ⟨.link x i, hst, ⟨hins rfl, fun _ hc => ⟨hkx', Nat.le_trans hil bp.1, hc⟩⟩,
      startFind_tl { sh with heap := _ } th item _ bb' trivial⟩
  | @upLinkNext item x lvl i next hw hum _ =>
    obtain ⟨hst, bb', ko', _, hwp', m, hwx, hwx'⟩ := link_facts H hb bb hp bp hw
    have hnm : ¬ markedAt (setWord sh.heap (th.pred i) i (x, false)) i x := fun ⟨p, hq⟩ => by
      rw [getNext_of_word hq] at hum; cases hum
    refine ⟨.link x i, hst, ⟨hins rfl, fun hm => absurd hm hnm⟩, bb', bp.1, ko', fun _ => ?_, ?_⟩
    · -- nobody pointed to the node at level `i` or above, and the link is at level `i`
      rw [getNext_of_word hwx'] at hum
      cases hum
      intro b l' q mq hl' hq eq
      rw [word?_setWord_level _ (by omega)] at hq
      obtain ⟨_, _, ins, _⟩ := bp
      exact ins.1 ⟨next, hwx⟩ b l' q mq (by omega) hq eq
    · exact (hst.lvInv H L).pointed hwp'
  | @upLinkDone item x lvl i next hw hum _ =>
    obtain ⟨hst, bb', _, _, _, _⟩ := link_facts H hb bb hp bp hw
    have hnm : ¬ markedAt (setWord sh.heap (th.pred i) i (x, false)) i x := fun ⟨p, hq⟩ => by
      rw [getNext_of_word hq] at hum; cases hum
    exact ⟨.link x i, hst, ⟨hins rfl, fun hm => absurd hm hnm⟩, bb', trivial⟩
  | upLinkFail _ =>
    exact ⟨.other, .none, trivial, startFind_tl sh th _ _ bb ⟨bp.1, KeysOK.vacuous _ _ _ _ bp.1, bp.2.2.1⟩⟩
  | @softWin item n next marked hw =>
    have e := Ext.setWord hw (next, true)
    have hk := keep (.mark hw) nofun nofun
    have hk' : keyOf (setWord sh.heap n 0 (next, true)) n = .fin item := (e.key _ hp.1).trans bp
    exact ⟨.mark n 0, by rw [enterSoft_sh]; exact .mark hw,
      fun j => by rw [enterSoft_marked0 _ th item n next (setWord_at hw _), enterSoft_sh]; exact hk',
      enterSoft_tl _ _ _ _ _ _ hk.buf hk'⟩
  | @softUp item n i next marked hw hi =>
    have e := Ext.setWord hw (next, true)
    have hk := keep (.mark hw) nofun nofun
    obtain ⟨i', rfl⟩ := Nat.exists_eq_succ_of_ne_zero hi
    exact ⟨.mark n (i' + 1), by rw [enterSoft_sh]; exact .mark hw,
      show SoftOn n th.pc by rw [hpc]; rfl,
      enterSoft_tl _ _ _ _ _ _ hk.buf ((e.key _ hp.1).trans bp)⟩
  | softLost _ => exact ⟨.other, by rw [enterSoft_sh]; exact .none, trivial, enterSoft_tl _ _ _ _ _ _ bb bp⟩
  | delSearch | iterRefresh => exact ⟨.other, .none, trivial, startFind_tl sh th _ _ bb trivial⟩
  | iterNextMarked _ => exact ⟨.other, .none, trivial, bb, trivial⟩
  | iterNextMove _ =>
    refine ⟨.other, by rw [afterNext_sh]; exact .none, trivial, ?_⟩
    rw [afterNext_sh]
    exact afterNext_tl _ _ _ bb
  | iterHelpOk hw =>
    have hs : LStep sh.heap .other _ := .unlink hw hp.1 (Lk_zero _ _)
    have hk := keep hs nofun nofun
    refine ⟨.other, by rw [afterNext_sh, helpStats_heap]; exact hs, trivial, ?_⟩
    rw [afterNext_sh, helpStats_heap, helpStats_level]
    exact afterNext_tl _ _ _ hk.buf
  | iterHelpFail _ =>
    exact ⟨.other, .none, trivial, startFind_tl (bumpReadConflicts sh) th _ _ bb trivial⟩

theorem enterSoft_fixed (sh : Shared) (th : Thread) (item n i : Nat) (m : Bool) :
    (enterSoft sh th item n i m).1.fixedSucc = sh.fixedSucc := by rw [enterSoft_sh]

theorem Seg.insNode {sh : Shared} {th : Thread} {pc : PC} {r : Res} {x : Nat} (s : Seg sh th pc r)
    (h : insNode r.2.1.pc = some x) : insNode pc = some x ∨ x = sh.heap.length := by
  rw [insNode_eq_insAt] at h ⊢
  cases s with
  | idle hpc => rw [hpc] at h; exact .inl h
  | findLevel | readMarked _ _ | readAdvance _ _ _ | readDown _ _ _ _ | helpOk _ | helpFail _ | upLinkNext _ _ _
  | upLinkFail _ => exact .inl h
  | readEnd _ _ _ _ => rw [insAt_finishFind] at h; exact .inl h
  | publishUp _ _ => exact .inr (Option.some.inj h).symm
  | upReadOwn _ _ _ | upReadSame _ _ => rw [insAt_insCheckSucc] at h; exact .inl h
  | softWin _ | softUp _ _ | softLost _ => rw [insAt_enterSoft] at h; cases h
  | iterNextMove _ | iterHelpOk _ => rw [insAt_afterNext] at h; cases h
  | _ => cases h

theorem StartR.levels {sh : Shared} {th : Thread} {op : Op} {r : Res} (s : StartR sh th op r) (hidle : th.pc = .idle)
    (hL : TL sh.heap sh.level th) :
    TL sh.heap sh.level r.2.1 ∧ insNode r.2.1.pc = none ∧ r.1.fixedSucc = sh.fixedSucc := by
  obtain ⟨bb, _⟩ := hL
  cases s with
  | insLevel _ => exact ⟨⟨bb, Nat.le_refl _⟩, rfl, rfl⟩
  | @insFind k lvl hbump =>
    have hle : Gen.newLevelClamp lvl ≤ sh.level :=
      Nat.le_of_not_lt fun c => hbump ((Gen.newLevelBump_iff (Gen.newLevelClamp lvl) sh.level).mpr c)
    exact ⟨startFind_tl sh th k _ bb ⟨hle, KeysOK.vacuous _ _ _ _ hle⟩, rfl, rfl⟩
  | del | look | itSeek => exact ⟨startFind_tl sh th _ _ bb trivial, rfl, rfl⟩
  | itNext _ _ | itRefresh _ _ => exact ⟨⟨bb, trivial⟩, rfl, rfl⟩
  | itFirst | itClose _ | itInterval _ _ | nextRefused | closeRefused | intervalRefused | refreshRefused =>
    refine ⟨⟨bb, ?_⟩, ?_, rfl⟩
    · show PCL sh.heap sh.level th.preds th.succs th.pc
      rw [hidle]; trivial
    · show insNode th.pc = none
      rw [hidle]; rfl

end NitroVerif.SkipConc
