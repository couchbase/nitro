/-
  How the primitive state transformers move nodes between owners, as equations between counts: the same
  equations show that the owner count `ownC` is kept (`OwnInv`) and that its protected part `protC` does not
  drop (`ProtInv`).  Both are sums of four owner classes — 1 the store, 2 the threads, 3 the collection jobs,
  4 the sessions (with the free jobs) — and `move_ij` moves a share from summand `i` to summand `j`, `grow_i` adds one.
-/
import NitroVerif.Lemmas.MvccConcInv
import NitroVerif.Lemmas.ListFacts

namespace NitroVerif.MvccConc

variable {threads : List Pc} {store : List Node} {gcJobs : List GcJob} {sess : List Sess} {fs : Nat}
  {frJobs : List FrJob}

theorem gcOwned_append (gcJobs : List GcJob) (job : GcJob) (n : Nat) :
    (gcOwned (gcJobs ++ [job])).count n = (gcOwned gcJobs).count n + (gcOwn job).count n := by
  unfold gcOwned; simp [List.flatMap_append, List.count_append]

theorem count_newFrJobs (n : Nat) : ∀ (R : List Sess),
    (frOwned (newFrJobs R)).count n = (R.flatMap (·.list)).count n
  | [] => rfl
  | s :: R => by
    have ih := count_newFrJobs n R
    unfold frOwned newFrJobs at ih ⊢
    by_cases he : s.list.isEmpty = true
    · have : s.list = [] := List.isEmpty_iff.mp he
      simp [List.flatMap_cons, this]
      exact ih
    · simp only [List.filter_cons, he, Bool.not_false, if_true, List.map_cons, List.flatMap_cons,
        List.count_append]
      rw [ih]; rfl

theorem sessfr_cleanup (sess : List Sess) (fs : Nat) (frJobs : List FrJob) (n : Nat) :
    sessfr sess (fs + (readySess sess fs).length) (frJobs ++ newFrJobs (readySess sess fs)) n =
      sessfr sess fs frJobs n := by
  have h := count_newFrJobs n ((sess.drop fs).takeWhile Sess.terminated)
  unfold sessfr sessOwned readySess frOwned at *
  rw [← List.drop_drop, drop_length_takeWhile, List.flatMap_append, List.count_append, h]
  conv => rhs; rw [← List.takeWhile_append_dropWhile (p := Sess.terminated) (l := sess.drop fs),
    List.flatMap_append, List.count_append]
  omega

theorem sessOwned_relSess (sess : List Sess) (tok : Nat) (h : Holder) (fs : Nat) :
    sessOwned (relSess sess tok h) fs = sessOwned sess fs := by
  unfold sessOwned relSess
  exact flatMap_drop_modify (fun (x : Sess) => x.list) (fun s => { s with holders := s.holders.erase h })
    (fun _ => rfl) sess tok fs

theorem sessOwned_acqSess (sess : List Sess) (h : Holder) (fs : Nat) :
    sessOwned (acqSess sess h) fs = sessOwned sess fs := by
  unfold sessOwned acqSess
  exact flatMap_drop_modify (fun (x : Sess) => x.list) (fun s => { s with holders := s.holders ++ [h] })
    (fun _ => rfl) sess _ fs

theorem sessOwned_flushSess (hlt : fs < sess.length) {c : Sess}
    (hc : sess.getLast? = some c) (hcl : c.list = []) (L : List Nat) (n : Nat) :
    (sessOwned (flushSess sess L) fs).count n = (sessOwned sess fs).count n + L.count n := by
  unfold sessOwned flushSess
  rw [List.drop_append_of_le_length (by simp; omega), drop_modify_last _ sess fs c hlt hc]
  have hl : (sess.drop fs).getLast? = some c := by rw [getLast?_drop_of_lt _ _ hlt]; exact hc
  have hsplit := dropLast_append_getLast _ c hl
  conv => rhs; rw [← hsplit]
  simp only [List.flatMap_append, List.flatMap_cons, List.flatMap_nil, List.count_append, List.append_nil, hcl]

theorem move_12 {a a' b b' c d x : Nat} (ha : a' + x = a) (hb : b' = b + x) : a' + b' + c + d = a + b + c + d := by
  rw [← ha, hb, ← Nat.add_assoc, Nat.add_right_comm a' b x]

theorem move_21 {a a' b b' c d x : Nat} (ha : a' = a + x) (hb : b' + x = b) : a' + b' + c + d = a + b + c + d := by
  rw [ha, ← hb, ← Nat.add_assoc, Nat.add_right_comm a x b']

theorem move_13 {a a' b c c' d x : Nat} (ha : a' + x = a) (hc : c' = c + x) : a' + b + c' + d = a + b + c + d := by
  rw [← ha, hc, ← Nat.add_assoc, Nat.add_right_comm a' x b, Nat.add_right_comm (a' + b) x c]

theorem move_24 {a b b' c d d' x : Nat} (hb : b' + x = b) (hd : d' = d + x) : a + b' + c + d' = a + b + c + d := by
  rw [← hb, hd, ← Nat.add_assoc, ← Nat.add_assoc, Nat.add_right_comm (a + b') x c, Nat.add_right_comm (a + b' + c) x d]

theorem move_34 {a b c c' d d' x : Nat} (hc : c' + x = c) (hd : d' = d + x) : a + b + c' + d' = a + b + c + d := by
  rw [← hc, hd, ← Nat.add_assoc, ← Nat.add_assoc, Nat.add_right_comm (a + b + c') x d]

theorem grow_1 {a a' b c d x : Nat} (ha : a' = a + x) : a + b + c + d ≤ a' + b + c + d :=
  ha ▸ Nat.add_le_add_right (Nat.add_le_add_right (Nat.add_le_add_right (Nat.le_add_right a x) b) c) d

theorem grow_2 {a b b' c d x : Nat} (hb : b' = b + x) : a + b + c + d ≤ a + b' + c + d :=
  hb ▸ Nat.add_le_add_right (Nat.add_le_add_right (Nat.add_le_add_left (Nat.le_add_right b x) a) c) d

theorem pcOwn_count (pc : Pc) (n : Nat) : (pcOwn pc).count n = (putOwn pc).count n + (flushOwn pc).count n := by
  cases pc <;> simp [pcOwn, putOwn, flushOwn]

theorem thrOwned_split (n : Nat) :
    (thrOwned threads).count n = (putOwned threads).count n + (flushOwned threads).count n := by
  unfold thrOwned putOwned flushOwned
  induction threads with
  | nil => rfl
  | cons pc l ih =>
    rw [List.flatMap_cons, List.flatMap_cons, List.flatMap_cons, List.count_append, List.count_append,
      List.count_append, ih, pcOwn_count, Nat.add_add_add_comm]

theorem reserved_iff_count {n : Nat} : reserved threads n ↔ 0 < (putOwned threads).count n := by
  rw [List.count_pos_iff]
  unfold reserved putOwned
  rw [List.mem_flatMap]
  constructor
  · rintro ⟨k, v, b, hm⟩; exact ⟨_, hm, by simp [putOwn]⟩
  · rintro ⟨pc, hm, hn⟩
    cases pc <;> simp [putOwn] at hn
    subst hn; exact ⟨_, _, _, hm⟩

theorem reserved_count {n : Nat} (h : reserved threads n) : 0 < (thrOwned threads).count n :=
  Nat.lt_of_lt_of_le (reserved_iff_count.mp h) (thrOwned_split (threads := threads) n ▸ Nat.le_add_right _ _)

theorem sessOwned_anti {i j : Nat} (hij : i ≤ j) (n : Nat) : (sessOwned sess j).count n ≤ (sessOwned sess i).count n := by
  unfold sessOwned
  have : sess.drop j = (sess.drop i).drop (j - i) := by rw [List.drop_drop]; congr 1; omega
  rw [this]
  conv => rhs; rw [← List.take_append_drop (j - i) (sess.drop i), List.flatMap_append, List.count_append]
  exact Nat.le_add_left _ _

theorem protC_le_ownC {tok : Nat} (hfs : fs ≤ tok) (n : Nat) :
    protC store threads gcJobs sess tok n + (putOwned threads).count n ≤ ownC store threads gcJobs sess fs frJobs n := by
  have := sessOwned_anti (sess := sess) hfs n
  have := thrOwned_split (threads := threads) n
  unfold protC ownC sessfr; omega

end NitroVerif.MvccConc
