/-
  The invariant is preserved by the writers: `start t put k v` and PUT_INSERT; `start t del k`, DEL_NODE_PHYS,
  DEL_NODE_FLUSH, DEL_NODE_CAS, and a `Delete2` that gives its token back.  A step that branches is read
  off its outcome (`MvccConcOutcome`); the six parts of `Inv` come from the transfer lemmas.
-/
import NitroVerif.Lemmas.MvccConcOutcome
import NitroVerif.Lemmas.MvccConcPcProt
import NitroVerif.Lemmas.MvccConcFields

namespace NitroVerif.MvccConc
open NitroVerif.Mvcc (isAlive)

variable {threads : List Pc} {store : List Node} {gcJobs : List GcJob} {sess : List Sess} {fs nextId : Nat}
  {frJobs : List FrJob} {allocd freed bad : List Blk}

theorem OwnInv.alloc_item
    (hown : OwnInv store threads gcJobs sess fs frJobs nextId allocd freed bad) {t : Nat} {pc0 : Pc}
    (ht : threads[t]? = some pc0) (ho : pcOwn pc0 = []) (k v b : Nat) :
    OwnInv store (threads.set t (.putInsert nextId k v b)) gcJobs sess fs frJobs (nextId + 1)
      (allocd ++ [.item nextId]) freed bad := by
  refine ⟨hown.toOwnBooks.alloc_item (fun m => ?_) (reserved_set_put_iff ht (putOwn_of_pcOwn ho)), hown.bad⟩
  have := ownC_set (store := store) (gcJobs := gcJobs) (sess := sess) (fs := fs) (frJobs := frJobs) ht
    (.putInsert nextId k v b) m
  rw [ho] at this
  exact this

theorem inv_startPut {σ : State} {t k v : Nat} (h : Inv σ) (ht : σ.threads[t]? = some .idle)
    (hw : t < σ.writers.length) : Inv (startPut σ t k v).1 := by
  unfold startPut
  have hres : ∀ m, m < σ.nextId → reserved (σ.threads.set t (.putInsert σ.nextId k v σ.currSn)) m →
      reserved σ.threads m := fun m hm hr =>
    ((reserved_set_put_iff ht rfl m).mp hr).elim id fun he => absurd hm (he ▸ Nat.lt_irrefl _)
  refine inv_iff.mpr ?_
  simp only [mvcc_fields]
  exact ⟨h.store.ids_mono (Nat.le_succ _) hres,
    h.pc.set (Nat.le_succ _) hres .refl ⟨hw, rfl⟩
      (by intro _ _ he; cases he),
    h.garb, h.own.alloc_item ht rfl k v σ.currSn, h.tok.set_tok_same ht rfl,
    h.prot.set_plain ht rfl rfl⟩

theorem OwnInv.put_reject
    (hown : OwnInv store threads gcJobs sess fs frJobs nextId allocd freed bad) {t n k v b : Nat}
    (ht : threads[t]? = some (.putInsert n k v b)) :
    OwnInv store (threads.set t .idle) gcJobs sess fs frJobs nextId (allocd ++ [.node n])
      (freed ++ [.node n] ++ [.item n]) bad := by
  have hres : reserved threads n := ⟨k, v, b, List.mem_of_getElem? ht⟩
  have hr := hown.reserved_put_idle ht
  have h1 := hown.toOwnBooks.alloc_node hres hr
  have hc : ∀ m, ownC store (threads.set t .idle) gcJobs sess fs frJobs m + [n].count m =
      ownC store threads gcJobs sess fs frJobs m := fun m => ownC_set ht .idle m
  have hnr : ∀ m ∈ [n], ¬ reserved (threads.set t .idle) m := fun m hm hr' => ((hr m).mp hr').2 (List.mem_singleton.mp hm)
  obtain ⟨_, hl⟩ := h1.freeable hc hnr
  have ⟨_, _, hi, hn⟩ := hl n (List.mem_singleton_self n)
  refine ⟨h1.free hc hnr (fun b => ?_) ?_, hown.bad⟩
  · simp only [blocksOf, List.flatMap_cons, List.flatMap_nil, List.mem_append, List.mem_cons,
      List.not_mem_nil, or_false]
    exact ⟨fun h => h.elim (fun h => h.elim Or.inl fun h => Or.inr (Or.inr h)) fun h => Or.inr (Or.inl h),
      fun h => h.elim (fun h => Or.inl (Or.inl h)) fun h => h.elim Or.inr fun h => Or.inl (Or.inr h)⟩
  · refine nodup_concat (nodup_concat hown.f_nodup hn) fun ha => ?_
    rcases List.mem_append.mp ha with ha | ha
    · exact hi ha
    · cases List.mem_singleton.mp ha

theorem OwnInv.put_link (hown : OwnInv store threads gcJobs sess fs frJobs nextId allocd freed bad) {t n k v b : Nat}
    (ht : threads[t]? = some (.putInsert n k v b)) {x : Node} (hx : x.id = n) :
    OwnInv (insertN store x) (threads.set t .idle) gcJobs sess fs frJobs nextId (allocd ++ [.node n]) freed bad := by
  have hr := hown.reserved_put_idle ht
  refine ⟨(hown.toOwnBooks.alloc_node ⟨k, v, b, List.mem_of_getElem? ht⟩ hr).congr (fun m => ?_) fun _ => Iff.rfl, hown.bad⟩
  exact move_21 (hx ▸ count_storeIds_insertN store x m) (count_flatMap_set_shrink pcOwn m ht (L := [n]) rfl)

theorem StoreInv.insert {store unl : List Node} {cur : Nat} {items items' : Int} {writers writers' : List Writer}
    {snaps : List Snap} {threads threads' : List Pc} {nextId : Nat}
    (h : StoreInv store unl cur items writers snaps threads nextId) {n k v : Nat}
    (hno : ∀ y ∈ vers store, y.key = k → y.dead ≠ 0) (hn : n < nextId) (hres : reserved threads n)
    (hnres' : ¬ reserved threads' n) (hr : ∀ m, reserved threads' m → reserved threads m)
    (hcnt : items' + (writers'.map (·.count)).sum =
      (((vers (insertN store ⟨⟨k, v, cur, 0⟩, n⟩)).filter isAlive).length : Nat)) :
    StoreInv (insertN store ⟨⟨k, v, cur, 0⟩, n⟩) unl cur items' writers' snaps threads' nextId := by
  have hn_store : n ∉ storeIds store := by
    intro hm
    obtain ⟨y, hy, he⟩ := List.mem_map.mp hm
    exact (h.id_lt y hy).2 (he ▸ hres)
  refine ⟨?_, ?_, hcnt, h.cur_pos, ?_, ?_, ?_, h.snaps_inc, h.snaps_lt, h.rc_dead⟩
  · rw [vers_insertN]
    exact Mvcc.sorted_insertAt h.sorted _ (Mvcc.no_same_id_of_no_alive h.chains k v hno)
  · rw [vers_insertN]
    exact Mvcc.chains_insertAt h.chains k v hno
  · rw [List.nodup_iff_count]
    intro m
    rw [count_storeIds_insertN, List.count_singleton]
    have h1 := (List.nodup_iff_count.mp h.ids) m
    by_cases he : n = m
    · subst he
      have : (storeIds store).count n = 0 := List.count_eq_zero.mpr hn_store
      simp [this]
    · simp [he]; exact h1
  · intro x hx
    have := h.unl x hx
    refine ⟨?_, this.2.1, fun hr' => this.2.2 (hr _ hr')⟩
    intro hm
    obtain ⟨y, hy, he⟩ := List.mem_map.mp hm
    rcases mem_insertN.mp hy with rfl | hy
    · simp only at he; exact this.2.2 (he ▸ hres)
    · exact this.1 (List.mem_map.mpr ⟨y, hy, he⟩)
  · intro x hx
    rcases mem_insertN.mp hx with rfl | hx
    · exact ⟨hn, hnres'⟩
    · have := h.id_lt x hx
      exact ⟨this.1, fun hr' => this.2 (hr _ hr')⟩

theorem inv_stepPut {σ : State} {t n k v b : Nat} (h : Inv σ) (ht : σ.threads[t]? = some (.putInsert n k v b)) :
    Inv (stepPut σ t n k v b).1 := by
  have hidle : Pc.plain .idle := trivial
  obtain ⟨hw, hb, hcases⟩ := stepPut_outcome h ht
  subst hb
  have hres_n : reserved σ.threads n := ⟨k, v, σ.currSn, List.mem_of_getElem? ht⟩
  have hnd := h.own.node n
  have hnres' : ¬ reserved (σ.threads.set t .idle) n := fun hr =>
    ((h.own.reserved_put_idle ht n).mp hr).2 rfl
  have hn_lt : n < σ.nextId := hnd.lt (hnd.res hres_n)
  have hitem_nf : Blk.item n ∉ σ.freed := fun hm => Nat.ne_of_gt (hnd.res hres_n) (hnd.f_item.mp hm).2
  have hnode_nf : Blk.node n ∉ σ.freed := fun hm => Nat.ne_of_gt (hnd.res hres_n) (hnd.f_node.mp hm).2
  rcases hcases with ⟨y, _, e⟩ | ⟨hl, e⟩
  · rw [e]
    have e1 : (free (alloc σ (.node n)) (.node n)).freed = σ.freed ++ [.node n] ∧
        (free (alloc σ (.node n)) (.node n)).bad = σ.bad ∧
        (free (alloc σ (.node n)) (.node n)).allocd = σ.allocd ++ [.node n] :=
      free_live (σ := alloc σ (.node n)) (by simp) (by simpa using hnode_nf)
    have e2 := free_live (σ := free (alloc σ (.node n)) (.node n)) (b := .item n)
      (by rw [e1.2.2]; exact List.mem_append_left _ (hnd.a_item.mpr hn_lt)) (by rw [e1.1]; simp [hitem_nf])
    refine inv_iff.mpr ?_
    simp only [mvcc_fields, e2.1, e2.2.1, e2.2.2, e1.1, e1.2.1, e1.2.2]
    exact ⟨h.store.set_not_put t rfl, h.pc.set_plain t hidle, h.garb, h.own.put_reject ht,
      h.tok.set_tok_same ht rfl, h.prot.set_plain ht rfl rfl⟩
  · rw [e]
    have hst := h.store
    have hlook : Mvcc.lookup (vers σ.store) ⟨k, v, σ.currSn, 0⟩ = none := by
      rw [← lookupN_map, hl]; rfl
    have hno : ∀ y ∈ vers σ.store, y.key = k → y.dead ≠ 0 := by
      rw [Mvcc.lookup_eq_aliveOf hst.sorted hst.chains] at hlook
      exact Mvcc.aliveOf_none hlook
    refine inv_iff.mpr ?_
    simp only [mvcc_fields]
    refine ⟨?_, ?_, ?_, h.own.put_link ht rfl, h.tok.set_tok_same ht rfl, ?_⟩
    · refine hst.insert hno hn_lt hres_n hnres' (fun _ hr => reserved_set_of_not_put rfl hr) ?_
      rw [alive_insertN _ _ rfl, sum_updWriter 1 (fun _ => rfl) hw]
      have := hst.cnt
      push_cast; omega
    · rw [updWriter_length]
      refine h.pc.set (Nat.le_refl _) (fun m _ hr => reserved_set_of_not_put rfl hr) ⟨?_, fun x hx => Or.inl hx⟩
        trivial (by intro _ _ he; cases he)
      intro x hx
      rcases mem_insertN.mp hx with rfl | hx
      · exact Or.inl hres_n
      · exact Or.inr ⟨x, hx, rfl, rfl, rfl⟩
    · have hg := garbC_updWriter_same (w := t) (f := fun x => { x with count := x.count + 1 }) (fun _ => rfl)
        σ.writers σ.snaps σ.gcJobs
      exact h.garb.mono (fun m => Nat.le_of_eq (hg m)) (fun y hy _ => mem_insertN.mpr (Or.inr hy)) (Nat.le_refl _)
        h.garb.jobs
    · refine h.prot.set (fun m tok => ?_) (fun _ _ hr => nomatch hr)
      unfold protC flushOwned
      rw [count_flatMap_set_same flushOwn m ht (b := .idle) rfl]
      exact grow_1 (count_storeIds_insertN σ.store ⟨⟨k, v, σ.currSn, 0⟩, n⟩ m)

theorem inv_release_thr {σ : State} {t tok : Nat} {pc0 : Pc} (h : Inv σ) (ht : σ.threads[t]? = some pc0)
    (htok : pc0.tok = some tok) (hown0 : pcOwn pc0 = []) : Inv (setPc (release σ tok (.thr t)) t .idle) :=
  inv_release (iters' := σ.iters) h ht hown0 (h.tok.toTokPre.release_thr ht htok rfl) fun _ _ _ hm _ => Or.inl hm

/-- `Acquire` then `Release` on the current session gives the state back: the holder list is as before, and
    `cleanup` finds nothing to destruct because it was at its fixpoint (`TokInv.fix`) -/
theorem startDel_none_state {σ : State} {t k : Nat} (h : Inv σ) (ht : σ.threads[t]? = some .idle)
    (hl : lookupN σ.store (probe σ k 0) = none) : (startDel σ t k).1 = σ := by
  unfold startDel
  simp only [hl]
  obtain ⟨c, _, hci, _, _⟩ := h.tok.toTokPre.last
  have hn : Holder.thr t ∉ c.holders := by
    intro hm
    obtain ⟨pc, hpc, htk⟩ := (h.tok.conv _ c hci).2 _ hm
    rw [ht] at hpc; injection hpc with h1; subst h1; simp [Pc.tok] at htk
  have hsess : relSess (acqSess σ.sess (.thr t)) (curTok σ) (.thr t) = σ.sess := relSess_acqSess hci hn
  unfold release cleanup
  simp only [acquire_sess', hsess, acquire_freeSeq, acquire_frJobs, readySess_nil h.tok.fix]
  cases σ; simp [newFrJobs, acquire]

theorem inv_startDel {σ : State} {t k : Nat} (h : Inv σ) (ht : σ.threads[t]? = some .idle)
    (hw : t < σ.writers.length) : Inv (startDel σ t k).1 := by
  rcases startDel_outcome h t k with ⟨hl, _⟩ | ⟨x, _, hxm, hxk, _, hcase⟩
  · rw [startDel_none_state h ht hl]; exact h
  have hst := h.store
  have hxid := hst.id_lt x hxm
  have key : ∀ pc' : Pc, pc'.tok = some (curTok σ) → pcOwn pc' = [] →
      (∀ sn a, pc' ≠ Pc.collectSend sn a) →
      (∀ n tok, pc'.ref = some (n, tok) → n = x.id) →
      PcAt σ.writers.length σ.currSn σ.store σ.unlinked σ.nextId σ.gcFlag σ.snaps (σ.threads.set t pc') t pc' →
      Inv (setPc (acquire σ (.thr t)) t pc') := by
    intro pc' htok hown' hnc hkind hat
    have hnp := putOwn_of_pcOwn hown'
    have hfl' := flushOwn_of_pcOwn hown'
    refine inv_iff.mpr ?_
    simp only [mvcc_fields]
    refine ⟨h.store.set_not_put t hnp, ?_, h.garb, ?_, ?_, ?_⟩
    · exact h.pc.set (Nat.le_refl _) (fun m _ hr => reserved_set_of_not_put hnp hr)
        .refl hat (fun sn a he => absurd he (hnc sn a))
    · refine h.own.congr ?_ (reserved_set_iff ht rfl hnp)
      intro n
      rw [← ownC_set_same (pc' := pc') ht (by rw [hown']; rfl) n]
      unfold ownC; rw [sessfr_acquire]
    · refine h.tok.acquire ?_ (fun t' j it hm => Or.inl hm) h.tok.keys ?_ ?_ ?_
      · intro t' pc tk hg htk
        rcases getElem?_set_cases hg with ⟨he1, he2⟩ | ⟨_, hg'⟩
        · subst he2; subst he1
          rw [htok] at htk; injection htk with h1
          exact Or.inr ⟨rfl, h1.symm⟩
        · exact Or.inl hg'
      · intro i hd hc
        refine claims_set_ne (fun he => ?_) hc
        subst he
        obtain ⟨pc, hpc, htk⟩ := hc
        rw [ht] at hpc; injection hpc with h1; subst h1; simp [Pc.tok] at htk
      · exact ⟨pc', getElem?_set_same ht, htok⟩
      · rintro i ⟨pc, hpc, htk⟩
        rw [ht] at hpc; injection hpc with h1; subst h1; simp [Pc.tok] at htk
    · refine h.prot.set (fun n tok => ?_) fun n tok hr => ?_
      · unfold protC flushOwned
        rw [sessOwned_acqSess, count_flatMap_set_same flushOwn n ht hfl']
        exact Nat.le_refl _
      · rw [hkind n tok hr]
        exact Prot.of_store (mem_storeIds hxm)
  have huniq : ∀ y ∈ σ.store, y.id = x.id → y = x := fun y hy he => id_unique hst.ids hy hxm he
  rcases hcase with ⟨hborn, e⟩ | ⟨hborn, e⟩
  · rw [e]
    refine key _ rfl rfl (by intros; simp) (fun _ _ hr => by cases hr; rfl)
      ⟨hw, hxid.1, fun hr => hxid.2 (reserved_set_of_not_put rfl hr), ?_⟩
    intro y hy hyid
    rw [huniq y hy hyid]; exact ⟨hxk, hborn⟩
  · rw [e]
    refine key _ rfl rfl (by intros; simp) (fun _ _ hr => by cases hr; rfl)
      ⟨hw, hxid.1, fun hr => hxid.2 (reserved_set_of_not_put rfl hr), ?_, ?_⟩
    · intro y hy hyid
      rw [huniq y hy hyid]; exact ⟨hxk, hborn⟩
    · intro y hy hyid
      exact absurd (hyid ▸ mem_storeIds hxm) (hst.unl y hy).1

theorem inv_stepDelPhys {σ : State} {t n tok k : Nat} (h : Inv σ) (ht : σ.threads[t]? = some (.delPhys n tok k)) :
    Inv (stepDelPhys σ t n tok k).1 := by
  obtain ⟨hw, ⟨x, hf, _, hxb, hxd, e⟩ | ⟨_, e⟩⟩ := stepDelPhys_outcome h ht
  · rw [e]
    have ⟨hx, hid⟩ := findNode_some hf
    have hst := h.store
    have hgarb0 : garbC σ.writers σ.snaps σ.gcJobs n = 0 :=
      hid ▸ h.garb.not_garbage hst.ids hx (Or.inl hxd)
    have h1 := count_storeIds_removeNode hst.ids hf
    have h2 := fun m => count_flatMap_set_grow pcOwn m (b := .delFlush n tok k) (L := [n]) ht rfl
    have h3 := fun m => count_flatMap_set_grow flushOwn m (b := .delFlush n tok k) (L := [n]) ht rfl
    refine inv_iff.mpr ?_
    simp only [mvcc_fields]
    refine ⟨?_, ?_, ?_, ?_, h.tok.set_tok_same ht rfl, ?_⟩
    · refine (hst.remove hf ?_).set_not_put t rfl
      have := alive_removeNode hst.sorted hst.ids hf
      simp only [hxd, if_true] at this
      rw [sum_updWriter (-1) (fun _ => by simp; omega) hw]
      have hc := hst.cnt
      omega
    · rw [updWriter_length]
      refine h.pc.set (Nat.le_refl _) (fun m _ hm => reserved_set_of_not_put rfl hm)
        ⟨fun y hy => Or.inr ⟨y, (mem_removeNode.mp hy).1, rfl, rfl, rfl⟩, ?_⟩ trivial (by intro _ _ he; cases he)
      intro y hy
      rcases List.mem_append.mp hy with hy | hy
      · exact Or.inl hy
      · rw [List.mem_singleton.mp hy]; exact Or.inr (Or.inr ⟨hx, hxb⟩)
    · have hg := garbC_updWriter_same (w := t) (f := fun y => { y with count := y.count - 1 }) (fun _ => rfl)
        σ.writers σ.snaps σ.gcJobs
      exact h.garb.remove (fun m => Nat.le_of_eq (hg m)) (by rw [hg, hgarb0]) h.garb.jobs
    · refine h.own.congr (fun m => ?_) (reserved_set_iff ht rfl rfl)
      exact move_12 (h1 m) (h2 m)
    · exact h.prot.set (fun m tk => Nat.le_of_eq (move_12 (h1 m) (h3 m)).symm) (fun _ _ hr => nomatch hr)
  · rw [e]
    exact inv_release_thr h ht rfl rfl

theorem inv_stepDelFlush {σ : State} {t n tok k : Nat} (h : Inv σ) (ht : σ.threads[t]? = some (.delFlush n tok k)) :
    Inv (stepDelFlush σ t n tok).1 := by
  unfold stepDelFlush
  have hidle : Pc.plain .idle := trivial
  have hpre1 := (h.tok.toTokPre.flush [n]).cleanup
  obtain ⟨c, hc, _, _, hcl⟩ := h.tok.toTokPre.last
  have h2 := fun m => count_flatMap_set_shrink pcOwn m (b := .idle) (L := [n]) ht rfl
  have h3 := fun m => count_flatMap_set_shrink flushOwn m (b := .idle) (L := [n]) ht rfl
  refine inv_iff.mpr ?_
  simp only [mvcc_fields]
  refine ⟨h.store.set_not_put t rfl, h.pc.set_plain t hidle, h.garb, ?_, ?_, ?_⟩
  · refine h.own.congr (fun m => ?_) (reserved_set_iff ht rfl rfl)
    exact move_24 (h2 m) ((sessfr_release ..).trans (sessfr_flush h.tok.toTokPre ..))
  · exact (hpre1.toTokPre.release_thr ht rfl rfl).cleanup
  · refine h.prot.mono_thr h.tok.toTokPre (ref_of_set rfl) fun m tk htk => ?_
    refine Nat.le_of_eq (move_24 (h3 m) ?_).symm
    rw [sessOwned_relSess, sessOwned_flushSess htk hc hcl]

theorem StoreInv.markDead {store unl : List Node} {cur : Nat} {items items' : Int} {writers writers' : List Writer}
    {snaps : List Snap} {threads : List Pc} {nextId : Nat}
    (h : StoreInv store unl cur items writers snaps threads nextId) {n : Nat} {x : Node}
    (hf : findNode store n = some x) (hd : x.ver.dead = 0) (hb : x.ver.born < cur)
    (hcnt : items' + (writers'.map (·.count)).sum =
      (((vers (markDeadNode store n cur)).filter isAlive).length : Nat)) :
    StoreInv (markDeadNode store n cur) unl cur items' writers' snaps threads nextId := by
  have hids := storeIds_markDeadNode store n cur
  have hv := vers_markDeadNode h.sorted h.ids hf (sn := cur)
  refine ⟨?_, ?_, hcnt, h.cur_pos, by rw [hids]; exact h.ids, ?_, ?_, h.snaps_inc, h.snaps_lt, h.rc_dead⟩
  · rw [hv]; exact Mvcc.sorted_markDead h.sorted _ _
  · rw [hv]
    exact Mvcc.chains_markDead h.sorted h.chains (List.mem_map.mpr ⟨x, (findNode_some hf).1, rfl⟩) hd hb
  · intro y hy
    have := h.unl y hy
    exact ⟨by rw [hids]; exact this.1, this.2⟩
  · intro y hy
    obtain ⟨z, hz, hyz, _⟩ := mem_markDeadNode hy
    rw [hyz]; exact h.id_lt z hz

theorem inv_casWin_store {σ : State} {t n tok k : Nat} {x : Node} (h : Inv σ)
    (ht : σ.threads[t]? = some (.delCas n tok k)) (hf : findNode σ.store n = some x) (hd : x.ver.dead = 0) :
    Inv { σ with store := markDeadNode σ.store n σ.currSn,
                 writers := updWriter t (fun y => { count := y.count - 1, gc := y.gc ++ [n] }) σ.writers } := by
  have ⟨hx, hid⟩ := findNode_some hf
  have hst := h.store
  have ⟨hw, hnlt, hnres, hnode, hunl⟩ := h.pc.at ht
  have ⟨hxk, hxb⟩ := hnode x hx hid
  have hcur : σ.currSn ≠ 0 := by have := hst.cur_pos; omega
  have hgarb0 : garbC σ.writers σ.snaps σ.gcJobs n = 0 := hid ▸ h.garb.not_garbage hst.ids hx (Or.inl hd)
  have hids := storeIds_markDeadNode σ.store n σ.currSn
  refine inv_iff.mpr ?_
  simp only [mvcc_fields]
  refine ⟨?_, ?_, ?_, ?_, h.tok, ?_⟩
  · refine hst.markDead hf hd hxb ?_
    rw [sum_updWriter (-1) (fun _ => by simp; omega) hw]
    have h1 := alive_markDeadNode hst.sorted hst.ids hf hd hcur
    have h2 := hst.cnt
    omega
  · rw [updWriter_length]
    refine h.pc.mono (Nat.le_refl _) ⟨?_, fun y hy => Or.inl hy⟩
    intro y hy
    obtain ⟨z, hz, hyz, hk, _, hb, _⟩ := mem_markDeadNode hy
    exact Or.inr ⟨z, hz, hyz.symm, hk.symm, hb.symm⟩
  · refine h.garb.add (n := n) (fun m => ?_) hgarb0 (fun y hy hne => mem_markDeadNode_of_ne hy hne)
      ⟨_, mem_markDeadNode_self hx hid, hid, hcur, hxb⟩ h.garb.jobs
    unfold garbC
    rw [garbW_updWriter_app (w := t) (f := fun y => { count := y.count - 1, gc := y.gc ++ [n] }) (g0 := n)
      (fun _ => rfl) hw m, Nat.add_right_comm _ ([n].count m) ((garbS σ.snaps).count m),
      Nat.add_right_comm _ ([n].count m) ((garbJ σ.gcJobs).count m)]
  · refine h.own.congr ?_ (fun _ => Iff.rfl)
    intro m
    unfold ownC; rw [hids]
  · refine h.prot.mono h.tok.toTokPre fun m tk _ => ?_
    unfold protC; rw [hids]; exact Nat.le_refl _

theorem inv_stepDelCas {σ : State} {t n tok k : Nat} (h : Inv σ) (ht : σ.threads[t]? = some (.delCas n tok k)) :
    Inv (stepDelCas σ t n tok).1 := by
  obtain ⟨_, ⟨x, hf, _, _, hd, e⟩ | ⟨_, e⟩⟩ := stepDelCas_outcome h ht
  · rw [e]
    exact inv_release_thr (inv_casWin_store h ht hf hd) ht rfl rfl
  · rw [e]
    exact inv_release_thr h ht rfl rfl

end NitroVerif.MvccConc
