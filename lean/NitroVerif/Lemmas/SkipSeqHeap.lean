import NitroVerif.Lemmas.SkipSeqList
/-!
  Frame lemmas for the pointer heap of M3: what `setNext`, `dcasNext` and allocation change and what
  they leave alone; `compare` on keys, the integer key `ikey`; `SameShape` (only link words differ).
-/
namespace NitroVerif.SkipSeq

/-- number of link slots of node `n` (0 for a pointer outside the heap) -/
def nextLen (h : Heap) (n : Nat) : Nat :=
  match h[n]? with
  | some nd => nd.next.length
  | none => 0

theorem length_setNext (h : Heap) (n l : Nat) (v : Nat × Bool) : (setNext h n l v).length = h.length := by
  unfold setNext; split <;> simp

theorem getElem?_setNext (h : Heap) (n l : Nat) (v : Nat × Bool) (m : Nat) :
    (setNext h n l v)[m]? =
      (h[m]?).map fun nd => if n = m then { nd with next := nd.next.set l v } else nd := by
  unfold setNext
  cases hn : h[n]? with
  | none =>
    by_cases e : n = m
    · subst e; simp [hn]
    · cases h[m]? <;> simp [e]
  | some nd =>
    simp only [List.getElem?_set]
    by_cases e : n = m
    · subst e; rcases List.getElem?_eq_some_iff.mp hn with ⟨hlt, rfl⟩; simp [hlt]
    · cases h[m]? <;> simp [e]

theorem setNext_getElem?_ne (h : Heap) (n l m : Nat) (v : Nat × Bool) (hm : n ≠ m) :
    (setNext h n l v)[m]? = h[m]? := by
  rw [getElem?_setNext]; cases h[m]? <;> simp [hm]

theorem getNext_setNext_same {h : Heap} {n l : Nat} {v : Nat × Bool} (hl : l < nextLen h n) :
    getNext (setNext h n l v) n l = v := by
  unfold nextLen at hl
  unfold getNext
  rw [getElem?_setNext]
  cases hn : h[n]? with
  | none => simp [hn] at hl
  | some nd => rw [hn] at hl; simp [List.getD_eq_getElem?_getD, hl]

theorem getNext_setNext_ne {h : Heap} {n l m j : Nat} {v : Nat × Bool} (hne : n ≠ m ∨ l ≠ j) :
    getNext (setNext h n l v) m j = getNext h m j := by
  unfold getNext
  rw [getElem?_setNext]
  cases h[m]? with
  | none => rfl
  | some nd =>
    by_cases hnm : n = m
    · have hlj : l ≠ j := hne.resolve_left (fun h1 => h1 hnm)
      simp [hnm, List.getD_eq_getElem?_getD, hlj]
    · simp [hnm]

theorem keyOf_setNext (h : Heap) (n l : Nat) (v : Nat × Bool) (m : Nat) :
    keyOf (setNext h n l v) m = keyOf h m := by
  simp only [keyOf, getElem?_setNext]
  cases h[m]? with
  | none => rfl
  | some nd => simp only [Option.map_some]; split <;> rfl

theorem levelOf_setNext (h : Heap) (n l : Nat) (v : Nat × Bool) (m : Nat) :
    levelOf (setNext h n l v) m = levelOf h m := by
  simp only [levelOf, getElem?_setNext]
  cases h[m]? with
  | none => rfl
  | some nd => simp only [Option.map_some]; split <;> rfl

theorem nextLen_setNext (h : Heap) (n l : Nat) (v : Nat × Bool) (m : Nat) :
    nextLen (setNext h n l v) m = nextLen h m := by
  simp only [nextLen, getElem?_setNext]
  cases h[m]? with
  | none => rfl
  | some nd => simp only [Option.map_some]; split <;> simp

theorem getNext_setNext {h : Heap} {n l m j : Nat} {v : Nat × Bool} (hl : l < nextLen h n) :
    getNext (setNext h n l v) m j = if n = m ∧ l = j then v else getNext h m j := by
  by_cases hc : n = m ∧ l = j
  · rcases hc with ⟨rfl, rfl⟩
    simp [getNext_setNext_same hl]
  · rw [if_neg hc]
    apply getNext_setNext_ne
    by_cases h1 : n = m
    · right; intro h2; exact hc ⟨h1, h2⟩
    · left; exact h1

theorem getNext_append_old {h : Heap} {nd : Node} {n : Nat} (hn : n < h.length) (l : Nat) :
    getNext (h ++ [nd]) n l = getNext h n l := by
  unfold getNext; simp [List.getElem?_append, hn]

theorem keyOf_append_old {h : Heap} {nd : Node} {n : Nat} (hn : n < h.length) :
    keyOf (h ++ [nd]) n = keyOf h n := by
  unfold keyOf; simp [List.getElem?_append, hn]

theorem levelOf_append_old {h : Heap} {nd : Node} {n : Nat} (hn : n < h.length) :
    levelOf (h ++ [nd]) n = levelOf h n := by
  unfold levelOf; simp [List.getElem?_append, hn]

theorem nextLen_append_old {h : Heap} {nd : Node} {n : Nat} (hn : n < h.length) :
    nextLen (h ++ [nd]) n = nextLen h n := by
  unfold nextLen; simp [List.getElem?_append, hn]

theorem keyOf_append_new (h : Heap) (nd : Node) : keyOf (h ++ [nd]) h.length = nd.key := by
  unfold keyOf; simp

theorem levelOf_append_new (h : Heap) (nd : Node) : levelOf (h ++ [nd]) h.length = nd.level := by
  unfold levelOf; simp

theorem nextLen_append_new (h : Heap) (nd : Node) : nextLen (h ++ [nd]) h.length = nd.next.length := by
  unfold nextLen; simp

theorem getNext_append_new (h : Heap) (nd : Node) (l : Nat) :
    getNext (h ++ [nd]) h.length l = nd.next.getD l (0, false) := by
  unfold getNext; simp

theorem ne_of_three_le {a c : Nat} (h : 3 ≤ a) (hc : c < 3) : a ≠ c :=
  fun e => absurd (e ▸ h) (Nat.not_le.mpr hc)

theorem dcasNext_ok {h : Heap} {n l p q : Nat} {d : Bool} (hp : getNext h n l = (p, false)) :
    dcasNext h n l p q d = (setNext h n l (q, d), true) := by
  unfold dcasNext; simp [hp]

theorem dcasNext_fail {h : Heap} {n l p q : Nat} {d : Bool} (hp : getNext h n l ≠ (p, false)) :
    dcasNext h n l p q d = (h, false) := by
  unfold dcasNext; simp [hp]

/-- integer carried by a node (0 for the sentinels) -/
def ikey (h : Heap) (n : Nat) : Int :=
  match keyOf h n with
  | .item k => k
  | _ => 0

theorem compare_item_item (a b : Int) : compare (.item a) (.item b) = a - b := by
  simp [compare, cmpItem]

theorem compare_max_item (b : Int) : compare .max (.item b) = 1 := by
  simp [compare]

theorem compare_min_item (b : Int) : compare .min (.item b) = -1 := by
  simp [compare]

theorem ikey_of_keyOf {h : Heap} {n : Nat} {k : Int} (hk : keyOf h n = .item k) : ikey h n = k := by
  unfold ikey; rw [hk]

theorem ikey_congr {h h' : Heap} {n : Nat} (hk : keyOf h' n = keyOf h n) : ikey h' n = ikey h n := by
  unfold ikey; rw [hk]

/-- `h` has the cells of `h0`, with the same keys, heights and slot counts; only link words may
    differ.  Every loop of the model that stores into the heap keeps this relation to its start. -/
structure SameShape (h0 h : Heap) : Prop where
  len : h.length = h0.length
  key : ∀ m, keyOf h m = keyOf h0 m
  lvl : ∀ m, levelOf h m = levelOf h0 m
  nlen : ∀ m, nextLen h m = nextLen h0 m

theorem SameShape.refl (h : Heap) : SameShape h h := ⟨rfl, fun _ => rfl, fun _ => rfl, fun _ => rfl⟩

theorem SameShape.trans {a b c : Heap} (h1 : SameShape a b) (h2 : SameShape b c) : SameShape a c :=
  ⟨h2.len.trans h1.len, fun m => (h2.key m).trans (h1.key m), fun m => (h2.lvl m).trans (h1.lvl m),
   fun m => (h2.nlen m).trans (h1.nlen m)⟩

theorem SameShape.setNext {h0 h : Heap} (sh : SameShape h0 h) (n l : Nat) (v : Nat × Bool) :
    SameShape h0 (setNext h n l v) :=
  ⟨(length_setNext h n l v).trans sh.len, fun m => (keyOf_setNext h n l v m).trans (sh.key m),
   fun m => (levelOf_setNext h n l v m).trans (sh.lvl m), fun m => (nextLen_setNext h n l v m).trans (sh.nlen m)⟩

theorem SameShape.map_key_level {h0 h : Heap} (sh : SameShape h0 h) :
    h.map (fun nd => (nd.key, nd.level)) = h0.map (fun nd => (nd.key, nd.level)) := by
  apply List.ext_getElem (by rw [List.length_map, List.length_map, sh.len])
  intro m h1 h2
  rw [List.length_map] at h1 h2
  have hk := sh.key m
  have hl := sh.lvl m
  simp only [keyOf, levelOf, List.getElem?_eq_getElem h1, List.getElem?_eq_getElem h2] at hk hl
  rw [List.getElem_map, List.getElem_map, hk, hl]

theorem SameShape.ikey {h0 h : Heap} (sh : SameShape h0 h) (m : Nat) : ikey h m = ikey h0 m :=
  ikey_congr (sh.key m)

theorem SameShape.ikey_eq {h0 h : Heap} (sh : SameShape h0 h) : SkipSeq.ikey h = SkipSeq.ikey h0 := funext sh.ikey

end NitroVerif.SkipSeq
