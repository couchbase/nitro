/-
  Refinement, iterator operations and the Visitor: the cursor of the model after a call, mapped to items, is the
  position the specification computes on the recorded content, which is what the store shows at the iterator's
  snapshot number.  Then all operations together (`step_refines`, `run_refines`).
-/
import NitroVerif.Lemmas.MvccSimSnap
import NitroVerif.Lemmas.MvccSpecLemmas

namespace NitroVerif.Mvcc
open SetSpec

theorem alookup_iters (σ : State) (i : Nat) :
    alookup i (abs σ).iters = (alookup i σ.iters).map fun it => ⟨it.sn, it.cur.map Ver.item⟩ :=
  alookup_map absIter absIter_fst i σ.iters

theorem abs_setIter (σ : State) (i : Nat) {it it' : Iter} (hsn : it'.sn = it.sn) {c : Option Item}
    (hc : it'.cur.map Ver.item = c) :
    (abs (setIter σ i it').1, (setIter σ i it').2) =
      ({ abs σ with iters := aset i ⟨it.sn, c⟩ (abs σ).iters }, Out.cursor c) := by
  subst hc
  refine Prod.ext (state_ext rfl rfl rfl rfl rfl ?_ rfl) rfl
  rw [← hsn]
  exact map_aset absIter absIter_fst i it' σ.iters

theorem IterCtx.contentOf {σ : State} (h : Inv σ) {it : Iter} {x : Snap} (c : IterCtx σ it x) :
    contentOf (abs σ) it.sn = (vis σ.store it.sn).map Ver.item := by
  rw [contentOf_abs c.find, content_items h c.find (Int.ne_of_gt c.rc)]

theorem refines_iter {σ : State} {i : Nat} {A : SetSpec.Iter → SetSpec.State × Out} {B : Iter → State × Out}
    (h : ∀ it, alookup i σ.iters = some it → A ⟨it.sn, it.cur.map Ver.item⟩ = (abs (B it).1, (B it).2)) :
    (match alookup i (abs σ).iters with
      | some it => A it
      | none => (abs σ, Out.bad)) =
    (abs (match alookup i σ.iters with | some it => B it | none => (σ, Out.bad)).1,
     (match alookup i σ.iters with | some it => B it | none => (σ, Out.bad)).2) := by
  rw [alookup_iters]
  cases hi : alookup i σ.iters with
  | none => rfl
  | some it => exact h it hi

theorem sim_itNew (σ : State) (i s : Nat) : Refines σ (.itNew i s) := by
  unfold Refines
  rw [SetSpec.step, step]
  rw [findSnap_abs, alookup_iters]
  cases findSnap s σ.snaps with
  | none => rfl
  | some x =>
    cases alookup i σ.iters with
    | some it => rfl
    | none =>
      refine refines_refuse rfl fun _ => Prod.ext (state_ext rfl rfl rfl rfl ?_ ?_ rfl) rfl
      · exact (updSnap_abs s _ _ (fun _ => rfl) σ.snaps).symm
      · exact (map_aset absIter absIter_fst i (newIter s 0) σ.iters).symm

theorem sim_itRate (σ : State) (i : Nat) (r : Int) : Refines σ (.itRate i r) := by
  unfold Refines
  simp only [SetSpec.step, step]
  refine refines_iter fun it hi => ?_
  refine Prod.ext (state_ext rfl rfl rfl rfl rfl ?_ rfl) rfl
  simp only [abs]
  rw [map_aset absIter absIter_fst i { it with rate := r } σ.iters]
  exact (aset_same ((alookup_iters σ i).trans (congrArg (Option.map _) hi))).symm

theorem sim_itFirst {σ : State} (h : Inv σ) (i : Nat) : Refines σ (.itFirst i) := by
  unfold Refines
  simp only [SetSpec.step, step]
  refine refines_iter fun it hi => ?_
  obtain ⟨x, c⟩ := iter_ctx h hi
  simp only
  rw [c.contentOf h]
  exact (abs_setIter σ i (seekFirst_sn ..) (by rw [seekFirst_cur, List.head?_map])).symm

theorem sim_itSeek {σ : State} (h : Inv σ) (i k : Nat) : Refines σ (.itSeek i k) := by
  unfold Refines
  simp only [SetSpec.step, step]
  refine refines_iter fun it hi => ?_
  obtain ⟨x, c⟩ := iter_ctx h hi
  simp only
  rw [c.contentOf h]
  exact (abs_setIter σ i (seek_sn ..) (by rw [seek_cur h.sorted]; unfold seekIn; rw [List.find?_map]; rfl)).symm

theorem sim_itNext {σ : State} (h : Inv σ) (i : Nat) : Refines σ (.itNext i) := by
  unfold Refines
  simp only [SetSpec.step, step]
  refine refines_iter fun it hi => ?_
  obtain ⟨x, c⟩ := iter_ctx h hi
  cases hc : it.cur with
  | none => rfl
  | some v =>
    obtain ⟨v', hv', hn⟩ := c.cur v hc
    simp only [Option.map_some]
    rw [c.contentOf h]
    exact (abs_setIter σ i (next_sn ..) (by
      rw [next_cur h.sorted h.chains hc hv' hn]; unfold nextIn; rw [List.find?_map]; rfl)).symm

theorem sim_itRefresh {σ : State} (h : Inv σ) (i : Nat) : Refines σ (.itRefresh i) := by
  unfold Refines
  simp only [SetSpec.step, step]
  refine refines_iter fun it hi => ?_
  obtain ⟨x, c⟩ := iter_ctx h hi
  have hc : (it.refresh σ.store).cur.map Ver.item = it.cur.map Ver.item := by
    cases hc : it.cur with
    | none => rw [refresh_none _ hc, hc]
    | some v =>
      obtain ⟨v', hv', hn⟩ := c.cur v hc
      rw [refresh_cur h.sorted h.chains hc hv' hn]
      exact congrArg some (congrArg Ver.item hn : v'.norm.item = v.norm.item)
  rw [abs_setIter σ i (refresh_sn ..) hc]
  -- the entry written back is the one that was there
  refine Prod.ext (state_ext rfl rfl rfl rfl rfl ?_ rfl) rfl
  exact (aset_same ((alookup_iters σ i).trans (congrArg (Option.map _) hi))).symm

theorem sim_itClose {σ : State} (h : Inv σ) (i : Nat) : Refines σ (.itClose i) := by
  unfold Refines
  rw [SetSpec.step, step]
  refine refines_iter fun it hi => ?_
  obtain ⟨x, c⟩ := iter_ctx h hi
  simp only [c.find]
  refine Prod.ext ?_ rfl
  show _ = abs (closeSnap { σ with iters := aerase i σ.iters } it.sn x.rc)
  rw [abs_closeSnap h c.find (aerase i σ.iters) (close_iter h hi c.find)]
  exact state_ext rfl rfl rfl rfl rfl (map_aerase absIter absIter_fst i σ.iters).symm rfl

theorem any_key_iff (l : List Ver) (fk : Nat) :
    (l.map Ver.item).any (fun it => it.1 == fk) = true ↔ ∃ v ∈ l, v.key = fk := by
  simp [List.any_eq_true, Ver.item]

theorem sim_visit {σ : State} (h : Inv σ) (s : Nat) (pivots : List Nat) (rate : Int) (fail : Option Nat) :
    Refines σ (.visit s pivots rate fail) := by
  unfold Refines
  simp only [SetSpec.step, step]
  rw [findSnap_abs]
  cases hx : findSnap s σ.snaps with
  | none => rfl
  | some x =>
    refine refines_refuse rfl fun (hrc : x.rc ≠ 0) => ?_
    rw [withRef_eq σ s hrc]
    have hci := content_items h hx hrc
    simp only [absSnap, hci]
    have hks := vis_keySorted h.sorted h.chains s
    have hok : (∀ v ∈ vis σ.store s, fail ≠ some v.key) →
        (if (visitor σ.store s rate fail (pivots.map (fun k => ⟨k, 0, 0, 0⟩))).2 = true then Out.visitErr
         else Out.visit (partOk (visitor σ.store s rate fail (pivots.map (fun k => ⟨k, 0, 0, 0⟩))).1)
           ((visitor σ.store s rate fail (pivots.map (fun k => ⟨k, 0, 0, 0⟩))).1.flatten.map Ver.item)) =
        Out.visit true ((vis σ.store s).map Ver.item) := by
      intro hnf
      have ⟨h1, h2⟩ := visitor_ok h.sorted h.chains s rate fail (pivots.map (fun k => ⟨k, 0, 0, 0⟩)) hnf
      rw [h2, if_neg Bool.false_ne_true, partOk, h1, ascending_of_keySorted hks]
    cases fail with
    | none => exact Prod.ext rfl (hok fun _ _ => nofun).symm
    | some fk =>
      dsimp only
      by_cases hany : ((vis σ.store s).map Ver.item).any (fun it => it.1 == fk) = true
      · rw [if_pos hany]
        refine Prod.ext rfl ?_
        dsimp only
        rw [visitor_err h.sorted h.chains s rate fk _ ((any_key_iff _ fk).mp hany), if_pos rfl]
      · rw [if_neg hany]
        refine Prod.ext rfl (hok fun v hv hfk => hany ?_).symm
        exact (any_key_iff _ fk).mpr ⟨v, hv, (Option.some.inj hfk).symm⟩

theorem step_refines {σ : State} (h : Inv σ) (op : Op) : Refines σ op := by
  cases op with
  | put w k v => exact sim_put h w k v
  | del w k => exact sim_del h w k
  | get w k => exact sim_get h w k
  | getnode w k hn => exact sim_getnode h w k hn
  | delnode w hn => exact sim_delnode h w hn
  | snap => exact sim_snap h
  | «open» s => exact sim_open σ s
  | close s => exact sim_close h s
  | count s => exact sim_count h s
  | items => exact sim_items
  | scan s rate => exact sim_scan h s rate
  | itNew i s => exact sim_itNew σ i s
  | itRate i r => exact sim_itRate σ i r
  | itFirst i => exact sim_itFirst h i
  | itSeek i k => exact sim_itSeek h i k
  | itNext i => exact sim_itNext h i
  | itRefresh i => exact sim_itRefresh h i
  | itClose i => exact sim_itClose h i
  | visit s pivots rate fail => exact sim_visit h s pivots rate fail

theorem run_refines (ops : List Op) {σ : State} (h : Inv σ) : run σ ops = SetSpec.run (abs σ) ops := by
  induction ops generalizing σ with
  | nil => rfl
  | cons op ops ih =>
    have hs : SetSpec.step (abs σ) op = _ := step_refines h op
    rw [run, SetSpec.run, hs, ih (inv_step h op)]

theorem model_content_fixed {σ : State} (h : Inv σ) (op : Op) {s : Snap} (hs : s ∈ σ.snaps) :
    ∃ s' ∈ (step σ op).1.snaps, s'.sn = s.sn ∧ s'.content.map Ver.item = s.content.map Ver.item := by
  have hx : absSnap s ∈ (abs σ).snaps := List.mem_map.mpr ⟨s, hs, rfl⟩
  obtain ⟨x', hx', h1, h2⟩ := spec_content_stable (abs σ) op hx
  rw [step_refines h op] at hx'
  obtain ⟨s', hs', rfl⟩ := List.mem_map.mp hx'
  exact ⟨s', hs', h1, h2⟩

end NitroVerif.Mvcc
