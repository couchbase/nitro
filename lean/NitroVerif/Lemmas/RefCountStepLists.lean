import NitroVerif.Lemmas.RefCountInv
/-!
  Preservation of `Inv` by the steps that write the collector flag or one of the two lists: try-lock, unlock, the
  two list operations of `Close`, the collector's send.
-/
namespace NitroVerif.RefCount

theorem inv_tryLockOk {cfg : Cfg} {st : St} {i : Nat} (h : Inv cfg st)
    (hi : st.ths[i]? = some .gcTryLock) (hf : st.flag = false) :
    Inv cfg (setT { st with flag := true } i .collectRead) := by
  refine inv_setT_flag h hi trivial (fun _ => rfl) (fun _ => rfl) (fun _ => rfl) ?_
    (fun hg hm => (cnt_set_eq uResp .collectRead hi rfl).symm ▸ h.resp hg hm)
  have e : cnt uCrit (st.ths.set i .collectRead) + 0 = cnt uCrit st.ths + 1 :=
    cnt_set uCrit st.ths i _ .collectRead hi
  have hx := h.excl
  rw [hf] at hx
  rw [hx] at e
  exact e

theorem inv_unlock {cfg : Cfg} {st : St} {i : Nat} {pc' : PC} (h : Inv cfg st)
    (hi : st.ths[i]? = some .gcUnlock) (hok : PCok st pc') (hresp : cfg.fixedGC = true → uResp pc' = 1)
    (hdec : ∀ s, uDec s pc' = 0 := by intro; rfl) (hret : ∀ s, uRet s pc' = 0 := by intro; rfl)
    (hret2 : ∀ s, uRet2 s pc' = 0 := by intro; rfl) (hcrit : uCrit pc' = 0 := by rfl) :
    Inv cfg (setT { st with flag := false } i pc') := by
  refine inv_setT_flag h hi hok hdec hret hret2 ?_
    (fun hg hm => (cnt_set_eq uResp pc' hi (hresp hg)).symm ▸ h.resp hg hm)
  -- the thread itself is inside the critical section, so it is the one holder of the flag
  have e := cnt_set uCrit st.ths i _ pc' hi
  have hge := cnt_ge uCrit st.ths i _ hi
  have hx := h.excl
  rw [hcrit] at e
  cases hfl : st.flag with
  | true => rw [hfl] at hx; exact Nat.add_right_cancel (e.trans hx)
  | false => rw [hfl] at hx; rw [hx] at hge; exact absurd hge (by decide)

theorem inv_closeRetire1 {cfg : Cfg} {st : St} {i s : Nat} (h : Inv cfg st)
    (hi : st.ths[i]? = some (.closeRetire s)) :
    Inv cfg (setT { st with live := st.live.erase s } i (.closeRetire2 s)) := by
  obtain ⟨h1, h2⟩ := h.pcs i _ hi
  exact { h with
  count := fun s' h1' h2' => by
    show _ = _ + ((cnt (uDec s') (st.ths.set i (.closeRetire2 s)) : Nat) : Int)
    rw [cnt_set_eq (uDec s') (.closeRetire2 s) hi rfl]; exact h.count s' h1' h2'
  retire := fun s' h1' h2' => by
    -- the unit moves from `uRet s'` to `uRet2 s'` if `s' = s`: both weights unfold to `if s = s' then …`
    exact retire_after_shift (h.retire s' h1' h2') (cnt_set (uRet s') st.ths i _ (.closeRetire2 s) hi)
      (cnt_set (uRet2 s') st.ths i _ (.closeRetire2 s) hi)
  pcs := pcs_move h.pcs rfl rfl rfl (fun _ a => a) ⟨h1, h2⟩
  live_iff := fun s' => by
    show s' ∈ st.live.erase s ↔ (_ ∧ _ ∧ _ ∧ cnt (uRet2 s') (st.ths.set i (.closeRetire2 s)) = 0)
    rw [mem_erase_sorted h.live_sorted]
    have e2 := cnt_set (uRet2 s') st.ths i _ (.closeRetire2 s) hi
    by_cases e' : s = s'
    · subst e'
      rw [uRet2_self, show uRet2 s (.closeRetire s) = 0 from rfl] at e2
      exact ⟨fun hx => absurd rfl hx.1, fun hx => by have := hx.2.2.2; omega⟩
    · rw [cnt_set_eq _ _ hi (uRet2_ne e')]
      exact ⟨fun hx => (h.live_iff s').mp hx.2, fun hx => ⟨fun a => e' a.symm, (h.live_iff s').mpr hx⟩⟩
  live_sorted := h.live_sorted.erase s
  excl := (cnt_set_eq uCrit (.closeRetire2 s) hi rfl).trans h.excl
  resp := fun hg hm => (cnt_set_eq uResp (.closeRetire2 s) hi rfl).symm ▸ h.resp hg hm }

theorem inv_closeRetire2 {cfg : Cfg} {st : St} {i s : Nat} (h : Inv cfg st)
    (hi : st.ths[i]? = some (.closeRetire2 s)) :
    Inv cfg (setT { setS st s { getS st s with retired := (getS st s).retired + 1 } with
                      dead := dinsert s st.dead } i .closeGC) := by
  obtain ⟨h1, h2⟩ := h.pcs i _ hi
  -- the closer is the one unit of the retire clause of `s`
  obtain ⟨hz, hr0, _, _, hgt⟩ := h.between h1 h2
    (Nat.lt_of_lt_of_le Nat.one_pos ((uRet2_self s) ▸ cnt_ge (uRet2 s) st.ths i _ hi))
  have hr := h.retire s h1 h2
  rw [if_pos hz] at hr
  have e2 : ∀ s', cnt (uRet2 s') (st.ths.set i .closeGC) + uRet2 s' (.closeRetire2 s) =
      cnt (uRet2 s') st.ths + 0 := fun s' => cnt_set (uRet2 s') st.ths i _ .closeGC hi
  have hlen : (setAt st.snaps s { getS st s with retired := (getS st s).retired + 1 }).length =
      st.snaps.length := length_setAt _ _ _
  exact { h with
  count := fun s' h1' h2' => by
    show (getS (setS st s _) s').refs = ((getS (setS st s _) s').held : Int) +
      ((cnt (uDec s') (st.ths.set i .closeGC) : Nat) : Int)
    rw [cnt_set_eq (uDec s') .closeGC hi rfl, proj_setS Snap.refs st h1 h2 (fun e => e ▸ rfl),
      proj_setS Snap.held st h1 h2 (fun e => e ▸ rfl)]
    exact h.count s' h1' (hlen ▸ h2')
  retire := fun s' h1' h2' => by
    show (getS (setS st s _) s').retired + cnt (uRet s') (st.ths.set i .closeGC) +
      cnt (uRet2 s') (st.ths.set i .closeGC) = if (getS (setS st s _) s').refs = 0 then 1 else 0
    rw [cnt_set_eq (uRet s') .closeGC hi rfl]
    have := e2 s'
    by_cases e : s = s'
    · subst e
      rw [getS_setS_self st s _ h1 h2]
      show (getS st s).retired + 1 + _ + _ = if (getS st s).refs = 0 then 1 else 0
      rw [uRet2_self] at this
      rw [if_pos hz]; exact retire_after_insert hr this
    · rw [getS_setS_ne st _ e]
      rw [uRet2_ne e] at this
      rw [Nat.add_right_cancel this]; exact h.retire s' h1' (hlen ▸ h2')
  pcs := pcs_move h.pcs rfl hlen rfl (fun x hx => (mem_dinsert s x _).mpr (Or.inr hx)) trivial
  place := fun s' h1' h2' => by
    show (getS (setS st s _) s').retired = 1 ↔ (s' ∈ dinsert s st.dead ∨ s' ≤ st.lastGCSn)
    rw [mem_dinsert]
    by_cases e : s = s'
    · subst e
      rw [getS_setS_self st s _ h1 h2]
      exact ⟨fun _ => Or.inl (Or.inl rfl), fun _ => congrArg (· + 1) hr0⟩
    · rw [getS_setS_ne st _ e, h.place s' h1' (hlen ▸ h2')]
      exact ⟨fun hx => hx.elim (fun a => Or.inl (Or.inr a)) Or.inr,
        fun hx => hx.elim (fun a => a.elim (fun b => absurd b.symm e) Or.inl) Or.inr⟩
  live_iff := fun s' => by
    show s' ∈ st.live ↔ (1 ≤ s' ∧ s' ≤ (setAt st.snaps s _).length ∧
      (getS (setS st s _) s').retired = 0 ∧ cnt (uRet2 s') (st.ths.set i .closeGC) = 0)
    rw [hlen]
    have := e2 s'
    by_cases e : s = s'
    · subst e
      rw [getS_setS_self st s _ h1 h2]
      rw [uRet2_self] at this
      exact ⟨fun hx => by have := ((h.live_iff s).mp hx).2.2.2; omega,
        fun hx => absurd hx.2.2.1 (Nat.succ_ne_zero _)⟩
    · rw [uRet2_ne e] at this
      rw [getS_setS_ne st _ e, Nat.add_right_cancel this]; exact h.live_iff s'
  dead_valid := fun s' hs' => by
    show 1 ≤ s' ∧ s' ≤ (setAt st.snaps s _).length ∧ st.lastGCSn < s'
    rw [hlen]
    rcases (mem_dinsert s s' _).mp hs' with rfl | hs'
    · exact ⟨h1, h2, hgt⟩
    · exact h.dead_valid s' hs'
  gc_le := hlen ▸ h.gc_le
  dead_sorted := pairwise_dinsert s _ h.dead_sorted
  excl := (cnt_set_eq uCrit .closeGC hi rfl).trans h.excl
  resp := fun _ _ => by
    have : cnt uResp (st.ths.set i .closeGC) + 0 = cnt uResp st.ths + 1 :=
      cnt_set uResp st.ths i _ .closeGC hi
    show 1 ≤ cnt uResp (st.ths.set i .closeGC)
    omega }

theorem inv_collectSend {cfg : Cfg} {st : St} {i s : Nat} (h : Inv cfg st)
    (hi : st.ths[i]? = some (.collectSend s)) :
    Inv cfg (setT { st with lastGCSn := s, sent := st.sent ++ [s], dead := st.dead.erase s } i
      .collectRead) := by
  obtain ⟨hs, hmem⟩ := h.pcs i _ hi
  obtain ⟨h1, h2, _⟩ := h.dead_valid s hmem
  have hk := h.records_kept (pc' := .collectRead)
    (st' := setT { st with lastGCSn := s, sent := st.sent ++ [s], dead := st.dead.erase s } i .collectRead)
    hi rfl rfl rfl (fun _ => rfl) (fun _ => rfl) (fun _ => rfl)
  exact { h with
  count := hk.1
  retire := hk.2.1
  pcs := fun j pcj hj => by
    rcases getElem?_set_cases hj with ⟨_, rfl⟩ | ⟨hne, hj'⟩
    · exact trivial
    · have hok := h.pcs j pcj hj'
      cases pcj with
      | collectSend s'' =>
        -- a second thread inside the critical section: with thread `i` taken out, thread `j` would
        -- still be counted, but the count was at most 1
        have e : cnt uCrit (st.ths.set i .idle) + 1 = cnt uCrit st.ths + 0 :=
          cnt_set uCrit st.ths i _ .idle hi
        have hge : 1 ≤ cnt uCrit (st.ths.set i .idle) :=
          cnt_ge uCrit _ j (.collectSend s'') (by rw [List.getElem?_set_ne hne]; exact hj')
        have hle : cnt uCrit st.ths ≤ 1 := by rw [h.excl]; cases st.flag <;> decide
        omega
      | _ => exact hok
  place := fun s' h1' h2' => by
    have := h.place s' h1' h2'
    show (getS st s').retired = 1 ↔ (s' ∈ st.dead.erase s ∨ s' ≤ s)
    rw [mem_erase_sorted h.dead_sorted, this]
    by_cases e : s' = s
    · subst e; exact ⟨fun _ => Or.inr (Nat.le_refl _), fun _ => Or.inl hmem⟩
    · exact ⟨fun hx => hx.elim (fun a => Or.inl ⟨e, a⟩)
          (fun a => Or.inr (Nat.le_trans a (hs ▸ Nat.le_succ _))),
        fun hx => hx.elim (fun a => Or.inl a.2)
          (fun a => Or.inr (Nat.le_of_lt_succ (Nat.lt_of_lt_of_eq (Nat.lt_of_le_of_ne a e) hs)))⟩
  live_iff := hk.2.2
  dead_valid := fun s' hs' => by
    have hs'' := (mem_erase_sorted h.dead_sorted s s').mp hs'
    obtain ⟨a, b, c⟩ := h.dead_valid s' hs''.2
    exact ⟨a, b, Nat.lt_of_le_of_ne (hs ▸ c) (Ne.symm hs''.1)⟩
  gc_le := h2
  dead_sorted := h.dead_sorted.erase s
  sent := by
    show st.sent ++ [s] = List.range' 1 s
    rw [h.sent, hs, List.range'_concat, Nat.one_mul, Nat.add_comm 1]
  excl := (cnt_set_eq uCrit .collectRead hi rfl).trans h.excl
  resp := fun _ _ => by
    have := cnt_ge uResp st.ths i _ hi
    show 1 ≤ cnt uResp (st.ths.set i .collectRead)
    rw [cnt_set_eq uResp .collectRead hi rfl]; exact this }

end NitroVerif.RefCount
