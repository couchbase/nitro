import NitroVerif.Gen.Guards
import NitroVerif.Lemmas.GuardsGen
/-!
  The generated constants M3 (`Model/SkipSeq.lean`) reads (`maxLevel`, the merge iterator's resets) and the call
  skeletons of the Go functions it transcribes; the guards of search, insertion and deletion are characterised in
  `Lemmas/GuardsGen.lean`.  A change of the Go source regenerates `Gen/Guards.lean` and breaks the lemma named here.
-/
namespace NitroVerif.SkipSeq

theorem maxLevel_eq : Gen.maxLevel = 32 := rfl

/-- `MergeIterator.SeekFirst` / `Seek` empty the heap before refilling it -/
theorem mergeSeekFirstResets_eq : Gen.mergeSeekFirstResets = true := rfl
theorem mergeSeekResets_eq : Gen.mergeSeekResets = true := rfl

theorem skeleton_findPath_ok : Gen.skeleton_findPath =
    ["atomic.LoadInt32(s.level)", "prev.getNext", "curr.getNext", "s.helpDelete", "prev.getNext", "curr.getNext"] := rfl
theorem skeleton_Insert4_ok :
    Gen.skeleton_Insert4 = ["s.findPath", "s.freeNode", "buf.preds[0].dcasNext", "x.getNext", "x.dcasNext",
      "next.getNext", "s.findPath", "buf.preds[i].dcasNext", "x.getNext", "s.findPath", "s.findPath"] := rfl
theorem skeleton_softDelete_ok : Gen.skeleton_softDelete =
    ["delNode.getNext", "delNode.dcasNext", "delNode.getNext"] := rfl
theorem skeleton_deleteNode_ok : Gen.skeleton_deleteNode = ["s.softDelete", "s.findPath"] := rfl
theorem skeleton_helpDelete_ok : Gen.skeleton_helpDelete = ["prev.dcasNext"] := rfl
theorem skeleton_SkiplistIteratorNext_ok : Gen.skeleton_SkiplistIteratorNext =
    ["it.curr.getNext", "atomic.AddUint64(it.s.Stats.readConflicts)", "it.Refresh"] := rfl

end NitroVerif.SkipSeq
