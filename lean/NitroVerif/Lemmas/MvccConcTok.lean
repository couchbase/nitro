/-
  The token invariant.  The abstract access barrier (`acquire`, `release`, `flush`, `cleanup`) entry by entry, and
  what `TokPre`/`TokInv` need to survive each of them; a change of the thread table or of an iterator's record that
  keeps the tokens; a `Delete2` that gives its token back.
-/
import NitroVerif.Lemmas.MvccConcBasic

namespace NitroVerif.MvccConc

variable {sess : List Sess} {threads : List Pc} {iters : List ((Nat × Nat) × Iter)} {fs : Nat}

theorem holders_modify_get {g : List Holder → List Holder} {j i : Nat} {s' : Sess}
    (hg : (sess.modify j (fun s => { s with holders := g s.holders }))[i]? = some s') :
    ∃ s, sess[i]? = some s ∧ s'.flushed = s.flushed ∧ s'.list = s.list ∧
      s'.holders = if j = i then g s.holders else s.holders := by
  obtain ⟨s, hs, rfl⟩ := getElem?_modify_some hg
  refine ⟨s, hs, ?_⟩
  by_cases he : j = i <;> simp [he]

theorem holders_modify_get_of (g : List Holder → List Holder) (j : Nat) {i : Nat} {s : Sess} (hg : sess[i]? = some s) :
    (sess.modify j (fun s => { s with holders := g s.holders }))[i]? =
      some { s with holders := if j = i then g s.holders else s.holders } := by
  rw [List.getElem?_modify, hg]
  by_cases he : j = i <;> simp [he]

theorem relSess_get {tok : Nat} {h : Holder} {i : Nat} {s' : Sess}
    (hg : (relSess sess tok h)[i]? = some s') :
    ∃ s, sess[i]? = some s ∧ s'.flushed = s.flushed ∧ s'.list = s.list ∧
      s'.holders = if tok = i then s.holders.erase h else s.holders :=
  holders_modify_get (g := (·.erase h)) hg

theorem relSess_get_of (tok : Nat) (h : Holder) {i : Nat} {s : Sess} (hg : sess[i]? = some s) :
    (relSess sess tok h)[i]? =
      some { s with holders := if tok = i then s.holders.erase h else s.holders } :=
  holders_modify_get_of (·.erase h) tok hg

theorem relSess_mem {tok : Nat} {h hd : Holder} {i : Nat} {s : Sess} (hs : sess[i]? = some s)
    (hm : hd ∈ s.holders) (hne : hd ≠ h) : ∃ s' : Sess, (relSess sess tok h)[i]? = some s' ∧ hd ∈ s'.holders := by
  refine ⟨_, relSess_get_of tok h hs, ?_⟩
  by_cases he : tok = i
  · simp only [he, if_true]; exact (List.mem_erase_of_ne hne).mpr hm
  · simp only [he, if_false]; exact hm

theorem relSess_length (sess : List Sess) (tok : Nat) (h : Holder) : (relSess sess tok h).length = sess.length := by
  unfold relSess; simp

theorem curTok_eq (σ : State) : curTok σ = σ.sess.length - 1 := rfl

theorem acqSess_get {h : Holder} {i : Nat} {s' : Sess}
    (hg : (acqSess sess h)[i]? = some s') :
    ∃ s, sess[i]? = some s ∧ s'.flushed = s.flushed ∧ s'.list = s.list ∧
      s'.holders = if sess.length - 1 = i then s.holders ++ [h] else s.holders :=
  holders_modify_get (g := (· ++ [h])) hg

theorem acqSess_get_of (h : Holder) {i : Nat} {s : Sess} (hg : sess[i]? = some s) :
    (acqSess sess h)[i]? =
      some { s with holders := if sess.length - 1 = i then s.holders ++ [h] else s.holders } :=
  holders_modify_get_of (· ++ [h]) _ hg

theorem acqSess_mem (h : Holder) {hd : Holder} {i : Nat} {s : Sess} (hs : sess[i]? = some s) (hm : hd ∈ s.holders) :
    ∃ s' : Sess, (acqSess sess h)[i]? = some s' ∧ hd ∈ s'.holders := by
  refine ⟨_, acqSess_get_of h hs, ?_⟩
  by_cases he : sess.length - 1 = i
  · simp only [he, if_true]; exact List.mem_append_left _ hm
  · simp only [he, if_false]; exact hm

theorem acqSess_length (sess : List Sess) (h : Holder) : (acqSess sess h).length = sess.length := by
  unfold acqSess; simp

theorem flushSess_length (sess : List Sess) (L : List Nat) : (flushSess sess L).length = sess.length + 1 := by
  unfold flushSess; simp

theorem flushSess_get {L : List Nat} {i : Nat} {s' : Sess}
    (hg : (flushSess sess L)[i]? = some s') :
    (i = sess.length ∧ s' = ⟨[], false, []⟩) ∨
    ∃ s, sess[i]? = some s ∧ s'.holders = s.holders ∧
      ((sess.length - 1 = i ∧ s'.flushed = true ∧ s'.list = L) ∨
       (sess.length - 1 ≠ i ∧ s'.flushed = s.flushed ∧ s'.list = s.list)) := by
  unfold flushSess at hg
  rw [List.getElem?_append, List.length_modify] at hg
  by_cases hi : i < sess.length
  · rw [if_pos hi] at hg
    obtain ⟨s, hs, rfl⟩ := getElem?_modify_some hg
    refine Or.inr ⟨s, hs, ?_⟩
    by_cases he : sess.length - 1 = i <;> simp [he]
  · rw [if_neg hi] at hg
    have hl := (List.getElem?_eq_some_iff.mp hg).1
    have h0 : i - sess.length = 0 := Nat.lt_one_iff.mp hl
    rw [h0] at hg
    exact Or.inl ⟨by omega, (Option.some.inj hg).symm⟩

theorem flushSess_get_of (L : List Nat) {i : Nat} {s : Sess} (hg : sess[i]? = some s) :
    ∃ s', (flushSess sess L)[i]? = some s' ∧ s'.holders = s.holders ∧
      (sess.length - 1 ≠ i → s'.list = s.list) ∧ (sess.length - 1 = i → s'.list = L) := by
  have hi : i < sess.length := (List.getElem?_eq_some_iff.mp hg).1
  unfold flushSess
  rw [List.getElem?_append]
  simp only [List.length_modify, hi, if_true]
  rw [List.getElem?_modify, hg]
  by_cases he : sess.length - 1 = i
  · exact ⟨{ s with flushed := true, list := L }, by simp [he], rfl, fun h => absurd he h, fun _ => rfl⟩
  · exact ⟨s, by simp [he], rfl, fun _ => rfl, fun h => absurd h he⟩

theorem TokPre.last (h : TokPre threads sess iters fs) :
    ∃ c, sess.getLast? = some c ∧ sess[sess.length - 1]? = some c ∧ c.flushed = false ∧ c.list = [] := by
  have hlt := h.lt
  have hne : sess.length - 1 < sess.length := by omega
  refine ⟨sess[sess.length - 1], ?_, List.getElem?_eq_getElem hne, ?_⟩
  · rw [List.getLast?_eq_getElem?, List.getElem?_eq_getElem hne]
  · have hf := h.flushed (sess.length - 1) _ (List.getElem?_eq_getElem hne)
    have hfl : sess[sess.length - 1].flushed = false := by
      cases hb : sess[sess.length - 1].flushed
      · rfl
      · have := hf.mp hb; omega
    exact ⟨hfl, h.nolist _ _ (List.getElem?_eq_getElem hne) hfl⟩

theorem TokPre.cleanup {threads : List Pc} {sess : List Sess} {iters : List ((Nat × Nat) × Iter)} {fs : Nat}
    (h : TokPre threads sess iters fs) : TokInv threads sess iters (fs + (readySess sess fs).length) := by
  obtain ⟨c, hc, hci, hcf, _⟩ := h.last
  have hlast : (sess.drop fs).getLast? = some c := by rw [getLast?_drop_of_lt _ _ h.lt]; exact hc
  have hterm : Sess.terminated c = false := by simp [Sess.terminated, hcf]
  have hlen := takeWhile_length_lt Sess.terminated (sess.drop fs) c hlast hterm
  simp only [List.length_drop] at hlen
  refine ⟨⟨h.thr, h.it, h.keys, ?_, ?_, h.flushed, h.nolist, h.conv⟩, ?_⟩
  · intro i s hi hs
    by_cases hlt : i < fs
    · exact h.destr i s hlt hs
    · have hd : (sess.drop fs)[i - fs]? = some s := by
        rw [List.getElem?_drop]; rw [show fs + (i - fs) = i by omega]; exact hs
      have := takeWhile_all Sess.terminated (sess.drop fs) (i - fs) s (by unfold readySess at hi; omega) hd
      simp [Sess.terminated] at this
      exact this.2
  · unfold readySess; omega
  · intro s hs
    have hd : (sess.drop fs)[((sess.drop fs).takeWhile Sess.terminated).length]? = some s := by
      rw [List.getElem?_drop]; exact hs
    exact takeWhile_stop Sess.terminated hd

theorem TokPre.release {threads threads' : List Pc} {sess : List Sess} {iters iters' : List ((Nat × Nat) × Iter)}
    {fs tok : Nat} {h : Holder} (hp : TokPre threads sess iters fs)
    (hthr : ∀ (t' : Nat) (pc : Pc) (tk : Nat), threads'[t']? = some pc → pc.tok = some tk →
              threads[t']? = some pc ∧ Holder.thr t' ≠ h)
    (hit : ∀ (t' j : Nat) (it : Iter), ((t', j), it) ∈ iters' → ((t', j), it) ∈ iters ∧ Holder.it t' j ≠ h)
    (hkeys : iters'.Pairwise (fun a b => a.1 ≠ b.1))
    (hcl : ∀ (i : Nat) (h' : Holder), h' ≠ h → claims threads iters i h' → claims threads' iters' i h')
    (huniq : ∀ i, claims threads iters i h → i = tok) :
    TokPre threads' (relSess sess tok h) iters' fs := by
  refine ⟨?_, ?_, hkeys, ?_, by rw [relSess_length]; exact hp.lt, ?_, ?_, ?_⟩
  · intro t' pc tk hg htk
    have ⟨hg', hne⟩ := hthr t' pc tk hg htk
    obtain ⟨s, hs, hm⟩ := hp.thr t' pc tk hg' htk
    exact relSess_mem hs hm hne
  · intro t' j it hm
    have ⟨hm', hne⟩ := hit t' j it hm
    obtain ⟨s, hs, hmem⟩ := hp.it t' j it hm'
    exact relSess_mem hs hmem hne
  · intro i s' hi hg
    obtain ⟨s, hs, _, _, hh⟩ := relSess_get hg
    have := hp.destr i s hi hs
    rw [hh, this]; simp
  · intro i s' hg
    obtain ⟨s, hs, hf, _, _⟩ := relSess_get hg
    rw [hf, relSess_length]; exact hp.flushed i s hs
  · intro i s' hg hfl
    obtain ⟨s, hs, hf, hl, _⟩ := relSess_get hg
    rw [hl]; exact hp.nolist i s hs (by rw [← hf]; exact hfl)
  · intro i s' hg
    obtain ⟨s, hs, _, _, hh⟩ := relSess_get hg
    have ⟨hnd, hcs⟩ := hp.conv i s hs
    rw [hh]
    by_cases he : tok = i
    · simp only [he, if_true]
      refine ⟨hnd.erase h, ?_⟩
      intro h' hm
      have := (List.Nodup.mem_erase_iff hnd).mp hm
      exact hcl i h' this.1 (hcs h' this.2)
    · simp only [he, if_false]
      refine ⟨hnd, ?_⟩
      intro h' hm
      have hne : h' ≠ h := by
        intro heq; subst heq
        exact he (huniq i (hcs h' hm)).symm
      exact hcl i h' hne (hcs h' hm)

theorem TokInv.acquire {threads threads' : List Pc} {sess : List Sess} {iters iters' : List ((Nat × Nat) × Iter)}
    {fs : Nat} {h : Holder} (hp : TokInv threads sess iters fs)
    (hthr : ∀ (t' : Nat) (pc : Pc) (tk : Nat), threads'[t']? = some pc → pc.tok = some tk →
              threads[t']? = some pc ∨ (Holder.thr t' = h ∧ tk = sess.length - 1))
    (hit : ∀ (t' j : Nat) (it : Iter), ((t', j), it) ∈ iters' →
              ((t', j), it) ∈ iters ∨ (Holder.it t' j = h ∧ it.tok = sess.length - 1))
    (hkeys : iters'.Pairwise (fun a b => a.1 ≠ b.1))
    (hcl : ∀ (i : Nat) (h' : Holder), claims threads iters i h' → claims threads' iters' i h')
    (hnew : claims threads' iters' (sess.length - 1) h)
    (hfresh : ∀ i, ¬ claims threads iters i h) :
    TokInv threads' (acqSess sess h) iters' fs := by
  obtain ⟨c, _, hci, hcf, _⟩ := hp.toTokPre.last
  refine ⟨⟨?_, ?_, hkeys, ?_, by rw [acqSess_length]; exact hp.lt, ?_, ?_, ?_⟩, ?_⟩
  · intro t' pc tk hg htk
    rcases hthr t' pc tk hg htk with hg' | ⟨he, htk'⟩
    · obtain ⟨s, hs, hm⟩ := hp.thr t' pc tk hg' htk
      exact acqSess_mem h hs hm
    · subst htk'
      refine ⟨_, acqSess_get_of h hci, ?_⟩
      simp [he]
  · intro t' j it hm
    rcases hit t' j it hm with hm' | ⟨he, htk'⟩
    · obtain ⟨s, hs, hmem⟩ := hp.it t' j it hm'
      exact acqSess_mem h hs hmem
    · rw [htk']
      refine ⟨_, acqSess_get_of h hci, ?_⟩
      simp [he]
  · intro i s' hi hg
    obtain ⟨s, hs, _, _, hh⟩ := acqSess_get hg
    have hlt := hp.lt
    have : sess.length - 1 ≠ i := by omega
    rw [hh]; simp only [this, if_false]
    exact hp.destr i s hi hs
  · intro i s' hg
    obtain ⟨s, hs, hf, _, _⟩ := acqSess_get hg
    rw [hf, acqSess_length]; exact hp.flushed i s hs
  · intro i s' hg hfl
    obtain ⟨s, hs, hf, hl, _⟩ := acqSess_get hg
    rw [hl]; exact hp.nolist i s hs (by rw [← hf]; exact hfl)
  · intro i s' hg
    obtain ⟨s, hs, _, _, hh⟩ := acqSess_get hg
    have ⟨hnd, hcs⟩ := hp.conv i s hs
    rw [hh]
    by_cases he : sess.length - 1 = i
    · simp only [he, if_true]
      constructor
      · exact nodup_concat hnd fun ha => hfresh i (hcs h ha)
      · intro h' hm
        rcases List.mem_append.mp hm with hm | hm
        · exact hcl i h' (hcs h' hm)
        · simp at hm; subst hm; rw [← he]; exact hnew
    · simp only [he, if_false]
      exact ⟨hnd, fun h' hm => hcl i h' (hcs h' hm)⟩
  · intro s' hg
    obtain ⟨s, hs, hf, _, hh⟩ := acqSess_get hg
    have := hp.fix s hs
    simp only [Sess.terminated, Bool.and_eq_false_iff] at this ⊢
    rcases this with h1 | h1
    · left; rw [hf]; exact h1
    · right
      rw [hh]; split
      · simp
      · exact h1

theorem TokPre.flush (hp : TokPre threads sess iters fs) (L : List Nat) : TokPre threads (flushSess sess L) iters fs := by
  have hlt := hp.lt
  refine ⟨?_, ?_, hp.keys, ?_, by rw [flushSess_length]; omega, ?_, ?_, ?_⟩
  · intro t' pc tk hg htk
    obtain ⟨s, hs, hm⟩ := hp.thr t' pc tk hg htk
    obtain ⟨s', hs', hh, _⟩ := flushSess_get_of L hs
    exact ⟨s', hs', by rw [hh]; exact hm⟩
  · intro t' j it hm
    obtain ⟨s, hs, hmem⟩ := hp.it t' j it hm
    obtain ⟨s', hs', hh, _⟩ := flushSess_get_of L hs
    exact ⟨s', hs', by rw [hh]; exact hmem⟩
  · intro i s' hi hg
    rcases flushSess_get hg with ⟨_, he⟩ | ⟨s, hs, hh, _⟩
    · subst he; rfl
    · rw [hh]; exact hp.destr i s hi hs
  · intro i s' hg
    rw [flushSess_length]
    rcases flushSess_get hg with ⟨hi, he⟩ | ⟨s, hs, _, ⟨hi, hf, _⟩ | ⟨hi, hf, _⟩⟩
    · subst he; simp; omega
    · have : i < sess.length := (List.getElem?_eq_some_iff.mp hs).1
      simp [hf]; omega
    · have := hp.flushed i s hs
      have hil : i < sess.length := (List.getElem?_eq_some_iff.mp hs).1
      rw [hf, this]; omega
  · intro i s' hg hfl
    rcases flushSess_get hg with ⟨_, he⟩ | ⟨s, hs, _, ⟨_, hf, _⟩ | ⟨_, hf, hl⟩⟩
    · subst he; rfl
    · rw [hf] at hfl; cases hfl
    · rw [hl]; exact hp.nolist i s hs (by rw [← hf]; exact hfl)
  · intro i s' hg
    rcases flushSess_get hg with ⟨_, he⟩ | ⟨s, hs, hh, _⟩
    · subst he; simp
    · rw [hh]; exact hp.conv i s hs

theorem relSess_acqSess {h : Holder} {c : Sess} (hc : sess[sess.length - 1]? = some c)
    (hn : h ∉ c.holders) : relSess (acqSess sess h) (sess.length - 1) h = sess := by
  apply List.ext_getElem?
  intro i
  cases hs : sess[i]? with
  | none =>
    have : sess.length ≤ i := List.getElem?_eq_none_iff.mp hs
    exact List.getElem?_eq_none_iff.mpr (by rw [relSess_length, acqSess_length]; exact this)
  | some s =>
    rw [relSess_get_of _ _ (acqSess_get_of h hs)]
    by_cases he : sess.length - 1 = i
    · subst he
      rw [hc] at hs; injection hs with h1; subst h1
      simp [List.erase_append_right _ hn]
    · simp [he]

theorem readySess_nil (hfix : ∀ s : Sess, sess[fs]? = some s → s.terminated = false) :
    readySess sess fs = [] := by
  unfold readySess
  cases hd : sess.drop fs with
  | nil => rfl
  | cons s r =>
    have : sess[fs]? = some s := by
      have := List.getElem?_drop (xs := sess) (i := fs) (j := 0)
      rw [hd] at this; simpa using this.symm
    simp [hfix s this]

theorem claims_set_ne {t : Nat} {pc' : Pc} {i : Nat} {h : Holder} (hne : h ≠ .thr t)
    (hc : claims threads iters i h) : claims (threads.set t pc') iters i h := by
  cases h with
  | it t' j => exact hc
  | thr t' =>
    exact hc.imp fun _ ⟨hpc, htk⟩ => ⟨by rw [List.getElem?_set_ne fun he => hne (by rw [he])]; exact hpc, htk⟩

theorem claims_iters_ne {iters' : List ((Nat × Nat) × Iter)} {k : Nat × Nat} {i : Nat} {h : Holder}
    (hne : h ≠ .it k.1 k.2) (hk : ∀ key it, (key, it) ∈ iters → key ≠ k → (key, it) ∈ iters')
    (hc : claims threads iters i h) : claims threads iters' i h := by
  cases h with
  | thr t => exact hc
  | it t j => exact hc.imp fun _ ⟨hm0, htk⟩ => ⟨hk _ _ hm0 fun he => hne (by rw [← he]), htk⟩

theorem claims_set_same {t : Nat} {pc0 pc' : Pc}
    (ht : threads[t]? = some pc0) (he : pc'.tok = pc0.tok) {i : Nat} {h : Holder}
    (hc : claims threads iters i h) : claims (threads.set t pc') iters i h := by
  by_cases hne : h = .thr t
  · subst hne
    obtain ⟨pc, hpc, htk⟩ := hc
    rw [ht] at hpc; injection hpc with h1; subst h1
    exact ⟨pc', getElem?_set_same ht, by rw [he]; exact htk⟩
  · exact claims_set_ne hne hc

theorem TokPre.set_tok_same (h : TokPre threads sess iters fs) {t : Nat} {pc0 pc' : Pc} (ht : threads[t]? = some pc0)
    (he : pc'.tok = pc0.tok) : TokPre (threads.set t pc') sess iters fs := by
  refine ⟨?_, h.it, h.keys, h.destr, h.lt, h.flushed, h.nolist, ?_⟩
  · intro t' pc tok hg htk
    rcases getElem?_set_cases hg with ⟨rfl, rfl⟩ | ⟨_, hg'⟩
    · exact h.thr t pc0 tok ht (by rw [← he]; exact htk)
    · exact h.thr t' pc tok hg' htk
  · intro i s hs
    exact ⟨(h.conv i s hs).1, fun hd hm => claims_set_same ht he ((h.conv i s hs).2 hd hm)⟩

theorem TokInv.set_tok_same (h : TokInv threads sess iters fs) {t : Nat} {pc0 pc' : Pc} (ht : threads[t]? = some pc0)
    (he : pc'.tok = pc0.tok) : TokInv (threads.set t pc') sess iters fs :=
  ⟨h.toTokPre.set_tok_same ht he, h.fix⟩

theorem TokInv.setIter_tok_same
    (h : TokInv threads sess iters fs) {k : Nat × Nat} {it it' : Iter} (hm : (k, it) ∈ iters)
    (he : it'.tok = it.tok) : TokInv threads sess (setIter k it' iters) fs := by
  refine ⟨⟨h.thr, ?_, setIter_pairwise h.keys, h.destr, h.lt, h.flushed, h.nolist, ?_⟩, h.fix⟩
  · intro t j it0 hm0
    rcases mem_setIter.mp hm0 with ⟨hm1, _⟩ | he0
    · exact h.it t j it0 hm1
    · injection he0 with h1 h2
      subst h2; subst h1
      rw [he]; exact h.it t j it hm
  · intro i s hs
    refine ⟨(h.conv i s hs).1, ?_⟩
    intro hd hmem
    have hc := (h.conv i s hs).2 hd hmem
    by_cases hk : hd = .it k.1 k.2
    · subst hk
      obtain ⟨it0, hm0, htk⟩ := hc
      have := iter_unique h.keys hm0 hm
      subst this
      exact ⟨it', mem_setIter.mpr (Or.inr rfl), by rw [he]; exact htk⟩
    · exact claims_iters_ne hk (fun _ _ hm hne => mem_setIter.mpr (Or.inl ⟨hm, hne⟩)) hc

theorem TokPre.release_thr
    (h : TokPre threads sess iters fs) {t tok : Nat} {pc0 pc' : Pc} (ht : threads[t]? = some pc0)
    (htok : pc0.tok = some tok) (hp' : pc'.tok = none) :
    TokPre (threads.set t pc') (relSess sess tok (.thr t)) iters fs := by
  refine h.release ?_ (fun t' j it hm => ⟨hm, by simp⟩) h.keys ?_ ?_
  · intro t' pc tk hg htk
    rcases getElem?_set_cases hg with ⟨_, he⟩ | ⟨hne, hg'⟩
    · rw [he, hp'] at htk; cases htk
    · exact ⟨hg', by intro he; injection he with h1; exact hne h1.symm⟩
  · exact fun i hd hne hc => claims_set_ne hne hc
  · rintro i ⟨pc, hpc, htk⟩
    rw [ht] at hpc; injection hpc with h1; subst h1
    rw [htok] at htk; injection htk with h2; exact h2.symm

end NitroVerif.MvccConc
