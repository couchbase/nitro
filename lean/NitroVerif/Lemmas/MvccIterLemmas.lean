/-
  Iterator positioning on a sorted store with `Chains`, expressed on the list of versions
  visible at the iterator's snapshot number (`vis s sn`).
-/
import NitroVerif.Lemmas.MvccStoreOps
import NitroVerif.Lemmas.KeyedList

namespace NitroVerif.Mvcc

def KeyLt (a b : Ver) : Prop := a.key < b.key

theorem visible_unique {cur : Nat} {s : List Ver} (hc : Chains cur s) {sn : Nat} {a b : Ver}
    (ha : a ∈ s) (hb : b ∈ s) (hva : visible sn a = true) (hvb : visible sn b = true)
    (hk : a.key = b.key) : a.born = b.born := by
  -- the older of two versions of a key died before the younger was born, so only one is visible
  have key : ∀ {a b : Ver}, a ∈ s → b ∈ s → visible sn a = true → visible sn b = true → a.key = b.key →
      ¬ a.born < b.born := fun {a b} ha hb hva hvb hk hlt =>
    have h1 := hc.2 a ha b hb hk hlt
    have h3 := (visible_iff sn a).mp hva
    have h4 := (visible_iff sn b).mp hvb
    h3.2.elim (fun h0 => h1.1 h0)
      (fun hlt' => Nat.lt_irrefl _ (Nat.lt_of_lt_of_le hlt' (Nat.le_trans h1.2 h4.1)))
  exact Nat.le_antisymm (Nat.not_lt.mp (key hb ha hvb hva hk.symm)) (Nat.not_lt.mp (key ha hb hva hvb hk))

theorem vis_keySorted {cur : Nat} {s : List Ver} (hs : Sorted s) (hc : Chains cur s) (sn : Nat) :
    (vis s sn).Pairwise KeyLt := by
  have h := List.Pairwise.filter (visible sn) hs
  apply List.Pairwise.imp_of_mem _ h
  intro a b ha hb hab
  have ha' := List.mem_filter.mp ha
  have hb' := List.mem_filter.mp hb
  unfold KeyLt
  unfold vlt at hab
  rcases hab with h1 | h1
  · exact h1
  · exact absurd (visible_unique hc ha'.1 hb'.1 ha'.2 hb'.2 h1.1) (Nat.ne_of_lt h1.2)

theorem norm_eq {a b : Ver} (h : a.norm = b.norm) : a.key = b.key ∧ a.born = b.born :=
  ⟨(congrArg Ver.key h : a.norm.key = b.norm.key), (congrArg Ver.born h : a.norm.born = b.norm.born)⟩

theorem norm_mem_view {store : List Ver} {sn : Nat} {w : Ver} (hw : w ∈ vis store sn) :
    w.norm ∈ view store sn := List.mem_map.mpr ⟨w, hw, rfl⟩

theorem of_norm_mem_view {store : List Ver} {sn : Nat} {v : Ver} (hv : v.norm ∈ view store sn) :
    ∃ v' ∈ vis store sn, v'.norm = v.norm :=
  List.mem_map.mp hv

theorem skipList_fst (sn : Nat) (l : List Ver) (c : Int) :
    (skipList sn l c).1 = (l.filter (visible sn)).head? := by
  induction l generalizing c with
  | nil => rfl
  | cons x xs ih =>
    unfold skipList
    by_cases h : Gen.skipUnwanted x.born x.dead sn = true
    · rw [if_pos h, ih, List.filter_cons_of_neg (by unfold visible; rw [h]; nofun)]
    · rw [if_neg h, List.filter_cons_of_pos (by unfold visible; rw [Bool.eq_false_iff.mpr h]; rfl)]; rfl

@[simp] theorem skipFrom_sn (it : Iter) (r : List Ver) (c : Int) : (it.skipFrom r c).sn = it.sn := rfl
@[simp] theorem skipFrom_rate (it : Iter) (r : List Ver) (c : Int) : (it.skipFrom r c).rate = it.rate := rfl
theorem skipFrom_cur (it : Iter) (r : List Ver) (c : Int) :
    (it.skipFrom r c).cur = (r.filter (visible it.sn)).head? := by
  unfold Iter.skipFrom; simp [skipList_fst]

theorem skipFrom_filter_cur (it : Iter) (s : List Ver) (q : Ver → Bool) (c : Int) :
    (it.skipFrom (s.filter q) c).cur = (vis s it.sn).find? q := by
  unfold vis
  rw [skipFrom_cur, List.head?_filter, List.find?_filter, List.find?_filter]
  exact find?_congr fun _ _ => decide_eq_decide.mpr And.comm

@[simp] theorem seekFirst_sn (s : List Ver) (it : Iter) : (it.seekFirst s).sn = it.sn := rfl
@[simp] theorem seek_sn (s : List Ver) (k : Nat) (it : Iter) : (it.seek s k).sn = it.sn := rfl
@[simp] theorem refresh_sn (s : List Ver) (it : Iter) : (it.refresh s).sn = it.sn := by
  unfold Iter.refresh; split <;> rfl
@[simp] theorem refresh_rate (s : List Ver) (it : Iter) : (it.refresh s).rate = it.rate := by
  unfold Iter.refresh; split <;> rfl
@[simp] theorem next_sn (s : List Ver) (it : Iter) : (it.next s).sn = it.sn := by
  unfold Iter.next; split
  · simp only; split <;> simp
  · rfl

theorem seekFirst_cur (s : List Ver) (it : Iter) : (it.seekFirst s).cur = (vis s it.sn).head? := by
  unfold Iter.seekFirst vis; rw [skipFrom_cur]

theorem seek_cur {s : List Ver} (hs : Sorted s) (k : Nat) (it : Iter) :
    (it.seek s k).cur = (vis s it.sn).find? (fun x => decide (k ≤ x.key)) := by
  unfold Iter.seek
  rw [seekRest_eq hs, skipFrom_filter_cur]

theorem refresh_none (s : List Ver) {it : Iter} (hc : it.cur = none) : it.refresh s = it := by
  unfold Iter.refresh
  rw [hc]

/-- `v` is the version the cursor holds, whose death mark may be stale; `v'` is the store's copy of it. -/
theorem refresh_cur {cur : Nat} {s : List Ver} (hs : Sorted s) (hc : Chains cur s) {it : Iter}
    {v v' : Ver} (hcur : it.cur = some v) (hv' : v' ∈ vis s it.sn) (hn : v'.norm = v.norm) :
    (it.refresh s).cur = some v' := by
  have hk := (norm_eq hn).1
  unfold Iter.refresh
  rw [hcur]
  simp only
  rw [seekRest_eq hs, skipFrom_filter_cur, ← hk]
  exact find_ge_self (vis_keySorted hs hc it.sn) hv'

theorem next_skip_cur {cur : Nat} {s : List Ver} (hs : Sorted s) (hc : Chains cur s) {it : Iter}
    {v v' : Ver} (hv' : v' ∈ vis s it.sn) (hn : v'.norm = v.norm) (c : Int) :
    (it.skipFrom (afterRest v s) c).cur = (vis s it.sn).find? (fun x => decide (v.key < x.key)) := by
  have ⟨hk, hb⟩ := norm_eq hn
  rw [afterRest_eq hs, skipFrom_filter_cur]
  refine find?_congr fun a ha => ?_
  have hv'' := List.mem_filter.mp hv'
  have ha' := List.mem_filter.mp ha
  -- `v'` is the visible version of its key, so a visible version after `v` has a larger key
  rw [Bool.eq_iff_iff, insLt_iff, decide_eq_true_eq]
  refine ⟨fun h1 => h1.elim id fun h => ?_, Or.inl⟩
  have := visible_unique hc hv''.1 ha'.1 hv''.2 ha'.2 (hk.trans h.1)
  exact absurd (hb ▸ this ▸ h.2) (Nat.lt_irrefl _)

theorem next_cur {cur : Nat} {s : List Ver} (hs : Sorted s) (hc : Chains cur s) {it : Iter}
    {v v' : Ver} (hcur : it.cur = some v) (hv' : v' ∈ vis s it.sn) (hn : v'.norm = v.norm) :
    (it.next s).cur = (vis s it.sn).find? (fun x => decide (v.key < x.key)) := by
  unfold Iter.next
  rw [hcur]
  simp only
  have h1 := next_skip_cur hs hc (it := it) hv' hn (it.count + 1)
  split
  · simp only
    cases h2 : (it.skipFrom (afterRest v s) (it.count + 1)).cur with
    | none => rw [refresh_none s h2, h2, ← h1, h2]
    | some w =>
      have hw : w ∈ vis s it.sn := by
        rw [h1] at h2; exact List.mem_of_find?_eq_some h2
      have := refresh_cur hs hc (it := it.skipFrom (afterRest v s) (it.count + 1)) h2
        (by simpa using hw) rfl
      rw [this, ← h1, h2]
  · exact h1

end NitroVerif.Mvcc
