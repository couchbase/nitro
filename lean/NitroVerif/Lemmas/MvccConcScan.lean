/-
  C01 along concurrent histories: a whole scan.  What a reader has been handed so far is, at every moment,
  the part of its snapshot's view at or below its cursor; when the scan has answered `end` it is the whole
  view.  Hence the keys handed out between two `it_first` are strictly increasing.
-/
import NitroVerif.Lemmas.MvccConcView
import NitroVerif.Lemmas.MvccConcDelivered

namespace NitroVerif.MvccConc
open NitroVerif.Mvcc (Ver)

structure Scanning (σ : State) (t i sn : Nat) (cur : Option Cur) (V : List Ver) : Prop where
  it_ex : ∃ it, findIter (t, i) σ.iters = some it ∧ it.sn = sn ∧ it.cur = cur
  view : viewOf σ sn = V
  open_ : closingB σ.threads (t, i) = false

theorem Scanning.keep {σ σ' : State} {t i sn : Nat} {cur : Option Cur} {V : List Ver} (hs : Scanning σ t i sn cur V)
    (hf : findIter (t, i) σ'.iters = findIter (t, i) σ.iters)
    (hc : closingB σ'.threads (t, i) = closingB σ.threads (t, i)) (hv : viewOf σ' sn = viewOf σ sn) :
    Scanning σ' t i sn cur V :=
  ⟨by rw [hf]; exact hs.it_ex, by rw [hv]; exact hs.view, by rw [hc]; exact hs.open_⟩

theorem scan_land {σ : State} {t i : Nat} {it : Iter} {land : Option Node} {pc0 pc' : Pc} {a : Act}
    (ht : σ.threads[t]? = some pc0) (hc : pc0.closes = none) (hpc : pc' = .idle ∨ pc' = .iterNext i)
    (hm : mine σ a t i = true) (he : step σ a = (landed σ t i it land pc', landResp it.sn land)) :
    Scanning (step σ a).1 t i it.sn (land.map curAt) (viewOf σ it.sn) ∧
      (endedBy σ a t i = true → land.map curAt = none) := by
  refine ⟨⟨?_, ?_, ?_⟩, ?_⟩
  · rw [he]; exact ⟨_, (findIter_landed ..).trans (if_pos rfl), rfl, rfl⟩
  · rw [he]; rfl
  · rw [he]
    show closingB (landed σ t i it land pc').threads (t, i) = false
    rw [closing_landed ht hc hpc, closingB_eq (k := (t, i)) ht, hc]; rfl
  · intro hend
    rw [(delivered_land hm he).2] at hend
    cases land with
    | none => rfl
    | some y => cases hend

theorem dead_or_scanning (σ : State) (t i : Nat) :
    Dead σ t i ∨ ∃ sn cur, Scanning σ t i sn cur (viewOf σ sn) := by
  cases hf : findIter (t, i) σ.iters with
  | none => left; intro it hit; rw [hf] at hit; cases hit
  | some it =>
    cases hc : closingB σ.threads (t, i)
    · right; exact ⟨it.sn, it.cur, ⟨it, hf, rfl, rfl⟩, rfl, hc⟩
    · left; intro it' _; exact Or.inr hc

theorem scan_step {nw nr : Nat} {σ : State} (hr : Reachable nw nr σ) {t i sn : Nat} {cur : Option Cur}
    {V : List Ver} (hs : Scanning σ t i sn cur V) (a : Act) (h1 : a ≠ .itFirst t i) :
    (∃ cur', Scanning (step σ a).1 t i sn cur' V ∧
        upTo V cur' = upTo V cur ++ (deliveredVerBy σ a t i).toList ∧
        (cur = none → cur' = none) ∧ (endedBy σ a t i = true → cur' = none)) ∨
      (a = .itClose t i ∧ Dead (step σ a).1 t i ∧ deliveredVerBy σ a t i = none) := by
  obtain ⟨it, hf, hsn, hcur⟩ := hs.it_ex
  cases touch_cases hr a t i h1 with
  | same e1 e2 hdel =>
    have hview : viewOf (step σ a).1 sn = viewOf σ sn :=
      view_step hr a (by rw [← hsn]; exact open_of_iter (rinv_reachable hr).iter (rinv_reachable hr).ref (findIter_some hf) hs.open_)
    exact Or.inl ⟨cur, hs.keep e1 e2 hview, by rw [hdel.1]; simp, fun h => h, fun h => by rw [hdel.2] at h; cases h⟩
  | dead hdead _ hwhy hdel =>
    rcases hwhy with ha | h | h
    · exact Or.inr ⟨ha, hdead, hdel.1⟩
    · rw [hf] at h; cases h
    · rw [hs.open_] at h; cases h
  | next it' c land pc' hd0 ha ht hf' hcc hl hpc he =>
    have hmine : mine σ a t i = true := ha ▸ mine_step ht
    have hit : it' = it := by rw [hf] at hf'; injection hf' with h; exact h.symm
    subst hit
    have hcs : cur = some c := by rw [← hcur, hcc]
    subst hcs
    obtain ⟨hsc, hend⟩ := scan_land ht rfl hpc hmine he
    have hspec := nextLand_advance (inv_reachable hr hd0) (rinv_reachable hr).iter (rinv_reachable hr).fx hf hcc hl
    rw [hsn] at hsc hspec
    rw [hs.view] at hsc
    refine Or.inl ⟨land.map curAt, hsc, ?_, (by intro h; cases h), hend⟩
    rw [(delivered_land hmine he).1, ← hs.view, hsn, viewOf_eq]
    exact hspec

theorem scan_first {nw nr : Nat} {σ : State} (hr : Reachable nw nr σ) {t i : Nat}
    (hacc : (step σ (.itFirst t i)).2 ≠ .bad) :
    ∃ it cur', findIter (t, i) σ.iters = some it ∧
      Scanning (step σ (.itFirst t i)).1 t i it.sn cur' (viewOf σ it.sn) ∧
      upTo (viewOf σ it.sn) cur' = (deliveredVerBy σ (.itFirst t i) t i).toList ∧
      (endedBy σ (.itFirst t i) t i = true → cur' = none) := by
  rcases step_itFirst σ t i with h | ⟨hidle, it, pc', hf, hpc, hel⟩
  · exact absurd (by rw [h]) hacc
  · have hi := inv_reachable hr (Bool.eq_false_iff.mpr (fun hd => hacc (by rw [step_down hd])))
    have hmine := mine_itFirst σ t i
    obtain ⟨hsc, hend⟩ := scan_land hidle rfl hpc hmine hel
    refine ⟨it, σ.store.head?.map curAt, hf, hsc, ?_, hend⟩
    rw [(delivered_land hmine hel).1, viewOf_eq]
    exact first_land (pairwise_nodes hi.store.sorted) it.sn

theorem scan_run {nw nr : Nat} {t i sn : Nat} {V : List Ver} (sched : List Act) {σ : State} {cur : Option Cur}
    (hr : Reachable nw nr σ) (hs : Scanning σ t i sn cur V) (hno : Act.itFirst t i ∉ sched) :
    ∃ cur', upTo V cur' = upTo V cur ++ deliveredVers t i σ sched ∧
      (Act.itClose t i ∉ sched → Scanning (run σ sched) t i sn cur' V ∧
        ((cur = none ∨ scanEnded t i σ sched = true) → cur' = none)) := by
  induction sched generalizing σ cur with
  | nil => exact ⟨cur, by simp [deliveredVers], fun _ => ⟨hs, fun h => h.elim id (fun h => by cases h)⟩⟩
  | cons a as ih =>
    have ha : a ≠ .itFirst t i := fun h => hno (h ▸ List.mem_cons_self)
    have hno' : Act.itFirst t i ∉ as := fun h => hno (List.mem_cons_of_mem _ h)
    rcases scan_step hr hs a ha with ⟨c1, hs1, hu1, hk1, he1⟩ | ⟨ha2, hdead, hnone⟩
    · obtain ⟨c2, hu2, hrest⟩ := ih (ReachableFx.step a hr) hs1 hno'
      refine ⟨c2, by rw [hu2, hu1]; simp [deliveredVers], fun hnc => ?_⟩
      obtain ⟨hs2, hk2⟩ := hrest (fun h => hnc (List.mem_cons_of_mem _ h))
      refine ⟨hs2, fun h => hk2 ?_⟩
      rcases h with h | h
      · exact Or.inl (hk1 h)
      · simp only [scanEnded, Bool.or_eq_true] at h
        exact h.imp he1 id
    · refine ⟨cur, ?_, fun hnc => absurd (ha2 ▸ List.mem_cons_self) hnc⟩
      simp only [deliveredVers, hnone]
      rw [dead_run as (ReachableFx.step a hr) hdead hno']
      simp

theorem itFirst_bad {σ : State} {t i : Nat} (h : (step σ (.itFirst t i)).2 = .bad) :
    (step σ (.itFirst t i)).1 = σ := by
  rcases step_itFirst σ t i with h' | ⟨_, it, pc', _, _, h'⟩
  · rw [h']
  · -- a landing never answers `bad`
    rw [h'] at h
    cases hl : σ.store.head? with
    | none => rw [hl] at h; cases h
    | some y =>
      rw [hl] at h; simp only [landResp] at h
      split at h <;> cases h

theorem upTo_sublist (V : List Ver) (cur : Option Cur) : (upTo V cur).Sublist V := by
  cases cur with
  | none => exact List.Sublist.refl _
  | some c => exact List.filter_sublist

theorem deliveredVers_keys {nw nr : Nat} {σ : State} (hr : Reachable nw nr σ) (sched : List Act) (t i : Nat)
    (hno : Act.itFirst t i ∉ sched) : (deliveredVers t i σ sched).Pairwise (fun a b => a.key < b.key) := by
  rcases dead_or_scanning σ t i with hdead | ⟨sn, cur, hs⟩
  · rw [dead_run sched hr hdead hno]; exact List.Pairwise.nil
  · obtain ⟨cur', hu, _⟩ := scan_run sched hr hs hno
    have := (viewOf_keys hr sn).sublist (upTo_sublist _ cur')
    rw [hu] at this
    exact (List.pairwise_append.mp this).2.1

theorem deliveredVers_keys_first {nw nr : Nat} {σ : State} (hr : Reachable nw nr σ) (scan : List Act) (t i : Nat)
    (hno : Act.itFirst t i ∉ scan) :
    (deliveredVers t i σ (.itFirst t i :: scan)).Pairwise (fun a b => a.key < b.key) := by
  show ((deliveredVerBy σ (.itFirst t i) t i).toList ++ deliveredVers t i (step σ (.itFirst t i)).1 scan).Pairwise _
  by_cases hacc : (step σ (.itFirst t i)).2 = .bad
  · rw [(delivered_noitem (a := .itFirst t i) (t := t) (i := i) (by rw [hacc]; rfl)).1,
      itFirst_bad hacc]
    exact deliveredVers_keys hr scan t i hno
  · obtain ⟨it, c1, hf, hs1, hu1, _⟩ := scan_first hr hacc
    obtain ⟨c2, hu2, _⟩ := scan_run scan (ReachableFx.step (.itFirst t i) hr) hs1 hno
    have := (viewOf_keys hr it.sn).sublist (upTo_sublist _ c2)
    rw [hu2, hu1] at this
    exact this

theorem cursor_mono {nw nr : Nat} {σ : State} (hr : Reachable nw nr σ) (a : Act) (t i : Nat)
    (ha : a ≠ .itFirst t i) (c' : Cur) (hc' : curOf (step σ a).1 t i = some c') :
    ∃ c, curOf σ t i = some c ∧ kbLe c.kb c'.kb := by
  have same : findIter (t, i) (step σ a).1.iters = findIter (t, i) σ.iters →
      ∃ c, curOf σ t i = some c ∧ kbLe c.kb c'.kb :=
    fun e => ⟨c', (curOf_congr e).symm.trans hc', Or.inr rfl⟩
  cases touch_cases hr a t i ha with
  | same e => exact same e
  | dead _ e =>
    rcases e with e | e
    · exact same e
    · rw [e] at hc'; cases hc'
  | next it c land pc' _ _ _ hf hc hl _ he =>
    rw [he, curOf_landed] at hc'
    cases land with
    | none => cases hc'
    | some y =>
      injection hc' with hc'; subst hc'
      exact ⟨c, (curOf_eq hf).trans hc,
        nextLand_cursor (rinv_reachable hr).iter (rinv_reachable hr).fx hf hc hl rfl⟩

end NitroVerif.MvccConc
