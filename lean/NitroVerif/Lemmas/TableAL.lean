import NitroVerif.Spec.MapSpec
/-!
  Association lists (`AL.get/set/del`) through `Upd`: `m'` is `m` with the entry of `k` replaced; `set` and `del`
  are its two instances.
-/
namespace NitroVerif.AL

variable {β : Type}

theorem get_eq_none_iff (m : List (Nat × β)) (k : Nat) : get m k = none ↔ k ∉ keys m := by
  induction m with
  | nil => simp [get, keys]
  | cons e r ih =>
    obtain ⟨k0, v0⟩ := e
    simp only [get, keys, List.map_cons, List.mem_cons, not_or] at ih ⊢
    by_cases h : k0 = k
    · subst h; simp
    · simp only [h, if_false, ih]
      constructor
      · intro h1; exact ⟨fun e => h e.symm, h1⟩
      · intro h1; exact h1.2

def wsum (w : β → Nat) (m : List (Nat × β)) : Nat := (m.map (fun e => w e.2)).sum

theorem wsum_one (m : List (Nat × β)) : wsum (fun _ => 1) m = m.length := by
  rw [wsum, List.map_const', List.sum_replicate_nat, Nat.mul_one]

/-- `m'` is `m` with the entry `e₀` of `k` replaced by `e` (`none`: no entry); `sum`: for the
    table's counters -/
structure Upd (m m' : List (Nat × β)) (k : Nat) (e₀ e : Option β) : Prop where
  lookup : ∀ k', get m' k' = if k' = k then e else get m k'
  nodup : (keys m).Nodup → (keys m').Nodup
  sum : ∀ w : β → Nat, wsum w m' + (e₀.map w).getD 0 = wsum w m + (e.map w).getD 0

theorem Upd.same {m : List (Nat × β)} {k : Nat} {e : Option β} (h : get m k = e) : Upd m m k e e where
  lookup k' := by by_cases e' : k' = k <;> simp [e', h]
  nodup hn := hn
  sum _ := rfl

theorem Upd.cons {m m' : List (Nat × β)} {k : Nat} {e₀ e : Option β} (k0 : Nat) (v0 : β) (h0 : k0 ≠ k)
    (h : Upd m m' k e₀ e) : Upd ((k0, v0) :: m) ((k0, v0) :: m') k e₀ e where
  lookup k' := by
    simp only [get, h.lookup]
    by_cases e1 : k0 = k'
    · rw [if_pos e1, if_pos e1, if_neg (fun e2 => h0 (e1.trans e2))]
    · rw [if_neg e1, if_neg e1]
  nodup hn := by
    obtain ⟨h1, h2⟩ := List.nodup_cons.mp hn
    refine List.nodup_cons.mpr ⟨?_, h.nodup h2⟩
    show k0 ∉ keys m'
    rw [← get_eq_none_iff, h.lookup, if_neg h0, get_eq_none_iff]
    exact h1
  sum w := by
    show w v0 + wsum w m' + _ = w v0 + wsum w m + _
    rw [Nat.add_assoc, h.sum w, Nat.add_assoc]

theorem Upd.of_set (m : List (Nat × β)) (k : Nat) (v : β) : Upd m (set m k v) k (get m k) (some v) := by
  induction m with
  | nil =>
    refine ⟨fun k' => ?_, fun _ => by simp [set, keys], fun w => by simp [wsum, set, get]⟩
    simp only [set, get]
    by_cases e1 : k = k'
    · rw [if_pos e1, if_pos e1.symm]
    · rw [if_neg e1, if_neg (fun e2 => e1 e2.symm)]
  | cons x r ih =>
    obtain ⟨k0, v0⟩ := x
    by_cases h0 : k0 = k
    · rw [show set ((k0, v0) :: r) k v = (k, v) :: r from if_pos h0,
        show get ((k0, v0) :: r) k = some v0 from if_pos h0]
      refine ⟨fun k' => ?_, fun hn => h0 ▸ hn, fun w => ?_⟩
      · simp only [get]
        by_cases e1 : k = k'
        · rw [if_pos e1, if_pos e1.symm]
        · rw [if_neg e1, if_neg (fun e2 => e1 e2.symm), if_neg (fun e2 => e1 (h0.symm.trans e2))]
      · show w v + wsum w r + w v0 = w v0 + wsum w r + w v
        ac_rfl
    · rw [show set ((k0, v0) :: r) k v = (k0, v0) :: set r k v from if_neg h0,
        show get ((k0, v0) :: r) k = get r k from if_neg h0]
      exact ih.cons k0 v0 h0

theorem Upd.of_del (m : List (Nat × β)) (k : Nat) (hn : (keys m).Nodup) : Upd m (del m k) k (get m k) none := by
  induction m with
  | nil => exact .same rfl
  | cons x r ih =>
    obtain ⟨k0, v0⟩ := x
    obtain ⟨h1, h2⟩ := List.nodup_cons.mp hn
    by_cases h0 : k0 = k
    · rw [show del ((k0, v0) :: r) k = r from if_pos h0,
        show get ((k0, v0) :: r) k = some v0 from if_pos h0]
      refine ⟨fun k' => ?_, fun _ => h2, fun w => Nat.add_comm _ _⟩
      simp only [get]
      by_cases e1 : k' = k
      · rw [if_pos e1, e1, ← h0]; exact (get_eq_none_iff r k0).mpr h1
      · rw [if_neg e1, if_neg (fun e2 => e1 (e2.symm.trans h0))]
    · rw [show del ((k0, v0) :: r) k = (k0, v0) :: del r k from if_neg h0,
        show get ((k0, v0) :: r) k = get r k from if_neg h0]
      exact (ih h2).cons k0 v0 h0

theorem Upd.set {m : List (Nat × β)} {k : Nat} {e₀ : Option β} (h : get m k = e₀) (v : β) :
    Upd m (set m k v) k e₀ (some v) := h ▸ Upd.of_set m k v

theorem Upd.del {m : List (Nat × β)} {k : Nat} {e₀ : Option β} (h : get m k = e₀)
    (hn : (keys m).Nodup) : Upd m (del m k) k e₀ none := h ▸ Upd.of_del m k hn

theorem Upd.length {m m' : List (Nat × β)} {k : Nat} {e₀ e : Option β} (h : Upd m m' k e₀ e) :
    m'.length + (e₀.map fun _ => 1).getD 0 = m.length + (e.map fun _ => 1).getD 0 := by
  have := h.sum (fun _ => 1)
  rw [wsum_one, wsum_one] at this
  exact this

theorem get_set (m : List (Nat × β)) (k : Nat) (v : β) (k' : Nat) :
    get (set m k v) k' = if k' = k then some v else get m k' := (Upd.of_set m k v).lookup k'

theorem get_set_self (m : List (Nat × β)) (k : Nat) (v : β) : get (set m k v) k = some v := by
  rw [get_set, if_pos rfl]

theorem get_set_ne (m : List (Nat × β)) (k : Nat) (v : β) {k' : Nat} (h : k' ≠ k) :
    get (set m k v) k' = get m k' := by
  rw [get_set, if_neg h]

theorem get_del (m : List (Nat × β)) (k : Nat) (hn : (keys m).Nodup) (k' : Nat) :
    get (del m k) k' = if k' = k then none else get m k' := (Upd.of_del m k hn).lookup k'

theorem nodup_set (m : List (Nat × β)) (k : Nat) (v : β) (hn : (keys m).Nodup) :
    (keys (set m k v)).Nodup := (Upd.of_set m k v).nodup hn

theorem nodup_del (m : List (Nat × β)) (k : Nat) (hn : (keys m).Nodup) : (keys (del m k)).Nodup :=
  (Upd.of_del m k hn).nodup hn

theorem wsum_ge (w : β → Nat) {m : List (Nat × β)} {k : Nat} {v : β} (h : get m k = some v) :
    w v ≤ wsum w m := by
  induction m with
  | nil => cases h
  | cons e r ih =>
    obtain ⟨k0, v0⟩ := e
    simp only [get] at h
    by_cases h0 : k0 = k
    · rw [if_pos h0] at h; cases h; exact Nat.le_add_right _ _
    · rw [if_neg h0] at h; exact Nat.le_trans (ih h) (Nat.le_add_left _ _)

/-- total number of pointers held in the slow lists -/
def total (m : List (Nat × List Nat)) : Nat := (m.map (·.2.length)).sum

theorem total_eq_wsum (m : List (Nat × List Nat)) : total m = wsum List.length m := rfl

theorem length_set (m : List (Nat × β)) (k : Nat) (v : β) :
    (set m k v).length = if (get m k).isSome then m.length else m.length + 1 := by
  have := (Upd.of_set m k v).length
  cases h : get m k with
  | none => rw [h] at this; exact this
  | some x => rw [h] at this; exact Nat.add_right_cancel this

theorem length_del (m : List (Nat × β)) (k : Nat) :
    (del m k).length + (if (get m k).isSome then 1 else 0) = m.length := by
  induction m with
  | nil => rfl
  | cons e r ih =>
    obtain ⟨k0, v0⟩ := e
    by_cases h0 : k0 = k
    · simp only [del, get, if_pos h0]; rfl
    · simp only [del, get, if_neg h0, List.length_cons]
      rw [Nat.add_right_comm, ih]

end NitroVerif.AL
