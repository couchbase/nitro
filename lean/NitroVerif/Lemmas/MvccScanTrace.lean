/-
  A scan interleaved with arbitrary other operations (specification level): the `Next` calls of
  an iterator deliver the content of its snapshot in order, whatever happens between them.
-/
import NitroVerif.Lemmas.MvccSpecLemmas

namespace NitroVerif.Mvcc
open SetSpec

/-- iterator `i` stands on the `p`-th item of its snapshot's content `c` (`p = c.length`: at the end) -/
def AtPos (st : SetSpec.State) (i : Nat) (c : List Item) (p : Nat) : Prop :=
  ∃ it x, alookup i st.iters = some it ∧ SetSpec.findSnap it.sn st.snaps = some x ∧
    x.content = c ∧ it.cur = c[p]?

/-- operations that may be interleaved with a running scan of iterator `i`: everything except
    repositioning, re-creating or closing that iterator -/
def allowed (i : Nat) : Op → Bool
  | .itNew j _ => j != i
  | .itFirst j => j != i
  | .itSeek j _ => j != i
  | .itClose j => j != i
  | _ => true

def ItemLt (a b : Item) : Prop := a.1 < b.1

theorem nextIn_getElem {c : List Item} (hc : c.Pairwise ItemLt) {p : Nat} (hp : p < c.length) :
    nextIn (c[p]).1 c = c[p + 1]? := by
  have e : c.take p ++ c[p] :: c.drop (p + 1) = c := by
    rw [← List.drop_eq_getElem_cons hp, List.take_append_drop]
  have := find_gt_split (f := Prod.fst) (e.symm ▸ hc)
  rwa [e, List.head?_drop] at this

theorem atPos_step {st : SetSpec.State} {i : Nat} {c : List Item} {p : Nat} (h : AtPos st i c p)
    (hc : c.Pairwise ItemLt) (op : Op) (ha : allowed i op = true) :
    (op = .itNext i →
       (p < c.length → (SetSpec.step st op).2 = .cursor c[p + 1]? ∧ AtPos (SetSpec.step st op).1 i c (p + 1)) ∧
       (¬ p < c.length → (SetSpec.step st op).2 = .bad ∧ AtPos (SetSpec.step st op).1 i c p)) ∧
    (op ≠ .itNext i → AtPos (SetSpec.step st op).1 i c p) := by
  obtain ⟨it, x, hi, hx, hxc, hcur⟩ := h
  constructor
  · intro hop
    subst hop
    constructor
    · intro hp
      have hcur' : it.cur = some c[p] := by rw [hcur]; exact List.getElem?_eq_getElem hp
      have hout : SetSpec.step st (.itNext i) =
          ({ st with iters := aset i { it with cur := nextIn (c[p]).1 (contentOf st it.sn) } st.iters },
           .cursor (nextIn (c[p]).1 (contentOf st it.sn))) := by
        simp only [SetSpec.step, hi, hcur']
      rw [hout, contentOf_eq hx, hxc, nextIn_getElem hc hp]
      exact ⟨rfl, { it with cur := c[p + 1]? }, x, alookup_aset_self _ _ _, hx, hxc, rfl⟩
    · intro hp
      have hcur' : it.cur = none := by rw [hcur]; exact List.getElem?_eq_none (Nat.not_lt.mp hp)
      have hout : SetSpec.step st (.itNext i) = (st, .bad) := by
        simp only [SetSpec.step, hi, hcur']
      rw [hout]
      exact ⟨rfl, it, x, hi, hx, hxc, hcur⟩
  · intro hop
    by_cases hn : namesIter i op = true
    · -- the only operations naming `i` that are allowed: Next (excluded), Refresh, SetRefreshRate;
      -- on the others that name an iterator, `allowed` is `j != i` where `namesIter` is `j == i`
      have hna : ∀ j : Nat, (j == i) = true → (j != i) = true → False := fun j h1 h2 => by
        rw [bne, h1] at h2; cases h2
      cases op with
      | itNew j s => exact (hna j hn ha).elim
      | itFirst j => exact (hna j hn ha).elim
      | itSeek j k => exact (hna j hn ha).elim
      | itClose j => exact (hna j hn ha).elim
      | itNext j => exact absurd (congrArg Op.itNext (beq_iff_eq.mp (show (j == i) = true from hn))) hop
      | itRate j r =>
        have hj := beq_iff_eq.mp (show (j == i) = true from hn); subst hj
        have hout : (SetSpec.step st (.itRate j r)).1 = st := by simp only [SetSpec.step, hi]
        rw [hout]; exact ⟨it, x, hi, hx, hxc, hcur⟩
      | itRefresh j =>
        have hj := beq_iff_eq.mp (show (j == i) = true from hn); subst hj
        rw [spec_refresh_state]; exact ⟨it, x, hi, hx, hxc, hcur⟩
      | _ => cases hn
    · have hn' : namesIter i op = false := by simpa using hn
      obtain ⟨x', hx', hx'c⟩ := spec_findSnap_stable st op hx
      exact ⟨it, x', by rw [(spec_step_frame st op).iters i hn']; exact hi, hx', by rw [hx'c, hxc], hcur⟩

def nextOuts (i : Nat) : List Op → List Out → List Out
  | op :: ops, o :: os => if op = .itNext i then o :: nextOuts i ops os else nextOuts i ops os
  | _, _ => []

/-- what `k` successive `Next` calls from position `p` must deliver -/
def expectNext (c : List Item) : Nat → Nat → List Out
  | _, 0 => []
  | p, k + 1 => if p < c.length then .cursor c[p + 1]? :: expectNext c (p + 1) k else .bad :: expectNext c p k

def countNext (i : Nat) (ops : List Op) : Nat := (ops.filter (fun op => decide (op = .itNext i))).length

theorem spec_scan_interleaved {c : List Item} (hc : c.Pairwise ItemLt) (i : Nat) (ops : List Op)
    (st : SetSpec.State) (p : Nat) (h : AtPos st i c p) (hall : ∀ op ∈ ops, allowed i op = true) :
    nextOuts i ops (SetSpec.run st ops) = expectNext c p (countNext i ops) := by
  induction ops generalizing st p with
  | nil => rfl
  | cons op ops ih =>
    have hrest : ∀ o ∈ ops, allowed i o = true := fun o ho => hall o (List.mem_cons_of_mem _ ho)
    have hs := atPos_step h hc op (hall op (List.mem_cons_self ..))
    unfold countNext at ih ⊢
    rw [SetSpec.run, nextOuts, List.filter_cons]
    by_cases hop : op = .itNext i
    · rw [if_pos hop, if_pos (decide_eq_true hop), List.length_cons, expectNext]
      by_cases hp : p < c.length
      · have ⟨h1, h2⟩ := (hs.1 hop).1 hp
        rw [if_pos hp, h1, ih _ (p + 1) h2 hrest]
      · have ⟨h1, h2⟩ := (hs.1 hop).2 hp
        rw [if_neg hp, h1, ih _ p h2 hrest]
    · rw [if_neg hop, if_neg (by rw [decide_eq_true_eq]; exact hop)]
      exact ih _ p (hs.2 hop) hrest

end NitroVerif.Mvcc
