/-
  Characterisation of every generated definition the M6 model relies on (`findAdvance`, `findFound`, `sameEpoch`,
  `gcStop`, `openRefuse`, `closeRetire`, `skipUnwanted = false`: in `Lemmas/GuardsGen.lean`): a change of the Go
  condition changes the `Gen.*` definition and breaks the lemma named after it.  The `skeleton_*_ok` and `*_ok`
  lemmas, `skipUnwanted_true_iff` and `refreshDue_iff` are never cited: they are there to break (that no proof asks
  when a refresh is due is refresh independence).  Then the model's comparators and predicates decoded (`insLt_iff`,
  `sameId_iff`, `visible_iff`, …) and the order `vlt`; in `MvccGenExtra` the iterators' comparator and the Visitor's
  channel capacity.
-/
import NitroVerif.Model.MvccStep
import NitroVerif.Lemmas.GuardsGen

namespace NitroVerif.Mvcc

/- realises the equation lemmas of `step` and `SetSpec.step` once, here: without this line every module that
   unfolds one of them derives them again -/
attribute [local simp] step SetSpec.step

theorem skipUnwanted_true_iff (b d sn : Nat) :
    Gen.skipUnwanted b d sn = true ↔ sn < b ∨ (d ≠ 0 ∧ d ≤ sn) := by
  unfold Gen.skipUnwanted; simp; omega

theorem insertCompare_neg_iff (c : Int) (a b : Nat) :
    Gen.insertCompare c a b < 0 ↔ c < 0 ∨ (c = 0 ∧ a < b) := by
  unfold Gen.insertCompare; split
  · -- equal keys: the births decide
    have hc : c = 0 := of_decide_eq_true ‹_›
    exact ⟨fun h => Or.inr ⟨hc, Int.ofNat_lt.mp (Int.lt_of_sub_neg h)⟩,
      fun h => h.elim (fun h => absurd (hc ▸ h) (Int.lt_irrefl 0)) fun h => Int.sub_neg_of_lt (Int.ofNat_lt.mpr h.2)⟩
  · have hc : ¬ c = 0 := fun hc => ‹¬ _› (decide_eq_true hc)
    exact ⟨Or.inl, fun h => h.elim id fun h => absurd h.1 hc⟩

theorem insertCompare_zero_iff (c : Int) (a b : Nat) :
    Gen.insertCompare c a b = 0 ↔ c = 0 ∧ a = b := by
  unfold Gen.insertCompare; split
  · have hc : c = 0 := of_decide_eq_true ‹_›
    exact ⟨fun h => ⟨hc, Int.ofNat_inj.mp (Int.sub_eq_zero.mp h)⟩, fun h => Int.sub_eq_zero.mpr (Int.ofNat_inj.mpr h.2)⟩
  · have hc : ¬ c = 0 := fun hc => ‹¬ _› (decide_eq_true hc)
    exact ⟨fun h => absurd h hc, fun h => absurd h.1 hc⟩

theorem iterCompare_eq (c : Int) : Gen.iterCompare c = c := rfl

theorem existCompare_zero_iff (c : Int) (a b : Nat) :
    Gen.existCompare c a b = 0 ↔ a = 0 ∧ b = 0 ∧ c = 0 := by
  unfold Gen.existCompare; split
  · -- one of the two is dead: never equal
    rename_i hd
    refine ⟨fun h => absurd h (by decide), fun h => ?_⟩
    rw [h.1, h.2.1] at hd; cases hd
  · rename_i hd
    have ha : a = 0 := Decidable.byContradiction fun ha => hd (by rw [decide_eq_true ha]; rfl)
    have hb : b = 0 := Decidable.byContradiction fun hb => hd (by rw [decide_eq_true hb, Bool.or_true])
    exact ⟨fun h => ⟨ha, hb, h⟩, fun h => h.2.2⟩

theorem openRefuse_false {rc : Int} (h : rc ≠ 0) : Gen.openRefuse rc = false :=
  Bool.eq_false_iff.mpr fun ho => h ((Gen.openRefuse_iff rc).mp ho)

theorem refreshDue_iff (rate count : Int) :
    Gen.refreshDue rate count = true ↔ 0 < rate ∧ rate < count := by
  unfold Gen.refreshDue; simp

theorem visitorPivotCmp_eq : Gen.visitorPivotCmp = .iter := rfl
theorem visitorEndCmp_eq : Gen.visitorEndCmp = .iter := rfl

theorem visitorPivotKeep_iff (c : Int) : Gen.visitorPivotKeep c = true ↔ 0 < c := by
  unfold Gen.visitorPivotKeep; simp

theorem visitorEndStop_iff (c : Int) : Gen.visitorEndStop c = true ↔ 0 ≤ c := by
  unfold Gen.visitorEndStop; simp

theorem skeleton_skipUnwanted_ok : Gen.skeleton_skipUnwanted = ["it.iter.Next"] := rfl
theorem skeleton_IteratorNext_ok :
    Gen.skeleton_IteratorNext = ["it.iter.Next", "it.skipUnwanted", "it.Refresh"] := rfl
theorem skeleton_IteratorRefresh_ok :
    Gen.skeleton_IteratorRefresh = ["it.snap.db.ptrToItem", "it.iter.Close", "it.iter.Seek", "it.skipUnwanted"] := rfl
theorem skeleton_IteratorSeek_ok :
    Gen.skeleton_IteratorSeek = ["it.iter.Seek", "it.skipUnwanted"] := rfl
theorem skeleton_IteratorSeekFirst_ok :
    Gen.skeleton_IteratorSeekFirst = ["it.iter.SeekFirst", "it.skipUnwanted"] := rfl
theorem skeleton_DeleteNode_ok :
    Gen.skeleton_DeleteNode = ["defer", "w.store.DeleteNode", "x.SetLink", "barrier.FlushSession",
      "atomic.CompareAndSwapUint32(gotItem.deadSn)", "x.SetLink", "w.gctail.SetLink"] := rfl
theorem skeleton_Delete2_ok :
    Gen.skeleton_Delete2 = ["barrier.Acquire", "defer", "barrier.Release"] := rfl
theorem skeleton_Put2_ok : Gen.skeleton_Put2 = ["w.store.Insert2", "w.freeItem"] := rfl
theorem skeleton_collectDead_ok :
    Gen.skeleton_collectDead = ["defer", "defer", "defer", "iter.Close", "iter.SeekFirst", "iter.Next",
      "atomic.StoreUint32(m.lastGCSn)", "send(m.gcchan)", "m.gcsnapshots.DeleteNode"] := rfl
theorem skeleton_GC_ok :
    Gen.skeleton_GC = ["atomic.CompareAndSwapInt32(m.isGCRunning)", "m.collectDead",
      "atomic.CompareAndSwapInt32(m.isGCRunning)", "m.hasCollectableSnapshot"] := rfl
theorem skeleton_Open_ok :
    Gen.skeleton_Open = ["atomic.LoadInt32(s.refCount)", "atomic.CompareAndSwapInt32(s.refCount)"] := rfl
theorem skeleton_Close_ok :
    Gen.skeleton_Close = ["atomic.AddInt32(s.refCount)", "defer", "s.db.snapshots.Delete",
      "s.db.gcsnapshots.Insert", "s.db.GC"] := rfl
theorem skeleton_NewSnapshot_ok :
    Gen.skeleton_NewSnapshot = ["defer", "tail.SetLink", "atomic.AddInt64(m.itemsCount)",
      "atomic.AddUint32(m.currSn)"] := rfl
theorem skeleton_collectionWorker_ok :
    Gen.skeleton_collectionWorker = ["defer", "defer", "close", "m.store.DeleteNode",
      "barrier.FlushSession"] := rfl
theorem skeleton_Visitor_ok :
    Gen.skeleton_Visitor = ["defer", "tmpIter.Close", "barrier.Acquire", "defer", "barrier.Release",
      "m.store.GetRangeSplitItems", "m.ptrToItem", "tmpIter.Seek", "defer", "defer", "itr.Close", "itr.SeekFirst",
      "itr.Seek", "send(wch)", "close"] := rfl
theorem skeleton_deleteNode_ok : Gen.skeleton_deleteNode = ["s.softDelete", "s.findPath"] := rfl

def vlt (a b : Ver) : Prop := a.key < b.key ∨ (a.key = b.key ∧ a.born < b.born)

theorem keyCmp_neg (a b : Nat) : keyCmp a b < 0 ↔ a < b := by
  unfold keyCmp; split
  · rename_i hlt; exact ⟨fun _ => hlt, fun _ => by decide⟩
  · rename_i hlt; split <;> exact ⟨fun h => absurd h (by decide), fun h => absurd h hlt⟩

theorem keyCmp_zero (a b : Nat) : keyCmp a b = 0 ↔ a = b := by
  unfold keyCmp; split
  · rename_i hlt; exact ⟨fun h => absurd h (by decide), fun h => absurd h (Nat.ne_of_lt hlt)⟩
  · split
    · rename_i heq; exact ⟨fun _ => heq, fun _ => rfl⟩
    · rename_i hne; exact ⟨fun h => absurd h (by decide), fun h => absurd h hne⟩

theorem keyCmp_pos (a b : Nat) : 0 < keyCmp a b ↔ b < a := by
  unfold keyCmp; split
  · rename_i hlt; exact ⟨fun h => absurd h (by decide), fun h => absurd hlt (Nat.lt_asymm h)⟩
  · rename_i hlt; split
    · rename_i heq; exact ⟨fun h => absurd h (by decide), fun h => absurd (heq ▸ h) (Nat.lt_irrefl _)⟩
    · rename_i hne
      exact ⟨fun _ => Nat.lt_of_le_of_ne (Nat.not_lt.mp hlt) (Ne.symm hne), fun _ => by decide⟩

theorem insCmp_neg (a b : Ver) : insCmp a b < 0 ↔ vlt a b := by
  unfold insCmp vlt; rw [insertCompare_neg_iff, keyCmp_neg, keyCmp_zero]

theorem insCmp_zero (a b : Ver) : insCmp a b = 0 ↔ a.key = b.key ∧ a.born = b.born := by
  unfold insCmp; rw [insertCompare_zero_iff, keyCmp_zero]

theorem insLt_iff (a b : Ver) : insLt a b = true ↔ vlt a b := by
  unfold insLt; simp [insCmp_neg]

theorem iterCmp_neg (a b : Ver) : iterCmp a b < 0 ↔ a.key < b.key := by
  unfold iterCmp; rw [iterCompare_eq, keyCmp_neg]

theorem iterCmp_pos (a b : Ver) : 0 < iterCmp a b ↔ b.key < a.key := by
  unfold iterCmp; rw [iterCompare_eq, keyCmp_pos]

theorem iterCmp_nonneg (a b : Ver) : 0 ≤ iterCmp a b ↔ b.key ≤ a.key := by
  have := iterCmp_neg a b; omega

theorem existCmp_zero (a b : Ver) :
    existCmp a b = 0 ↔ a.dead = 0 ∧ b.dead = 0 ∧ a.key = b.key := by
  unfold existCmp; rw [existCompare_zero_iff, keyCmp_zero]

theorem sameId_iff (a b : Ver) : sameId a b = true ↔ a.key = b.key ∧ a.born = b.born := by
  unfold sameId; simp

theorem visible_iff (sn : Nat) (v : Ver) :
    visible sn v = true ↔ v.born ≤ sn ∧ (v.dead = 0 ∨ sn < v.dead) := by
  unfold visible; rw [Bool.not_eq_true', Gen.skipUnwanted_false_iff]

theorem vlt_trans {a b c : Ver} (h1 : vlt a b) (h2 : vlt b c) : vlt a c := by
  rcases h1 with h1 | ⟨k1, b1⟩ <;> rcases h2 with h2 | ⟨k2, b2⟩
  · exact Or.inl (Nat.lt_trans h1 h2)
  · exact Or.inl (k2 ▸ h1)
  · exact Or.inl (k1 ▸ h2)
  · exact Or.inr ⟨k1.trans k2, Nat.lt_trans b1 b2⟩

theorem vlt_irrefl (a : Ver) : ¬ vlt a a :=
  fun h => h.elim (Nat.lt_irrefl _) (fun h => Nat.lt_irrefl _ h.2)

theorem vlt_total (a b : Ver) : vlt a b ∨ (a.key = b.key ∧ a.born = b.born) ∨ vlt b a := by
  rcases Nat.lt_trichotomy a.key b.key with hk | hk | hk
  · exact Or.inl (Or.inl hk)
  · rcases Nat.lt_trichotomy a.born b.born with hb | hb | hb
    · exact Or.inl (Or.inr ⟨hk, hb⟩)
    · exact Or.inr (Or.inl ⟨hk, hb⟩)
    · exact Or.inr (Or.inr (Or.inr ⟨hk.symm, hb⟩))
  · exact Or.inr (Or.inr (Or.inl hk))

end NitroVerif.Mvcc

namespace NitroVerif.MvccGenExtra
/-- iterator.go: snapshot iterators walk the store with the INSERT comparator, so the re-search after the node
    under the cursor was unlinked lands after that node (the model's "physical next"). With the key-only comparator
    it lands on the oldest version of the key (witness `C01_unfixed_duplicate_witness`). -/
theorem iteratorStoreCmp_ok : Gen.iteratorStoreCmp = Gen.CmpKind.ins := rfl

/-- nitro.go Visitor: the dispatcher sends exactly as many shard indexes as the work channel can hold, so it never
    blocks even when every worker has stopped receiving after a callback error (termination half of C10). -/
theorem visitor_channel_holds_every_shard : Gen.visitorChanCap = Gen.visitorDispatchBound := rfl
theorem visitorChanCap_ok : Gen.visitorChanCap = "len(pivotItems) - 1" := rfl
end NitroVerif.MvccGenExtra
