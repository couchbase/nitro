import NitroVerif.Lemmas.SkipConcReach
/-!
  The chain of a level as a LIST of nodes (`PathL`): unique, sorted when the edges are; the `walk` the driver prints,
  given enough fuel, is that list.
-/
namespace NitroVerif.SkipConc

/-- `PathL h l a ns c`: following the level-`l` words from `a` one visits exactly the nodes `ns` (`a` first) and then
    arrives at `c` -/
inductive PathL (h : Heap) (l : Nat) : Nat → List Nat → Nat → Prop
  | nil (a : Nat) : PathL h l a [] a
  | cons {a b c : Nat} {ns : List Nat} {m : Bool} : word? h a l = some (b, m) → PathL h l b ns c →
      PathL h l a (a :: ns) c

theorem ReachL.toPath {h : Heap} {l a c : Nat} (r : ReachL h l a c) : ∃ ns, PathL h l a ns c := by
  induction r with
  | refl => exact ⟨[], .nil _⟩
  | step hw _ ih => obtain ⟨ns, p⟩ := ih; exact ⟨_ :: ns, .cons hw p⟩

theorem PathL.reach {h : Heap} {l a c : Nat} {ns : List Nat} (p : PathL h l a ns c) : ReachL h l a c := by
  induction p with
  | nil => exact .refl _
  | cons hw _ ih => exact .step hw ih

theorem PathL.mem {h : Heap} {l a c : Nat} {ns : List Nat} (p : PathL h l a ns c) {x : Nat} (hx : x ∈ ns) :
    ReachL h l a x ∧ (word? h x l).isSome := by
  induction p with
  | nil => simp at hx
  | @cons a b c ns m hw p ih =>
    simp at hx
    rcases hx with rfl | hx
    · exact ⟨.refl _, by rw [hw]; rfl⟩
    · exact ⟨.step hw (ih hx).1, (ih hx).2⟩

theorem PathL.unique {h : Heap} {l a c : Nat} {ns ms : List Nat} (hc : word? h c l = none)
    (p : PathL h l a ns c) (q : PathL h l a ms c) : ns = ms := by
  induction p generalizing ms with
  | nil =>
    cases q with
    | nil => rfl
    | cons hw _ => rw [hc] at hw; simp at hw
  | cons hw p ih =>
    cases q with
    | nil => rw [hc] at hw; simp at hw
    | cons hw' q =>
      rw [hw] at hw'; simp at hw'
      obtain ⟨rfl, _⟩ := hw'
      rw [ih hc q]

theorem PathL.mem_of_reach {h : Heap} {l a c : Nat} {ms : List Nat} (hc : word? h c l = none)
    (p : PathL h l a ms c) {x : Nat} (r : ReachL h l a x) : x = c ∨ x ∈ ms := by
  induction p with
  | nil =>
    cases r with
    | refl => exact .inl rfl
    | step hw _ => rw [hc] at hw; simp at hw
  | cons hw p ih =>
    cases r with
    | refl => exact .inr (by simp)
    | step hw' r' =>
      rw [hw] at hw'; simp at hw'
      obtain ⟨rfl, _⟩ := hw'
      rcases ih hc r' with e | e
      · exact .inl e
      · exact .inr (by simp [e])

theorem PathL.sorted {h : Heap} {l : Nat}
    (hs : ∀ n p m, ReachL h l 0 n → word? h n l = some (p, m) → Key.lt (keyOf h n) (keyOf h p))
    {a c : Nat} {ns : List Nat} (ha : ReachL h l 0 a) (p : PathL h l a ns c) :
    ns.Pairwise (fun x y => Key.lt (keyOf h x) (keyOf h y)) ∧
    ∀ x ∈ ns, a = x ∨ Key.lt (keyOf h a) (keyOf h x) := by
  induction p with
  | nil => exact ⟨.nil, fun x hx => by simp at hx⟩
  | @cons a b c ns m hw p ih =>
    obtain ⟨ih1, ih2⟩ := ih (ha.snoc hw)
    have hab := hs _ _ _ ha hw
    have hall : ∀ x ∈ ns, Key.lt (keyOf h a) (keyOf h x) := by
      intro x hx
      rcases ih2 x hx with rfl | h2
      · exact hab
      · exact Key.lt_trans hab h2
    refine ⟨List.pairwise_cons.mpr ⟨hall, ih1⟩, fun x hx => ?_⟩
    simp at hx
    rcases hx with rfl | hx
    · exact .inl rfl
    · exact .inr (hall x hx)

/-- what `walk` prints for a list of nodes: item and level-`l` mark -/
def walkOf (h : Heap) (l : Nat) (ns : List Nat) : List (Nat × Bool) :=
  ns.map fun x => (itemOfKey (keyOf h x), (getNext h x l).2)

theorem walkLevel_path {h : Heap} (H : HInv h) {l a c : Nat} {ns : List Nat} (p : PathL h l a ns c) (hc : c = 1)
    (hk : ∀ x ∈ ns, ∃ k, keyOf h x = .fin k) : ∀ fuel, ns.length ≤ fuel → walkLevel h l fuel a = walkOf h l ns := by
  induction p with
  | nil =>
    intro fuel _
    subst hc
    cases fuel with
    | zero => rfl
    | succ f => simp [walkLevel, H.tailKey, walkOf]
  | @cons a b c ns m hw p ih =>
    intro fuel hf
    cases fuel with
    | zero => simp at hf
    | succ f =>
      obtain ⟨k, hka⟩ := hk a (by simp)
      have hg : getNext h a l = (b, m) := getNext_of_word hw
      simp only [walkLevel, hka, hg, walkOf, List.map_cons, itemOfKey]
      have := ih hc (fun x hx => hk x (by simp [hx])) f (by simpa using hf)
      rw [this]; rfl

theorem walk_eq_path {h : Heap} (H : HInv h) {l : Nat} {ns : List Nat} (p : PathL h l 0 (0 :: ns) 1)
    (hs : (0 :: ns).Pairwise (fun a b => Key.lt (keyOf h a) (keyOf h b))) (hlen : ns.length ≤ h.length) :
    walk h l = walkOf h l ns := by
  cases p with
  | @cons _ b _ _ m hw p' =>
    have hg : getNext h headId l = (b, m) := getNext_of_word hw
    unfold walk
    rw [hg]
    refine walkLevel_path H p' rfl (fun x hx => ?_) _ hlen
    obtain ⟨_, hwx⟩ := p'.mem hx
    obtain ⟨w, hwx⟩ := Option.isSome_iff_exists.mp hwx
    have hx0 : x ≠ 0 := by
      intro e
      have := (List.pairwise_cons.mp hs).1 x hx
      rw [e] at this; exact Key.lt_irrefl _ this
    have hx1 : x ≠ 1 := by
      intro e; rw [e, H.tailNoWord] at hwx; simp at hwx
    exact H.finKey x (by omega) (word?_lt hwx)

end NitroVerif.SkipConc
