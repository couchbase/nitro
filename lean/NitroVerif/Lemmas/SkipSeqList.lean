import NitroVerif.Model.SkipSeq
import NitroVerif.Lemmas.ListFacts
/-!
  The per-level counters (`addAt` read by position and summed), the arithmetic of one iteration of a counted loop, the
  buffer of `nilId`s.
-/
namespace NitroVerif.SkipSeq

theorem getD_addAt (l : List Int) (i j : Nat) (v : Int) (hi : i < l.length) :
    (addAt l i v).getD j 0 = if i = j then l.getD j 0 + v else l.getD j 0 := by
  unfold addAt
  by_cases h : i = j
  · subst h; rw [getD_set_same hi]; simp
  · rw [getD_set_ne h]; simp [h]

theorem length_addAt (l : List Int) (i : Nat) (v : Int) : (addAt l i v).length = l.length := by
  simp [addAt]

theorem sum_addAt : ∀ (l : List Int) (i : Nat) (v : Int), i < l.length →
    (addAt l i v).foldl (· + ·) 0 = l.foldl (· + ·) 0 + v := by
  intro l
  unfold addAt
  induction l with
  | nil => intro i v hi; cases hi
  | cons x r ih =>
    intro i v hi
    cases i with
    | zero =>
      simp only [List.set_cons_zero, List.getD_cons_zero, List.foldl_cons]
      rw [foldl_add_eq r (0 + (x + v)), foldl_add_eq r (0 + x)]; omega
    | succ i =>
      simp only [List.set_cons_succ, List.getD_cons_succ, List.foldl_cons]
      rw [foldl_add_eq _ (0 + x), foldl_add_eq r (0 + x), ih i v (Nat.lt_of_succ_lt_succ hi)]; omega

/-- one iteration of a loop that counts `l` up to `N` with `n + 1` iterations left -/
theorem loop_step {l n N : Nat} (h : l + (n + 1) = N) : l < N ∧ l + 1 + n = N :=
  ⟨h ▸ Nat.lt_add_of_pos_right (Nat.succ_pos n), (Nat.add_right_comm l 1 n).trans h⟩

theorem getD_replicate_nil (n l : Nat) : (List.replicate n nilId).getD l nilId = nilId := by
  simp only [List.getD_eq_getElem?_getD, List.getElem?_replicate]
  by_cases h : l < n <;> simp [h]

end NitroVerif.SkipSeq
