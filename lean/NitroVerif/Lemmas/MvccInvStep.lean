/-
  Every operation of the sequential engine preserves the invariant; hence it holds in every
  reachable state.
-/
import NitroVerif.Lemmas.MvccInvPut
import NitroVerif.Lemmas.MvccInvDel
import NitroVerif.Lemmas.MvccInvSnap
import NitroVerif.Lemmas.MvccInvGC
import NitroVerif.Lemmas.MvccIterLemmas
import NitroVerif.Lemmas.MvccStepCase

namespace NitroVerif.Mvcc
open SetSpec

structure IterCtx (σ : State) (it : Iter) (x : Snap) : Prop where
  find : findSnap it.sn σ.snaps = some x
  rc : 0 < x.rc
  view : view σ.store it.sn = x.content
  cur : ∀ v, it.cur = some v → ∃ v' ∈ vis σ.store it.sn, v'.norm = v.norm

theorem iter_ctx {σ : State} (h : Inv σ) {i : Nat} {it : Iter} (hi : alookup i σ.iters = some it) :
    ∃ x, IterCtx σ it x := by
  have hm := alookup_mem hi
  obtain ⟨s, hs, hsn, hc⟩ := h.iters.snap _ hm
  have h2 : 0 < itersOn s.sn σ.iters :=
    Int.ofNat_lt.mpr (List.length_filter_pos_iff.mpr ⟨_, hm, beq_iff_eq.mpr hsn.symm⟩)
  have hrc : 0 < s.rc := Int.lt_of_lt_of_le h2 (h.iters.refs s hs)
  have hview : view σ.store it.sn = s.content := by rw [← hsn]; exact h.view s hs hrc
  exact ⟨s, by rw [← hsn]; exact findSnap_of_mem h.snaps.inc hs, hrc, hview,
    fun v hv => of_norm_mem_view (by rw [hview]; exact hc v hv)⟩

theorem inv_setIter {σ : State} (h : Inv σ) {i : Nat} {it it' : Iter} (hi : alookup i σ.iters = some it)
    (hsn : it'.sn = it.sn) (hcur : ∀ w, it'.cur = some w → w ∈ vis σ.store it.sn ∨ it.cur = some w) :
    Inv (setIter σ i it').1 := by
  obtain ⟨s, c⟩ := iter_ctx h hi
  have ⟨hs, hsn'⟩ := findSnap_some c.find
  refine ⟨h.sorted, h.chains, h.count, h.snaps, h.view, h.garb, ⟨fun p hp => ?_, fun z hz => ?_⟩, h.handles⟩
  · rcases mem_aset hp with rfl | hp'
    · refine ⟨s, hs, hsn'.trans hsn.symm, fun w hw => ?_⟩
      rw [← c.view]
      rcases hcur w hw with h1 | h1
      · exact norm_mem_view h1
      · obtain ⟨v', hv', hn⟩ := c.cur w h1
        rw [← hn]; exact norm_mem_view hv'
    · exact h.iters.snap p hp'
  · show itersOn z.sn (aset i it' σ.iters) ≤ z.rc
    rw [itersOn_aset_same z.sn hsn hi]; exact h.iters.refs z hz

theorem inv_close {σ : State} (h : Inv σ) {s : Nat} {x : Snap} (hx : findSnap s σ.snaps = some x)
    (iters' : List (Nat × Iter))
    (hok : ItersOk σ s iters' (x.rc - 1)) :
    Inv (closeSnap { σ with iters := iters' } s x.rc) := by
  unfold closeSnap
  split
  · rename_i hret
    exact inv_gc (pre_retire h hx iters' hok ((Gen.closeRetire_iff _).mp hret))
  · rename_i hret
    have hz : x.rc - 1 ≠ 0 := fun hz => hret ((Gen.closeRetire_iff _).mpr hz)
    have h0 : 0 ≤ x.rc - 1 := Int.le_trans (Int.natCast_nonneg _) hok.refs
    exact inv_rc h hx (-1) (Int.lt_of_le_sub_one h0) (Int.lt_iff_le_and_ne.mpr ⟨h0, Ne.symm hz⟩) iters' hok

theorem inv_step {σ : State} (h : Inv σ) (op : Op) : Inv (step σ op).1 := by
  have hc := step_case σ op
  generalize step σ op = r at hc
  cases hc with
  | same => exact h
  | put hw => exact inv_put h _ _ hw
  | del hw => exact inv_del h hw _
  | getnode _ hx =>
    rw [getNode_eq h] at hx
    refine ⟨h.sorted, h.chains, h.count, h.snaps, h.view, h.garb, h.iters, fun p hp hgone => ?_⟩
    rcases mem_aset hp with rfl | hp'
    · exact Or.inr ⟨_, (aliveOf_some hx).1, rfl, rfl⟩
    · exact h.handles p hp' hgone
  | getnodeNone =>
    exact ⟨h.sorted, h.chains, h.count, h.snaps, h.view, h.garb, h.iters,
      fun p hp hgone => h.handles p (mem_aerase.mp hp).1 hgone⟩
  | delnode hw _ => exact inv_delHandle h hw _
  | snap => exact inv_newSnapshot h
  | @«open» s x hx hrc =>
    have ⟨hxm, hxs⟩ := findSnap_some hx
    have := h.iters.refs x hxm
    exact inv_open h hx hrc σ.iters (.same h (Int.le_add_one (hxs ▸ this)))
  | close hx hc => exact inv_close h hx σ.iters (.same h (Int.le_sub_one_of_lt (Int.lt_of_sub_pos hc)))
  | @itNew i s x hx hi hrc =>
    have ⟨hxm, hxs⟩ := findSnap_some hx
    have href := h.iters.refs x hxm
    refine inv_open h hx hrc _ ⟨fun p hp => ?_, ?_, fun n hn => ?_⟩
    · rcases mem_aset hp with rfl | hp'
      · exact ⟨x, hxm, hxs, nofun⟩
      · exact h.iters.snap p hp'
    · rw [itersOn_aset_new s hi, if_pos (show (newIter s 0).sn = s from rfl), ← hxs]
      exact Int.add_le_add_right href 1
    · rw [itersOn_aset_new n hi, if_neg (show ¬ (newIter s 0).sn = n from Ne.symm hn)]
      exact Int.le_of_eq (Int.add_zero _)
  | @itRate i r it hi => exact inv_setIter (it' := { it with rate := r }) h hi rfl (fun w hw => Or.inr hw)
  | itFirst hi =>
    refine inv_setIter h hi (seekFirst_sn ..) fun w hw => ?_
    rw [seekFirst_cur] at hw
    exact Or.inl (List.mem_of_mem_head? hw)
  | itSeek hi =>
    refine inv_setIter h hi (seek_sn ..) fun w hw => ?_
    rw [seek_cur h.sorted] at hw
    exact Or.inl (List.mem_of_find?_eq_some hw)
  | @itNext i it v hi hv =>
    obtain ⟨_, c⟩ := iter_ctx h hi
    obtain ⟨v', hv', hn⟩ := c.cur v hv
    refine inv_setIter h hi (next_sn ..) fun w hw => ?_
    rw [next_cur h.sorted h.chains hv hv' hn] at hw
    exact Or.inl (List.mem_of_find?_eq_some hw)
  | @itRefresh i it hi =>
    refine inv_setIter h hi (refresh_sn ..) fun w hw => ?_
    cases hcur : it.cur with
    | none => rw [refresh_none _ hcur, hcur] at hw; cases hw
    | some v =>
      obtain ⟨_, c⟩ := iter_ctx h hi
      obtain ⟨v', hv', hn⟩ := c.cur v hcur
      rw [refresh_cur h.sorted h.chains hcur hv' hn] at hw
      cases hw
      exact Or.inl hv'
  | itClose hi hx => exact inv_close h hx _ (close_iter h hi hx)

theorem inv_reachable {n : Nat} {σ : State} (hr : Reachable n σ) : Inv σ := by
  induction hr with
  | init => exact inv_init n
  | step op _ ih => exact inv_step ih op

end NitroVerif.Mvcc
