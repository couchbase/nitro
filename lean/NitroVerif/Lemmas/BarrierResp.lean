import NitroVerif.Lemmas.BarrierStep
/-!
  Responsibility, for the fixed protocol: whenever the head of the free queue is the next
  session in order, some thread is still going to look at the head (`pcResp`).  Holds with the `stale` action enabled.
  Without the re-check (`fixed = false`) it breaks at REL_UNLOCK.
-/
namespace NitroVerif.Barrier

/-- will (re-)examine the queue head before leaving `Release` -/
def pcResp : PC → Nat
  | .relTryLock _ => 1
  | .clRead _ _ => 1
  | .clProc _ _ => 1
  | .relUnlock _ => 1
  | .relRecheck _ => 1
  | _ => 0

@[barsimp] theorem pcResp_idle : pcResp .idle = 0 := rfl
@[barsimp] theorem pcResp_acqLoad : pcResp .acqLoad = 0 := rfl
@[barsimp] theorem pcResp_acqAdd (a : Nat) : pcResp (.acqAdd a) = 0 := rfl
@[barsimp] theorem pcResp_relDec (a : Nat) (k : Cont) : pcResp (.relDec a k) = 0 := rfl
@[barsimp] theorem pcResp_relClosed (a : Nat) (k : Cont) : pcResp (.relClosed a k) = 0 := rfl
@[barsimp] theorem pcResp_relInsert (a : Nat) (k : Cont) : pcResp (.relInsert a k) = 0 := rfl
@[barsimp] theorem pcResp_relTryLock (k : Cont) : pcResp (.relTryLock k) = 1 := rfl
@[barsimp] theorem pcResp_clRead (b : Bool) (k : Cont) : pcResp (.clRead b k) = 1 := rfl
@[barsimp] theorem pcResp_clProc (a : Nat) (k : Cont) : pcResp (.clProc a k) = 1 := rfl
@[barsimp] theorem pcResp_relUnlock (k : Cont) : pcResp (.relUnlock k) = 1 := rfl
@[barsimp] theorem pcResp_relRecheck (k : Cont) : pcResp (.relRecheck k) = 1 := rfl
@[barsimp] theorem pcResp_flLock (o : Nat) : pcResp (.flLock o) = 0 := rfl
@[barsimp] theorem pcResp_flSwap (o : Nat) : pcResp (.flSwap o) = 0 := rfl
@[barsimp] theorem pcResp_flTag (a : Nat) (o : Nat) : pcResp (.flTag a o) = 0 := rfl
@[barsimp] theorem pcResp_flAdd (a : Nat) : pcResp (.flAdd a) = 0 := rfl
@[barsimp] theorem pcResp_flUnlock : pcResp .flUnlock = 0 := rfl
@[barsimp] theorem pcResp_after (k : Cont) : pcResp (afterCont k) = 0 := by cases k <;> rfl

/-- with the re-check after REL_UNLOCK (`fixed = true`): while the queue head is the next session to
    destruct, some thread will look at the head again -/
def Resp (st : St) : Prop :=
  ∀ s, st.freeq.head? = some s → s = st.freeSeqno → 1 ≤ cnt (onPc pcResp) st

theorem pcFlag_le_pcResp (u : Th) : onPc pcFlag u ≤ onPc pcResp u := by
  obtain ⟨pc, _⟩ := u
  cases pc <;> simp [barsimp]

theorem hasReady_of_head {st : St} (h : Inv st) {s : Nat} (hh : st.freeq.head? = some s)
    (hs : s = st.freeSeqno) : hasReady st = true := by
  obtain ⟨r, hq⟩ := List.head?_eq_some_iff.mp hh
  unfold hasReady
  rw [hq, readyHead_iff]
  have := queued_seqno h s (by simp [hq])
  omega

theorem Resp.of_sums {st : St} {l l' : List Th} (e : SameSums l l')
    (h : Resp (withThs st l)) : Resp (withThs st l') :=
  fun s hh hs => by have := h s hh hs; rw [cnt_withThs] at this ⊢; rw [e]; exact this

/-- a step between two points outside the responsible set that leaves queue and `freeSeqno` alone keeps `Resp` by
    unfolding; a step to a point inside it makes the stepping thread responsible -/
theorem Exec.resp {st st1 : St} {t t' : Th} {a : Act} {r : List Th} (hs : Exec true st t a st1 t')
    (h : Inv (withThs st (t :: r))) (hr : Resp (withThs st (t :: r))) : Resp (withThs st1 (t' :: r)) := by
  cases hs
  case stale | relInsert | relTryLockOk | clReadProc | clReadExit | clProc | relUnlock | relRecheckAgain =>
    exact fun _ _ _ => Nat.le_add_right 1 _
  -- the new program counter `afterCont k` computes only once `k` is known
  case relDecMore toks s k _ _ => cases k <;> exact hr
  case relClosedAgain toks s k _ => cases k <;> exact hr
  case relTryLockFail toks k hf =>
    -- the try-lock failed: the flag holder is responsible
    have hfl : (r.map (onPc pcFlag)).sum = 1 := by have := h.flag; simp [barsimp, hf] at this; omega
    have hle := sum_map_le _ _ r pcFlag_le_pcResp
    intro s _ _
    show 1 ≤ _ + (r.map (onPc pcResp)).sum
    omega
  case relRecheckDone toks k hnr =>
    -- the re-check saw a head that is not ready: nothing to be responsible for
    intro s hh hs
    have hrd := hasReady_of_head h hh hs
    exact Bool.noConfusion (hnr.symm.trans hrd)
  all_goals exact hr

theorem step_resp {st st' : St} {i : Nat} {a : Act} (h : Inv st) (hr : Resp st)
    (hs : step true st i a = some st') : Resp st' := by
  obtain ⟨t, st1, t', ht, he, rfl⟩ := step_some hs
  have hx := exec_sound he
  rw [setT_eq_withThs, hx.ths]
  exact Resp.of_sums (.back t' ht) (hx.resp (h.front ht) (Resp.of_sums (.front ht) hr))

theorem init_resp (n : Nat) : Resp (init n) := by
  intro s hh; simp [init] at hh

theorem run_resp {sched : List (Nat × Act)} {st st' : St} (h : Inv st) (hr : Resp st)
    (hrun : run true st sched = some st') : Resp st' :=
  (run_induct (P := fun s => Inv s ∧ Resp s) (fun h hs => ⟨step_inv h.1 hs, step_resp h.1 h.2 hs⟩)
    ⟨h, hr⟩ hrun).2

theorem reachable_resp {n : Nat} {st : St} (hr : Reachable true n st) : Resp st := by
  obtain ⟨sched, hs⟩ := hr
  exact run_resp (init_inv n) (init_resp n) hs

end NitroVerif.Barrier
