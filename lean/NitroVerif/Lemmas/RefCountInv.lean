import NitroVerif.Lemmas.RefCountBase
/-!
  The inductive invariant of the fixed reference-count / collector protocol, and the lemmas for the
  steps that only move a thread or write the collector flag.
-/
namespace NitroVerif.RefCount

/-- what a parked thread knows -/
def PCok (st : St) : PC → Prop
  | .openLoad s => 1 ≤ s ∧ s ≤ st.snaps.length
  | .closeDec s => 1 ≤ s ∧ s ≤ st.snaps.length
  | .closeRetire s => 1 ≤ s ∧ s ≤ st.snaps.length
  | .closeRetire2 s => 1 ≤ s ∧ s ≤ st.snaps.length
  | .openCas s rc => 1 ≤ s ∧ s ≤ st.snaps.length ∧ 0 < rc
  | .collectSend s => s = st.lastGCSn + 1 ∧ s ∈ st.dead
  | _ => True

structure Inv (cfg : Cfg) (st : St) : Prop where
  /-- counting invariant: count = held references + references in flight to their decrement -/
  count : ∀ s, 1 ≤ s → s ≤ st.snaps.length →
    (getS st s).refs = ((getS st s).held : Int) + (cnt (uDec s) st.ths : Int)
  /-- a snapshot whose count is 0 was retired once or its closer is parked before one of the two
      list operations; a snapshot whose count is not 0 was never retired and nobody is about to -/
  retire : ∀ s, 1 ≤ s → s ≤ st.snaps.length →
    (getS st s).retired + cnt (uRet s) st.ths + cnt (uRet2 s) st.ths =
      if (getS st s).refs = 0 then 1 else 0
  pcs : ∀ (j : Nat) (pc : PC), st.ths[j]? = some pc → PCok st pc
  /-- a retired snapshot is in the dead list or was handed to the workers -/
  place : ∀ s, 1 ≤ s → s ≤ st.snaps.length →
    ((getS st s).retired = 1 ↔ (s ∈ st.dead ∨ s ≤ st.lastGCSn))
  /-- in the live list: not retired and not between the two list operations of its closer -/
  live_iff : ∀ s, s ∈ st.live ↔
    (1 ≤ s ∧ s ≤ st.snaps.length ∧ (getS st s).retired = 0 ∧ cnt (uRet2 s) st.ths = 0)
  dead_valid : ∀ s, s ∈ st.dead → 1 ≤ s ∧ s ≤ st.snaps.length ∧ st.lastGCSn < s
  gc_le : st.lastGCSn ≤ st.snaps.length
  dead_sorted : st.dead.Pairwise (· < ·)
  live_sorted : st.live.Pairwise (· < ·)
  sent : st.sent = List.range' 1 st.lastGCSn
  /-- mutual exclusion of the collector -/
  excl : cnt uCrit st.ths = if st.flag then 1 else 0
  /-- responsibility: a collectable head has somebody who will collect it -/
  resp : cfg.fixedGC = true → (st.lastGCSn + 1) ∈ st.dead → 1 ≤ cnt uResp st.ths

theorem PCok_mono {st st' : St} {pc : PC} (hl : st'.snaps.length = st.snaps.length)
    (hL : st'.lastGCSn = st.lastGCSn) (hd : ∀ s, s ∈ st.dead → s ∈ st'.dead)
    (h : PCok st pc) : PCok st' pc := by
  cases pc with
  | collectSend s => exact ⟨hL ▸ h.1, hd s h.2⟩
  | openLoad s | closeDec s | closeRetire s | closeRetire2 s | openCas s rc =>
    rw [PCok, hl]; exact h
  | _ => exact trivial

theorem Inv.refs_nonneg {cfg : Cfg} {st : St} (h : Inv cfg st) (s : Nat) (h1 : 1 ≤ s)
    (h2 : s ≤ st.snaps.length) : 0 ≤ (getS st s).refs := by
  have := h.count s h1 h2; omega

theorem Inv.retired_le_one {cfg : Cfg} {st : St} (h : Inv cfg st) (s : Nat) (h1 : 1 ≤ s)
    (h2 : s ≤ st.snaps.length) : (getS st s).retired ≤ 1 :=
  (retire_cases (h.retire s h1 h2)).1

theorem Inv.at_closeDec {cfg : Cfg} {st : St} (h : Inv cfg st) {i s : Nat}
    (hi : st.ths[i]? = some (.closeDec s)) : 0 < (getS st s).refs := by
  obtain ⟨h1, h2⟩ := h.pcs i _ hi
  have hge := cnt_ge (uDec s) st.ths i _ hi
  rw [uDec_self] at hge
  rw [h.count s h1 h2]
  exact Int.lt_of_lt_of_le (Int.ofNat_lt.mpr hge) (Int.le_add_of_nonneg_left (Int.natCast_nonneg _))

theorem Inv.between {cfg : Cfg} {st : St} (h : Inv cfg st) {s : Nat} (h1 : 1 ≤ s) (h2 : s ≤ st.snaps.length)
    (hpos : 0 < cnt (uRet2 s) st.ths) :
    (getS st s).refs = 0 ∧ (getS st s).retired = 0 ∧ s ∉ st.live ∧ s ∉ st.dead ∧ st.lastGCSn < s := by
  obtain ⟨hle, hiff, hnz, _⟩ := retire_cases (h.retire s h1 h2)
  have hz : (getS st s).refs = 0 :=
    Classical.byContradiction fun e => Nat.lt_irrefl 0 ((hnz e).2 ▸ hpos)
  -- retired once would leave no room for the closer between the lists
  have hr1 : ¬ (getS st s).retired = 1 := fun e => Nat.lt_irrefl 0 ((hiff.mp e).2.2 ▸ hpos)
  have hnot : ¬ (s ∈ st.dead ∨ s ≤ st.lastGCSn) := fun hx => hr1 ((h.place s h1 h2).mpr hx)
  exact ⟨hz, (Nat.le_one_iff_eq_zero_or_eq_one.mp hle).resolve_right hr1,
    fun hm => Nat.lt_irrefl 0 (((h.live_iff s).mp hm).2.2.2 ▸ hpos), fun hm => hnot (Or.inl hm),
    Nat.lt_of_not_le fun a => hnot (Or.inr a)⟩

theorem pcs_move {st st' : St} {i : Nat} {pc' : PC}
    (hp : ∀ (j : Nat) (pc : PC), st.ths[j]? = some pc → PCok st pc)
    (hths : st'.ths = st.ths.set i pc') (hl : st'.snaps.length = st.snaps.length)
    (hL : st'.lastGCSn = st.lastGCSn) (hd : ∀ s, s ∈ st.dead → s ∈ st'.dead) (hok : PCok st pc') :
    ∀ (j : Nat) (pc : PC), st'.ths[j]? = some pc → PCok st' pc := by
  intro j pcj hj
  rw [hths] at hj
  rcases getElem?_set_cases hj with ⟨_, rfl⟩ | ⟨_, hj'⟩
  · exact PCok_mono hl hL hd hok
  · exact PCok_mono hl hL hd (hp j pcj hj')

theorem Inv.records_kept {cfg : Cfg} {st st' : St} {i : Nat} {pc pc' : PC} (h : Inv cfg st)
    (hi : st.ths[i]? = some pc) (hths : st'.ths = st.ths.set i pc') (hsn : st'.snaps = st.snaps)
    (hlive : st'.live = st.live) (hdec : ∀ s, uDec s pc' = uDec s pc) (hret : ∀ s, uRet s pc' = uRet s pc)
    (hret2 : ∀ s, uRet2 s pc' = uRet2 s pc) :
    (∀ s, 1 ≤ s → s ≤ st'.snaps.length →
      (getS st' s).refs = ((getS st' s).held : Int) + (cnt (uDec s) st'.ths : Int)) ∧
    (∀ s, 1 ≤ s → s ≤ st'.snaps.length →
      (getS st' s).retired + cnt (uRet s) st'.ths + cnt (uRet2 s) st'.ths =
        if (getS st' s).refs = 0 then 1 else 0) ∧
    (∀ s, s ∈ st'.live ↔
      (1 ≤ s ∧ s ≤ st'.snaps.length ∧ (getS st' s).retired = 0 ∧ cnt (uRet2 s) st'.ths = 0)) := by
  have hg : ∀ s, getS st' s = getS st s := fun s => congrArg (snapAt · s) hsn
  refine ⟨fun s h1 h2 => ?_, fun s h1 h2 => ?_, fun s => ?_⟩
  · rw [hg, hths, cnt_set_eq _ _ hi (hdec s)]; exact h.count s h1 (hsn ▸ h2)
  · rw [hg, hths, cnt_set_eq _ _ hi (hret s), cnt_set_eq _ _ hi (hret2 s)]; exact h.retire s h1 (hsn ▸ h2)
  · rw [hg, hths, hlive, hsn, cnt_set_eq _ _ hi (hret2 s)]; exact h.live_iff s

/-- thread `i` moves and the collector flag is written; `excl` and `resp` are the caller's -/
theorem inv_setT_flag {cfg : Cfg} {st : St} {i : Nat} {pc pc' : PC} {b : Bool} (h : Inv cfg st)
    (hi : st.ths[i]? = some pc) (hok : PCok st pc')
    (hdec : ∀ s, uDec s pc' = uDec s pc) (hret : ∀ s, uRet s pc' = uRet s pc)
    (hret2 : ∀ s, uRet2 s pc' = uRet2 s pc)
    (hexcl : cnt uCrit (st.ths.set i pc') = if b then 1 else 0)
    (hresp : cfg.fixedGC = true → (st.lastGCSn + 1) ∈ st.dead → 1 ≤ cnt uResp (st.ths.set i pc')) :
    Inv cfg (setT { st with flag := b } i pc') :=
  have hk := h.records_kept (st' := setT { st with flag := b } i pc') hi rfl rfl rfl hdec hret hret2
  { h with
    count := hk.1
    retire := hk.2.1
    pcs := pcs_move h.pcs rfl rfl rfl (fun _ a => a) hok
    live_iff := hk.2.2
    excl := hexcl
    resp := hresp }

/-- Thread `i` only moves (the weight hypotheses hold by computation at every use, hence the defaults).
    `hresp`: a thread may drop its responsibility for a collectable head only while the flag is held — the holder
    is responsible (`uCrit ≤ uResp`) and looks at the dead list again after dropping it. -/
theorem inv_setT {cfg : Cfg} {st : St} {i : Nat} {pc pc' : PC} (h : Inv cfg st)
    (hi : st.ths[i]? = some pc) (hok : PCok st pc')
    (hresp : cfg.fixedGC = true → (st.lastGCSn + 1) ∈ st.dead → uResp pc ≤ uResp pc' ∨ st.flag = true)
    (hdec : ∀ s, uDec s pc' = uDec s pc := by intro; rfl)
    (hret : ∀ s, uRet s pc' = uRet s pc := by intro; rfl)
    (hret2 : ∀ s, uRet2 s pc' = uRet2 s pc := by intro; rfl)
    (hcrit : uCrit pc' = uCrit pc := by rfl) :
    Inv cfg (setT st i pc') := by
  have hx : cnt uCrit (st.ths.set i pc') = if st.flag then 1 else 0 :=
    (cnt_set_eq _ _ hi hcrit).trans h.excl
  refine inv_setT_flag (b := st.flag) h hi hok hdec hret hret2 hx (fun hg hm => ?_)
  rcases hresp hg hm with hle | hf
  · exact resp_after_move (h.resp hg hm) (cnt_set uResp st.ths i pc pc' hi) hle
  · have : cnt uCrit (st.ths.set i pc') ≤ cnt uResp _ := sum_map_le uCrit uResp _ uCrit_le_uResp
    rw [hx, hf] at this
    exact this

end NitroVerif.RefCount
