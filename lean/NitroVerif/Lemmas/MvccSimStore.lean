/-
  The store mutations seen through the abstraction: linking a version is the sorted insertion
  of the specification, marking / unlinking an alive version is the removal of its key, and the
  validity of node handles follows.
-/
import NitroVerif.Lemmas.MvccAbs
import NitroVerif.Lemmas.MvccInv

namespace NitroVerif.Mvcc
open SetSpec

theorem ins_split (e : Entry) (L R : List Entry) (hL : ∀ x ∈ L, x.key < e.key) (hR : ∀ x ∈ R, e.key < x.key) :
    ins e (L ++ R) = L ++ e :: R := by
  induction L with
  | nil =>
    cases R with
    | nil => rfl
    | cons y ys => exact if_neg (Nat.lt_asymm (hR y (List.mem_cons_self ..)))
  | cons x L ih =>
    rw [List.cons_append, ins, if_pos (hL x (List.mem_cons_self ..)),
      ih fun y hy => hL y (List.mem_cons_of_mem _ hy)]
    rfl

theorem absAlive_append (l r : List Ver) : absAlive (l ++ r) = absAlive l ++ absAlive r := by
  simp [absAlive, List.filter_append]

theorem mem_absAlive {s : List Ver} {e : Entry} (h : e ∈ absAlive s) :
    ∃ v ∈ s, v.dead = 0 ∧ e = entryOf v := by
  unfold absAlive at h
  obtain ⟨v, hv, rfl⟩ := List.mem_map.mp h
  have := List.mem_filter.mp hv
  exact ⟨v, this.1, by simpa [isAlive] using this.2, rfl⟩

theorem absAlive_insertAt {cur : Nat} {s : List Ver} (hs : Sorted s) (k v : Nat)
    (hno : ∀ y ∈ s, y.key = k → y.dead ≠ 0) :
    absAlive (insertAt s ⟨k, v, cur, 0⟩) = ins ⟨k, v, cur⟩ (absAlive s) := by
  have happ := findPath_append insCmp ⟨k, v, cur, 0⟩ s
  have ⟨h1, h2⟩ := findPath_ins hs ⟨k, v, cur, 0⟩
  unfold insertAt
  conv => rhs; rw [← happ]
  rw [absAlive_append, absAlive_append]
  have hp : absAlive (⟨k, v, cur, 0⟩ :: (findPath insCmp ⟨k, v, cur, 0⟩ s).2) =
      ⟨k, v, cur⟩ :: absAlive (findPath insCmp ⟨k, v, cur, 0⟩ s).2 := by
    simp [absAlive, isAlive, entryOf]
  rw [hp]
  symm
  apply ins_split
  · intro e he
    obtain ⟨y, hy, hd, rfl⟩ := mem_absAlive he
    rw [h1] at hy
    have hy' := List.mem_filter.mp hy
    exact ((insLt_iff _ _).mp hy'.2).elim id fun h => absurd hd (hno y hy'.1 h.1)
  · intro e he
    obtain ⟨y, hy, hd, rfl⟩ := mem_absAlive he
    rw [h2] at hy
    have hy' := List.mem_filter.mp hy
    have hnlt : ¬ vlt y ⟨k, v, cur, 0⟩ := fun hv => by
      have hnot : (!insLt y ⟨k, v, cur, 0⟩) = true := hy'.2
      rw [(insLt_iff _ _).mpr hv] at hnot; cases hnot
    exact Nat.lt_of_le_of_ne (Nat.not_lt.mp fun h => hnlt (Or.inl h)) fun h => hno y hy'.1 h.symm hd

theorem removeKey_abs (s : List Ver) (k : Nat) :
    removeKey k (absAlive s) = (s.filter (fun v => isAlive v && (v.key != k))).map entryOf := by
  unfold removeKey absAlive
  rw [List.filter_map, List.filter_filter]
  congr 1
  apply List.filter_congr
  intro v _; simp [Function.comp, entryOf, Bool.and_comm]

theorem absAlive_removeId {cur : Nat} {s : List Ver} (hs : Sorted s) (hc : Chains cur s) {x : Ver}
    (hx : x ∈ s) (hd : x.dead = 0) : absAlive (removeId s x) = removeKey x.key (absAlive s) := by
  rw [removeKey_abs]
  unfold absAlive removeId
  rw [List.filter_filter]
  congr 1
  apply List.filter_congr
  intro v hv
  by_cases ha : isAlive v = true
  · simp only [ha, Bool.true_and]
    have hvd : v.dead = 0 := by simpa [isAlive] using ha
    by_cases hk : v.key = x.key
    · have := alive_unique hs hc hv hx hk hvd hd; subst this
      simp [(sameId_iff v v).mpr ⟨rfl, rfl⟩]
    · have : sameId v x = false := by
        cases h : sameId v x
        · rfl
        · exact absurd ((sameId_iff v x).mp h).1 hk
      simp [this, hk]
  · simp [ha]

theorem absAlive_markDead {cur : Nat} {s : List Ver} (hs : Sorted s) (hc : Chains cur s) {x : Ver}
    (hx : x ∈ s) (hd : x.dead = 0) (sn : Nat) (hsn : sn ≠ 0) :
    absAlive (markDead s x sn) = removeKey x.key (absAlive s) := by
  rw [← absAlive_removeId hs hc hx hd]
  unfold absAlive
  rw [filter_alive_markDead _ _ hsn]

theorem hasAlive_iff (s : List Ver) (k b : Nat) :
    hasAlive s k b = true ↔ ∃ v ∈ s, v.key = k ∧ v.born = b ∧ v.dead = 0 := by
  unfold hasAlive
  simp only [List.any_eq_true, List.mem_filter, Bool.and_eq_true, beq_iff_eq, isAlive]
  constructor
  · rintro ⟨v, ⟨hv, hd⟩, hk, hb⟩; exact ⟨v, hv, hk, hb, hd⟩
  · rintro ⟨v, hv, hk, hb, hd⟩; exact ⟨v, ⟨hv, hd⟩, hk, hb⟩

theorem handles_insertAt {σ : State} (h : Inv σ) (k v : Nat)
    (hno : ∀ y ∈ σ.store, y.key = k → y.dead ≠ 0) :
    σ.handles.map (absHandle (insertAt σ.store (probe σ k v))) = σ.handles.map (absHandle σ.store) := by
  apply List.map_congr_left
  intro p hp
  unfold absHandle
  congr 2
  cases hg : p.2.gone
  · simp only [Bool.not_false, Bool.true_and]
    rw [Bool.eq_iff_iff, hasAlive_iff, hasAlive_iff]
    constructor
    · rintro ⟨y, hy, hk, hb, hd⟩
      rcases (mem_insertAt _ _ y).mp hy with rfl | hy'
      · -- the new version cannot be what an old handle names
        exfalso
        have hk : k = p.2.key := hk
        have hb : σ.currSn = p.2.born := hb
        rcases h.handles p hp hg with h1 | ⟨z, hz, hzk, hzb⟩
        · exact Nat.lt_irrefl _ (hb ▸ h1)
        · exact hno z hz (hzk.trans hk.symm) (alive_of_born_cur h.chains hz (hzb.trans hb.symm))
      · exact ⟨y, hy', hk, hb, hd⟩
    · rintro ⟨y, hy, hk, hb, hd⟩
      exact ⟨y, (mem_insertAt _ _ y).mpr (Or.inr hy), hk, hb, hd⟩
  · simp

theorem hasAlive_congr {s s' : List Ver} (h : s'.filter isAlive = s.filter isAlive) (k b : Nat) :
    hasAlive s' k b = hasAlive s k b := by
  unfold hasAlive; rw [h]

theorem hasAlive_removeId (s : List Ver) (x : Ver) (k b : Nat) :
    hasAlive (removeId s x) k b = if k = x.key ∧ b = x.born then false else hasAlive s k b := by
  by_cases hid : k = x.key ∧ b = x.born
  · rw [if_pos hid]
    refine Bool.eq_false_iff.mpr fun hh => ?_
    obtain ⟨y, hy, hk, hb, _⟩ := (hasAlive_iff _ _ _).mp hh
    have hne := Bool.eq_false_iff.mp (mem_removeId.mp hy).2
    exact hne ((sameId_iff y x).mpr ⟨hk.trans hid.1, hb.trans hid.2⟩)
  · rw [if_neg hid, Bool.eq_iff_iff, hasAlive_iff, hasAlive_iff]
    constructor
    · rintro ⟨y, hy, hk, hb, hd⟩; exact ⟨y, (mem_removeId.mp hy).1, hk, hb, hd⟩
    · rintro ⟨y, hy, hk, hb, hd⟩
      refine ⟨y, mem_removeId.mpr ⟨hy, Bool.eq_false_iff.mpr fun hs => hid ?_⟩, hk, hb, hd⟩
      have := (sameId_iff y x).mp hs
      exact ⟨hk.symm.trans this.1, hb.symm.trans this.2⟩

theorem handles_removeId (σ : State) (x : Ver) :
    (markGone x σ.handles).map (absHandle (removeId σ.store x)) =
      invalidate x.key x.born (σ.handles.map (absHandle σ.store)) := by
  unfold markGone invalidate amap
  rw [List.map_map, List.map_map]
  refine List.map_congr_left fun p _ => ?_
  simp only [Function.comp, absHandle, hasAlive_removeId]
  by_cases hid : p.2.key = x.key ∧ p.2.born = x.born
  · simp only [hid, and_self, if_true, Bool.and_false]
  · simp only [hid, if_false]

theorem handles_markDead (σ : State) (x : Ver) {sn : Nat} (hsn : sn ≠ 0) :
    σ.handles.map (absHandle (markDead σ.store x sn)) =
      invalidate x.key x.born (σ.handles.map (absHandle σ.store)) := by
  unfold invalidate amap
  rw [List.map_map]
  refine List.map_congr_left fun p _ => ?_
  simp only [Function.comp, absHandle, hasAlive_congr (filter_alive_markDead σ.store x hsn), hasAlive_removeId]
  by_cases hid : p.2.key = x.key ∧ p.2.born = x.born
  · simp only [hid, and_self, if_true, Bool.and_false]
  · simp only [hid, if_false]

end NitroVerif.Mvcc
