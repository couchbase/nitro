/-
  A normal form of the actions of the small-step machine, for the proofs about readers (C01, concurrent
  part); the linearization (C03) uses it for the actions no writer sees.  Every action is *quiet* (`QStep`), or `NewSnapshot`, or one of four effects of a reader, a closer or
  the collector (`REff`).
-/
import NitroVerif.Lemmas.MvccConcOutcome
import NitroVerif.Lemmas.MvccConcLin
import NitroVerif.Lemmas.MvccConcFields

namespace NitroVerif.MvccConc

def curOf (σ : State) (t i : Nat) : Option Cur := (findIter (t, i) σ.iters).bind (·.cur)

theorem curOf_eq {σ : State} {t i : Nat} {it : Iter} (h : findIter (t, i) σ.iters = some it) :
    curOf σ t i = it.cur := by
  unfold curOf; rw [h]; rfl

theorem curOf_none {σ : State} {t i : Nat} (h : findIter (t, i) σ.iters = none) : curOf σ t i = none := by
  unfold curOf; rw [h]; rfl

theorem curOf_congr {σ σ' : State} {t i : Nat} (h : findIter (t, i) σ'.iters = findIter (t, i) σ.iters) :
    curOf σ' t i = curOf σ t i := by
  unfold curOf; rw [h]

def landResp (sn : Nat) : Option Node → Resp
  | none => .ret (.item none)
  | some y =>
    if Gen.skipUnwanted y.ver.born y.ver.dead sn then .at_ .ITER_NEXT else .ret (.item (some (y.ver.key, y.ver.val)))

/-- the state after the cursor of iterator `(t, i)` has landed on `land`, its thread going to `pc'` -/
def landed (σ : State) (t i : Nat) (it : Iter) (land : Option Node) (pc' : Pc) : State :=
  setPc { σ with iters := setIter (t, i) { it with cur := land.map curAt } σ.iters } t pc'

theorem landOn_eq (σ : State) (t i : Nat) (it : Iter) (land : Option Node) :
    ∃ pc' : Pc, (pc' = .idle ∨ pc' = .iterNext i) ∧
      landOn σ t i it land = (landed σ t i it land pc', landResp it.sn land) := by
  unfold landOn landResp
  cases land with
  | none => exact ⟨.idle, Or.inl rfl, rfl⟩
  | some y =>
    simp only
    by_cases h : Gen.skipUnwanted y.ver.born y.ver.dead it.sn = true
    · rw [if_pos h, if_pos h]; exact ⟨.iterNext i, Or.inr rfl, rfl⟩
    · rw [if_neg h, if_neg h]; exact ⟨.idle, Or.inl rfl, rfl⟩

theorem findIter_landed (σ : State) (t i : Nat) (it : Iter) (land : Option Node) (pc' : Pc) (k : Nat × Nat) :
    findIter k (landed σ t i it land pc').iters =
      if (t, i) = k then some { it with cur := land.map curAt } else findIter k σ.iters :=
  findIter_set k (t, i) _ σ.iters

theorem curOf_landed (σ : State) (t i : Nat) (it : Iter) (land : Option Node) (pc' : Pc) :
    curOf (landed σ t i it land pc') t i = land.map curAt := by
  unfold curOf; rw [findIter_landed, if_pos rfl]; rfl

theorem NextLand.mem {σ : State} {c : Cur} {land : Option Node} (h : NextLand σ c land) {y : Node}
    (hy : land = some y) : y ∈ σ.store := by
  rcases h with ⟨x, _, rfl⟩ | ⟨_, rfl⟩
  · exact succN_mem hy
  · exact seekN_mem hy

def Pc.isColl : Pc → Bool
  | .collectSend _ _ => true
  | _ => false

/-- a quiet action moves no thread, or one between program counters outside the collector (the only ones `SendInv`
    and `closingB` read) -/
inductive ThrQuiet (threads threads' : List Pc) : Prop
  | same : threads' = threads → ThrQuiet threads threads'
  | move (t : Nat) (pc0 pc' : Pc) : threads[t]? = some pc0 → pc0.isColl = false → pc'.isColl = false →
      threads' = threads.set t pc' → ThrQuiet threads threads'

/-- how a quiet action changes the store and the unlinked nodes.  `link` records that the node was a parked
    Put's (`reserved`): no cursor and no parked Delete stands on such a node -/
inductive StoreCh (σ : State) (store' unlinked' : List Node) : Prop
  | same : store' = σ.store → unlinked' = σ.unlinked → StoreCh σ store' unlinked'
  | link (n k v : Nat) : reserved σ.threads n → store' = insertN σ.store ⟨⟨k, v, σ.currSn, 0⟩, n⟩ →
      unlinked' = σ.unlinked → StoreCh σ store' unlinked'
  | unlink (n : Nat) (x : Node) : findNode σ.store n = some x →
      (x.ver.born = σ.currSn ∨ (n ∈ garbJ σ.gcJobs ∧ x.ver.dead ≠ 0)) →
      store' = removeNode σ.store n → unlinked' = σ.unlinked ++ [x] → StoreCh σ store' unlinked'
  | mark (n : Nat) (x : Node) : findNode σ.store n = some x → x.ver.dead = 0 →
      store' = markDeadNode σ.store n σ.currSn → unlinked' = σ.unlinked → StoreCh σ store' unlinked'

/-- no snapshot, iterator, epoch or frontier is touched; at most one thread moves, outside the collector; the jobs'
    garbage only shrinks; the store changes by one `StoreCh` -/
structure QStep (σ σ' : State) : Prop where
  currSn : σ'.currSn = σ.currSn
  lastGCSn : σ'.lastGCSn = σ.lastGCSn
  snaps : σ'.snaps = σ.snaps
  iters : σ'.iters = σ.iters
  fixedIter : σ'.fixedIter = σ.fixedIter
  thr : ThrQuiet σ.threads σ'.threads
  garb : ∀ n, n ∈ garbJ σ'.gcJobs → n ∈ garbJ σ.gcJobs
  store : StoreCh σ σ'.store σ'.unlinked

/-- what a `RefBack rc0` function does to the fields — stated on the fields because `Snapshot.Close` first marks
    the handle closed (`held := false`) and the composite is no `RefBack` function -/
structure GivesBack (rc0 : Int) (f : Snap → Snap) : Prop where
  sn : ∀ y, (f y).sn = y.sn
  rc : ∀ y, (f y).rc = y.rc - 1
  count : ∀ y, (f y).count = y.count
  gclist : ∀ y, (f y).gclist = y.gclist
  st : ∀ y, (f y).st = y.st ∨ (Gen.closeRetire (rc0 - 1) = true ∧ (f y).st = .retired)

/-- an accepted action of thread `t` that writes the iterator table or the snapshot table, by what it writes -/
inductive REff (σ : State) (a : Act) (t : Nat) (p : State × Resp) : Prop
  /-- the cursor of iterator `i` lands (`it_first`, ITER_NEXT) -/
  | land (i : Nat) (it : Iter) (land : Option Node) (pc' : Pc) : findIter (t, i) σ.iters = some it →
      ((a = .itFirst t i ∧ σ.threads[t]? = some .idle ∧ land = σ.store.head?) ∨
       (a = .step t ∧ σ.threads[t]? = some (.iterNext i) ∧ ∃ c, it.cur = some c ∧ NextLand σ c land)) →
      (pc' = .idle ∨ pc' = .iterNext i) → p = (landed σ t i it land pc', landResp it.sn land) → REff σ a t p
  /-- `it_new`: one more reference to snapshot `s` -/
  | open_ (i s : Nat) (x : Snap) : a = .itNew t i s → findSnap s σ.snaps = some x →
      findIter (t, i) σ.iters = none → Gen.openRefuse x.rc = false →
      p.1 = { (acquire σ (.it t i)) with snaps := updSnap s (fun y => { y with rc := y.rc + 1 }) σ.snaps,
                                         iters := setIter (t, i) ⟨s, curTok σ, none⟩ σ.iters } → REff σ a t p
  /-- `close`, `it_close`: one reference to snapshot `s` is given back — the handle's (`after = none`) or that of
      iterator `i` (`after = some i`) -/
  | close (s : Nat) (x : Snap) (f : Snap → Snap) (after : Option Nat) : σ.threads[t]? = some .idle →
      findSnap s σ.snaps = some x →
      ((a = .close t s ∧ after = none ∧ x.held = true ∧ ∀ y, (f y).held = false) ∨
       (∃ i it, a = .itClose t i ∧ after = some i ∧ findIter (t, i) σ.iters = some it ∧ it.sn = s ∧
          ∀ y, (f y).held = y.held)) →
      GivesBack x.rc f →
      CloseTail { σ with snaps := updSnap s f σ.snaps } t after p → REff σ a t p
  /-- COLLECT_SEND: the frontier moves to `sn`, the garbage list of that snapshot becomes a job; then the tail -/
  | collect (sn : Nat) (x : Snap) (after : Option Nat) : a = .step t →
      σ.threads[t]? = some (.collectSend sn after) → findSnap sn σ.snaps = some x →
      CloseTail { σ with lastGCSn := sn, gcJobs := σ.gcJobs ++ [⟨[], x.gclist, .recv⟩],
                         snaps := updSnap sn (fun y => { y with st := .collected }) σ.snaps } t after p →
      REff σ a t p

/-- what thread `t` gets when it tries an action of a reader, a closer or the collector: refused (state as it was,
    no item answered), or one of the effects -/
inductive Tried (σ : State) (a : Act) (t : Nat) (p : State × Resp) : Prop
  | refused (r : Resp) : r.isItem = false → p = (σ, r) → Tried σ a t p
  | eff : REff σ a t p → Tried σ a t p

inductive Cases (σ : State) (a : Act) (p : State × Resp) : Prop
  | quiet : QStep σ p.1 → p.2.isItem = false → Cases σ a p
  | snap : a = .snap → p = snap σ → Cases σ a p
  | eff (t : Nat) : REff σ a t p → Cases σ a p

/-- `hf` is ONE conjunction: one `simp` with the field lemmas (`mvcc_fields`, MvccConcFields) proves it -/
theorem Cases.of_quiet {σ σ' : State} {a : Act} {r : Resp} {threads : List Pc} {gcJobs : List GcJob}
    {store unlinked : List Node}
    (hf : σ'.threads = threads ∧ σ'.gcJobs = gcJobs ∧ σ'.store = store ∧ σ'.unlinked = unlinked ∧
      σ'.currSn = σ.currSn ∧ σ'.lastGCSn = σ.lastGCSn ∧ σ'.snaps = σ.snaps ∧ σ'.iters = σ.iters ∧
      σ'.fixedIter = σ.fixedIter)
    (ht : ThrQuiet σ.threads threads) (hj : ∀ n, n ∈ garbJ gcJobs → n ∈ garbJ σ.gcJobs)
    (hs : StoreCh σ store unlinked) (hr : r.isItem = false) : Cases σ a (σ', r) := by
  obtain ⟨e1, e2, e3, e4, e5, e6, e7, e8, e9⟩ := hf
  exact .quiet ⟨e5, e6, e7, e8, e9, e1 ▸ ht, e2 ▸ hj, e3 ▸ e4 ▸ hs⟩ hr

theorem Cases.refl (σ : State) {a : Act} {r : Resp} (hr : r.isItem = false) : Cases σ a (σ, r) :=
  .quiet ⟨rfl, rfl, rfl, rfl, rfl, .same rfl, fun _ h => h, .same rfl rfl⟩ hr

section Quiet
variable {a : Act}

theorem quiet_startPut {σ : State} {t : Nat} (k v : Nat) (hg : σ.threads[t]? = some .idle) :
    Cases σ a (startPut σ t k v) :=
  .of_quiet (by simp) (.move t _ (.putInsert σ.nextId k v σ.currSn) hg rfl rfl rfl) (fun _ h => h)
    (.same rfl rfl) rfl

theorem quiet_startDel {σ : State} {t : Nat} (hi : Inv σ) (k : Nat) (hg : σ.threads[t]? = some .idle) :
    Cases σ a (startDel σ t k) := by
  rcases startDel_outcome hi t k with ⟨_, he⟩ | ⟨x, _, _, _, _, ⟨_, he⟩ | ⟨_, he⟩⟩
  · rw [he]; exact .of_quiet (by simp) (.same rfl) (fun _ h => h) (.same rfl rfl) rfl
  · rw [he]
    exact .of_quiet (by simp) (.move t _ (.delPhys x.id (curTok σ) k) hg rfl rfl rfl) (fun _ h => h) (.same rfl rfl) rfl
  · rw [he]
    exact .of_quiet (by simp) (.move t _ (.delCas x.id (curTok σ) k) hg rfl rfl rfl) (fun _ h => h) (.same rfl rfl) rfl

theorem quiet_itNext {σ : State} {t : Nat} (i : Nat) (hg : σ.threads[t]? = some .idle) :
    Cases σ a (itNext σ t i) := by
  rcases itNext_cases σ t i with h | h
  · rw [h]; exact .refl σ rfl
  · rw [h]; exact .of_quiet (by simp) (.move t _ (.iterNext i) hg rfl rfl rfl) (fun _ h => h) (.same rfl rfl) rfl

theorem quiet_stepPut {σ : State} {t n k v b : Nat} (hi : Inv σ) (hg : σ.threads[t]? = some (.putInsert n k v b)) :
    Cases σ a (stepPut σ t n k v b) := by
  obtain ⟨_, rfl, h⟩ := stepPut_outcome hi hg
  rcases h with ⟨y, _, he⟩ | ⟨_, he⟩
  · rw [he]; exact .of_quiet (by simp) (.move t _ .idle hg rfl rfl rfl) (fun _ h => h) (.same rfl rfl) rfl
  · rw [he]
    exact .of_quiet (by simp) (.move t _ .idle hg rfl rfl rfl) (fun _ h => h)
      (.link n k v ⟨k, v, σ.currSn, List.mem_of_getElem? hg⟩ rfl rfl) rfl

theorem quiet_stepDelPhys {σ : State} {t n tok k : Nat} (hi : Inv σ) (hg : σ.threads[t]? = some (.delPhys n tok k)) :
    Cases σ a (stepDelPhys σ t n tok k) := by
  rcases (stepDelPhys_outcome hi hg).2 with ⟨x, hf, _, hxb, _, he⟩ | ⟨_, he⟩
  · rw [he]
    exact .of_quiet (by simp) (.move t _ (.delFlush n tok k) hg rfl rfl rfl) (fun _ h => h)
      (.unlink n x hf (Or.inl hxb) rfl rfl) rfl
  · rw [he]; exact .of_quiet (by simp) (.move t _ .idle hg rfl rfl rfl) (fun _ h => h) (.same rfl rfl) rfl

theorem quiet_stepDelFlush {σ : State} {t n tok k : Nat} (hg : σ.threads[t]? = some (.delFlush n tok k)) :
    Cases σ a (stepDelFlush σ t n tok) :=
  .of_quiet (by simp) (.move t _ .idle hg rfl rfl rfl) (fun _ h => h) (.same rfl rfl) rfl

theorem quiet_stepDelCas {σ : State} {t n tok k : Nat} (hi : Inv σ) (hg : σ.threads[t]? = some (.delCas n tok k)) :
    Cases σ a (stepDelCas σ t n tok) := by
  rcases (stepDelCas_outcome hi hg).2 with ⟨x, hf, _, _, hd0, he⟩ | ⟨_, he⟩
  · rw [he]
    exact .of_quiet (by simp) (.move t _ .idle hg rfl rfl rfl) (fun _ h => h)
      (.mark n x hf hd0 rfl rfl) rfl
  · rw [he]; exact .of_quiet (by simp) (.move t _ .idle hg rfl rfl rfl) (fun _ h => h) (.same rfl rfl) rfl

theorem quiet_stepGc {σ : State} (hi : Inv σ) (j : Nat) : Cases σ a (stepGc σ j) := by
  have keep : ∀ {job job' : GcJob} {r : Resp}, σ.gcJobs[j]? = some job → (∀ n, n ∈ job'.todo → n ∈ job.todo) →
      r.isItem = false → Cases σ a (setGc σ j job', r) :=
    fun hj hsub hr => .of_quiet (by simp) (.same rfl) (garbJ_set_sub hj hsub) (.same rfl rfl) hr
  have hc := stepGc_outcome hi j
  generalize stepGc σ j = p at hc ⊢
  cases hc with
  | refuse => exact .refl σ rfl
  | recvEmpty hj => exact keep hj (fun _ h => h) rfl
  | recvNode hj => exact keep hj (fun _ h => h) rfl
  | @nodeLinked job n r x pc' pt hj _ htd hf hdead =>
    have hnin : n ∈ garbJ σ.gcJobs := mem_garbJ hj (by rw [htd]; exact List.mem_cons_self)
    exact .of_quiet (by simp) (.same rfl)
      (garbJ_set_sub (job' := ⟨job.done ++ [n], r, pc'⟩) hj
        (fun m hm => by rw [htd]; exact List.mem_cons_of_mem _ hm))
      (.unlink n x hf (Or.inr ⟨hnin, hdead⟩) rfl rfl) rfl
  | nodeNone hj => exact keep hj (fun _ h => h) rfl
  | @flush job hj =>
    exact .of_quiet (by simp) (.same rfl)
      (garbJ_set_sub (job' := { job with pc := .done }) hj (fun _ h => h)) (.same rfl rfl) rfl
  | done hj => exact keep hj (fun _ h => h) rfl

theorem quiet_stepFr (σ : State) (j : Nat) : Cases σ a (stepFr σ j) := by
  unfold stepFr
  split
  · split
    · exact .of_quiet (by simp) (.same rfl) (fun _ h => h) (.same rfl rfl) rfl
    · exact .of_quiet (by simp) (.same rfl) (fun _ h => h) (.same rfl rfl) rfl
    · exact .refl σ rfl
  · exact .refl σ rfl

theorem quiet_shutdown (σ : State) : Cases σ a (shutdown σ) := by
  unfold shutdown
  split
  · exact .of_quiet (by simp) (.same rfl) (fun _ h => h) (.same rfl rfl) rfl
  · exact .refl σ rfl

end Quiet

theorem itFirst_landed (σ : State) (t i : Nat) :
    itFirst σ t i = (σ, .bad) ∨
      ∃ it pc', findIter (t, i) σ.iters = some it ∧ (pc' = .idle ∨ pc' = .iterNext i) ∧
        itFirst σ t i = (landed σ t i it σ.store.head? pc', landResp it.sn σ.store.head?) := by
  rcases itFirst_cases σ t i with h | ⟨it, hf, h⟩
  · exact Or.inl h
  · obtain ⟨pc', hpc, he⟩ := landOn_eq σ t i it σ.store.head?
    exact Or.inr ⟨it, pc', hf, hpc, h.trans he⟩

theorem stepIter_landed (σ : State) (t i : Nat) :
    (∃ r : Resp, r.isItem = false ∧ stepIter σ t i = (σ, r)) ∨
      ∃ it c land pc', findIter (t, i) σ.iters = some it ∧ it.cur = some c ∧ NextLand σ c land ∧
        (pc' = .idle ∨ pc' = .iterNext i) ∧ stepIter σ t i = (landed σ t i it land pc', landResp it.sn land) := by
  rcases stepIter_cases σ t i with h | ⟨it, c, land, hf, hc, hl, h⟩
  · exact Or.inl h
  · obtain ⟨pc', hpc, he⟩ := landOn_eq σ t i it land
    exact Or.inr ⟨it, c, land, pc', hf, hc, hl, hpc, h.trans he⟩

theorem step_itFirst (σ : State) (t i : Nat) :
    step σ (.itFirst t i) = (σ, .bad) ∨
      (σ.threads[t]? = some .idle ∧
        ∃ it pc', findIter (t, i) σ.iters = some it ∧ (pc' = .idle ∨ pc' = .iterNext i) ∧
          step σ (.itFirst t i) = (landed σ t i it σ.store.head? pc', landResp it.sn σ.store.head?)) := by
  have hc := step_cases σ (.itFirst t i)
  generalize step σ (.itFirst t i) = p at hc ⊢
  cases hc with
  | refuse => exact Or.inl rfl
  | itFirst _ ht => exact (itFirst_landed σ t i).imp_right (fun h => ⟨ht, h⟩)

theorem step_iterNext {σ : State} {t i : Nat} (ht : σ.threads[t]? = some (.iterNext i)) :
    (∃ r : Resp, r.isItem = false ∧ step σ (.step t) = (σ, r)) ∨
      ∃ it land pc', step σ (.step t) = (landed σ t i it land pc', landResp it.sn land) := by
  have hc := step_cases σ (.step t)
  generalize step σ (.step t) = p at hc ⊢
  cases hc with
  | refuse => exact Or.inl ⟨_, rfl, rfl⟩
  | stepIter hg =>
    rw [ht] at hg; injection hg with hg; injection hg with hg; subst hg
    exact (stepIter_landed σ t i).imp_right (fun ⟨it, _, land, pc', _, _, _, _, h⟩ => ⟨it, land, pc', h⟩)
  | stepPut hg | stepDelPhys hg | stepDelFlush hg | stepDelCas hg | stepCollect hg => rw [ht] at hg; cases hg

theorem itNew_eff (σ : State) (t i s : Nat) : Tried σ (.itNew t i s) t (itNew σ t i s) := by
  rcases itNew_cases σ t i s with ⟨r, hr, h⟩ | ⟨x, hs, hf, hr, h⟩
  · exact .refused r hr h
  · exact .eff (.open_ i s x rfl hs hf hr (congrArg Prod.fst h))

theorem itFirst_eff (σ : State) {t : Nat} (i : Nat) (ht : σ.threads[t]? = some .idle) :
    Tried σ (.itFirst t i) t (itFirst σ t i) := by
  rcases itFirst_landed σ t i with h | ⟨it, pc', hf, hpc, h⟩
  · exact .refused _ rfl h
  · exact .eff (.land i it _ pc' hf (Or.inl ⟨rfl, ht, rfl⟩) hpc h)

theorem stepIter_eff (σ : State) {t i : Nat} (hg : σ.threads[t]? = some (.iterNext i)) :
    Tried σ (.step t) t (stepIter σ t i) := by
  rcases stepIter_landed σ t i with ⟨r, hr, h⟩ | ⟨it, c, land, pc', hf, hc, hl, hpc, h⟩
  · exact .refused r hr h
  · exact .eff (.land i it land pc' hf (Or.inr ⟨rfl, hg, c, hc, hl⟩) hpc h)

theorem RefBack.gives {rc : Int} {f : Snap → Snap} (h : RefBack rc f) :
    GivesBack rc f ∧ ∀ y, (f y).held = y.held := by
  rcases h with rfl | ⟨hr, rfl⟩ <;>
    refine ⟨⟨fun _ => rfl, fun _ => rfl, fun _ => rfl, fun _ => rfl, fun _ => ?_⟩, fun _ => rfl⟩
  · exact Or.inl rfl
  · exact Or.inr ⟨hr, rfl⟩

theorem startClose_eff (σ : State) {t : Nat} (s : Nat) (ht : σ.threads[t]? = some .idle) :
    Tried σ (.close t s) t (startClose σ t s) := by
  rcases startClose_tail σ t s with h | ⟨x, f, hf, hh, hb, htl⟩
  · exact .refused _ rfl h
  · rw [updSnap_updSnap s f (fun y => { y with held := false }) σ.snaps (fun _ => rfl)] at htl
    have hg := hb.gives.1
    exact .eff (.close s x (fun y => f { y with held := false }) none ht hf
      (Or.inl ⟨rfl, rfl, hh, fun y => hb.gives.2 _⟩)
      ⟨fun _ => hg.sn _, fun _ => hg.rc _, fun _ => hg.count _, fun _ => hg.gclist _, fun _ => hg.st _⟩ htl)

theorem itClose_eff (σ : State) {t : Nat} (i : Nat) (ht : σ.threads[t]? = some .idle) :
    Tried σ (.itClose t i) t (itClose σ t i) := by
  rcases itClose_tail σ t i with h | ⟨it, x, f, hf, hs, hb, htl⟩
  · exact .refused _ rfl h
  · exact .eff (.close it.sn x f (some i) ht hs (Or.inr ⟨i, it, rfl, rfl, hf, rfl, hb.gives.2⟩) hb.gives.1 htl)

theorem stepCollect_eff (σ : State) {t sn : Nat} {after : Option Nat}
    (hg : σ.threads[t]? = some (.collectSend sn after)) :
    Tried σ (.step t) t (stepCollect σ t sn after) := by
  rcases stepCollect_tail σ hg with h | ⟨x, hs, htl⟩
  · exact .refused _ rfl h
  · exact .eff (.collect sn x after rfl hg hs htl)

theorem Tried.cases {σ : State} {a : Act} {t : Nat} {p : State × Resp} (h : Tried σ a t p) : Cases σ a p := by
  cases h with
  | refused r hr he => rw [he]; exact .refl σ hr
  | eff h => exact .eff t h

theorem action_cases {σ : State} (hi : Inv σ) (a : Act) : Cases σ a (step σ a) := by
  have hc := step_cases σ a
  generalize step σ a = p at hc ⊢
  cases hc with
  | refuse => exact .refl σ rfl
  | snap => exact .snap rfl rfl
  | put _ ht => exact quiet_startPut _ _ ht
  | del _ ht => exact quiet_startDel hi _ ht
  | get => exact .refl σ rfl
  | close ht => exact (startClose_eff σ _ ht).cases
  | itNew => exact (itNew_eff σ _ _ _).cases
  | itFirst _ ht => exact (itFirst_eff σ _ ht).cases
  | itNext _ ht => exact quiet_itNext _ ht
  | itClose _ ht => exact (itClose_eff σ _ ht).cases
  | stepPut hg => exact quiet_stepPut hi hg
  | stepDelPhys hg => exact quiet_stepDelPhys hi hg
  | stepDelFlush hg => exact quiet_stepDelFlush hg
  | stepDelCas hg => exact quiet_stepDelCas hi hg
  | stepCollect hg => exact (stepCollect_eff σ hg).cases
  | stepIter hg => exact (stepIter_eff σ hg).cases
  | gc j => exact quiet_stepGc hi j
  | fr j => exact quiet_stepFr σ j
  | shutdown => exact quiet_shutdown σ

theorem REff.mild {σ : State} {a : Act} {t : Nat} {p : State × Resp} (h : REff σ a t p) : Mild t σ p.1 := by
  cases h with
  | land i it land pc' _ _ hpc he =>
    rw [he]; exact ⟨rfl, rfl, rfl, rfl, rfl, pc', by rcases hpc with rfl | rfl <;> rfl, Or.inl rfl⟩
  | open_ i s x _ _ _ _ he => rw [he]; exact .of_eq rfl rfl rfl rfl rfl rfl
  | close _ _ _ _ _ _ _ _ htl | collect _ _ _ _ _ _ htl =>
    have h := htl.mild
    exact ⟨h.store, h.currSn, h.writers, h.unlinked, h.fixedIter, h.thr⟩

theorem Tried.mild {σ : State} {a : Act} {t : Nat} {p : State × Resp} (h : Tried σ a t p) : Mild t σ p.1 := by
  cases h with
  | refused r _ he => rw [he]; exact Mild.refl t σ
  | eff h => exact h.mild

end NitroVerif.MvccConc
