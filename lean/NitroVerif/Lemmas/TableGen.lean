import NitroVerif.Model.Table
/-!
  Characterisation of the generated node-table facts (nodetable/table.go).  The table proofs use
  these named lemmas only (never unfold `Gen.*`).
-/
namespace NitroVerif.Table.GenLemmas

/-- `res.status&ntFoundMask == ntFoundMask` holds for both "found" statuses … -/
theorem ntIsFound_fast : Gen.ntIsFound Gen.ntFoundInFast = true := by decide
theorem ntIsFound_slow : Gen.ntIsFound Gen.ntFoundInSlow = true := by decide
/-- … and fails for `ntNotFound` -/
theorem ntIsFound_notFound : Gen.ntIsFound Gen.ntNotFound = false := by decide
/-- the two "found" statuses are told apart by `res.status == ntFoundInFast` -/
theorem ntFoundInSlow_ne_fast : Gen.ntFoundInSlow ≠ Gen.ntFoundInFast := by decide

/-- Update: `newSlowValue := res.fastHTHasEntry && !res.hasConflict` -/
theorem ntNewSlowValue_eq (hasEntry conflict : Bool) :
    Gen.ntNewSlowValue hasEntry conflict = (hasEntry && !conflict) := rfl
/-- Update: the key goes to the slow table iff `res.hasConflict || newSlowValue` -/
theorem ntInsertSlow_eq (conflict newSlow : Bool) :
    Gen.ntInsertSlow conflict newSlow = (conflict || newSlow) := rfl
/-- combined: a new key goes to the slow table iff the fast table has an entry for its hash -/
theorem ntInsertSlow_newSlow (hasEntry conflict : Bool) (h : conflict = true → hasEntry = true) :
    Gen.ntInsertSlow conflict (Gen.ntNewSlowValue hasEntry conflict) = hasEntry := by
  rw [ntNewSlowValue_eq, ntInsertSlow_eq]
  cases hasEntry <;> cases conflict <;> simp at h ⊢

theorem ntConflictBit_eq : Gen.ntConflictBit = 63 := rfl

/-- For pointers below 2^63 (assumed of all pointers given to the table) the tagged `uint64` and
    the pair (pointer, flag) of the model carry the same information:
    `decodePointer (encodePointer p c) = p` and `hasConflict (encodePointer p c) = c`,
    and the encoded value fits 64 bits. -/
theorem encodePointer_faithful (p : Nat) (c : Bool) (hp : p < 2 ^ 63) :
    decodePointer (encodePointer p c) = p ∧ hasConflictBit (encodePointer p c) = c ∧
    encodePointer p c < 2 ^ 64 := by
  have hor : p ||| 2 ^ 63 = 2 ^ 63 + p := by
    have := Nat.two_pow_add_eq_or_of_lt hp 1
    simp at this
    rw [Nat.or_comm]; exact this.symm
  have h64 : (2 : Nat) ^ 64 = 2 ^ 63 + 2 ^ 63 := by decide
  unfold decodePointer hasConflictBit encodePointer
  rw [ntConflictBit_eq, Nat.one_shiftLeft]
  cases c with
  | false =>
    simp only [Bool.false_eq_true, if_false, Nat.shiftRight_eq_div_pow]
    refine ⟨Nat.mod_eq_of_lt hp, ?_, Nat.lt_trans hp (by decide)⟩
    rw [Nat.div_eq_of_lt hp]; rfl
  | true =>
    simp only [if_true, Nat.shiftRight_eq_div_pow]
    rw [hor]
    refine ⟨?_, ?_, ?_⟩
    · rw [Nat.add_mod_left]; exact Nat.mod_eq_of_lt hp
    · rw [Nat.add_div_left _ (by decide), Nat.div_eq_of_lt hp]; rfl
    · rw [h64]; exact Nat.add_lt_add_left hp _

end NitroVerif.Table.GenLemmas
