/-
  The physical store of the small-step model is a list of nodes (version + node id); its projection
  `vers` is the store of the sequential model `Model/Mvcc.lean`.  The node-level operations commute
  with the projection, so every lemma about `Mvcc.lookup / insertAt / removeId / markDead` applies.  The three
  mutations (link, unlink, mark dead) read on node ids: which ids are linked (`storeIds`), which are linked and
  alive (`AliveIn`), and how many versions are alive.
-/
import NitroVerif.Model.MvccConc
import NitroVerif.Lemmas.MvccStoreOps

namespace NitroVerif.MvccConc
open NitroVerif.Mvcc (Ver insCmp Sorted vlt sameId isAlive visible)

def storeIds (s : List Node) : List Nat := s.map (·.id)

theorem vers_findPathN (cmp : Ver → Ver → Int) (p : Ver) (s : List Node) :
    vers (findPathN cmp p s).1 = (Mvcc.findPath cmp p (vers s)).1 ∧
    vers (findPathN cmp p s).2 = (Mvcc.findPath cmp p (vers s)).2 := by
  induction s with
  | nil => exact ⟨rfl, rfl⟩
  | cons x xs ih =>
    unfold vers at ih ⊢
    unfold findPathN
    simp only [List.map_cons]
    unfold Mvcc.findPath
    by_cases h : Gen.findAdvance (cmp x.ver p) = true
    · simp only [h, if_true, List.map_cons]
      exact ⟨by rw [ih.1], ih.2⟩
    · simp [h]

theorem findPathN_append (cmp : Ver → Ver → Int) (p : Ver) (s : List Node) :
    (findPathN cmp p s).1 ++ (findPathN cmp p s).2 = s := by
  induction s with
  | nil => rfl
  | cons x xs ih =>
    unfold findPathN
    by_cases h : Gen.findAdvance (cmp x.ver p) = true
    · simp [h, ih]
    · simp [h]

theorem foundAtN_map (cmp : Ver → Ver → Int) (p : Ver) (s : List Node) :
    (foundAtN cmp p s).map (·.ver) = Mvcc.foundAt cmp p (vers s) := by
  cases s with
  | nil => rfl
  | cons x xs =>
    simp only [foundAtN, vers, List.map_cons, Mvcc.foundAt]
    split <;> rfl

theorem foundAtN_mem {cmp : Ver → Ver → Int} {p : Ver} {s : List Node} {x : Node}
    (h : foundAtN cmp p s = some x) : x ∈ s := by
  cases s with
  | nil => simp [foundAtN] at h
  | cons y ys =>
    simp only [foundAtN] at h
    split at h
    · simp at h; subst h; simp
    · simp at h

theorem lookupN_map (s : List Node) (p : Ver) :
    (lookupN s p).map (·.ver) = Mvcc.lookup (vers s) p := by
  unfold lookupN Mvcc.lookup
  have hfp := vers_findPathN insCmp p s
  have hfa := foundAtN_map insCmp p (findPathN insCmp p s).2
  rw [hfp.2] at hfa
  cases h1 : foundAtN insCmp p (findPathN insCmp p s).2 with
  | some x =>
    rw [h1] at hfa; simp only [Option.map_some] at hfa
    simp only [← hfa, Option.map_some]
  | none =>
    rw [h1] at hfa; simp only [Option.map_none] at hfa
    simp only [← hfa]
    have hl : (Mvcc.findPath insCmp p (vers s)).1.getLast? =
        ((findPathN insCmp p s).1.getLast?).map (·.ver) := by
      rw [← hfp.1]; unfold vers; rw [List.getLast?_map]
    rw [hl]
    cases h2 : (findPathN insCmp p s).1.getLast? with
    | none => rfl
    | some q =>
      simp only [Option.map_some]
      split <;> rfl

theorem lookupN_mem {s : List Node} {p : Ver} {x : Node} (h : lookupN s p = some x) : x ∈ s := by
  unfold lookupN at h
  have happ := findPathN_append insCmp p s
  cases h1 : foundAtN insCmp p (findPathN insCmp p s).2 with
  | some y =>
    rw [h1] at h; simp at h; subst h
    rw [← happ]; exact List.mem_append_right _ (foundAtN_mem h1)
  | none =>
    rw [h1] at h; simp only at h
    cases h2 : (findPathN insCmp p s).1.getLast? with
    | none => rw [h2] at h; simp at h
    | some q =>
      rw [h2] at h; simp only at h
      split at h
      · simp at h; subst h
        rw [← happ]; exact List.mem_append_left _ (List.mem_of_getLast? h2)
      · simp at h

theorem vers_insertN (s : List Node) (x : Node) : vers (insertN s x) = Mvcc.insertAt (vers s) x.ver := by
  unfold insertN Mvcc.insertAt
  have h := vers_findPathN insCmp x.ver s
  rw [← h.1, ← h.2]
  simp [vers]

theorem mem_insertN {s : List Node} {x y : Node} : y ∈ insertN s x ↔ y = x ∨ y ∈ s := by
  unfold insertN
  have happ := findPathN_append insCmp x.ver s
  constructor
  · intro h
    rcases List.mem_append.mp h with h | h
    · right; rw [← happ]; exact List.mem_append_left _ h
    · rcases List.mem_cons.mp h with h | h
      · exact Or.inl h
      · right; rw [← happ]; exact List.mem_append_right _ h
  · rintro (rfl | h)
    · exact List.mem_append_right _ (List.mem_cons_self)
    · rw [← happ] at h
      rcases List.mem_append.mp h with h | h
      · exact List.mem_append_left _ h
      · exact List.mem_append_right _ (List.mem_cons_of_mem _ h)

theorem count_storeIds_insertN (s : List Node) (x : Node) (n : Nat) :
    (storeIds (insertN s x)).count n = (storeIds s).count n + [x.id].count n := by
  unfold insertN storeIds
  conv => rhs; rw [← findPathN_append insCmp x.ver s]
  simp only [List.map_append, List.map_cons, List.count_append, List.count_cons, List.count_nil]
  omega

theorem succN_mem {store : List Node} {x y : Node} (h : succN store x = some y) : y ∈ store :=
  List.mem_of_find?_eq_some h

theorem seekN_mem {cmp : Mvcc.Ver → Mvcc.Ver → Int} {store : List Node} {k b : Nat} {y : Node}
    (h : seekN cmp store k b = some y) : y ∈ store := by
  unfold seekN at h
  have happ := findPathN_append cmp ⟨k, 0, b, 0⟩ store
  rw [← happ]
  exact List.mem_append_right _ (List.mem_of_head? h)

theorem findNode_some {s : List Node} {n : Nat} {x : Node} (h : findNode s n = some x) : x ∈ s ∧ x.id = n :=
  find?_key_some h

theorem findNode_none {s : List Node} {n : Nat} (h : findNode s n = none) : ∀ x ∈ s, x.id ≠ n :=
  find?_key_none h

theorem findNode_none_iff {s : List Node} {n : Nat} : findNode s n = none ↔ n ∉ storeIds s :=
  find?_key_eq_none_iff

theorem id_unique {s : List Node} (hn : (storeIds s).Nodup) {a b : Node} (ha : a ∈ s) (hb : b ∈ s)
    (h : a.id = b.id) : a = b :=
  eq_of_key_eq (List.pairwise_map.mp hn) (fun _ _ => id) ha hb h

theorem findNode_of_mem {s : List Node} (hn : (storeIds s).Nodup) {x : Node} (hx : x ∈ s) :
    findNode s x.id = some x :=
  find?_key_of_mem (List.pairwise_map.mp hn) (fun _ _ => id) hx

theorem pairwise_nodes {S : List Node} (h : Sorted (vers S)) : S.Pairwise (fun a b => vlt a.ver b.ver) := by
  unfold Sorted vers at h
  exact List.pairwise_map.mp h

theorem sorted_node_unique {s : List Node} (hs : Sorted (vers s)) {a b : Node} (ha : a ∈ s) (hb : b ∈ s)
    (h : sameId a.ver b.ver = true) : a = b := by
  have hp := pairwise_nodes hs
  have hi := (Mvcc.sameId_iff _ _).mp h
  rcases pairwise_mem_trichotomy hp ha hb with h | h | h
  · exact h
  · unfold vlt at h; omega
  · unfold vlt at h; omega

theorem sameId_eq_id {s : List Node} (hs : Sorted (vers s)) (hn : (storeIds s).Nodup) {n : Nat} {x y : Node}
    (hf : findNode s n = some x) (hy : y ∈ s) : sameId y.ver x.ver = decide (y.id = n) := by
  have ⟨hx, hid⟩ := findNode_some hf
  by_cases he : y.id = n
  · rw [decide_eq_true he, id_unique hn hy hx (he.trans hid.symm)]
    exact (Mvcc.sameId_iff _ _).mpr ⟨rfl, rfl⟩
  · rw [decide_eq_false he]
    cases hsi : sameId y.ver x.ver
    · rfl
    · exact absurd (sorted_node_unique hs hy hx hsi ▸ hid) he

theorem vers_removeNode {s : List Node} (hs : Sorted (vers s)) (hn : (storeIds s).Nodup) {n : Nat} {x : Node}
    (hf : findNode s n = some x) : vers (removeNode s n) = Mvcc.removeId (vers s) x.ver := by
  unfold removeNode Mvcc.removeId vers
  rw [List.filter_map]
  congr 1
  apply List.filter_congr
  intro y hy
  simp only [Function.comp, sameId_eq_id hs hn hf hy, bne, BEq.beq]

theorem vers_markDeadNode {s : List Node} (hs : Sorted (vers s)) (hn : (storeIds s).Nodup) {n sn : Nat} {x : Node}
    (hf : findNode s n = some x) : vers (markDeadNode s n sn) = Mvcc.markDead (vers s) x.ver sn := by
  unfold markDeadNode Mvcc.markDead vers
  rw [List.map_map, List.map_map]
  apply List.map_congr_left
  intro y hy
  simp only [Function.comp, sameId_eq_id hs hn hf hy, decide_eq_true_eq]
  split <;> rfl

theorem storeIds_markDeadNode (s : List Node) (n sn : Nat) : storeIds (markDeadNode s n sn) = storeIds s := by
  unfold storeIds markDeadNode
  rw [List.map_map]
  apply List.map_congr_left
  intro y _
  simp only [Function.comp]
  split <;> rfl

theorem mem_markDeadNode {s : List Node} {n sn : Nat} {y : Node} (h : y ∈ markDeadNode s n sn) :
    ∃ x ∈ s, y.id = x.id ∧ y.ver.key = x.ver.key ∧ y.ver.val = x.ver.val ∧ y.ver.born = x.ver.born ∧
      ((x.id = n ∧ y.ver.dead = sn) ∨ (x.id ≠ n ∧ y = x)) := by
  unfold markDeadNode at h
  obtain ⟨x, hx, rfl⟩ := List.mem_map.mp h
  refine ⟨x, hx, ?_⟩
  by_cases he : x.id = n
  · simp [he]
  · simp [he]

theorem mem_removeNode {s : List Node} {n : Nat} {y : Node} : y ∈ removeNode s n ↔ y ∈ s ∧ y.id ≠ n := by
  unfold removeNode; simp

theorem count_storeIds_removeNode {s : List Node} (hn : (storeIds s).Nodup) {n : Nat} {x : Node}
    (hf : findNode s n = some x) (m : Nat) :
    (storeIds (removeNode s n)).count m + [n].count m = (storeIds s).count m := by
  have ⟨hx, hid⟩ := findNode_some hf
  have hrm : storeIds (removeNode s n) = (storeIds s).filter (fun i => i != n) := by
    unfold storeIds removeNode; rw [List.filter_map]; rfl
  rw [hrm]
  by_cases hnm : n = m
  · subst hnm
    rw [List.count_eq_zero.mpr (by simp), hn.count]
    simp [show n ∈ storeIds s from List.mem_map.mpr ⟨x, hx, hid⟩]
  · rw [List.count_filter (by simpa using Ne.symm hnm), List.count_singleton]
    simp [hnm]

theorem removeNode_of_not_mem {s : List Node} {n : Nat} (h : n ∉ storeIds s) : removeNode s n = s := by
  unfold removeNode
  apply List.filter_eq_self.mpr
  intro y hy
  have : y.id ≠ n := fun he => h (List.mem_map.mpr ⟨y, hy, he⟩)
  simp [this]

theorem mem_storeIds {s : List Node} {x : Node} (hx : x ∈ s) : x.id ∈ storeIds s := List.mem_map.mpr ⟨x, hx, rfl⟩

theorem alive_removeNode {s : List Node} (hs : Sorted (vers s)) (hn : (storeIds s).Nodup) {n : Nat} {x : Node}
    (hf : findNode s n = some x) :
    ((vers (removeNode s n)).filter isAlive).length + (if x.ver.dead = 0 then 1 else 0) =
      ((vers s).filter isAlive).length := by
  rw [vers_removeNode hs hn hf]
  exact Mvcc.alive_removeId_length' hs (List.mem_map.mpr ⟨x, (findNode_some hf).1, rfl⟩)

theorem storeIds_removeNode_nodup {s : List Node} (hn : (storeIds s).Nodup) (n : Nat) :
    (storeIds (removeNode s n)).Nodup := by
  unfold storeIds removeNode
  exact List.Nodup.sublist ((List.filter_sublist).map _) hn

theorem mem_storeIds_removeNode_iff {s : List Node} {n m : Nat} :
    m ∈ storeIds (removeNode s n) ↔ m ∈ storeIds s ∧ m ≠ n := by
  unfold storeIds removeNode; simp only [List.mem_map, List.mem_filter, bne_iff_ne, ne_eq]
  exact ⟨fun ⟨y, ⟨hy, hne⟩, he⟩ => ⟨⟨y, hy, he⟩, he ▸ hne⟩, fun ⟨⟨y, hy, he⟩, hne⟩ => ⟨y, ⟨hy, he ▸ hne⟩, he⟩⟩

theorem alive_insertN (s : List Node) (x : Node) (hx : x.ver.dead = 0) :
    ((vers (insertN s x)).filter isAlive).length = ((vers s).filter isAlive).length + 1 := by
  unfold insertN
  have happ := findPathN_append Mvcc.insCmp x.ver s
  conv => rhs; rw [← happ]
  unfold vers
  simp only [List.map_append, List.map_cons, List.filter_append, List.filter_cons, List.length_append]
  have : isAlive x.ver = true := by simp [isAlive, hx]
  simp [this]; omega

theorem alive_markDeadNode {s : List Node} (hs : Sorted (vers s)) (hn : (storeIds s).Nodup) {n cur : Nat} {x : Node}
    (hf : findNode s n = some x) (hd : x.ver.dead = 0) (hcur : cur ≠ 0) :
    ((vers (markDeadNode s n cur)).filter isAlive).length + 1 = ((vers s).filter isAlive).length := by
  have := alive_removeNode hs hn hf
  rw [if_pos hd] at this
  rw [vers_markDeadNode hs hn hf, Mvcc.filter_alive_markDead _ _ hcur, ← vers_removeNode hs hn hf]
  exact this

theorem mem_markDeadNode_of_ne {s : List Node} {n sn : Nat} {y : Node} (hy : y ∈ s) (hne : y.id ≠ n) :
    y ∈ markDeadNode s n sn := by
  unfold markDeadNode
  exact List.mem_map.mpr ⟨y, hy, by simp [hne]⟩

theorem mem_markDeadNode_self {s : List Node} {n sn : Nat} {x : Node} (hx : x ∈ s) (hid : x.id = n) :
    ({ x with ver := { x.ver with dead := sn } } : Node) ∈ markDeadNode s n sn := by
  unfold markDeadNode
  exact List.mem_map.mpr ⟨x, hx, by simp [hid]⟩

/-- node `n` is linked and alive -/
def AliveIn (store : List Node) (n : Nat) : Prop := ∃ x ∈ store, x.id = n ∧ x.ver.dead = 0

theorem storeIds_insertN {s : List Node} {x : Node} {m : Nat} (hne : m ≠ x.id) :
    m ∈ storeIds (insertN s x) ↔ m ∈ storeIds s := by
  constructor
  · intro hm
    obtain ⟨y, hy, he⟩ := List.mem_map.mp hm
    rcases mem_insertN.mp hy with rfl | hy
    · exact absurd he.symm hne
    · exact List.mem_map.mpr ⟨y, hy, he⟩
  · intro hm
    obtain ⟨y, hy, he⟩ := List.mem_map.mp hm
    exact List.mem_map.mpr ⟨y, mem_insertN.mpr (Or.inr hy), he⟩

theorem aliveIn_insertN {s : List Node} {x : Node} {m : Nat} (hne : m ≠ x.id) :
    AliveIn (insertN s x) m ↔ AliveIn s m := by
  constructor
  · rintro ⟨y, hy, h1, h2⟩
    rcases mem_insertN.mp hy with rfl | hy
    · exact absurd h1.symm hne
    · exact ⟨y, hy, h1, h2⟩
  · rintro ⟨y, hy, h1, h2⟩; exact ⟨y, mem_insertN.mpr (Or.inr hy), h1, h2⟩

theorem aliveIn_removeNode_ne {s : List Node} {n m : Nat} (hne : m ≠ n) :
    AliveIn (removeNode s n) m ↔ AliveIn s m := by
  constructor
  · rintro ⟨y, hy, h1, h2⟩; exact ⟨y, (mem_removeNode.mp hy).1, h1, h2⟩
  · rintro ⟨y, hy, h1, h2⟩; exact ⟨y, mem_removeNode.mpr ⟨hy, h1 ▸ hne⟩, h1, h2⟩

theorem not_aliveIn_removeNode (s : List Node) (n : Nat) : ¬ AliveIn (removeNode s n) n := by
  rintro ⟨y, hy, h1, _⟩; exact (mem_removeNode.mp hy).2 h1

theorem aliveIn_removeNode_dead {s : List Node} (hn : (storeIds s).Nodup) {n : Nat} {x : Node}
    (hf : findNode s n = some x) (hd : x.ver.dead ≠ 0) (m : Nat) :
    AliveIn (removeNode s n) m ↔ AliveIn s m := by
  have ⟨hx, hid⟩ := findNode_some hf
  constructor
  · rintro ⟨y, hy, h1, h2⟩; exact ⟨y, (mem_removeNode.mp hy).1, h1, h2⟩
  · rintro ⟨y, hy, h1, h2⟩
    refine ⟨y, mem_removeNode.mpr ⟨hy, ?_⟩, h1, h2⟩
    intro he
    have := id_unique hn hy hx (he.trans hid.symm)
    subst this; exact hd h2

theorem aliveIn_markDeadNode_ne {s : List Node} {n sn m : Nat} (hne : m ≠ n) :
    AliveIn (markDeadNode s n sn) m ↔ AliveIn s m := by
  constructor
  · rintro ⟨y, hy, h1, h2⟩
    obtain ⟨z, hz, hyz, _, _, _, hc⟩ := mem_markDeadNode hy
    rcases hc with ⟨hzn, _⟩ | ⟨_, rfl⟩
    · exact absurd (h1.symm.trans (hyz.trans hzn)) hne
    · exact ⟨y, hz, h1, h2⟩
  · rintro ⟨y, hy, h1, h2⟩
    exact ⟨y, mem_markDeadNode_of_ne hy (h1 ▸ hne), h1, h2⟩

theorem not_aliveIn_markDeadNode (s : List Node) (n : Nat) {sn : Nat} (hsn : sn ≠ 0) :
    ¬ AliveIn (markDeadNode s n sn) n := by
  rintro ⟨y, hy, h1, h2⟩
  obtain ⟨z, hz, hyz, _, _, _, hc⟩ := mem_markDeadNode hy
  rcases hc with ⟨_, hd⟩ | ⟨hzn, _⟩
  · exact hsn (hd.symm.trans h2)
  · exact hzn (hyz.symm.trans h1)

theorem seekN_eq_find (cmp : Ver → Ver → Int) (k b : Nat) (S : List Node) :
    seekN cmp S k b = S.find? (fun x => !Gen.findAdvance (cmp x.ver ⟨k, 0, b, 0⟩)) := by
  induction S with
  | nil => rfl
  | cons x xs ih =>
    unfold seekN at ih ⊢
    unfold findPathN
    by_cases ha : Gen.findAdvance (cmp x.ver ⟨k, 0, b, 0⟩) = true
    · simp only [ha, if_true, List.find?_cons, Bool.not_true]
      exact ih
    · have ha' : Gen.findAdvance (cmp x.ver ⟨k, 0, b, 0⟩) = false := by simpa using ha
      simp [ha']

theorem view_eq (S : List Node) (sn : Nat) :
    Mvcc.view (vers S) sn = (S.filter (fun x => visible sn x.ver)).map (fun x => x.ver.norm) := by
  unfold Mvcc.view vers
  rw [List.filter_map, List.map_map]
  rfl

end NitroVerif.MvccConc
