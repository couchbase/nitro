import NitroVerif.Lemmas.BackupEffects
/-!
  Crash images of a delta-mode StoreToDisk.  The data side is an instance of `crash_data_side`; the
  data writers close last, so once every data shard file is complete the delta manifests and delta
  files are complete too (`crash_prefix_delta`).  Before it: a loader without delta files sees only the effects outside the
  delta side (`imageAfter_splitD`).
-/
namespace NitroVerif.Backup
open NitroVerif.Codec

instance (m : Nat) (e : Effect) : Decidable (isDeltaAppend m e) := by
  cases e <;> simp only [isDeltaAppend] <;> infer_instance

def isDeltaB : Effect → Bool
  | .mkdirDelta => true
  | .createDelta _ => true
  | .appendDelta _ _ => true
  | .writeDFiles _ => true
  | .writeDSums _ => true
  | .manifestBegin .dfiles => true
  | .manifestBegin .dsums => true
  | _ => false

def notDeltaB (e : Effect) : Bool := !isDeltaB e

def mergeD (a b : Image) : Image := { b with dfiles := a.dfiles, dsums := a.dsums, delta := a.delta }

theorem applyEffect_mergeD (a b : Image) (e : Effect) :
    applyEffect (mergeD a b) e
      = if isDeltaB e then mergeD (applyEffect a e) b else mergeD a (applyEffect b e) := by
  cases e with
  | manifestBegin m => cases m <;> rfl
  | _ => rfl

theorem runEffects_mergeD (es : List Effect) (a b : Image) :
    runEffects (mergeD a b) es
      = mergeD (runEffects a (es.filter isDeltaB)) (runEffects b (es.filter notDeltaB)) := by
  induction es generalizing a b with
  | nil => rfl
  | cons e r ih =>
    rw [runEffects_cons, applyEffect_mergeD]
    cases hp : isDeltaB e with
    | true =>
      rw [if_pos rfl, ih, List.filter_cons_of_pos hp, List.filter_cons_of_neg (by simp [notDeltaB, hp]),
        runEffects_cons]
    | false =>
      rw [if_neg Bool.false_ne_true, ih, List.filter_cons_of_neg (by simp [hp]),
        List.filter_cons_of_pos (by simp [notDeltaB, hp]), runEffects_cons]

theorem imageAfter_splitD (es : List Effect) :
    imageAfter es = mergeD (imageAfter (es.filter isDeltaB)) (imageAfter (es.filter notDeltaB)) :=
  runEffects_mergeD es emptyImage emptyImage

theorem load_false_mergeD (h : Bytes → Nat) (cmp : Bytes → Bytes → Int) (a b : Image) :
    load h cmp false (mergeD a b) = load h cmp false b := by
  rw [load_eq, load_eq]
  rfl

theorem filter_isDelta_of_delta {m : Nat} {l : List Effect} (h : ∀ e ∈ l, isDeltaAppend m e) :
    l.filter isDeltaB = l := by
  rw [List.filter_eq_self]
  intro e he
  have := h e he
  cases e with
  | appendDelta _ _ => rfl
  | _ => exact this.elim

/-- the directory with the roles of `data/` and `delta/` exchanged -/
def swapImg (img : Image) : Image :=
  { version := img.version, files := img.dfiles, sums := img.dsums, dfiles := img.files,
    dsums := img.sums, data := img.delta, delta := img.data }

theorem swapImg_swapImg (img : Image) : swapImg (swapImg img) = img := rfl

theorem appendedData_of_delta {m : Nat} {l : List Effect} (h : ∀ e ∈ l, isDeltaAppend m e) (i : Nat) :
    appendedData i l = [] := by
  induction l with
  | nil => rfl
  | cons e r ih =>
    have he := h e List.mem_cons_self
    have := ih (fun x hx => h x (List.mem_cons_of_mem _ hx))
    cases e with
    | appendDelta _ _ => exact this
    | _ => exact he.elim

theorem appendedDelta_of_data {n : Nat} {l : List Effect} (h : ∀ e ∈ l, isDataAppend n e) (j : Nat) :
    appendedDelta j l = [] := by
  induction l with
  | nil => rfl
  | cons e r ih =>
    have he := h e List.mem_cons_self
    have := ih (fun x hx => h x (List.mem_cons_of_mem _ hx))
    cases e with
    | appendData _ _ => exact this
    | _ => exact he.elim

variable {h : Bytes → Nat} {parts dparts : List (List Bytes)} {ver : Nat} {es : List Effect}

def StoreTraceDelta.pre (tr : StoreTraceDelta h parts dparts ver es) : List Effect :=
  tr.mid ++ storeManifests h parts ++ tr.mid2 ++ deltaManifests h dparts ++ tr.dcloses

theorem StoreTraceDelta.shape' (tr : StoreTraceDelta h parts dparts ver es) :
    es = storeHeaderDelta parts.length dparts.length ver ++ (tr.pre ++ tr.closes) :=
  tr.shape.trans (by simp only [StoreTraceDelta.pre, List.append_assoc])

theorem bodyOf_deltaManifests (h : Bytes → Nat) (dparts : List (List Bytes)) (names : List String) :
    ∀ e ∈ deltaManifests h dparts, bodyOf names e := by
  intro e he
  simp only [deltaManifests, List.mem_cons, List.not_mem_nil, or_false] at he
  rcases he with rfl | rfl | rfl | rfl <;> trivial

theorem StoreTraceDelta.bodyOf_pre (tr : StoreTraceDelta h parts dparts ver es) :
    ∀ e ∈ tr.pre, bodyOf (shardNames parts.length) e := by
  simp only [StoreTraceDelta.pre, List.forall_mem_append]
  exact ⟨⟨⟨⟨fun e he => (tr.midOk e he).elim bodyOf_dataAppend bodyOf_deltaAppend,
    bodyOf_storeManifests h parts⟩, fun e he => bodyOf_deltaAppend (tr.mid2Ok e he)⟩,
    bodyOf_deltaManifests h dparts _⟩, fun e he => bodyOf_deltaAppend (tr.dclosesOk e he)⟩

theorem StoreTraceDelta.appendedData_pre (tr : StoreTraceDelta h parts dparts ver es) (i : Nat) :
    appendedData i tr.pre = appendedData i tr.mid := by
  simp only [StoreTraceDelta.pre, appendedData_append, appendedData_of_delta tr.mid2Ok,
    appendedData_of_delta tr.dclosesOk, List.append_nil]
  rw [show appendedData i (storeManifests h parts) = [] from rfl,
    show appendedData i (deltaManifests h dparts) = [] from rfl, List.append_nil, List.append_nil]

theorem StoreTraceDelta.appendedDelta_pre (tr : StoreTraceDelta h parts dparts ver es) (j : Nat) :
    appendedDelta j tr.pre = appendedDelta j (tr.mid ++ tr.mid2 ++ tr.dcloses) := by
  simp only [StoreTraceDelta.pre, appendedDelta_append]
  rw [show appendedDelta j (storeManifests h parts) = [] from rfl,
    show appendedDelta j (deltaManifests h dparts) = [] from rfl, List.append_nil, List.append_nil]

/-- **Crash at any point of a delta-mode StoreToDisk**, loader with delta files, at least one data
    shard: LoadFromDisk fails, or the directory is already the complete image. -/
theorem crash_prefix_delta (cmp : Bytes → Bytes → Int)
    (hval : ValidItems parts.flatten) (hv : ver ≠ 0) (hn : 0 < parts.length)
    (tr : StoreTraceDelta h parts dparts ver es) (p : List Effect) (hp : p <+: es) :
    load h cmp true (imageAfter p) = .err ∨ imageAfter p = storeImageDelta h parts dparts ver := by
  rw [tr.shape'] at hp
  have hbody : ∀ e ∈ tr.pre ++ tr.closes, bodyOf (shardNames parts.length) e :=
    List.forall_mem_append.2 ⟨tr.bodyOf_pre, fun e he => bodyOf_dataAppend (tr.closesOk e he)⟩
  rcases crash_data_side h cmp parts hval hv (imageAfter_headerDelta _ _ _) hbody
    (fun i hi => by rw [appendedData_append, tr.appendedData_pre, ← appendedData_append, tr.total i hi])
    hp with he | ⟨q, rfl, hq, _, hdata, hall⟩
  · exact Or.inl (load_err_of_base_err he true)
  · right
    rcases prefix_append_cases hq with hX | ⟨c, rfl, hc⟩
    · exfalso
      have := appendedData_prefix 0 hX
      rw [tr.appendedData_pre, hall 0 hn] at this
      exact writeFile_not_prefix_frames _ (this.trans (tr.midItems 0 hn))
    · have hcd : ∀ e ∈ c, isDataAppend parts.length e := fun e he => tr.closesOk e (hc.subset he)
      rw [imageAfter_append, imageAfter_headerDelta] at hdata ⊢
      obtain ⟨_, hdelta⟩ := runEffects_body (fun e he => hbody e (hq.subset he))
        (started ver (List.replicate parts.length []) (List.replicate dparts.length [])) _ _ rfl rfl
      rw [mapIdx_replicate_nil, range_map_appended fun j hj => by
        rw [appendedDelta_append, appendedDelta_of_data hcd, List.append_nil, tr.appendedDelta_pre,
          tr.dtotal j hj]] at hdelta
      refine image_of_parts ?_ hdata hdelta
      rw [runEffects_mfs]
      simp only [StoreTraceDelta.pre, List.foldl_append]
      rw [foldl_onMfs_appends (m := dparts.length) fun e he => Or.inl (hcd e he),
        foldl_onMfs_appends (n := parts.length) fun e he => Or.inr (tr.dclosesOk e he),
        foldl_onMfs_appends (n := parts.length) (q := tr.mid2) fun e he => Or.inr (tr.mid2Ok e he),
        foldl_onMfs_appends tr.midOk]
      rfl

end NitroVerif.Backup
