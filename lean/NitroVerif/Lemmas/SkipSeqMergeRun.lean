import NitroVerif.Lemmas.SkipSeqMergeSeek
/-!
  Scripts of merge-iterator calls: every state reachable from `NewMergeIterator` by any sequence of
  `SeekFirst` / `Seek` / `Next` calls is one from which `SeekFirst` and `Seek` re-position correctly.
-/
namespace NitroVerif.SkipSeq
open NitroVerif.OrdSet

inductive MOp where
  | first
  | seek (x : Int)
  | next
deriving Repr, DecidableEq

def mstep (m : MergeIt) : MOp → MergeIt
  | .first => mergeSeekFirst m
  | .seek x => (mergeSeek m (.item x)).1
  | .next => mergeNext m

def mrun : MergeIt → List MOp → MergeIt
  | m, [] => m
  | m, op :: ops => mrun (mstep m op) ops

/-- what holds of every reachable state: the lists are untouched (up to their action buffers), and the
    iterators are either all positioned or the heap is empty (before any `SeekFirst`/`Seek`, and after
    `Next` on an exhausted iterator, where `Next` only clears the cursor) -/
structure RInv (m0 m : MergeIt) (Ls : List (List Nat)) : Prop where
  same : SameLists m0 m
  inv : ∃ k rem, MInvK k m Ls rem ∧ (k = m.sls.length ∨ m.h = [])

theorem RInv.init {sls : List SL} {Ls : List (List Nat)} (hl : Ls.length = sls.length)
    (hr : ∀ i, i < sls.length → Rep (sls.getD i SL.init) (Ls.getD i [])) :
    RInv (MergeIt.new sls) (MergeIt.new sls) Ls := by
  refine ⟨SameLists.refl _, 0, Ls, ⟨by simp [MergeIt.new], by simpa [MergeIt.new] using hl,
    by simpa [MergeIt.new] using hl, ?_, fun _ _ => ⟨[], rfl⟩, ?_, fun i h => absurd h (Nat.not_lt_zero i),
    List.nodup_nil, fun i n => by simp [MergeIt.new]⟩, Or.inr rfl⟩
  · intro i hi; exact hr i (by simpa [MergeIt.new] using hi)
  · intro i hi
    simp only [MergeIt.new, itAt, List.getD_eq_getElem?_getD, List.getElem?_map]
    cases sls[i]? <;> simp [Iter.new]

theorem RInv.next {m0 m : MergeIt} {Ls rem : List (List Nat)} {k : Nat} (inv : MInvK k m Ls rem)
    (hk : k = m.sls.length ∨ m.h = [])
    (hs : SameLists m0 m) :
    RInv m0 (mergeNext m) Ls := by
  by_cases hh : m.h = []
  · rw [mergeNext_empty hh]
    exact ⟨⟨hs.len, hs.nodes⟩, k, rem, inv.curr_none, Or.inr hh⟩
  · obtain rfl := hk.resolve_right hh
    rcases mergeNext_step inv hh with ⟨i, n, T, _, _, _, hsls, inv', _⟩
    refine ⟨⟨by rw [hsls]; exact hs.len, fun j => ?_⟩, _, _, inv', Or.inl rfl⟩
    have : slAt (mergeNext m) j = slAt m j := by simp [slAt, hsls]
    rw [this]; exact hs.nodes j

theorem RInv.step {m0 m : MergeIt} {Ls : List (List Nat)} (r : RInv m0 m Ls) (op : MOp) :
    RInv m0 (mstep m op) Ls := by
  rcases r.inv with ⟨k, rem, inv, hk⟩
  cases op with
  | first =>
    rcases mergeSeekFirst_spec inv with ⟨m1, he, inv1, hs⟩
    simp only [mstep]; rw [he]
    exact RInv.next inv1 (Or.inl rfl) (r.same.trans hs)
  | seek x =>
    rcases mergeSeek_spec inv x with ⟨m1, he, inv1, hs, _⟩
    simp only [mstep]; rw [he]
    exact RInv.next inv1 (Or.inl rfl) (r.same.trans hs)
  | next => exact RInv.next inv hk r.same

theorem RInv.run {m0 : MergeIt} {Ls : List (List Nat)} : ∀ (ops : List MOp) (m : MergeIt),
    RInv m0 m Ls → RInv m0 (mrun m ops) Ls := by
  intro ops
  induction ops with
  | nil => intro m r; exact r
  | cons op ops ih => intro m r; exact ih _ (r.step op)

end NitroVerif.SkipSeq
