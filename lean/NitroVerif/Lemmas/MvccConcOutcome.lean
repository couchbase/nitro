/-
  The sub-steps with inner branching by outcome, in a state satisfying the invariant: `start t del k`, PUT_INSERT,
  DEL_NODE_PHYS, DEL_NODE_CAS, ITER_NEXT, a collection job's step are one of the outcomes listed, each with the
  successor written out and with what the invariant says about the node in hand.  The branches the invariant
  excludes — a block that is not live, a compare-and-swap won on an unlinked node — do not appear.
-/
import NitroVerif.Lemmas.MvccConcBooks
import NitroVerif.Lemmas.MvccConcStep
import NitroVerif.Lemmas.MvccConcGarb
import NitroVerif.Lemmas.MvccConcBasic

namespace NitroVerif.MvccConc

theorem startDel_outcome {σ : State} (h : Inv σ) (t k : Nat) :
    (lookupN σ.store (probe σ k 0) = none ∧
        startDel σ t k = (release (acquire σ (.thr t)) (curTok σ) (.thr t), .ret (.bool false))) ∨
      ∃ x, lookupN σ.store (probe σ k 0) = some x ∧ x ∈ σ.store ∧ x.ver.key = k ∧ x.ver.dead = 0 ∧
        ((x.ver.born = σ.currSn ∧
            startDel σ t k = (setPc (acquire σ (.thr t)) t (.delPhys x.id (curTok σ) k), .at_ .DEL_NODE_PHYS)) ∨
          (x.ver.born < σ.currSn ∧
            startDel σ t k = (setPc (acquire σ (.thr t)) t (.delCas x.id (curTok σ) k), .at_ .DEL_NODE_CAS))) := by
  unfold startDel
  cases hl : lookupN σ.store (probe σ k 0) with
  | none => exact Or.inl ⟨rfl, rfl⟩
  | some x =>
    have hx := lookupN_mem hl
    have h1 : Mvcc.lookup (vers σ.store) ⟨k, 0, σ.currSn, 0⟩ = some x.ver := by
      rw [← lookupN_map]; exact congrArg (Option.map (·.ver)) hl
    rw [Mvcc.lookup_eq_aliveOf h.store.sorted h.store.chains] at h1
    have ha := Mvcc.aliveOf_some h1
    refine Or.inr ⟨x, rfl, hx, ha.2.1, ha.2.2, ?_⟩
    by_cases he : Gen.sameEpoch x.ver.born σ.currSn = true
    · exact Or.inl ⟨(sameEpoch_iff _ _).mp he, by simp only [he, if_true]⟩
    · have hle := (h.store.chains.1 x.ver (List.mem_map.mpr ⟨x, hx, rfl⟩)).1
      exact Or.inr ⟨Nat.lt_of_le_of_ne hle fun e => he ((sameEpoch_iff _ _).mpr e),
        by simp only [he, Bool.false_eq_true, if_false]⟩

theorem stepPut_outcome {σ : State} {t n k v b : Nat} (h : Inv σ) (ht : σ.threads[t]? = some (.putInsert n k v b)) :
    t < σ.writers.length ∧ b = σ.currSn ∧
      ((∃ y, lookupN σ.store ⟨k, v, b, 0⟩ = some y ∧
          stepPut σ t n k v b =
            (setPc (free (free (alloc σ (.node n)) (.node n)) (.item n)) t .idle, .ret (.bool false))) ∨
        (lookupN σ.store ⟨k, v, b, 0⟩ = none ∧
          stepPut σ t n k v b =
            (setPc { (alloc σ (.node n)) with
                store := insertN σ.store ⟨⟨k, v, b, 0⟩, n⟩,
                writers := updWriter t (fun x => { x with count := x.count + 1 }) σ.writers } t .idle,
              .ret (.bool true)))) := by
  refine ⟨(h.pc.at ht).1, (h.pc.at ht).2, ?_⟩
  unfold stepPut
  simp only [live_of_put h ht, Bool.not_true, Bool.false_eq_true, if_false]
  rw [show (alloc σ (.node n)).store = σ.store from rfl]
  cases lookupN σ.store ⟨k, v, b, 0⟩ with
  | some y => exact Or.inl ⟨y, rfl, rfl⟩
  | none => exact Or.inr ⟨rfl, rfl⟩

theorem stepDelPhys_outcome {σ : State} {t n tok k : Nat} (h : Inv σ) (ht : σ.threads[t]? = some (.delPhys n tok k)) :
    t < σ.writers.length ∧
      ((∃ x, findNode σ.store n = some x ∧ x.ver.key = k ∧ x.ver.born = σ.currSn ∧ x.ver.dead = 0 ∧
          stepDelPhys σ t n tok k =
            (setPc { σ with store := removeNode σ.store n, unlinked := σ.unlinked ++ [x],
                            writers := updWriter t (fun y => { y with count := y.count - 1 }) σ.writers }
                t (.delFlush n tok k), .at_ .DEL_NODE_FLUSH)) ∨
        (findNode σ.store n = none ∧
          stepDelPhys σ t n tok k = (setPc (release σ tok (.thr t)) t .idle, .ret (.bool false)))) := by
  have ⟨hw, _, _, hnode⟩ := h.pc.at ht
  refine ⟨hw, ?_⟩
  unfold stepDelPhys
  simp only [(live_of_ref h ht rfl).2, Bool.not_true, Bool.false_eq_true, if_false]
  cases hf : findNode σ.store n with
  | none => exact Or.inr ⟨rfl, rfl⟩
  | some x =>
    have ⟨hx, hid⟩ := findNode_some hf
    have ⟨hxk, hxb⟩ := hnode x hx hid
    -- born in the current epoch, so not dead
    have hxd : x.ver.dead = 0 := by
      have hch := (h.store.chains.1 x.ver (List.mem_map.mpr ⟨x, hx, rfl⟩)).2
      refine Decidable.by_contra fun hdd => ?_
      exact Nat.lt_irrefl _ (Nat.lt_of_lt_of_le (hxb ▸ (hch hdd).1) (hch hdd).2)
    exact Or.inl ⟨x, rfl, hxk, hxb, hxd, rfl⟩

theorem stepDelCas_outcome {σ : State} {t n tok k : Nat} (h : Inv σ) (ht : σ.threads[t]? = some (.delCas n tok k)) :
    t < σ.writers.length ∧
      ((∃ x, findNode σ.store n = some x ∧ x.ver.key = k ∧ x.ver.born < σ.currSn ∧ x.ver.dead = 0 ∧
          stepDelCas σ t n tok =
            (setPc (release { σ with store := markDeadNode σ.store n σ.currSn,
                                     writers := updWriter t (fun y => { count := y.count - 1, gc := y.gc ++ [n] })
                                       σ.writers } tok (.thr t)) t .idle, .ret (.bool true))) ∨
        ((∀ x, findNode σ.store n = some x → x.ver.dead ≠ 0) ∧
          stepDelCas σ t n tok = (setPc (release σ tok (.thr t)) t .idle, .ret (.bool false)))) := by
  have ⟨hw, _, _, hnode, hunl⟩ := h.pc.at ht
  refine ⟨hw, ?_⟩
  unfold stepDelCas casWin casLose
  have hl := live_of_ref h ht rfl
  simp only [hl.1, hl.2, Bool.and_self, Bool.not_true, Bool.false_eq_true, if_false]
  cases hf : findNode σ.store n with
  | some x =>
    have ⟨hx, hid⟩ := findNode_some hf
    by_cases hd : x.ver.dead = 0
    · exact Or.inl ⟨x, rfl, (hnode x hx hid).1, (hnode x hx hid).2, hd, by simp only [hd, if_true]⟩
    · exact Or.inr ⟨fun y hy => (by cases hy; exact hd), by simp only [hd, if_false]⟩
  | none =>
    refine Or.inr ⟨fun y hy => (by cases hy), ?_⟩
    cases hu : findNode σ.unlinked n with
    | none => rfl
    | some x => simp only [hunl x (findNode_some hu).1 (findNode_some hu).2, if_false]

theorem stepIter_outcome {σ : State} (h : Inv σ) (t i : Nat) :
    stepIter σ t i = (σ, .bad) ∨
      ∃ it c land, findIter (t, i) σ.iters = some it ∧ it.cur = some c ∧ NextLand σ c land ∧
        stepIter σ t i = landOn σ t i it land := by
  unfold stepIter
  cases hf : findIter (t, i) σ.iters with
  | none => exact Or.inl rfl
  | some it =>
    simp only
    cases hc : it.cur with
    | none => exact Or.inl rfl
    | some c =>
      have hl := live_of_iter h (findIter_some hf) hc
      simp only [hl.1, hl.2, Bool.not_true, Bool.false_eq_true, if_false]
      cases hn : findNode σ.store c.id with
      | some x => exact Or.inr ⟨it, c, _, rfl, hc, Or.inl ⟨x, hn, rfl⟩, rfl⟩
      | none => exact Or.inr ⟨it, c, _, rfl, hc, Or.inr ⟨hn, rfl⟩, rfl⟩

/-- the step of a collection job by outcome; WORKER_NODE finds its node linked, dead and born in an earlier epoch,
    since what a job still has to unlink is garbage -/
inductive GcCase (σ : State) (j : Nat) : State × Resp → Prop
  | refuse : GcCase σ j (σ, .bad)
  | recvEmpty {job : GcJob} : σ.gcJobs[j]? = some job → job.pc = .recv → job.todo = [] →
      GcCase σ j (setGc σ j { job with pc := .flush }, .at_ .WORKER_FLUSH)
  | recvNode {job : GcJob} : σ.gcJobs[j]? = some job → job.pc = .recv → job.todo ≠ [] →
      GcCase σ j (setGc σ j { job with pc := .node }, .at_ .WORKER_NODE)
  /-- `pc'` is `flush` only after the last node; the yield point `p` answered (WORKER_FLUSH or WORKER_NODE) is left
      open -/
  | nodeLinked {job : GcJob} {n : Nat} {r : List Nat} {x : Node} {pc' : GcPc} {p : Point} :
      σ.gcJobs[j]? = some job → job.pc = .node → job.todo = n :: r → findNode σ.store n = some x →
      x.ver.dead ≠ 0 → x.ver.born < σ.currSn → (pc' = .flush ∧ r = []) ∨ pc' = .node →
      GcCase σ j (setGc { σ with store := removeNode σ.store n, unlinked := σ.unlinked ++ [x] } j
        ⟨job.done ++ [n], r, pc'⟩, .at_ p)
  /-- a job at WORKER_NODE with nothing left: the model never produces it (a job moves to `flush` with its last
      node), but no clause of `Inv` says so, and the step is harmless -/
  | nodeNone {job : GcJob} : σ.gcJobs[j]? = some job → job.pc = .node → job.todo = [] →
      GcCase σ j (setGc σ j { job with pc := .flush }, .at_ .WORKER_FLUSH)
  | flush {job : GcJob} : σ.gcJobs[j]? = some job → job.pc = .flush →
      GcCase σ j (setGc (flush σ (job.done ++ job.todo)) j { job with pc := .done }, .at_ .WORKER_DONE)
  | done {job : GcJob} : σ.gcJobs[j]? = some job → job.pc = .done →
      GcCase σ j (setGc σ j { job with pc := .finished }, .ret .unit)

theorem stepGc_outcome {σ : State} (h : Inv σ) (j : Nat) : GcCase σ j (stepGc σ j) := by
  unfold stepGc
  cases hj : σ.gcJobs[j]? with
  | none => exact .refuse
  | some job =>
    simp only
    split
    · rename_i hpc
      split
      · exact .recvEmpty hj hpc (List.isEmpty_iff.mp ‹_›)
      · exact .recvNode hj hpc (fun h => ‹¬ job.todo.isEmpty = true› (List.isEmpty_iff.mpr h))
    · rename_i hpc
      split
      · rename_i n r htd
        obtain ⟨x, hx, hid, hd, hb⟩ :=
          h.garb.linked n (garbC_pos_of_job (mem_garbJ hj (htd ▸ List.mem_cons_self)))
        have hf : findNode σ.store n = some x := hid ▸ findNode_of_mem h.store.ids hx
        simp only [show isLive σ (.node n) = true from hid ▸ (live_of_linked h hx).2, Bool.not_true,
          Bool.false_eq_true, if_false, hf]
        split
        · exact .nodeLinked hj hpc htd hf hd hb (Or.inl ⟨rfl, List.isEmpty_iff.mp ‹_›⟩)
        · exact .nodeLinked hj hpc htd hf hd hb (Or.inr rfl)
      · exact .nodeNone hj hpc ‹_›
    · exact .flush hj ‹_›
    · exact .done hj ‹_›
    · exact .refuse

end NitroVerif.MvccConc
