import NitroVerif.Gen.Guards
/-!
  What the generated codec guards (item.go / file.go) are.  No proof unfolds `Gen.*`; it takes what
  it needs from the lemma here, so a change of the Go constant or condition breaks the lemma with
  that name.
-/
namespace NitroVerif.Codec.GenLemmas

/-- item.go EncodeItem: the writer frames with a 4-byte length -/
theorem encodeLenWidth_eq : Gen.encodeLenWidth = 4 := rfl
/-- item.go DecodeItem, `ver == 0`: 2-byte length -/
theorem decodeLenWidthV0_eq : Gen.decodeLenWidthV0 = 2 := rfl
/-- item.go DecodeItem, `ver != 0`: 4-byte length -/
theorem decodeLenWidthV1_eq : Gen.decodeLenWidthV1 = 4 := rfl
/-- the v1 reader reads the width the writer writes -/
theorem decodeLenWidthV1_eq_encode : Gen.decodeLenWidthV1 = Gen.encodeLenWidth := rfl
/-- item.go DecodeItem: `l > 0` — an item follows iff the length is positive -/
theorem decodeHasItem_iff (l : Nat) : Gen.decodeHasItem l = true ↔ 0 < l := by
  simp [Gen.decodeHasItem]
theorem decodeHasItem_false_iff (l : Nat) : Gen.decodeHasItem l = false ↔ l = 0 := by
  simp [Gen.decodeHasItem]
/-- item.go KVToBytes/KVFromBytes/CompareKV: 2-byte key length -/
theorem kvLenWidth_eq : Gen.kvLenWidth = 2 := rfl

/-- item.go EncodeItem: `binary.BigEndian.PutUint32` -/
theorem encodeBigEndian_eq : Gen.encodeBigEndian = true := rfl
/-- item.go DecodeItem: `binary.BigEndian.Uint16/Uint32` -/
theorem decodeBigEndian_eq : Gen.decodeBigEndian = true := rfl
/-- the reader reads lengths in the byte order the writer writes them -/
theorem decodeBigEndian_eq_encode : Gen.decodeBigEndian = Gen.encodeBigEndian := rfl
/-- item.go KVToBytes/KVFromBytes/CompareKV: `binary.LittleEndian` -/
theorem kvLittleEndian_eq : Gen.kvLittleEndian = true := rfl
/-- file.go (*rawFileWriter).Close: the terminator is written through WriteItem, then the buffer
    is flushed, then the file is closed (the first `f.fd.Close` is the error path of Flush) -/
theorem skeleton_rawFileWriterClose_ok :
    Gen.skeleton_rawFileWriterClose = ["f.WriteItem", "f.w.Flush", "f.fd.Close", "f.fd.Close"] := rfl

end NitroVerif.Codec.GenLemmas
