import NitroVerif.Gen.Guards
/-!
  What the generated definitions the backup model (M7) relies on are.  No proof unfolds `Gen.*`; it
  takes what it needs from the lemma here, so a change of the Go condition or of the order of the
  file-system calls breaks the lemma with that name.  The delta checksum test is the data one
  (`deltaChecksumMismatch_eq`).
-/
namespace NitroVerif.Backup.GenLemmas

/-- nitro.go LoadFromDisk: `hasChecksums && checksums[i] != rdr.Checksum()` -/
theorem checksumMismatch_iff (has : Bool) (stored actual : Nat) :
    Gen.checksumMismatch has stored actual = true ↔ has = true ∧ stored ≠ actual := by
  simp [Gen.checksumMismatch]

theorem checksumMismatch_false_iff (has : Bool) (stored actual : Nat) :
    Gen.checksumMismatch has stored actual = false ↔ (has = true → stored = actual) := by
  cases has <;> simp [Gen.checksumMismatch]

theorem checksumMismatch_unchecked (stored actual : Nat) :
    Gen.checksumMismatch false stored actual = false := by
  simp [Gen.checksumMismatch]

/-- with a checksums file a stored checksum 0 IS checked (the fix of D7: no "0 = unchecked") -/
theorem checksumMismatch_checked (stored actual : Nat) :
    Gen.checksumMismatch true stored actual = decide (stored ≠ actual) := by
  simp [Gen.checksumMismatch]

theorem checksumMismatch_self (has : Bool) (s : Nat) : Gen.checksumMismatch has s s = false := by
  simp [Gen.checksumMismatch]

/-- nitro.go LoadFromDisk, delta part: the same test -/
theorem deltaChecksumMismatch_iff (has : Bool) (stored actual : Nat) :
    Gen.deltaChecksumMismatch has stored actual = true ↔ has = true ∧ stored ≠ actual := by
  simp [Gen.deltaChecksumMismatch]

theorem deltaChecksumMismatch_false_iff (has : Bool) (stored actual : Nat) :
    Gen.deltaChecksumMismatch has stored actual = false ↔ (has = true → stored = actual) := by
  cases has <;> simp [Gen.deltaChecksumMismatch]

theorem deltaChecksumMismatch_self (has : Bool) (s : Nat) :
    Gen.deltaChecksumMismatch has s s = false := by
  simp [Gen.deltaChecksumMismatch]

theorem deltaChecksumMismatch_eq (has : Bool) (stored actual : Nat) :
    Gen.deltaChecksumMismatch has stored actual = Gen.checksumMismatch has stored actual := rfl

/-- nitro.go newInsertCompare on two restored items (bornSn = 0 on both sides): the key comparison -/
theorem insertCompare_restored (c : Int) : Gen.insertCompare c 0 0 = c := by
  unfold Gen.insertCompare
  split
  · rename_i h; simp at h; simp [h]
  · rfl

/-- nitro.go newExistCompare on two restored items (deadSn = 0 on both sides): the key comparison -/
theorem existCompare_restored (c : Int) : Gen.existCompare c 0 0 = c := by
  simp [Gen.existCompare]

/-- nitro.go StoreToDisk: the order of its calls.  Deferred calls run in reverse order of their
    `defer` statements: (1) snap.Close, (2) data writers' Close, (3) delta writers' Close,
    (4) delta terminate handshake + delta manifests — so at return: (4), (3), (2), (1).
    In program order: MkdirAll(data); Open of every data shard; [delta: MkdirAll(delta), Open of every
    delta shard, changeDeltaWrState(init), snap.Close]; nitro.json; Visitor (WriteItem);
    files.json; checksums.json.
    The list itself is in SOURCE order: the calls of a closure stand where the closure is written,
    not where it runs — the deferred delta function (`m.changeDeltaWrState`, the two delta manifests)
    and the Visitor's callback (`w.WriteItem`) therefore come before `ioutil.WriteFile(nitro.json)`. -/
theorem skeleton_StoreToDisk_ok :
    Gen.skeleton_StoreToDisk =
      ["defer", "snap.Close", "m.Lock", "m.Unlock", "defer", "m.Unlock", "os.MkdirAll",
       "defer", "w.Close", "w.Open",
       "defer", "w.Close", "os.MkdirAll", "dw.Open", "m.changeDeltaWrState", "snap.Close",
       "defer", "m.changeDeltaWrState", "ioutil.WriteFile(files.json)", "ioutil.WriteFile(checksums.json)",
       "w.WriteItem", "ioutil.WriteFile(nitro.json)", "m.Visitor",
       "ioutil.WriteFile(files.json)", "ioutil.WriteFile(checksums.json)"] := rfl

/-- nitro.go LoadFromDisk: the order of its calls (three manifests parsed, shard files opened,
    dispatch, Assemble; then the delta part: two manifests, open, Insert2, dispatch; NewSnapshot) -/
theorem skeleton_LoadFromDisk_ok :
    Gen.skeleton_LoadFromDisk =
      ["json.Unmarshal", "json.Unmarshal", "json.Unmarshal", "defer", "r.Close", "r.Open", "defer",
       "send(wchan)", "close", "old.FreeNode", "old.FreeNode", "b.Assemble",
       "json.Unmarshal", "json.Unmarshal", "defer", "r.Close", "r.Open", "defer",
       "w.store.Insert2", "w.freeItem", "atomic.AddUint64(m.restoreStats.DeltaRestored)",
       "atomic.AddUint64(m.restoreStats.DeltaRestoreFailed)", "send(wchan)", "close", "m.NewSnapshot"] := rfl

end NitroVerif.Backup.GenLemmas
