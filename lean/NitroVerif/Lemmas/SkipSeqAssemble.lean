import NitroVerif.Lemmas.SkipSeqBuild
import NitroVerif.Lemmas.SkipSeqWF
/-!
  `Builder.Assemble` as a whole: the heap it leaves, the statistics are the sums, every level walks to
  the concatenation of the segments, and with ascending keys the result satisfies the representation invariant.
-/
namespace NitroVerif.SkipSeq

theorem assemble_shape (s : SL) (segs : List Segment) : SameShape s.nodes (assemble s segs).1.nodes := by
  simp only [assemble]
  exact asmEnds_shape _ _ _ _ _ (asmSegs_shape _ _ _ _ (SameShape.refl _))

theorem assemble_heap {s : SL} {segs : List (Segment × List Nat)} (b : BuildOK s segs) :
    (∀ l, l ≤ Gen.maxLevel →
      Path (assemble s (segs.map (·.1))).1.nodes nomk l (headId :: LL s.nodes (allNodes segs) l ++ [tailId])) ∧
    (∀ n, n ∉ headId :: allNodes segs → ∀ l,
      getNext (assemble s (segs.map (·.1))).1.nodes n l = getNext s.nodes n l) := by
  have hr := b.rep
  have inv0 : AsmInv s.nodes s.nodes (fun l => LL s.nodes [] l)
      (List.replicate (Gen.maxLevel + 1) nilId) (List.replicate (Gen.maxLevel + 1) nilId) [] :=
    ⟨⟨by simp, by simp, fun l _ => by simp only [LL, List.filter_nil, List.head?_nil, List.getLast?_nil,
        Option.getD_none, getD_replicate_nil, and_self], fun l _ => by simp [LL]⟩,
     SameShape.refl _, fun _ _ _ => rfl⟩
  have invA := asmSegs_spec segs [] s.nodes _ _ b.segok (by simpa using b.nodup) (by simpa using b.lo)
    (by simpa using b.slots) inv0
  simp only [List.nil_append] at invA
  generalize hA : asmSegs (segs.map (·.1)) s.nodes (List.replicate (Gen.maxLevel + 1) nilId)
    (List.replicate (Gen.maxLevel + 1) nilId) = rA at invA
  have hheadnot : headId ∉ allNodes segs := by
    intro hm; have := b.lo _ hm; simp [headId] at this
  have hctx : EndCtx rA.1 (fun l => LL s.nodes (allNodes segs) l) (allNodes segs) rA.2.1 rA.2.2 := by
    refine ⟨invA.chains, ?_, fun l => b.nodup.filter _, b.lo, ?_, ?_, ?_⟩
    · intro l x hx
      have := mem_LL.mp hx
      exact ⟨this.1, by rw [invA.shape.lvl]; exact this.2⟩
    · intro x hx; rw [invA.shape.nlen, invA.shape.lvl]; exact b.slots x hx
    · rw [invA.shape.nlen]; exact hr.base.headLen
    · intro l hl
      rw [invA.frame headId l hheadnot]
      have := hr.paths l hl
      simpa [LL, nomk] using this
  have invE := asmEnds_spec hctx (Gen.maxLevel + 1) 0 rA.1 (Nat.zero_add _)
    ⟨fun _ _ h => absurd h (Nat.not_lt_zero _), fun _ _ _ => rfl, SameShape.refl _, fun _ _ _ => rfl⟩
  have hnodes : (assemble s (segs.map (·.1))).1.nodes
      = asmEnds rA.2.1 rA.2.2 (Gen.maxLevel + 1) 0 rA.1 := by
    simp only [assemble, hA]
  rw [hnodes]
  refine ⟨fun l hl => invE.done l hl (Nat.lt_succ_of_le hl), fun n hn l => ?_⟩
  rw [invE.frame n hn l]
  exact invA.frame n l (fun h => hn (List.mem_cons_of_mem _ h))

theorem assemble_fields (s : SL) (segs : List Segment) :
    Kept s (assemble s segs).1 ∧ (assemble s segs).1.stats = mergeStats segs s.stats := by
  refine ⟨⟨?_, ?_, ?_⟩, ?_⟩ <;> simp [assemble]

theorem addDist_length : ∀ (a b : List Int), a.length = b.length → (addDist a b).length = a.length := by
  intro a
  induction a with
  | nil => intro b _; cases b <;> simp [addDist]
  | cons x r ih =>
    intro b hb
    cases b with
    | nil => simp at hb
    | cons y t => simp [addDist, ih t (by simpa using hb)]

theorem addDist_getD : ∀ (a b : List Int) (g : Nat), a.length = b.length →
    (addDist a b).getD g 0 = a.getD g 0 + b.getD g 0 := by
  intro a
  induction a with
  | nil => intro b g hb; cases b <;> simp_all [addDist]
  | cons x r ih =>
    intro b g hb
    cases b with
    | nil => simp at hb
    | cons y t =>
      cases g with
      | zero => simp [addDist]
      | succ g => simp only [addDist, List.getD_cons_succ]; exact ih t g (by simpa using hb)

theorem mergeStats_spec (h : Heap) : ∀ (segs : List (Segment × List Nat)) (st : Stats),
    (∀ e ∈ segs, SegStats h e.1 e.2) → st.levelNodesCount.length = Gen.maxLevel + 1 →
    (mergeStats (segs.map (·.1)) st).levelNodesCount.length = Gen.maxLevel + 1 ∧
    (∀ g, g ≤ Gen.maxLevel → (mergeStats (segs.map (·.1)) st).levelNodesCount.getD g 0
        = st.levelNodesCount.getD g 0 + (cntLevel h (allNodes segs) g : Int)) ∧
    (mergeStats (segs.map (·.1)) st).softDeletes = st.softDeletes ∧
    (mergeStats (segs.map (·.1)) st).nodeFrees = st.nodeFrees ∧
    (mergeStats (segs.map (·.1)) st).nodeAllocs = st.nodeAllocs + ((allNodes segs).length : Int) := by
  intro segs
  induction segs with
  | nil => intro st _ hl; simp [mergeStats, allNodes_nil, cntLevel, hl]
  | cons e r ih =>
    intro st hs hl
    have he := hs e (by simp)
    have hlen1 : (st.merge e.1.sts).levelNodesCount.length = Gen.maxLevel + 1 := by
      simp only [Stats.merge]; rw [addDist_length _ _ (by rw [hl, he.len])]; exact hl
    rcases ih (st.merge e.1.sts) (fun e' he' => hs e' (List.mem_cons_of_mem _ he')) hlen1
      with ⟨i1, i2, i3, i4, i5⟩
    simp only [List.map_cons, mergeStats]
    refine ⟨i1, ?_, ?_, ?_, ?_⟩
    · intro g hg
      rw [i2 g hg, allNodes_cons, cntLevel_append]
      simp only [Stats.merge]
      rw [addDist_getD _ _ _ (by rw [hl, he.len]), he.dist g hg, Int.natCast_add, Int.add_assoc]
    · rw [i3]; simp [Stats.merge, he.soft]
    · rw [i4]; simp [Stats.merge, he.frees]
    · rw [i5, allNodes_cons]; simp [Stats.merge, he.allocs, Int.add_assoc]

theorem assemble_walk {s : SL} {segs : List (Segment × List Nat)} (b : BuildOK s segs) {l : Nat}
    (hl : l ≤ Gen.maxLevel) :
    walkLevel (assemble s (segs.map (·.1))).1 l = some (LL s.nodes (allNodes segs) l) :=
  walkLevel_of_path ((assemble_heap b).1 l hl) (fun x hx => b.lo x (mem_LL.mp hx).1)
    (by rw [(assemble_shape s _).len]
        exact Nat.lt_succ_of_le (Nat.le_trans (List.length_filter_le _ _) (Nat.le_trans (Nat.le_add_right _ 3) b.size)))

theorem assemble_stats {s : SL} {segs : List (Segment × List Nat)} (b : BuildOK s segs) :
    StatsOK (assemble s (segs.map (·.1))).1 (allNodes segs) ∧
    (assemble s (segs.map (·.1))).1.stats.nodeAllocs = s.stats.nodeAllocs + ((allNodes segs).length : Int) := by
  have f4 := (assemble_fields s (segs.map (·.1))).2
  have hr := b.rep
  rcases mergeStats_spec s.nodes segs s.stats b.stats hr.stats.len with ⟨mlen, mdist, msoft, mfrees, mallocs⟩
  refine ⟨⟨f4 ▸ mlen, fun g hg => ?_, by rw [f4, msoft]; exact hr.stats.soft,
    by rw [f4, mfrees]; exact hr.stats.frees⟩, by rw [f4]; exact mallocs⟩
  rw [f4, mdist g hg, hr.stats.dist g hg, (assemble_shape s _).cntLevel_eq]
  simp [cntLevel]

theorem assemble_rep {s : SL} {segs : List (Segment × List Nat)} (b : BuildOK s segs)
    (hsorted : (allNodes segs).Pairwise (fun a c => ikey s.nodes a < ikey s.nodes c)) :
    Rep (assemble s (segs.map (·.1))).1 (allNodes segs) := by
  rcases assemble_heap b with ⟨hp, hframe⟩
  have hsh := assemble_shape s (segs.map (·.1))
  have kf := (assemble_fields s (segs.map (·.1))).1
  have hr := b.rep
  refine Rep.of_shape ⟨hr.base, hr.lvl, fun n hn => b.nodeOK hn, hsorted⟩ hsh (fun l => ?_) kf.level hp
    (assemble_stats b).1 b.size (kf.buf ▸ hr.bufP) (kf.buf ▸ hr.bufS) (kf.stuck.trans hr.live)
  rw [hframe tailId (fun hm => ?_) l]
  · exact hr.base.tailFlag l
  · rcases List.mem_cons.mp hm with e | e
    · exact absurd e (by decide)
    · exact absurd (b.lo _ e) (by decide)

end NitroVerif.SkipSeq
