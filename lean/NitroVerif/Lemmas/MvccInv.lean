/-
  The state invariant of the M6 model, clause by clause over the fields each clause reads, and
  small facts about the bookkeeping functions.
-/
import NitroVerif.Lemmas.MvccStoreOps
import NitroVerif.Lemmas.MvccAList
import NitroVerif.Lemmas.KeyedList

namespace NitroVerif.Mvcc
open SetSpec

def CountInv (store : List Ver) (writers : List Writer) (items : Int) : Prop :=
  items + (writers.map (·.count)).sum = ((store.filter isAlive).length : Nat)

/-- `front`: the snapshot next to the frontier is live; the one clause that fails between a retiring `Close` and
    the `GC()` it runs (`PreGC` is the invariant without it). -/
structure SnapInv (snaps : List Snap) (cur lastGC : Nat) : Prop where
  lt : ∀ s ∈ snaps, 0 < s.sn ∧ s.sn < cur
  all : ∀ n, 0 < n → n < cur → ∃ s ∈ snaps, s.sn = n
  inc : snaps.Pairwise (fun a b => a.sn < b.sn)
  rc : ∀ s ∈ snaps, 0 ≤ s.rc ∧ (s.st = .live ↔ 0 < s.rc)
  gclt : lastGC < cur
  coll : ∀ s ∈ snaps, (s.st = .collected ↔ s.sn ≤ lastGC)
  front : ∀ s ∈ snaps, s.sn = lastGC + 1 → s.st = .live
  cnt : ∀ s ∈ snaps, s.count = (s.content.length : Nat)

def ViewInv (store : List Ver) (snaps : List Snap) : Prop :=
  ∀ s ∈ snaps, 0 < s.rc → view store s.sn = s.content

def InGc (writers : List Writer) (g : Ver) : Prop := ∃ w ∈ writers, g ∈ w.gc

/-- `w*`: the writers' lists and the current epoch; `s*`: the list of an uncollected snapshot and its number.
    `*gc`: what died in the epoch is named; `*sound`: what is named died in it and was born before it (so nothing
    linked now is claimed by an old list); `*pres`: what is named is still linked.  `exact`: what is dead and still
    linked died after `lastGC`. -/
structure GarbInv (store : List Ver) (writers : List Writer) (snaps : List Snap) (cur lastGC : Nat) : Prop where
  wgc : ∀ v ∈ store, v.dead = cur → ∃ g, InGc writers g ∧ sameId v g = true
  sgc : ∀ v ∈ store, v.dead ≠ 0 → v.dead < cur →
          ∃ s ∈ snaps, s.sn = v.dead ∧ ∃ g ∈ s.gclist, sameId v g = true
  wsound : ∀ g, InGc writers g → g.born < cur ∧ ∀ v ∈ store, sameId v g = true → v.dead = cur
  ssound : ∀ s ∈ snaps, s.st ≠ .collected → ∀ g ∈ s.gclist,
          g.born < s.sn ∧ ∀ v ∈ store, sameId v g = true → v.dead = s.sn
  exact : ∀ v ∈ store, v.dead ≠ 0 → lastGC < v.dead
  /-- nothing named by a garbage list that has not been collected yet has been unlinked -/
  wpres : ∀ g, InGc writers g → ∃ v ∈ store, sameId v g = true
  spres : ∀ s ∈ snaps, s.st ≠ .collected → ∀ g ∈ s.gclist, ∃ v ∈ store, sameId v g = true

structure IterInv (iters : List (Nat × Iter)) (snaps : List Snap) : Prop where
  snap : ∀ p ∈ iters, ∃ s ∈ snaps, s.sn = p.2.sn ∧ ∀ v, p.2.cur = some v → v.norm ∈ s.content
  refs : ∀ s ∈ snaps, itersOn s.sn iters ≤ s.rc

/-- the `born < cur` disjunct: a node linked now cannot have the identity a handle obtained earlier names -/
def HandleInv (handles : List (Nat × Handle)) (store : List Ver) (cur : Nat) : Prop :=
  ∀ p ∈ handles, p.2.gone = false →
    p.2.born < cur ∨ ∃ v ∈ store, v.key = p.2.key ∧ v.born = p.2.born

structure Inv (σ : State) : Prop where
  sorted : Sorted σ.store
  chains : Chains σ.currSn σ.store
  count : CountInv σ.store σ.writers σ.itemsCount
  snaps : SnapInv σ.snaps σ.currSn σ.lastGCSn
  view : ViewInv σ.store σ.snaps
  garb : GarbInv σ.store σ.writers σ.snaps σ.currSn σ.lastGCSn
  iters : IterInv σ.iters σ.snaps
  handles : HandleInv σ.handles σ.store σ.currSn

/-- `Inv.mk` with the state taken apart, so that the clauses are stated on the fields -/
theorem Inv.of_fields {store : List Ver} {cur g : Nat} {items : Int} {writers : List Writer}
    {snaps : List Snap} {iters : List (Nat × Iter)} {handles : List (Nat × Handle)}
    (sorted : Sorted store) (chains : Chains cur store) (count : CountInv store writers items)
    (hsnaps : SnapInv snaps cur g) (view : ViewInv store snaps) (garb : GarbInv store writers snaps cur g)
    (hiters : IterInv iters snaps) (hhandles : HandleInv handles store cur) :
    Inv ⟨store, cur, g, items, writers, snaps, iters, handles⟩ :=
  ⟨sorted, chains, count, hsnaps, view, garb, hiters, hhandles⟩

theorem Inv.cur_pos {σ : State} (h : Inv σ) : 0 < σ.currSn :=
  Nat.lt_of_le_of_lt (Nat.zero_le _) h.snaps.gclt

theorem fresh_writers {l : List Writer} (h : ∀ w ∈ l, w = ⟨0, []⟩) :
    (l.map (·.count)).sum = 0 ∧ ∀ g, ¬ InGc l g :=
  ⟨sum_map_eq_zero fun u hu => by rw [h u hu],
   fun g ⟨w, hw, hg⟩ => by rw [h w hw] at hg; cases hg⟩

theorem inv_init (n : Nat) : Inv (init n) := by
  have ⟨hsum, hno⟩ := fresh_writers (l := List.replicate n ⟨0, []⟩) fun w hw => (List.mem_replicate.mp hw).2
  have hnil : ∀ {α : Type} {p : α → Prop}, ∀ x ∈ ([] : List α), p x := fun _ h => absurd h List.not_mem_nil
  refine Inv.of_fields List.Pairwise.nil ⟨hnil, hnil⟩ ?_ ?_ hnil ?_ ⟨hnil, hnil⟩ hnil
  · unfold CountInv; rw [hsum]; rfl
  · exact ⟨hnil, fun k h1 h2 => absurd h1 (Nat.not_lt.mpr (Nat.le_of_lt_succ h2)), List.Pairwise.nil,
      hnil, Nat.zero_lt_one, hnil, hnil, hnil⟩
  · exact ⟨hnil, hnil, fun g hg => absurd hg (hno g), hnil, hnil, fun g hg => absurd hg (hno g), hnil⟩

theorem lookup_probe {σ : State} (h : Inv σ) (k v : Nat) :
    lookup σ.store (probe σ k v) = aliveOf σ.store k := lookup_eq_aliveOf h.sorted h.chains k v

theorem getNode_eq {σ : State} (h : Inv σ) (k : Nat) : getNode σ k = aliveOf σ.store k := lookup_probe h k 0

theorem findSnap_some {snaps : List Snap} {s : Nat} {x : Snap} (h : findSnap s snaps = some x) :
    x ∈ snaps ∧ x.sn = s := find?_key_some h

theorem findSnap_none {snaps : List Snap} {s : Nat} (h : findSnap s snaps = none) :
    ∀ x ∈ snaps, x.sn ≠ s := find?_key_none h

theorem snap_unique {snaps : List Snap} (h : snaps.Pairwise (fun a b => a.sn < b.sn)) {a b : Snap}
    (ha : a ∈ snaps) (hb : b ∈ snaps) (hs : a.sn = b.sn) : a = b :=
  eq_of_key_eq h (fun _ _ => Nat.ne_of_lt) ha hb hs

theorem findSnap_of_mem {snaps : List Snap} (hinc : snaps.Pairwise (fun a b => a.sn < b.sn)) {x : Snap}
    (hx : x ∈ snaps) : findSnap x.sn snaps = some x :=
  find?_key_of_mem hinc (fun _ _ => Nat.ne_of_lt) hx

theorem mem_updSnap {snaps : List Snap} {s : Nat} {f : Snap → Snap} {y : Snap}
    (h : y ∈ updSnap s f snaps) : ∃ x ∈ snaps, y = if x.sn = s then f x else x := mem_map_upd h

theorem updSnap_pairwise {snaps : List Snap} (h : snaps.Pairwise (fun a b => a.sn < b.sn)) (s : Nat)
    (f : Snap → Snap) (hf : ∀ x, (f x).sn = x.sn) :
    (updSnap s f snaps).Pairwise (fun a b => a.sn < b.sn) :=
  pairwise_map_upd (key := Snap.sn) (S := (· < ·)) hf _ h

theorem forall_updSnap {snaps : List Snap} (hinc : snaps.Pairwise (fun a b => a.sn < b.sn)) {s : Nat} {x : Snap}
    (hx : findSnap s snaps = some x) (f : Snap → Snap) {P : Snap → Prop}
    (h : ∀ z ∈ snaps, z.sn ≠ s → P z) (hfx : P (f x)) : ∀ y ∈ updSnap s f snaps, P y := by
  intro y hy
  obtain ⟨z, hz, rfl⟩ := mem_updSnap hy
  by_cases hzs : z.sn = s
  · rw [if_pos hzs, snap_unique hinc hz (findSnap_some hx).1 (hzs.trans (findSnap_some hx).2.symm)]; exact hfx
  · rw [if_neg hzs]; exact h z hz hzs

/-- what creation fixed of a snapshot: number, count, content, garbage list -/
def SameSnap (z y : Snap) : Prop := y.sn = z.sn ∧ y.count = z.count ∧ y.content = z.content ∧ y.gclist = z.gclist

theorem exists_updSnap {snaps : List Snap} (hinc : snaps.Pairwise (fun a b => a.sn < b.sn)) {s : Nat} {x : Snap}
    (hx : findSnap s snaps = some x) {f : Snap → Snap} (hf : SameSnap x (f x)) {z : Snap} (hz : z ∈ snaps) :
    ∃ y ∈ updSnap s f snaps, SameSnap z y := by
  refine ⟨_, List.mem_map.mpr ⟨z, hz, rfl⟩, ?_⟩
  by_cases hzs : z.sn = s
  · rw [if_pos hzs, snap_unique hinc hz (findSnap_some hx).1 (hzs.trans (findSnap_some hx).2.symm)]; exact hf
  · rw [if_neg hzs]; exact ⟨rfl, rfl, rfl, rfl⟩

theorem updWriter_split {w : Nat} {l : List Writer} (hw : w < l.length) (f : Writer → Writer) :
    ∃ a x b, l = a ++ x :: b ∧ updWriter w f l = a ++ f x :: b := by
  have hg := List.getElem?_eq_getElem hw
  refine ⟨_, _, _, (set_split hg).1, ?_⟩
  unfold updWriter
  rw [hg]
  exact (set_split hg).2 _

theorem sum_updWriter (w : Nat) (f : Writer → Writer) (d : Int) (hf : ∀ x, (f x).count = x.count + d) :
    ∀ (l : List Writer), w < l.length →
      ((updWriter w f l).map (·.count)).sum = (l.map (·.count)).sum + d := by
  intro l hw
  obtain ⟨a, x, b, rfl, e⟩ := updWriter_split hw f
  rw [e, List.map_append, List.map_append, List.sum_append, List.sum_append, List.map_cons, List.map_cons,
    List.sum_cons, List.sum_cons, hf, Int.add_right_comm x.count, ← Int.add_assoc, ← Int.add_assoc]

theorem updWriter_length (w : Nat) (f : Writer → Writer) (l : List Writer) :
    (updWriter w f l).length = l.length := by
  unfold updWriter; split
  · exact List.length_set ..
  · rfl

theorem inGc_split {a b : List Writer} {x : Writer} {g : Ver} :
    InGc (a ++ x :: b) g ↔ g ∈ x.gc ∨ InGc (a ++ b) g := by
  unfold InGc
  constructor
  · rintro ⟨y, hy, hg⟩
    rcases List.mem_append.mp hy with h | h
    · exact Or.inr ⟨y, List.mem_append_left _ h, hg⟩
    · rcases List.mem_cons.mp h with rfl | h
      · exact Or.inl hg
      · exact Or.inr ⟨y, List.mem_append_right _ h, hg⟩
  · rintro (hg | ⟨y, hy, hg⟩)
    · exact ⟨x, List.mem_append_right _ (List.mem_cons_self ..), hg⟩
    · exact ⟨y, (List.mem_append.mp hy).elim (List.mem_append_left _)
        fun h => List.mem_append_right _ (List.mem_cons_of_mem _ h), hg⟩

theorem inGc_updWriter_same {w : Nat} {f : Writer → Writer} {l : List Writer} (hf : ∀ x, (f x).gc = x.gc)
    (g : Ver) : InGc (updWriter w f l) g ↔ InGc l g := by
  by_cases hw : w < l.length
  · obtain ⟨a, x, b, rfl, e⟩ := updWriter_split hw f
    rw [e, inGc_split, inGc_split, hf]
  · unfold updWriter; rw [List.getElem?_eq_none (Nat.not_lt.mp hw)]

theorem inGc_updWriter_app {w : Nat} {f : Writer → Writer} {l : List Writer} {g0 : Ver}
    (hw : w < l.length) (hf : ∀ x, (f x).gc = x.gc ++ [g0]) (g : Ver) :
    InGc (updWriter w f l) g ↔ InGc l g ∨ g = g0 := by
  obtain ⟨a, x, b, rfl, e⟩ := updWriter_split hw f
  rw [e, inGc_split, inGc_split, hf, List.mem_append, List.mem_singleton, or_right_comm]

theorem itersOn_zero {iters : List (Nat × Iter)} {n : Nat} (h : ∀ p ∈ iters, p.2.sn ≠ n) :
    itersOn n iters = 0 := by
  unfold itersOn
  have : iters.filter (fun p => p.2.sn == n) = [] := by
    apply List.filter_eq_nil_iff.mpr
    intro p hp; simp; exact h p hp
  simp [this]

theorem itersOn_cons (n : Nat) (p : Nat × Iter) (l : List (Nat × Iter)) :
    itersOn n (p :: l) = (if p.2.sn = n then 1 else 0) + itersOn n l := by
  unfold itersOn
  rw [List.filter_cons]
  by_cases h : p.2.sn = n
  · rw [if_pos (beq_iff_eq.mpr h), if_pos h, List.length_cons, Int.natCast_add, Int.add_comm]; rfl
  · rw [if_neg (fun hb => h (beq_iff_eq.mp hb)), if_neg h, Int.zero_add]

theorem itersOn_aerase (n i : Nat) (l : List (Nat × Iter)) :
    itersOn n (aerase i l) =
      (((l.filter (fun p => p.2.sn == n)).filter (fun p => p.1 != i)).length : Nat) := by
  unfold itersOn aerase
  rw [List.filter_filter, List.filter_filter]
  exact congrArg (fun l => ((List.length l : Nat) : Int)) (List.filter_congr fun _ _ => Bool.and_comm ..)

theorem itersOn_aerase_le (n i : Nat) (l : List (Nat × Iter)) : itersOn n (aerase i l) ≤ itersOn n l := by
  rw [itersOn_aerase]; exact Int.ofNat_le.mpr (List.length_filter_le ..)

theorem itersOn_aerase_lt {n i : Nat} {it : Iter} {l : List (Nat × Iter)} (h : (i, it) ∈ l) (hn : it.sn = n) :
    itersOn n (aerase i l) + 1 ≤ itersOn n l := by
  rw [itersOn_aerase]
  exact Int.ofNat_lt.mpr (List.length_filter_lt_length_iff_exists.mpr
    ⟨(i, it), List.mem_filter.mpr ⟨h, beq_iff_eq.mpr hn⟩, fun hne => bne_iff_ne.mp hne rfl⟩)

theorem itersOn_aset_new (n : Nat) {i : Nat} {l : List (Nat × Iter)} (hi : alookup i l = none) (it : Iter) :
    itersOn n (aset i it l) = itersOn n l + (if it.sn = n then 1 else 0) := by
  unfold itersOn
  rw [aset_of_lookup_none hi, List.filter_append, List.length_append, Int.natCast_add]
  by_cases h : it.sn = n <;> simp [h]

theorem itersOn_aset_same (n : Nat) {i : Nat} {it it' : Iter} (hsn : it'.sn = it.sn)
    {l : List (Nat × Iter)} (h : alookup i l = some it) : itersOn n (aset i it' l) = itersOn n l := by
  induction l with
  | nil => cases h
  | cons p r ih =>
    rw [alookup_cons] at h; rw [aset_cons]; split at h
    · rename_i hp; cases h; rw [if_pos hp, itersOn_cons, itersOn_cons, hsn]
    · rename_i hp; rw [if_neg hp, itersOn_cons, itersOn_cons, ih h]

end NitroVerif.Mvcc
