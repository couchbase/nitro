/-
  What a reader is handed: the versions an iterator delivers along a schedule, and how an action of anybody
  touches a given iterator — not at all, or it leaves it unable to deliver until its next `it_first` (no
  record, no cursor, or inside its `Close`), or it is the iterator's own ITER_NEXT step and lands.
-/
import NitroVerif.Lemmas.MvccConcLanding
import NitroVerif.Lemmas.MvccConcMain

namespace NitroVerif.MvccConc
open NitroVerif.Mvcc (Ver visible)

/-- the action belongs to iterator `i` of thread `t`: its `it_first`, or its ITER_NEXT step -/
def mine (σ : State) (a : Act) (t i : Nat) : Bool :=
  match a with
  | .itFirst t' i' => t' == t && i' == i
  | .step t' => t' == t && σ.threads[t]? == some (.iterNext i)
  | _ => false

/-- the version (as `(key, bornSn)`) that action `a` hands to the user of iterator `(t, i)`, if any:
    the action is the iterator's own, it answers `ret <k:v>`, and the cursor then stands on that version -/
def deliveredBy (σ : State) (a : Act) (t i : Nat) : Option (Nat × Nat) :=
  if mine σ a t i then
    match (step σ a).2 with
    | .ret (.item (some _)) => (curOf (step σ a).1 t i).map Cur.kb
    | _ => none
  else none

def delivered (t i : Nat) : State → List Act → List (Nat × Nat)
  | _, [] => []
  | σ, a :: as => (deliveredBy σ a t i).toList ++ delivered t i (step σ a).1 as

/-- the version action `a` hands to the user of iterator `(t, i)`, if any: key and value as answered
    (`ret <k:v>`), birth epoch of the node the cursor then stands on -/
def deliveredVerBy (σ : State) (a : Act) (t i : Nat) : Option Ver :=
  if mine σ a t i then
    match (step σ a).2 with
    | .ret (.item (some kv)) => (curOf (step σ a).1 t i).map (fun c => ⟨kv.1, kv.2, c.born, 0⟩)
    | _ => none
  else none

def deliveredVers (t i : Nat) : State → List Act → List Ver
  | _, [] => []
  | σ, a :: as => (deliveredVerBy σ a t i).toList ++ deliveredVers t i (step σ a).1 as

def endedBy (σ : State) (a : Act) (t i : Nat) : Bool :=
  mine σ a t i && ((step σ a).2 == .ret (.item none))

def scanEnded (t i : Nat) : State → List Act → Bool
  | _, [] => false
  | σ, a :: as => endedBy σ a t i || scanEnded t i (step σ a).1 as

theorem delivered_land {σ : State} {a : Act} {t i : Nat} {it : Iter} {land : Option Node} {pc' : Pc}
    (hm : mine σ a t i = true) (he : step σ a = (landed σ t i it land pc', landResp it.sn land)) :
    deliveredVerBy σ a t i = landVer it.sn land ∧ endedBy σ a t i = land.isNone := by
  unfold deliveredVerBy endedBy
  rw [if_pos hm, hm, he]
  simp only [curOf_landed]
  cases land with
  | none => simp [landVer, landResp]
  | some y =>
    simp only [Option.map_some, Option.isNone_some, Bool.true_and, landVer, landResp]
    unfold visible
    cases hsk : Gen.skipUnwanted y.ver.born y.ver.dead it.sn
    · simp [curAt, Mvcc.Ver.norm]
    · simp

theorem delivered_noitem {σ : State} {a : Act} {t i : Nat} (h : (step σ a).2.isItem = false) :
    deliveredVerBy σ a t i = none ∧ endedBy σ a t i = false := by
  unfold deliveredVerBy endedBy
  refine ⟨?_, ?_⟩
  · split
    · split
      · rename_i kv hresp; rw [hresp] at h; cases h
      · rfl
    · rfl
  · cases hr : ((step σ a).2 == Resp.ret (Val.item none))
    · simp
    · rw [show (step σ a).2 = Resp.ret (Val.item none) by simpa using hr] at h; cases h

theorem delivered_not_mine {σ : State} {a : Act} {t i : Nat} (h : mine σ a t i = false) :
    deliveredVerBy σ a t i = none ∧ endedBy σ a t i = false := by
  unfold deliveredVerBy endedBy
  simp [h]

theorem own_item {σ : State} {a : Act} {t i : Nat} {kv : Nat × Nat} (hm : mine σ a t i = true)
    (hr : (step σ a).2 = .ret (.item (some kv))) :
    ∃ it land pc', step σ a = (landed σ t i it land pc', landResp it.sn land) := by
  cases a with
  | itFirst t' i' =>
    simp only [mine, Bool.and_eq_true, beq_iff_eq] at hm
    obtain ⟨rfl, rfl⟩ := hm
    rcases step_itFirst σ t' i' with h | ⟨_, it, pc', _, _, h⟩
    · rw [h] at hr; cases hr
    · exact ⟨it, _, pc', h⟩
  | step t' =>
    simp only [mine, Bool.and_eq_true, beq_iff_eq] at hm
    obtain ⟨rfl, hg⟩ := hm
    rcases step_iterNext hg with ⟨r, hr0, h⟩ | ⟨it, land, pc', h⟩
    · rw [h] at hr; simp only at hr; rw [hr] at hr0; cases hr0
    · exact ⟨it, land, pc', h⟩
  | _ => simp [mine] at hm

theorem deliveredBy_map (σ : State) (a : Act) (t i : Nat) :
    deliveredBy σ a t i = (deliveredVerBy σ a t i).map (fun v => (v.key, v.born)) := by
  unfold deliveredBy deliveredVerBy
  by_cases hm : mine σ a t i = true
  · rw [if_pos hm, if_pos hm]
    split
    · rename_i kv hresp
      obtain ⟨it, land, pc', he⟩ := own_item hm hresp
      rw [he] at hresp ⊢
      simp only [curOf_landed]
      cases land with
      | none => cases hresp
      | some y =>
        simp only [landResp] at hresp
        split at hresp
        · cases hresp
        · injection hresp with h; injection h with h; injection h with h
          subst h; rfl
    · rfl
  · rw [if_neg hm, if_neg hm]; rfl

theorem delivered_map (t i : Nat) (sched : List Act) (σ : State) :
    delivered t i σ sched = (deliveredVers t i σ sched).map (fun v => (v.key, v.born)) := by
  induction sched generalizing σ with
  | nil => rfl
  | cons a as ih =>
    simp only [delivered, deliveredVers, List.map_append]
    rw [ih, deliveredBy_map]
    cases deliveredVerBy σ a t i <;> rfl

theorem delivered_keys {t i : Nat} {σ : State} {sched : List Act}
    (h : (deliveredVers t i σ sched).Pairwise (fun a b => a.key < b.key)) :
    (delivered t i σ sched).Pairwise (fun a b => a.1 < b.1) := by
  rw [delivered_map, List.pairwise_map]; exact h

theorem mine_itFirst (σ : State) (t i : Nat) : mine σ (.itFirst t i) t i = true := by simp [mine]

theorem mine_step {σ : State} {t i : Nat} (ht : σ.threads[t]? = some (.iterNext i)) : mine σ (.step t) t i = true := by
  simp [mine, ht]

theorem mine_step_false {σ : State} {t' t i : Nat} {pc : Pc} (ht : σ.threads[t']? = some pc)
    (hne : t' = t → pc ≠ .iterNext i) : mine σ (.step t') t i = false := by
  show (t' == t && σ.threads[t]? == some (.iterNext i)) = false
  by_cases e : t' = t
  · rw [← e, ht]; simpa using hne e
  · simp [e]

theorem mine_itFirst_false {σ : State} {t' i' t i : Nat} (hne : (t', i') ≠ (t, i)) :
    mine σ (.itFirst t' i') t i = false := by
  show (t' == t && i' == i) = false
  by_cases e1 : t' = t
  · have e2 : i' ≠ i := fun e2 => hne (by rw [e1, e2])
    simp [e2]
  · simp [e1]

/-- iterator `(t, i)` cannot deliver anything before its next `it_first`: it does not exist, has no cursor,
    or its thread is inside its `Close` -/
def Dead (σ : State) (t i : Nat) : Prop :=
  ∀ it, findIter (t, i) σ.iters = some it → (it.cur = none ∨ closingB σ.threads (t, i) = true)

theorem Dead.keep {σ σ' : State} {t i : Nat} (h : Dead σ t i)
    (hf : findIter (t, i) σ'.iters = findIter (t, i) σ.iters)
    (hc : closingB σ'.threads (t, i) = closingB σ.threads (t, i)) : Dead σ' t i := by
  intro it hit
  rw [hf] at hit; rw [hc]; exact h it hit

theorem TailThr.self {σ σ' : State} {t i : Nat} {pc0 : Pc} (h : TailThr σ σ' t (some i))
    (ht : σ.threads[t]? = some pc0) :
    Dead σ' t i ∧ (findIter (t, i) σ'.iters = findIter (t, i) σ.iters ∨ findIter (t, i) σ'.iters = none) := by
  rcases h with ⟨h1, h2⟩ | ⟨s, h1, h2⟩
  · have hnone : findIter (t, i) σ'.iters = none := by rw [h2]; simp only; rw [findIter_erase, if_pos rfl]
    exact ⟨fun it hit => (by rw [hnone] at hit; cases hit), Or.inr hnone⟩
  · refine ⟨fun it _ => Or.inr ?_, Or.inl (by rw [h2])⟩
    rw [h1, closingB_set_self ht (k := (t, i)) rfl, closes_collectSend]
    exact beq_self_eq_true _

/-- what action `a` does to iterator `(t, i)`: nothing (`same`: record and closing status as before, nothing
    delivered), it leaves it unable to deliver (`dead`), or it is its own ITER_NEXT step and lands (`next`) -/
inductive Touch (σ : State) (a : Act) (t i : Nat) : Prop
  | same : findIter (t, i) (step σ a).1.iters = findIter (t, i) σ.iters →
      closingB (step σ a).1.threads (t, i) = closingB σ.threads (t, i) →
      deliveredVerBy σ a t i = none ∧ endedBy σ a t i = false → Touch σ a t i
  /-- the iterator is opened, or its `Close` begins or goes on; the third premise says which: a scanning iterator
      (in the table, not closing) can get here only by its own `it_close` -/
  | dead : Dead (step σ a).1 t i →
      (findIter (t, i) (step σ a).1.iters = findIter (t, i) σ.iters ∨ curOf (step σ a).1 t i = none) →
      (a = .itClose t i ∨ findIter (t, i) σ.iters = none ∨ closingB σ.threads (t, i) = true) →
      deliveredVerBy σ a t i = none ∧ endedBy σ a t i = false → Touch σ a t i
  | next (it : Iter) (c : Cur) (land : Option Node) (pc' : Pc) : σ.down = false → a = .step t →
      σ.threads[t]? = some (.iterNext i) →
      findIter (t, i) σ.iters = some it → it.cur = some c → NextLand σ c land →
      (pc' = .idle ∨ pc' = .iterNext i) → step σ a = (landed σ t i it land pc', landResp it.sn land) → Touch σ a t i

theorem touch_cases {fx : Bool} {nw nr : Nat} {σ : State} (hr : ReachableFx fx nw nr σ) (a : Act) (t i : Nat)
    (h1 : a ≠ .itFirst t i) : Touch σ a t i := by
  by_cases hd : σ.down = true
  · have hst := step_down hd a
    exact .same (by rw [hst]) (by rw [hst]) (delivered_noitem (by rw [hst]; rfl))
  have hd0 : σ.down = false := by simpa using hd
  cases action_cases (inv_reachable hr hd0) a with
  | quiet hq hni =>
    exact .same (by rw [hq.iters]) (hq.thr.closing _) (delivered_noitem hni)
  | snap ha he =>
    exact .same (by rw [he]; rfl) (by rw [he]; rfl) (delivered_not_mine (by rw [ha]; rfl))
  | eff t' h =>
    cases h with
    | land i' it land pc' hf hk hpc he =>
      by_cases hown : (t', i') = (t, i)
      · injection hown with e1 e2; subst e1; subst e2
        rcases hk with ⟨ha, _⟩ | ⟨ha, hg, c, hc, hl⟩
        · exact absurd ha h1
        · exact .next it c land pc' hd0 ha hg hf hc hl hpc he
      · obtain ⟨pc0, ht, hc0⟩ := land_thread (hk.imp (·.2.1) (·.2.1))
        refine .same (by rw [he]; exact (findIter_landed ..).trans (if_neg hown))
          (by rw [he]; exact closing_landed ht hc0 hpc _) (delivered_not_mine ?_)
        rcases hk with ⟨ha, _⟩ | ⟨ha, hg, _⟩
        · rw [ha]; exact mine_itFirst_false hown
        · rw [ha]; exact mine_step_false hg (fun et e => by injection e with e; exact hown (by rw [et, e]))
    | open_ i' s x ha _ hnone _ he =>
      have hdel := delivered_not_mine (σ := σ) (a := a) (t := t) (i := i) (by rw [ha]; rfl)
      have hit : findIter (t, i) (step σ a).1.iters =
          if (t', i') = (t, i) then some ⟨s, curTok σ, none⟩ else findIter (t, i) σ.iters := by
        rw [he]; exact findIter_set ..
      have hthr : (step σ a).1.threads = σ.threads := by rw [he]; rfl
      by_cases hown : (t', i') = (t, i)
      · rw [if_pos hown] at hit
        refine .dead (fun it' hit' => Or.inl ?_) (Or.inr (curOf_eq hit))
          (Or.inr (Or.inl (hown ▸ hnone))) hdel
        rw [hit] at hit'; injection hit' with e; rw [← e]
      · rw [if_neg hown] at hit; exact .same hit (by rw [hthr]) hdel
    | close s x f after ht _ hwho _ htl =>
      have htl' : TailThr σ (step σ a).1 t' after := htl.tail.2
      have hdel : deliveredVerBy σ a t i = none ∧ endedBy σ a t i = false := by
        rcases hwho with ⟨ha, _⟩ | ⟨_, _, ha, _⟩ <;> exact delivered_not_mine (by rw [ha]; rfl)
      by_cases hown : t' = t ∧ after = some i
      · obtain ⟨e1, e2⟩ := hown; subst e1; subst e2
        have ha : a = .itClose t' i := by
          rcases hwho with ⟨_, h, _⟩ | ⟨j, _, ha, h, _⟩
          · cases h
          · injection h with h; rw [ha, h]
        obtain ⟨h, h'⟩ := htl'.self ht
        exact .dead h (h'.imp id curOf_none) (Or.inl ha) hdel
      · have := htl'.other (t := t) (i := i) ht (Or.inl rfl) (fun e h => hown ⟨e, h⟩)
        exact .same this.1 this.2 hdel
    | collect sn' x after ha ht _ htl =>
      have htl' : TailThr σ (step σ a).1 t' after := htl.tail.2
      have hdel := delivered_not_mine (σ := σ) (a := a) (t := t) (i := i)
        (by rw [ha]; exact mine_step_false ht (fun _ e => by cases e))
      by_cases hown : t' = t ∧ after = some i
      · obtain ⟨e1, e2⟩ := hown; subst e1; subst e2
        obtain ⟨h, h'⟩ := htl'.self ht
        refine .dead h (h'.imp id curOf_none) (Or.inr (Or.inr ?_)) hdel
        rw [closingB_eq (k := (t', i)) ht, closes_collectSend]; exact beq_self_eq_true _
      · have := htl'.other (t := t) (i := i) ht (Or.inr (closes_collectSend ..)) (fun e h => hown ⟨e, h⟩)
        exact .same this.1 this.2 hdel

theorem dead_step {fx : Bool} {nw nr : Nat} {σ : State} (hr : ReachableFx fx nw nr σ) {t i : Nat}
    (hdead : Dead σ t i) (a : Act) (h1 : a ≠ .itFirst t i) :
    Dead (step σ a).1 t i ∧ deliveredVerBy σ a t i = none := by
  cases touch_cases hr a t i h1 with
  | same h h' hdel => exact ⟨hdead.keep h h', hdel.1⟩
  | dead h _ _ hdel => exact ⟨h, hdel.1⟩
  | next it c _ _ _ _ ht hf hc =>
    exfalso
    rcases hdead it hf with h | h
    · rw [hc] at h; cases h
    · rw [closingB_eq (k := (t, i)) ht] at h
      simp [Pc.closes] at h

theorem dead_run {fx : Bool} {nw nr : Nat} {t i : Nat} (sched : List Act) {σ : State}
    (hr : ReachableFx fx nw nr σ) (hdead : Dead σ t i) (hno : Act.itFirst t i ∉ sched) :
    deliveredVers t i σ sched = [] := by
  induction sched generalizing σ with
  | nil => rfl
  | cons a as ih =>
    have ha : a ≠ .itFirst t i := fun h => hno (h ▸ List.mem_cons_self)
    obtain ⟨h1, h2⟩ := dead_step hr hdead a ha
    simp only [deliveredVers, h2]
    rw [ih (ReachableFx.step a hr) h1 (fun h => hno (List.mem_cons_of_mem _ h))]
    rfl

end NitroVerif.MvccConc
