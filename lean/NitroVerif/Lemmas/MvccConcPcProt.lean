/-
  What a parked thread knows and what its token protects.  `PcInv` entry by entry (`PcAt`): what a new entry must
  satisfy and what the others keep when the store, the unlinked nodes, the snapshots or the collector flag change.
  `ProtInv`: the protected count of no token out drops when the thread table changes (`ProtInv.set`, with `Pc.ref`
  for the node the new entry stands on) or when the other components do (`ProtInv.mono`).  `inv_release`: a token
  goes back and its thread goes idle.
-/
import NitroVerif.Lemmas.MvccConcTransfer
import NitroVerif.Lemmas.MvccConcFields

namespace NitroVerif.MvccConc

variable {threads threads' : List Pc} {store store' unl unl' : List Node} {gcJobs : List GcJob} {sess : List Sess}
  {iters : List ((Nat × Nat) × Iter)} {fs nextId nextId' nw cur : Nat} {snaps : List Snap} {gcFlag : Bool}
  {gcJobs' : List GcJob} {sess' : List Sess} {iters' : List ((Nat × Nat) × Iter)} {snaps' : List Snap}
  {gcFlag' : Bool}

theorem Prot.of_store {n tok : Nat}
    (h : n ∈ storeIds store) : Prot threads store gcJobs sess n tok :=
  Nat.add_pos_left (Nat.add_pos_left (Nat.add_pos_left (List.count_pos_iff.mpr h) _) _) _

theorem ProtInv.set (h : ProtInv threads store gcJobs sess iters) {t : Nat} {pc' : Pc}
    (hP : ∀ n tok, protC store threads gcJobs sess tok n ≤ protC store' (threads.set t pc') gcJobs' sess' tok n)
    (hnew : ∀ n tok, pc'.ref = some (n, tok) → Prot (threads.set t pc') store' gcJobs' sess' n tok) :
    ProtInv (threads.set t pc') store' gcJobs' sess' iters := by
  refine ⟨fun t' pc n tok hg hr => ?_, fun key it c hm hc => Nat.lt_of_lt_of_le (h.it key it c hm hc) (hP c.id it.tok)⟩
  rcases getElem?_set_cases hg with ⟨_, he⟩ | ⟨_, hg'⟩
  · exact hnew n tok (he ▸ hr)
  · exact Nat.lt_of_lt_of_le (h.thr t' pc n tok hg' hr) (hP n tok)

theorem ProtInv.set_plain (h : ProtInv threads store gcJobs sess iters) {t : Nat} {pc0 pc' : Pc}
    (ht : threads[t]? = some pc0) (h0 : flushOwn pc0 = []) (hp : pc'.ref = none) :
    ProtInv (threads.set t pc') store gcJobs sess iters :=
  -- the overwritten entry held no node, so the protected count can only grow
  h.set (fun n tok => grow_2 (count_flatMap_set_grow flushOwn n ht (L := flushOwn pc') (h0 ▸ rfl)))
    fun n tok hr => by rw [hp] at hr; cases hr

/-- every node of the new store is reserved or was linked with the same key and epoch, and what joins the unlinked
    nodes carries a death mark or comes from the store with the current epoch (no `delCas` stands on such a node) -/
structure StoreStep (threads : List Pc) (cur : Nat) (store unl store' unl' : List Node) : Prop where
  st : ∀ x ∈ store', reserved threads x.id ∨
    ∃ y ∈ store, y.id = x.id ∧ y.ver.key = x.ver.key ∧ y.ver.born = x.ver.born
  un : ∀ x ∈ unl', x ∈ unl ∨ x.ver.dead ≠ 0 ∨ (x ∈ store ∧ x.ver.born = cur)

theorem StoreStep.refl : StoreStep threads cur store unl store unl :=
  ⟨fun y hy => Or.inr ⟨y, hy, rfl, rfl, rfl⟩, fun _ hy => Or.inl hy⟩

theorem PcAt.mono {t : Nat} {pc : Pc}
    (h : PcAt nw cur store unl nextId gcFlag snaps threads t pc) (hn : nextId ≤ nextId')
    (hres : ∀ n, n < nextId → reserved threads' n → reserved threads n)
    (hs : StoreStep threads cur store unl store' unl') :
    PcAt nw cur store' unl' nextId' gcFlag snaps threads' t pc := by
  cases pc with
  | putInsert n k v b => exact h
  | delFlush n tok k => exact h
  | collectSend sn a => exact h
  | idle => trivial
  | iterNext i => trivial
  | delPhys n tok k =>
    obtain ⟨h1, h2, h3, h4⟩ := h
    refine ⟨h1, Nat.lt_of_lt_of_le h2 hn, fun hr => h3 (hres n h2 hr), fun x hx hxn => ?_⟩
    rcases hs.st x hx with hr | ⟨y, hy, e1, e2, e3⟩
    · exact absurd (hxn ▸ hr) h3
    · rw [← e2, ← e3]; exact h4 y hy (e1.trans hxn)
  | delCas n tok k =>
    obtain ⟨h1, h2, h3, h4, h5⟩ := h
    refine ⟨h1, Nat.lt_of_lt_of_le h2 hn, fun hr => h3 (hres n h2 hr), fun x hx hxn => ?_, fun x hx hxn => ?_⟩
    · rcases hs.st x hx with hr | ⟨y, hy, e1, e2, e3⟩
      · exact absurd (hxn ▸ hr) h3
      · rw [← e2, ← e3]; exact h4 y hy (e1.trans hxn)
    · rcases hs.un x hx with hu | hd | ⟨hxs, hb⟩
      · exact h5 x hu hxn
      · exact hd
      · exact absurd (h4 x hxs hxn).2 (by rw [hb]; exact Nat.lt_irrefl _)

theorem PcInv.mono (h : PcInv threads nw cur store unl nextId gcFlag snaps) (hn : nextId ≤ nextId')
    (hs : StoreStep threads cur store unl store' unl') :
    PcInv threads nw cur store' unl' nextId' gcFlag snaps :=
  ⟨fun hg => (h.at hg).mono hn (fun _ _ hr => hr) hs, h.excl⟩

theorem PcInv.set (h : PcInv threads nw cur store unl nextId gcFlag snaps) {t : Nat} {pc' : Pc}
    (hn : nextId ≤ nextId')
    (hres : ∀ n, n < nextId → reserved (threads.set t pc') n → reserved threads n)
    (hs : StoreStep threads cur store unl store' unl')
    (hat : PcAt nw cur store' unl' nextId' gcFlag snaps (threads.set t pc') t pc')
    (hex : ∀ sn a, pc' = Pc.collectSend sn a → ∀ (t' sn' : Nat) (a' : Option Nat), t ≠ t' →
      threads[t']? ≠ some (Pc.collectSend sn' a')) :
    PcInv (threads.set t pc') nw cur store' unl' nextId' gcFlag snaps := by
  refine ⟨?_, ?_⟩
  · intro t' pc hg
    rcases getElem?_set_cases hg with ⟨he, hpc⟩ | ⟨_, hg'⟩
    · subst he; subst hpc; exact hat
    · exact (h.at hg').mono hn hres hs
  · intro t1 t2 s1 a1 s2 a2 h1 h2
    rcases getElem?_set_cases h1 with ⟨e1, hp1⟩ | ⟨n1, h1'⟩
    · rcases getElem?_set_cases h2 with ⟨e2, _⟩ | ⟨n2, h2'⟩
      · exact e1.symm.trans e2
      · exact absurd h2' (hex s1 a1 hp1.symm t2 s2 a2 n2)
    · rcases getElem?_set_cases h2 with ⟨e2, hp2⟩ | ⟨_, h2'⟩
      · exact absurd h1' (hex s2 a2 hp2.symm t1 s1 a1 n1)
      · exact h.excl t1 t2 s1 a1 s2 a2 h1' h2'

theorem PcInv.set_plain (h : PcInv threads nw cur store unl nextId gcFlag snaps) (t : Nat) {pc' : Pc}
    (hp : pc'.plain) : PcInv (threads.set t pc') nw cur store unl nextId gcFlag snaps := by
  refine h.set (Nat.le_refl _) (fun n _ hr => reserved_set_of_not_put hp.put hr)
    .refl ?_ ?_
  · cases pc' with
    | idle => trivial
    | iterNext i => trivial
    | _ => exact hp.elim
  · intro sn a he; subst he; exact hp.elim

theorem PcInv.snaps_mono (h : PcInv threads nw cur store unl nextId gcFlag snaps)
    (hs : ∀ x ∈ snaps, x.st = .retired → ∃ y ∈ snaps', y.sn = x.sn ∧ y.st = .retired) :
    PcInv threads nw cur store unl nextId gcFlag snaps' := by
  refine ⟨fun {t pc} hg => ?_, h.excl⟩
  cases pc with
  | collectSend sn a =>
    obtain ⟨hf, x, hx, hsn, hst⟩ := h.at hg
    obtain ⟨y, hy, hysn, hyst⟩ := hs x hx hst
    exact ⟨hf, y, hy, hysn.trans hsn, hyst⟩
  | _ => exact h.at hg

def NoCollector (threads : List Pc) : Prop :=
  ∀ (t sn : Nat) (a : Option Nat), threads[t]? ≠ some (Pc.collectSend sn a)

theorem PcInv.no_collector (h : PcInv threads nw cur store unl nextId false snaps) : NoCollector threads := by
  intro t sn a hg
  have := (h.at hg).1
  cases this

theorem PcInv.of_no_collector (h : PcInv threads nw cur store unl nextId gcFlag snaps)
    (hn : NoCollector threads) : PcInv threads nw cur store unl nextId gcFlag' snaps' := by
  refine ⟨fun {t pc} hg => ?_, fun t1 _ s1 a1 _ _ h1 _ => absurd h1 (hn t1 s1 a1)⟩
  cases pc with
  | collectSend sn a => exact absurd hg (hn t sn a)
  | _ => exact h.at hg

theorem ref_of_set {t : Nat} {pc' : Pc} (hp : pc'.ref = none) (t' : Nat) (pc : Pc)
    (hg : (threads.set t pc')[t']? = some pc) : threads[t']? = some pc ∨ pc.ref = none := by
  rcases getElem?_set_cases hg with ⟨_, he⟩ | ⟨_, hg'⟩
  · exact Or.inr (he ▸ hp)
  · exact Or.inl hg'

theorem ProtInv.mono_thr (h : ProtInv threads store gcJobs sess iters) (htok : TokPre threads sess iters fs)
    (hthr : ∀ (t : Nat) (pc : Pc), threads'[t]? = some pc → threads[t]? = some pc ∨ pc.ref = none)
    (hP : ∀ n tok, tok < sess.length →
      protC store threads gcJobs sess tok n ≤ protC store' threads' gcJobs' sess' tok n) :
    ProtInv threads' store' gcJobs' sess' iters := by
  have hlt : ∀ (t : Nat) (pc : Pc) (tok : Nat), threads[t]? = some pc → pc.tok = some tok → tok < sess.length := by
    intro t pc tok hg htk
    obtain ⟨s, hs, _⟩ := htok.thr t pc tok hg htk
    exact (List.getElem?_eq_some_iff.mp hs).1
  refine ⟨fun t pc n tok hg hr => ?_, fun key it c hm hc => ?_⟩
  · rcases hthr t pc hg with hg' | hn
    · exact Nat.lt_of_lt_of_le (h.thr t pc n tok hg' hr) (hP n tok (hlt t pc tok hg' (Pc.tok_of_ref hr)))
    · rw [hn] at hr; cases hr
  · obtain ⟨s, hs, _⟩ := htok.it key.1 key.2 it hm
    exact Nat.lt_of_lt_of_le (h.it key it c hm hc) (hP c.id it.tok (List.getElem?_eq_some_iff.mp hs).1)

theorem ProtInv.mono (h : ProtInv threads store gcJobs sess iters) (htok : TokPre threads sess iters fs)
    (hP : ∀ n tok, tok < sess.length → protC store threads gcJobs sess tok n ≤ protC store' threads gcJobs' sess' tok n) :
    ProtInv threads store' gcJobs' sess' iters :=
  h.mono_thr htok (fun _ _ hg => Or.inl hg) hP

theorem ProtInv.iters_mono (h : ProtInv threads store gcJobs sess iters)
    (hi : ∀ (key : Nat × Nat) (it : Iter) (c : Cur), (key, it) ∈ iters' → it.cur = some c →
            (key, it) ∈ iters ∨ c.id ∈ storeIds store) :
    ProtInv threads store gcJobs sess iters' :=
  ⟨h.thr, fun key it c hm hc => by
    rcases hi key it c hm hc with h1 | h1
    · exact h.it key it c h1 hc
    · exact Prot.of_store h1⟩

theorem inv_release {σ : State} {t tok : Nat} {pc0 : Pc} {hd : Holder} {iters' : List ((Nat × Nat) × Iter)} (h : Inv σ)
    (ht : σ.threads[t]? = some pc0) (hown0 : pcOwn pc0 = [])
    (htk : TokPre (σ.threads.set t .idle) (relSess σ.sess tok hd) iters' σ.freeSeq)
    (hit : ∀ (key : Nat × Nat) (it : Iter) (c : Cur), (key, it) ∈ iters' → it.cur = some c →
      (key, it) ∈ σ.iters ∨ c.id ∈ storeIds σ.store) :
    Inv (setPc (release { σ with iters := iters' } tok hd) t .idle) := by
  refine inv_iff.mpr ?_
  simp only [mvcc_fields]
  refine ⟨h.store.set_not_put t rfl, h.pc.set_plain t trivial, h.garb, ?_, htk.cleanup, ?_⟩
  · refine h.own.congr ?_ (reserved_set_iff ht (putOwn_of_pcOwn hown0) rfl)
    intro n
    rw [← ownC_set_same (pc' := .idle) ht (by rw [hown0]; rfl) n]
    unfold ownC; rw [sessfr_release]
  · refine ((h.prot.mono h.tok.toTokPre fun n tk _ => ?_).iters_mono hit).set_plain ht (flushOwn_of_pcOwn hown0) rfl
    unfold protC; rw [sessOwned_relSess]; exact Nat.le_refl _

end NitroVerif.MvccConc
