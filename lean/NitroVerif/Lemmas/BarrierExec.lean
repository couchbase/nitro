import NitroVerif.Model.Barrier
/-!
  The step function `exec` of M4 as a relation, one constructor per branch (named after the yield point
  and the outcome of the test made there).  `exec_sound` is the only place where `execStart`, `execStale`
  and `execStep` are unfolded.
-/
namespace NitroVerif.Barrier

inductive Exec (fixed : Bool) (st : St) : Th → Act → St → Th → Prop
  | startAcquire {toks} :
    Exec fixed st ⟨.idle, toks⟩ (.start .acquire) st ⟨.acqLoad, toks⟩
  | startRelease {toks j s} (hj : toks[j]? = some s) :
    Exec fixed st ⟨.idle, toks⟩ (.start (.release j)) st ⟨.relDec s .retRel, toks.eraseIdx j⟩
  | startFlush {toks obj} :
    Exec fixed st ⟨.idle, toks⟩ (.start (.flush obj)) { st with flStarted := st.flStarted + 1 } ⟨.flLock obj, toks⟩
  | stale {toks k} :
    Exec fixed st ⟨.clRead false k, toks⟩ .stale st ⟨.relUnlock k, toks⟩
  | acqLoad {toks} :
    Exec fixed st ⟨.acqLoad, toks⟩ .step st ⟨.acqAdd st.cur, toks⟩
  /-- the incremented count exceeds the offset: the session has been flushed, the accessor steps down -/
  | acqBackoff {toks s} (hb : Gen.acquireBackoff ((getS st s).live + 1) = true) :
    Exec fixed st ⟨.acqAdd s, toks⟩ .step (setS st s ((getS st s).addLive 1)) ⟨.relDec s .retAcq, toks⟩
  | acqGrant {toks s}
    (hreg : (!(getS st s).flushed && decide (Gen.barrierFlushOffset ≤ (getS st s).live + 1)) = false)
    (hb : Gen.acquireBackoff ((getS st s).live + 1) = false) :
    Exec fixed st ⟨.acqAdd s, toks⟩ .step (setS st s ((getS st s).addLive 1)) ⟨.idle, toks ++ [s]⟩
  /-- the decrement that brings the count to the offset: the caller is the last unit of a flushed session -/
  | relDecLast {toks s k} (hv : Gen.releaseIsLast ((getS st s).live + -1) = true) :
    Exec fixed st ⟨.relDec s k, toks⟩ .step (setS st s ((getS st s).addLive (-1))) ⟨.relClosed s k, toks⟩
  /-- the "Unsafe memory reclamation" panic -/
  | relDecPanic {toks s k} (hv : Gen.releaseIsLast ((getS st s).live + -1) = false)
    (hp : Gen.releasePanic ((getS st s).live + -1) = true) :
    Exec fixed st ⟨.relDec s k, toks⟩ .step
      { setS st s ((getS st s).addLive (-1)) with panicked := true } ⟨.relDec s k, toks⟩
  | relDecMore {toks s k} (hv : Gen.releaseIsLast ((getS st s).live + -1) = false)
    (hp : Gen.releasePanic ((getS st s).live + -1) = false) :
    Exec fixed st ⟨.relDec s k, toks⟩ .step (setS st s ((getS st s).addLive (-1))) ⟨afterCont k, toks⟩
  /-- the first closer queues the session -/
  | relClosedFirst {toks s k} (hv : Gen.closedFirst (((getS st s).closed + 1 : Nat) : Int) = true) :
    Exec fixed st ⟨.relClosed s k, toks⟩ .step (setS st s (getS st s).incClosed) ⟨.relInsert s k, toks⟩
  /-- a later closer (an accessor that entered an already terminated session) steps down -/
  | relClosedAgain {toks s k} (hv : Gen.closedFirst (((getS st s).closed + 1 : Nat) : Int) = false) :
    Exec fixed st ⟨.relClosed s k, toks⟩ .step (setS st s (getS st s).incClosed) ⟨afterCont k, toks⟩
  | relInsert {toks s k q} (hq : qinsert (fun a => (getS st a).seqno) s st.freeq = some q) :
    Exec fixed st ⟨.relInsert s k, toks⟩ .step { st with freeq := q } ⟨.relTryLock k, toks⟩
  /-- `freeq.Insert` finds the seqno present: panic -/
  | relInsertPanic {toks s k} (hq : qinsert (fun a => (getS st a).seqno) s st.freeq = none) :
    Exec fixed st ⟨.relInsert s k, toks⟩ .step { st with panicked := true } ⟨.relInsert s k, toks⟩
  | relTryLockFail {toks k} (hf : st.flag = true) :
    Exec fixed st ⟨.relTryLock k, toks⟩ .step st ⟨afterCont k, toks⟩
  | relTryLockOk {toks k} (hf : st.flag = false) :
    Exec fixed st ⟨.relTryLock k, toks⟩ .step { st with flag := true } ⟨.clRead true k, toks⟩
  | clReadProc {toks b k s} (hr : headReady st = some s) :
    Exec fixed st ⟨.clRead b k, toks⟩ .step st ⟨.clProc s k, toks⟩
  | clReadExit {toks b k} (hr : headReady st = none) :
    Exec fixed st ⟨.clRead b k, toks⟩ .step st ⟨.relUnlock k, toks⟩
  | clProc {toks s k} :
    Exec fixed st ⟨.clProc s k, toks⟩ .step (destruct st s) ⟨.clRead false k, toks⟩
  | relUnlock {toks k} :
    Exec fixed st ⟨.relUnlock k, toks⟩ .step { st with flag := false }
      ⟨if fixed then .relRecheck k else afterCont k, toks⟩
  | relRecheckAgain {toks k} (hr : hasReady st = true) :
    Exec fixed st ⟨.relRecheck k, toks⟩ .step st ⟨.relTryLock k, toks⟩
  | relRecheckDone {toks k} (hr : hasReady st = false) :
    Exec fixed st ⟨.relRecheck k, toks⟩ .step st ⟨afterCont k, toks⟩
  | flLock {toks obj} (hm : st.mutex = false) :
    Exec fixed st ⟨.flLock obj, toks⟩ .step { st with mutex := true } ⟨.flSwap obj, toks⟩
  | flSwap {toks obj} :
    Exec fixed st ⟨.flSwap obj, toks⟩ .step { st with sess := st.sess ++ [{}], cur := st.sess.length }
      ⟨.flTag st.cur obj, toks⟩
  | flTag {toks s obj} :
    Exec fixed st ⟨.flTag s obj, toks⟩ .step
      (setS (tagGlobals st obj) s ((getS st s).tag obj (st.activeSeqno + 1))) ⟨.flAdd s, toks⟩
  | flAdd {toks s} :
    Exec fixed st ⟨.flAdd s, toks⟩ .step (setS st s (getS st s).flush) ⟨.relDec s .retFlush, toks⟩
  | flUnlock {toks} :
    Exec fixed st ⟨.flUnlock, toks⟩ .step { st with mutex := false, flDone := st.flDone + 1 } ⟨.idle, toks⟩

theorem exec_sound {fixed : Bool} {st st1 : St} {t t' : Th} {a : Act}
    (he : exec fixed st t a = some (st1, t')) : Exec fixed st t a st1 t' := by
  obtain ⟨pc, toks⟩ := t
  cases a <;> cases pc <;> simp only [exec, execStart, execStale, execStep, reduceCtorEq] at he
  -- apart: the result of REL_UNLOCK carries `if fixed …`, and `stale` matches the literal `clRead false`
  case step.relUnlock => cases he; exact .relUnlock
  case stale.clRead b k => cases b <;> simp only [reduceCtorEq] at he; cases he; exact .stale
  -- every remaining branch is a constructor, selected by the resulting program counter
  all_goals repeat' split at he
  any_goals simp only [Bool.not_eq_true] at *
  all_goals cases he
  all_goals constructor <;> assumption

theorem Exec.ths {fixed : Bool} {st st1 : St} {t t' : Th} {a : Act} (h : Exec fixed st t a st1 t') :
    st1.ths = st.ths := by
  cases h <;> rfl

theorem step_some {fixed : Bool} {st st' : St} {i : Nat} {a : Act} (hs : step fixed st i a = some st') :
    ∃ t st1 t', st.ths[i]? = some t ∧ exec fixed st t a = some (st1, t') ∧ st' = setT st1 i t' := by
  unfold step at hs
  split at hs
  · cases hs
  · split at hs
    · cases hs
    · cases hs; exact ⟨_, _, _, ‹_›, ‹_›, rfl⟩

theorem run_induct {fixed : Bool} {P : St → Prop}
    (hP : ∀ {st st' : St} {i : Nat} {a : Act}, P st → step fixed st i a = some st' → P st')
    {sched : List (Nat × Act)} {st st' : St} (h : P st) (hr : run fixed st sched = some st') : P st' := by
  induction sched generalizing st with
  | nil => cases hr; exact h
  | cons x r ih =>
    simp only [run] at hr
    split at hr
    · cases hr
    · exact ih (hP h ‹_›) hr

end NitroVerif.Barrier
