import NitroVerif.Lemmas.BarrierInv
import NitroVerif.Lemmas.BarrierQueue
import NitroVerif.Lemmas.BarrierGen
/-!
  What `Inv` says about one state.  `Inv` is equivalent (`Inv.sess`, `Inv.of_sess`) to the clauses that mention no
  session (`GInv`) and, per session, the clauses about it as a statement about numbers (`SInv`, `Inv.At`).  A program
  counter that does not refer to a session (`pcRef`) weighs nothing for it, so a move between two such program counters
  leaves that session's part alone (`Inv.At.frame`).
-/
namespace NitroVerif.Barrier

structure PcWeights (s : Nat) (pc : PC) : Prop where
  real_unit : pcReal s pc ≤ pcUnit s pc
  unit_ref : pcUnit s pc ≤ pcRef s pc
  pend_ref : pcPend s pc ≤ pcRef s pc
  closed_ref : pcClosed s pc ≤ pcRef s pc
  insert_ref : pcInsert s pc ≤ pcRef s pc
  proc_ref : pcProc s pc ≤ pcRef s pc
  proc_flag : pcProc s pc ≤ pcFlag pc
  pend_mutex : pcPend s pc ≤ pcMutex pc
  tag_mutex : pcTag pc ≤ pcMutex pc

theorem pc_weights (s : Nat) (pc : PC) : PcWeights s pc := by
  cases pc
  case relDec a k =>
    have := contReal_le k
    by_cases e : a = s <;> constructor <;> simp [barsimp, e] <;> omega
  case relClosed a k | relInsert a k | clProc a k | flTag a o | flAdd a =>
    by_cases e : a = s <;> constructor <;> simp [barsimp, e]
  -- at the other program counters every left side is 0
  all_goals exact ⟨Nat.zero_le _, Nat.zero_le _, Nat.zero_le _, Nat.zero_le _, Nat.zero_le _, Nat.zero_le _, Nat.zero_le _,
    Nat.zero_le _, Nat.zero_le _⟩

theorem realT_le_unitsT (s : Nat) (u : Th) : realT s u ≤ unitsT s u :=
  Nat.add_le_add_left (pc_weights s u.pc).real_unit _

theorem unitsT_le_refT (s : Nat) (u : Th) : unitsT s u ≤ refT s u :=
  Nat.add_le_add_left (pc_weights s u.pc).unit_ref _

theorem realT_le_refT (s : Nat) (u : Th) : realT s u ≤ refT s u :=
  Nat.le_trans (realT_le_unitsT s u) (unitsT_le_refT s u)

theorem pcClosed_le_refT (s : Nat) (u : Th) : onPc (pcClosed s) u ≤ refT s u :=
  Nat.le_trans (pc_weights s u.pc).closed_ref (Nat.le_add_left _ _)

theorem pcInsert_le_refT (s : Nat) (u : Th) : onPc (pcInsert s) u ≤ refT s u :=
  Nat.le_trans (pc_weights s u.pc).insert_ref (Nat.le_add_left _ _)

theorem pcProc_le_refT (s : Nat) (u : Th) : onPc (pcProc s) u ≤ refT s u :=
  Nat.le_trans (pc_weights s u.pc).proc_ref (Nat.le_add_left _ _)

theorem weights_of_pcRef {s : Nat} {pc : PC} (h : pcRef s pc = 0) :
    pcUnit s pc = 0 ∧ pcReal s pc = 0 ∧ pcPend s pc = 0 ∧ pcClosed s pc = 0 ∧ pcInsert s pc = 0 ∧ pcProc s pc = 0 := by
  have w := pc_weights s pc
  have hu : pcUnit s pc = 0 := Nat.le_zero.mp (h ▸ w.unit_ref)
  exact ⟨hu, Nat.le_zero.mp (hu ▸ w.real_unit), Nat.le_zero.mp (h ▸ w.pend_ref), Nat.le_zero.mp (h ▸ w.closed_ref),
    Nat.le_zero.mp (h ▸ w.insert_ref), Nat.le_zero.mp (h ▸ w.proc_ref)⟩

theorem ref_lt {st : St} (h : Inv st) {s : Nat} (hr : 1 ≤ cnt (refT s) st) : s < st.sess.length := by
  false_or_by_contra; rename_i hc
  have := h.range s (by omega)
  omega

theorem ref_lt_at {st : St} (h : Inv st) {i : Nat} {t : Th} {s : Nat} (ht : st.ths[i]? = some t)
    (hp : pcRef s t.pc = 1) : s < st.sess.length :=
  ref_lt h (Nat.le_trans (Nat.le_trans (Nat.le_of_eq hp.symm) (Nat.le_add_left _ _)) (cnt_ge_mem (refT s) st i t ht))

theorem ref_lt_pc {st : St} {pc : PC} {toks : List Nat} {r : List Th} {s : Nat}
    (h : Inv (withThs st (⟨pc, toks⟩ :: r))) (hp : pcRef s pc = 1) : s < st.sess.length :=
  ref_lt_at h (i := 0) rfl hp

theorem closed_facts {st : St} (h : Inv st) (s : Nat) (hc : 1 ≤ (getS st s).closed) :
    s < st.sess.length ∧ s < st.activeSeqno ∧ (getS st s).seqno = s + 1 ∧
      st.tagged[s]? = some (getS st s).obj := by
  have h2 := h.flushedlt s (h.closed s (Or.inl hc)).1
  refine ⟨?_, h2, h.numbering s h2⟩
  false_or_by_contra; rename_i hlt
  have := getS_default st s (by omega)
  rw [this] at hc; simp at hc

theorem queued_closed {st : St} (h : Inv st) (s : Nat) (hq : s ∈ st.freeq) : 1 ≤ (getS st s).closed := by
  have hp := h.place s
  have : 0 < st.freeq.count s := List.count_pos_iff.mpr hq
  omega

theorem queued_ge_free {st : St} (h : Inv st) (s : Nat) (hq : s ∈ st.freeq) : st.freeSeqno ≤ s := by
  have hc := queued_closed h s hq
  have hp := ((h.place s).2 hc).1
  have : 0 < st.freeq.count s := List.count_pos_iff.mpr hq
  false_or_by_contra; rename_i hlt
  have := (hp (by omega)).2
  omega

theorem queued_seqno {st : St} (h : Inv st) (s : Nat) (hq : s ∈ st.freeq) : (getS st s).seqno = s + 1 :=
  (closed_facts h s (queued_closed h s hq)).2.2.1

theorem headReady_some {st : St} (h : Inv st) {s : Nat} (hr : headReady st = some s) :
    st.freeq.head? = some s ∧ s = st.freeSeqno := by
  unfold headReady at hr
  split at hr
  · simp at hr
  · rename_i a r hq
    split at hr
    · simp at hr
    · rename_i hstop
      simp at hr; subst hr
      simp only [Bool.not_eq_true] at hstop
      rw [cleanupStop_eq_false_iff] at hstop
      have := queued_seqno h a (by simp [hq])
      simp [hq]; omega

theorem freeSeqno_le_active {st : St} (h : Inv st) : st.freeSeqno ≤ st.activeSeqno := by
  false_or_by_contra; rename_i hc
  have hp := h.place (st.freeSeqno - 1)
  have hcl : 1 ≤ (getS st (st.freeSeqno - 1)).closed := by omega
  have := (closed_facts h _ hcl).2.1
  omega

/-- the clauses of `Inv` about one session `s`, over numbers (`x` its record; the other arguments as in `Inv.At`) -/
structure SInv (n cur act free : Nat) (hd tg : Option Nat) (s : Nat) (x : Sess)
    (rf un re pe cl ins pr qc : Nat) : Prop where
  range : n ≤ s → rf = 0
  count : s < n → x.live = (un : Int) + (b2n x.flushed : Int) * 1073741823
  bound : b2n x.flushed = 0 → x.live < 1073741823
  pend : s < n → (s = cur → b2n x.flushed = 0 ∧ pe = 0) ∧ (s ≠ cur → b2n x.flushed + pe = 1)
  pendcur : pe = 0 ∨ s + 1 = cur
  numbering : s < act → x.seqno = s + 1 ∧ tg = some x.obj
  flushedlt : b2n x.flushed = 1 → s < act
  closed : (1 ≤ x.closed ∨ 1 ≤ cl) → b2n x.flushed = 1 ∧ re = 0
  place : (x.closed = 0 → ins = 0 ∧ qc = 0 ∧ free ≤ s) ∧
    (1 ≤ x.closed → (s < free → ins = 0 ∧ qc = 0) ∧ (free ≤ s → ins + qc = 1))
  proc : 1 ≤ pr → hd = some s ∧ s = free
  last : b2n x.flushed = 1 → un = 0 → 1 ≤ x.closed ∨ 1 ≤ cl

@[barsimp] def Inv.At (st : St) (n s : Nat) (x : Sess) : Prop :=
  SInv n st.cur st.activeSeqno st.freeSeqno st.freeq.head? st.tagged[s]? s x
    (cnt (refT s) st) (cnt (unitsT s) st) (cnt (realT s) st) (cnt (onPc (pcPend s)) st)
    (cnt (onPc (pcClosed s)) st) (cnt (onPc (pcInsert s)) st) (cnt (onPc (pcProc s)) st) (st.freeq.count s)

structure GInv (st : St) (n : Nat) : Prop where
  curlen : st.cur + 1 = n
  mutex : b2n st.mutex = cnt (onPc pcMutex) st
  flag : b2n st.flag = cnt (onPc pcFlag) st
  active : st.activeSeqno + cnt (onPc pcTag) st = st.cur
  tagged : st.tagged.length = st.activeSeqno
  sorted : st.freeq.Pairwise (· < ·)
  logseq : st.log.map Prod.fst = List.range' 1 st.freeSeqno
  logobj : st.log.map Prod.snd = st.tagged.take st.freeSeqno
  nopanic : st.panicked = false
  stats : st.numAllocated = st.activeSeqno + 1 ∧ st.numFreed = st.freeSeqno
  calls : st.flStarted = st.flDone + cnt (onPc pcLock) st + cnt (onPc pcMutex) st ∧
    st.activeSeqno = st.flDone + cnt (onPc pcPast) st

theorem Inv.sess {st : St} (h : Inv st) (s : Nat) : Inv.At st st.sess.length s (getS st s) :=
  ⟨h.range s, h.count s, h.bound s, h.pend s, h.pendcur s, h.numbering s, h.flushedlt s, h.closed s, h.place s,
    h.proc s, h.last s⟩

theorem Inv.of_sess {st : St} {n : Nat} (hn : st.sess.length = n) (hg : GInv st n)
    (hs : ∀ s, Inv.At st n s (getS st s)) : Inv st := by
  subst hn
  exact { hg with
    range := fun s => (hs s).range, count := fun s => (hs s).count, bound := fun s => (hs s).bound
    pend := fun s => (hs s).pend, pendcur := fun s => (hs s).pendcur, numbering := fun s => (hs s).numbering
    flushedlt := fun s => (hs s).flushedlt, closed := fun s => (hs s).closed, place := fun s => (hs s).place
    proc := fun s => (hs s).proc, last := fun s => (hs s).last }

theorem Inv.of_sums {st : St} {l l' : List Th} (e : SameSums l l') (h : Inv (withThs st l)) : Inv (withThs st l') := by
  have e' : ∀ f, cnt f (withThs st l') = cnt f (withThs st l) := e
  refine Inv.of_sess rfl { h with
    mutex := by simp only [e']; exact h.mutex
    flag := by simp only [e']; exact h.flag
    active := by simp only [e']; exact h.active
    calls := by simp only [e']; exact h.calls } fun s => ?_
  have := h.sess s
  simp only [Inv.At, e'] at this ⊢
  exact this

theorem Inv.front {st : St} {i : Nat} {t : Th} (h : Inv st) (ht : st.ths[i]? = some t) :
    Inv (withThs st (t :: st.ths.eraseIdx i)) :=
  Inv.of_sums (.front ht) h

/-- a session that is not "flushed with no real unit left" is not terminated and has not been destructed -/
theorem SInv.open {n cur act free : Nat} {hd tg : Option Nat} {s : Nat} {x : Sess} {rf un re pe cl ins pr qc : Nat}
    (h : SInv n cur act free hd tg s x rf un re pe cl ins pr qc) (hn : b2n x.flushed = 1 → re ≠ 0) :
    x.closed = 0 ∧ free ≤ s := by
  have hc0 : x.closed = 0 := by
    false_or_by_contra; rename_i c
    have := h.closed (.inl (Nat.pos_of_ne_zero c))
    exact hn this.1 this.2
  exact ⟨hc0, (h.place.1 hc0).2.2⟩

theorem real_of_token {st : St} {i : Nat} {t : Th} (ht : st.ths[i]? = some t) {s : Nat} (hin : s ∈ t.toks) :
    1 ≤ cnt (realT s) st :=
  Nat.le_trans (Nat.le_trans (List.count_pos_iff.mpr hin) (Nat.le_add_right _ _)) (cnt_ge_mem (realT s) st i t ht)

theorem Inv.At.frame {st : St} {pc pc' : PC} {toks toks' : List Nat} {r : List Th} {n x : Nat} {y : Sess}
    (h : Inv.At (withThs st (⟨pc, toks⟩ :: r)) n x y) (hp : pcRef x pc = 0) (hp' : pcRef x pc' = 0)
    (ht : toks'.count x = toks.count x) : Inv.At (withThs st (⟨pc', toks'⟩ :: r)) n x y := by
  obtain ⟨a1, a2, a3, a4, a5, a6⟩ := weights_of_pcRef hp
  obtain ⟨b1, b2, b3, b4, b5, b6⟩ := weights_of_pcRef hp'
  simp only [barsimp, hp, a1, a2, a3, a4, a5, a6] at h
  simp only [barsimp, hp', b1, b2, b3, b4, b5, b6, ht]
  exact h

/-- a step that writes only the record of `s`.  `hg` is over the new state, `hs` over the OLD one with the new record `y`
    given explicitly (`Inv.At` reads no other session) -/
theorem Inv.setS_of {st : St} {s : Nat} {y : Sess} {pc pc' : PC} {toks toks' : List Nat} {r : List Th}
    (h : Inv (withThs st (⟨pc, toks⟩ :: r))) (hpc : pcRef s pc = 1)
    (hg : GInv (withThs (setS st s y) (⟨pc', toks'⟩ :: r)) st.sess.length)
    (hs : s < st.sess.length → Inv.At (withThs st (⟨pc', toks'⟩ :: r)) st.sess.length s y)
    (hp : ∀ x, s ≠ x → pcRef x pc = 0) (hp' : ∀ x, s ≠ x → pcRef x pc' = 0)
    (ht : ∀ x, s ≠ x → toks'.count x = toks.count x) : Inv (withThs (setS st s y) (⟨pc', toks'⟩ :: r)) := by
  have hs0 := ref_lt_pc h hpc
  refine Inv.of_sess (setS_sess_length st s y) hg fun x => ?_
  show Inv.At (withThs st _) _ _ (getS (setS st s y) x)
  by_cases e : s = x
  · subst e; rw [getS_setS_same _ _ _ hs0]; exact hs hs0
  · rw [getS_setS_ne _ _ _ _ e]; exact (h.sess x).frame (hp x e) (hp' x e) (ht x e)

theorem alone_in_mutex {st : St} {t : Th} {r : List Th} (h : Inv (withThs st (t :: r)))
    (hm : pcMutex t.pc = 1) : (r.map (onPc pcMutex)).sum = 0 := by
  have h2 := h.mutex
  have h3 := b2n_le st.mutex
  simp only [barsimp, hm] at h2
  omega

theorem alone_with_flag {st : St} {t : Th} {r : List Th} (h : Inv (withThs st (t :: r)))
    (hf : pcFlag t.pc = 1) : (r.map (onPc pcFlag)).sum = 0 := by
  have h2 := h.flag
  have h3 := b2n_le st.flag
  simp only [barsimp, hf] at h2
  omega

theorem no_tag_of_mutex {st : St} {t : Th} {r : List Th} (h : Inv (withThs st (t :: r)))
    (hm : pcMutex t.pc = 1) : (r.map (onPc pcTag)).sum = 0 :=
  Nat.le_zero.mp (alone_in_mutex h hm ▸ sum_map_le (onPc pcTag) (onPc pcMutex) r fun u => (pc_weights 0 u.pc).tag_mutex)

theorem Inv.at_clProc {st : St} {s : Nat} {k : Cont} {toks : List Nat} {r : List Th}
    (h : Inv (withThs st (⟨.clProc s k, toks⟩ :: r))) :
    st.freeq.head? = some s ∧ s = st.freeSeqno ∧ 1 ≤ (getS st s).closed ∧ s < st.activeSeqno ∧
      (getS st s).seqno = s + 1 ∧ st.tagged[s]? = some (getS st s).obj := by
  obtain ⟨hh, hsf⟩ := h.proc s (by simp [barsimp])
  have hc1 := queued_closed h s (List.mem_of_mem_head? hh)
  obtain ⟨_, hact, hseq, hobj⟩ := closed_facts h s hc1
  exact ⟨hh, hsf, hc1, hact, hseq, hobj⟩

/-! `count` and `bound` make `liveCount` an encoding of (units, flushed): what the three Go tests on it mean -/

theorem live_backoff {l : Int} {u : Nat} {f : Bool} (hc : l = (u : Int) + (b2n f : Int) * 1073741823)
    (hb : b2n f = 0 → l < 1073741823) : Gen.acquireBackoff (l + 1) = f := by
  rw [Bool.eq_iff_iff, acquireBackoff_iff, barrierFlushOffset_val]
  cases f
  · have := hb rfl; simp; omega
  · simp only [b2n_true] at hc; simp; omega

theorem live_last {l : Int} {u : Nat} {f : Bool} (hc : l = (u : Int) + (b2n f : Int) * 1073741823)
    (hb : b2n f = 0 → l < 1073741823) : Gen.releaseIsLast (l + -1) = true ↔ f = true ∧ u = 1 := by
  rw [releaseIsLast_iff, barrierFlushOffset_val]
  cases f
  · have := hb rfl; simp; omega
  · simp only [b2n_true] at hc; simp; omega

theorem live_nopanic {l : Int} {u : Nat} {f : Bool} (hc : l = (u : Int) + (b2n f : Int) * 1073741823)
    (hb : b2n f = 0 → l < 1073741823) (hu : 1 ≤ u) :
    Gen.releasePanic (l + -1) = true → Gen.releaseIsLast (l + -1) = true := by
  rw [releasePanic_iff, releaseIsLast_iff, barrierFlushOffset_val]
  cases f
  · have := hb rfl; simp only [b2n_false] at hc; omega
  · simp only [b2n_true] at hc; omega

theorem grant_safe {st : St} (h : Inv st) {i : Nat} {t : Th} {s : Nat} (ht : st.ths[i]? = some t)
    (hpc : t.pc = PC.acqAdd s) (hb : Gen.acquireBackoff ((getS st s).live + 1) = false) :
    (getS st s).flushed = false ∧ (getS st s).closed = 0 ∧ st.freeSeqno ≤ s := by
  have hs0 := ref_lt_at h ht (by rw [hpc]; exact if_pos rfl)
  have hnf : (getS st s).flushed = false := (live_backoff (h.count s hs0) (h.bound s)).symm.trans hb
  exact ⟨hnf, SInv.open (h.sess s) fun c => by rw [hnf] at c; cases c⟩

/-- a terminated session has no holder and no real unit in flight -/
theorem no_holder_of_closed {st : St} (h : Inv st) {s : Nat} (hc : 1 ≤ (getS st s).closed)
    (i : Nat) (t : Th) (ht : st.ths[i]? = some t) :
    s ∉ t.toks ∧ ∀ k, k ≠ Cont.retAcq → t.pc ≠ PC.relDec s k := by
  have hr := (h.closed s (Or.inl hc)).2
  refine ⟨fun hin => absurd hr (Nat.ne_of_gt (real_of_token ht hin)), fun k hk hpc => ?_⟩
  have hm := cnt_ge_mem (realT s) st i t ht
  rw [hr, show realT s t = t.toks.count s + pcReal s t.pc from rfl, hpc] at hm
  cases k <;> simp [barsimp] at hm hk

theorem closed_of_lt_freeSeqno {st : St} (h : Inv st) {s : Nat} (hs : s < st.freeSeqno) :
    1 ≤ (getS st s).closed := by
  have hpl := h.place s
  omega

/-- for `Inv`, a thread at the continuation point of its `Release` looks like one at REL_TRYLOCK (only `pcMutex` and
    `pcPast` see it) -/
theorem inv_afterCont {st : St} {k : Cont} {toks : List Nat} {r : List Th}
    (h : Inv (withThs st (⟨.relTryLock k, toks⟩ :: r))) : Inv (withThs st (⟨afterCont k, toks⟩ :: r)) := by
  cases k <;> exact { h with }

theorem qinsert_closed {st : St} (h : Inv st) {s : Nat} (hc : 1 ≤ (getS st s).closed)
    (hn : st.freeq.count s = 0) :
    ∃ q, qinsert (fun a => (getS st a).seqno) s st.freeq = some q ∧ q.Pairwise (· < ·) ∧
      (∀ x, q.count x = st.freeq.count x + (if s = x then 1 else 0)) ∧
      (∀ a, st.freeq.head? = some a → a < s → q.head? = some a) :=
  have hk : ∀ x ∈ s :: st.freeq, (getS st x).seqno = x + 1 := fun x hx => by
    rcases List.mem_cons.mp hx with rfl | hx
    · exact (closed_facts h _ hc).2.2.1
    · exact queued_seqno h x hx
  qinsert_spec _ s st.freeq
    (fun x hx y hy => by rw [hk x hx, hk y hy]; exact Nat.succ_lt_succ_iff)
    h.sorted hn

end NitroVerif.Barrier
