import NitroVerif.Lemmas.SkipConcStep
/-!
  System level.  An action leaves the state alone or is a MOVE of one thread: a segment of a busy thread or a call
  entry of an idle one; a predicate that survives every move holds along every run (`act_of_move`, `run_of_act`).
  `moved_all_mem` is `moved_all` for a clause stated by membership (`Inv`, `InvS`).
-/
namespace NitroVerif.SkipConc

structure Inv (s : Sys) : Prop where
  heap : HInv s.sh.heap
  threads : ∀ th ∈ s.threads, TInv s.sh.heap th
  /-- `s.level` stays within MaxLevel -/
  level : s.sh.level ≤ Gen.maxLevel

/-- what the harness can do -/
inductive Action where
  | start (t : Nat) (op : Op)
  | step (t : Nat)

def Sys.act (s : Sys) : Action → Sys
  | .start t op => (s.start t op).1
  | .step t => (s.step t).1

/-- a run: any interleaving of call entries and segments -/
def Sys.run (s : Sys) (as : List Action) : Sys := as.foldl Sys.act s

/-- the state after `threads n`; `fixed = false` selects Insert4 without the check "do not link an upper level
    in front of a deleted successor" (only used to state the witness of `Props/C14c.lean`) -/
def Sys.initWith (fixed : Bool) (n : Nat) : Sys :=
  { sh := { Shared.init with fixedSucc := fixed }, threads := List.replicate n {} }

/-- the state after `threads n` (Insert4 with the successor check, as in /repo) -/
def Sys.init (n : Nat) : Sys := Sys.initWith true n

theorem Sys.init_mem {n : Nat} {th : Thread} (h : th ∈ (Sys.init n).threads) : th = {} := by
  simp only [Sys.init, Sys.initWith, List.mem_replicate] at h; exact h.2

theorem word?_init_head (l : Nat) :
    word? initHeap 0 l = if l < Gen.maxLevel + 1 then some (tailId, false) else none := by
  simp only [word?, initHeap, List.getElem?_cons_zero, Option.bind_some]
  split
  · rename_i hl; simp [hl]
  · rename_i hl; simp [hl]

theorem word?_init_tail (l : Nat) : word? initHeap 1 l = none := by
  simp [word?, initHeap]

theorem word?_init_ge (n l : Nat) (hn : 2 ≤ n) : word? initHeap n l = none :=
  word?_ge (by simp [initHeap]; omega) l

theorem word?_init {n l p : Nat} {m : Bool} (hw : word? initHeap n l = some (p, m)) :
    n = 0 ∧ l ≤ Gen.maxLevel ∧ p = 1 ∧ m = false := by
  match n with
  | 0 =>
    rw [word?_init_head] at hw
    split at hw
    · simp [tailId] at hw; exact ⟨rfl, by omega, hw.1.symm, hw.2⟩
    · simp at hw
  | 1 => rw [word?_init_tail] at hw; simp at hw
  | n + 2 => rw [word?_init_ge _ _ (by omega)] at hw; simp at hw

theorem HInv_init : HInv initHeap where
  len := by simp [initHeap]
  headKey := rfl
  tailKey := rfl
  finKey n h2 hl := by simp [initHeap] at hl; omega
  tailNoWord := word?_init_tail
  headHeight := rfl
  full n l hl hn1 hle := by
    have : n = 0 := by simp [initHeap] at hl; omega
    subst this
    have h32 : heightOf initHeap 0 = Gen.maxLevel := rfl
    rw [word?_init_head]
    have : l < Gen.maxLevel + 1 := by omega
    simp [this]
  hl n l p m hw := by
    obtain ⟨_, _, rfl, _⟩ := word?_init hw
    exact .inl rfl
  word0 n hl hn1 := by
    have : n = 0 := by simp [initHeap] at hl; omega
    subst this; rw [word?_init_head]; simp [Gen.maxLevel]
  wordLevel n l w hw := by
    obtain ⟨p, m⟩ := w
    obtain ⟨rfl, h2, _, _⟩ := word?_init hw
    simpa [heightOf, initHeap] using h2
  closed n l p m hw := by
    obtain ⟨_, _, rfl, _⟩ := word?_init hw
    simp [initHeap]
  h5 n p m hw := by
    obtain ⟨rfl, _, rfl, _⟩ := word?_init hw
    simp [keyOf, initHeap, Key.lt]
  h4 n l l' p p' m hw _ _ := by
    have := (word?_init hw).2.2.2; simp at this

theorem getD_fresh_buf (i : Nat) : (List.replicate (Gen.maxLevel + 1) 0).getD i 0 = 0 := by
  simp [List.getD, List.getElem?_replicate]; split <;> simp

theorem TInv_fresh {h : Heap} (H : HInv h) : TInv h {} := by
  have := H.len
  have hz := getD_fresh_buf
  refine ⟨⟨by simp [Gen.maxLevel], by simp [Gen.maxLevel], ?_, ?_, ?_⟩, ?_, trivial⟩
  · intro i; show (List.replicate (Gen.maxLevel + 1) 0).getD i 0 < h.length; rw [hz]; exact Nat.lt_of_lt_of_le Nat.zero_lt_two this
  · intro i; show (List.replicate (Gen.maxLevel + 1) 0).getD i 0 < h.length; rw [hz]; exact Nat.lt_of_lt_of_le Nat.zero_lt_two this
  · intro j hj
    show (List.replicate (Gen.maxLevel + 1) 0).getD j 0 = 1 ∨
      (word? h ((List.replicate (Gen.maxLevel + 1) 0).getD j 0) j).isSome
    rw [hz]; exact .inr (H.head_word hj)
  · intro p hp; simp at hp

theorem Inv_init (n : Nat) : Inv (Sys.init n) := by
  refine ⟨HInv_init, ?_, Nat.zero_le _⟩
  intro th hth
  rw [Sys.init_mem hth]
  exact TInv_fresh HInv_init

theorem Sys.step_none {s : Sys} {t : Nat} (h : s.threads[t]? = none) : (s.step t).1 = s := by
  unfold Sys.step; rw [h]

theorem Sys.step_idle {s : Sys} {t : Nat} {th : Thread} (h : s.threads[t]? = some th) (hi : th.pc = .idle) :
    (s.step t).1 = s := by
  unfold Sys.step; rw [h]; simp only [hi]

theorem Sys.step_busy' {s : Sys} {t : Nat} {th : Thread} (h : s.threads[t]? = some th) (hi : th.pc ≠ .idle) :
    s.step t = ({ sh := (stepThread s.sh th).1, threads := s.threads.set t (stepThread s.sh th).2.1 },
      (stepThread s.sh th).2.2) := by
  unfold Sys.step; rw [h]
  -- the catch-all arm of the match applies because of `hi`
  simp only []

theorem Sys.step_busy {s : Sys} {t : Nat} {th : Thread} (h : s.threads[t]? = some th) (hi : th.pc ≠ .idle) :
    (s.step t).1 = { sh := (stepThread s.sh th).1, threads := s.threads.set t (stepThread s.sh th).2.1 } := by
  rw [Sys.step_busy' h hi]

theorem Sys.step_busy_out {s : Sys} {t : Nat} {th : Thread} (h : s.threads[t]? = some th) (hi : th.pc ≠ .idle) :
    (s.step t).2 = (stepThread s.sh th).2.2 := by
  rw [Sys.step_busy' h hi]

theorem Sys.start_none {s : Sys} {t : Nat} {op : Op} (h : s.threads[t]? = none) : (s.start t op).1 = s := by
  unfold Sys.start; rw [h]

theorem Sys.start_busy {s : Sys} {t : Nat} {op : Op} {th : Thread} (h : s.threads[t]? = some th)
    (hi : isIdle th.pc = false) : (s.start t op).1 = s := by
  unfold Sys.start; rw [h]; simp [hi]

theorem Sys.start_idle {s : Sys} {t : Nat} {op : Op} {th : Thread} (h : s.threads[t]? = some th)
    (hi : isIdle th.pc = true) :
    (s.start t op).1 = { sh := (startOp s.sh th op).1, threads := s.threads.set t (startOp s.sh th op).2.1 } := by
  unfold Sys.start; rw [h]; simp [hi]

theorem Sys.step_cases (s : Sys) (t : Nat) :
    (s.step t).1 = s ∨ ∃ th, s.threads[t]? = some th ∧ th.pc ≠ .idle ∧
      (s.step t).1 = { sh := (stepThread s.sh th).1, threads := s.threads.set t (stepThread s.sh th).2.1 } := by
  cases hth : s.threads[t]? with
  | none => exact .inl (Sys.step_none hth)
  | some th =>
    by_cases hidle : th.pc = .idle
    · exact .inl (Sys.step_idle hth hidle)
    · exact .inr ⟨th, rfl, hidle, Sys.step_busy hth hidle⟩

theorem Sys.start_heap (s : Sys) (t : Nat) (op : Op) : (s.start t op).1.sh.heap = s.sh.heap := by
  cases hth : s.threads[t]? with
  | none => rw [Sys.start_none hth]
  | some th =>
    cases hidle : isIdle th.pc with
    | false => rw [Sys.start_busy hth hidle]
    | true => rw [Sys.start_idle hth hidle]; exact startOp_heap ..

inductive Move (sh : Shared) (th : Thread) : Res → Prop
  | seg : th.pc ≠ .idle → Move sh th (stepThread sh th)
  | entry (op : Op) : th.pc = .idle → Move sh th (startOp sh th op)

def Sys.moved (s : Sys) (t : Nat) (r : Res) : Sys := { sh := r.1, threads := s.threads.set t r.2.1 }

theorem Sys.act_cases (s : Sys) (a : Action) :
    s.act a = s ∨
    ∃ t th r, s.threads[t]? = some th ∧ Move s.sh th r ∧ s.act a = s.moved t r ∧
      ((a = .step t ∧ r = stepThread s.sh th) ∨ ∃ op, a = .start t op ∧ r = startOp s.sh th op) := by
  cases a with
  | start t op =>
    cases hth : s.threads[t]? with
    | none => exact .inl (Sys.start_none hth)
    | some th =>
      cases hidle : isIdle th.pc with
      | false => exact .inl (Sys.start_busy hth hidle)
      | true =>
        exact .inr ⟨t, th, _, hth, .entry op ((isIdle_iff _).mp hidle), Sys.start_idle hth hidle, .inr ⟨op, rfl, rfl⟩⟩
  | step t =>
    cases hth : s.threads[t]? with
    | none => exact .inl (Sys.step_none hth)
    | some th =>
      by_cases hidle : th.pc = .idle
      · exact .inl (Sys.step_idle hth hidle)
      · exact .inr ⟨t, th, _, hth, .seg hidle, Sys.step_busy hth hidle, .inl ⟨rfl, rfl⟩⟩

theorem act_of_move {I : Sys → Prop}
    (h : ∀ {s : Sys} {t : Nat} {th : Thread} {r : Res}, I s → s.threads[t]? = some th → Move s.sh th r →
      I (s.moved t r)) {s : Sys} (hI : I s) (a : Action) : I (s.act a) := by
  rcases s.act_cases a with e | ⟨t, th, r, hth, m, e, _⟩ <;> rw [e]
  · exact hI
  · exact h hI hth m

theorem run_of_act {I : Sys → Prop} (h : ∀ {s : Sys}, I s → ∀ a : Action, I (s.act a)) {s : Sys} (hI : I s)
    (as : List Action) : I (s.run as) := by
  induction as generalizing s with
  | nil => exact hI
  | cons a r ih => exact ih (h hI a)

theorem run_append (s : Sys) (as bs : List Action) : s.run (as ++ bs) = (s.run as).run bs := by
  simp [Sys.run, List.foldl_append]

theorem moved_all {T : Shared → Thread → Prop} {s : Sys} {t : Nat} {r : Res}
    (h : ∀ (t' : Nat) th', s.threads[t']? = some th' → T s.sh th')
    (own : T r.1 r.2.1) (other : ∀ (t' : Nat) th', t' ≠ t → s.threads[t']? = some th' → T s.sh th' → T r.1 th') :
    ∀ (t' : Nat) th', (s.moved t r).threads[t']? = some th' → T (s.moved t r).sh th' := by
  intro t' th' h'
  rcases getElem?_set_cases h' with ⟨_, rfl⟩ | ⟨hne, h3⟩
  · exact own
  · exact other t' th' (Ne.symm hne) h3 (h t' th' h3)

theorem moved_all_mem {T : Shared → Thread → Prop} {s : Sys} {t : Nat} {r : Res}
    (h : ∀ th' ∈ s.threads, T s.sh th')
    (own : T r.1 r.2.1) (other : ∀ th' ∈ s.threads, T s.sh th' → T r.1 th') :
    ∀ th' ∈ (s.moved t r).threads, T (s.moved t r).sh th' := by
  intro th' h'
  rcases List.mem_or_eq_of_mem_set h' with hm | rfl
  · exact other th' hm (h th' hm)
  · exact own

theorem moved_pair {C : Thread → Thread → Prop} (symm : ∀ {a b}, C a b → C b a) {s : Sys} {t : Nat} {th : Thread}
    {r : Res} (hth : s.threads[t]? = some th)
    (h : ∀ (a b : Nat) tha thb, a ≠ b → s.threads[a]? = some tha → s.threads[b]? = some thb → C tha thb)
    (new : ∀ (b : Nat) thb, b ≠ t → s.threads[b]? = some thb → C th thb → C r.2.1 thb) :
    ∀ (a b : Nat) tha thb, a ≠ b → (s.moved t r).threads[a]? = some tha → (s.moved t r).threads[b]? = some thb →
      C tha thb := by
  intro a b tha thb hab ha hb
  rcases getElem?_set_cases ha with ⟨hta, rfl⟩ | ⟨hta, ha'⟩
  · rcases getElem?_set_cases hb with ⟨htb, _⟩ | ⟨htb, hb'⟩
    · exact absurd (hta.symm.trans htb) hab
    · exact new b thb (Ne.symm htb) hb' (h t b th thb htb hth hb')
  · rcases getElem?_set_cases hb with ⟨htb, rfl⟩ | ⟨htb, hb'⟩
    · exact symm (new a tha (Ne.symm hta) ha' (h t a th tha hta hth ha'))
    · exact h a b tha thb hab ha' hb'

/-- every demand `O x` of the shared state is charged to a thread whose locals satisfy `W x`: after a move each demand
    is taken by the mover, or was there before and its thread — the mover or another one — still answers for it -/
theorem moved_charged {X Y : Type} {O : Shared → X → Y → Prop} {W : Shared → X → Y → Thread → Prop} {s : Sys}
    {t : Nat} {th : Thread} {r : Res} (hth : s.threads[t]? = some th)
    (h : ∀ x y, O s.sh x y → ∃ (t0 : Nat) (th0 : Thread), s.threads[t0]? = some th0 ∧ W s.sh x y th0)
    (step : ∀ x y, O r.1 x y → W r.1 x y r.2.1 ∨
      (O s.sh x y ∧ (W s.sh x y th → W r.1 x y r.2.1) ∧
        ∀ (t0 : Nat) th0, t0 ≠ t → s.threads[t0]? = some th0 → W s.sh x y th0 → W r.1 x y th0)) :
    ∀ x y, O (s.moved t r).sh x y →
      ∃ (t0 : Nat) (th0 : Thread), (s.moved t r).threads[t0]? = some th0 ∧ W (s.moved t r).sh x y th0 := by
  intro x y hx
  have hnew : (s.moved t r).threads[t]? = some r.2.1 :=
    List.getElem?_set_self (List.getElem?_eq_some_iff.mp hth).1
  rcases step x y hx with hw | ⟨ho, own, other⟩
  · exact ⟨t, _, hnew, hw⟩
  · obtain ⟨t0, th0, h0, w0⟩ := h x y ho
    by_cases e : t0 = t
    · subst e
      rw [hth] at h0
      cases h0
      exact ⟨t0, _, hnew, own w0⟩
    · exact ⟨t0, th0, (List.getElem?_set_ne (Ne.symm e)).trans h0, other t0 th0 e h0 w0⟩

theorem Move.good {sh : Shared} {th : Thread} {r : Res} (m : Move sh th r) (H : HInv sh.heap)
    (hlv : sh.level ≤ Gen.maxLevel) (hT : TInv sh.heap th) : Good sh.heap r ∧ r.1.level ≤ Gen.maxLevel := by
  cases m with
  | seg _ => exact ⟨stepThread_good H hlv hT, (stepThread_level hlv hT).1⟩
  | entry op hi => exact ⟨startOp_good op H hlv hT hi, by rw [startOp_level]; exact hlv⟩

theorem Inv.thread {s : Sys} (hI : Inv s) {t : Nat} {th : Thread} (hth : s.threads[t]? = some th) :
    TInv s.sh.heap th := hI.threads th (List.mem_of_getElem? hth)

theorem Inv.moved {s : Sys} {t : Nat} {th : Thread} {r : Res} (hI : Inv s) (hth : s.threads[t]? = some th)
    (m : Move s.sh th r) : Inv (s.moved t r) ∧ Ext s.sh.heap r.1.heap := by
  obtain ⟨⟨H', e, hT'⟩, hlv⟩ := m.good hI.heap hI.level (hI.thread hth)
  exact ⟨⟨H', moved_all_mem (T := fun sh th => TInv sh.heap th) hI.threads hT' (fun _ _ h => h.ext e), hlv⟩, e⟩

theorem act_inv {s : Sys} (hI : Inv s) (a : Action) :
    Inv (s.act a) ∧ Ext s.sh.heap (s.act a).sh.heap := by
  rcases s.act_cases a with e | ⟨t, th, r, hth, m, e, _⟩ <;> rw [e]
  · exact ⟨hI, Ext.refl _⟩
  · exact hI.moved hth m

theorem run_inv {s : Sys} (hI : Inv s) (as : List Action) :
    Inv (s.run as) ∧ Ext s.sh.heap (s.run as).sh.heap :=
  run_of_act (I := fun s' => Inv s' ∧ Ext s.sh.heap s'.sh.heap)
    (fun h a => ⟨(act_inv h.1 a).1, h.2.trans (act_inv h.1 a).2⟩) ⟨hI, Ext.refl _⟩ as

end NitroVerif.SkipConc
