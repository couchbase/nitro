import NitroVerif.Lemmas.BarrierAbsOf
import NitroVerif.Lemmas.BarrierStep
/-!
  Forward simulation, per action: every action of a thread of M4 in a state satisfying `Inv` is, for the
  abstraction `absOf`, the abstract action `absAct` names (or a stutter) — unless it is a late grant
  (`lateGrant`), which adds a holder to the closed session `cur - 1` (`exec_lateGrant`).
-/
namespace NitroVerif.Barrier
open NitroVerif.AbsBarrier

theorem Exec.sim {fixed : Bool} {st st1 : St} {t t' : Th} {a : Barrier.Act} {r : List Th}
    (hs : Exec fixed st t a st1 t') (h : Inv (withThs st (t :: r))) (hlate : lateGrant st t a = false) :
    Sim (withThs st (t :: r)) t a (withThs st1 (t' :: r)) := by
  -- the invariant after the step excludes the two panic branches
  have h' := hs.inv h
  cases hs
  case startRelease toks j s hj =>
    refine absOf_same (fun x => ?_) rfl
    have := count_eraseIdx toks j s x hj
    simp only [heldT, barsimp]
    omega
  case acqGrant toks s hreg hb =>
    have hg := grants_of_grant hreg hb
    obtain rfl : s = st.cur := by simpa [lateGrant, hg] using hlate
    simp only [Sim, absAct, grants_withThs, hg, if_true, AbsBarrier.step]
    rw [absOf_grant]
  case acqBackoff toks s hb =>
    have hg := grants_of_backoff hb
    simp only [Sim, absAct, grants_withThs, hg]
    exact absOf_same (fun x => by simp [heldT]) rfl
  case relDecLast toks s k hv =>
    cases k
    case retRel => exact absOf_rel h (fun _ => rfl) rfl
    all_goals exact absOf_same (fun x => by simp [heldT]) rfl
  case relDecMore toks s k hv hp =>
    cases k
    case retRel => exact absOf_rel h (fun _ => rfl) rfl
    all_goals exact absOf_same (fun x => by simp [heldT]) rfl
  case relDecPanic => have := h'.nopanic; simp at this
  case relInsertPanic => have := h'.nopanic; simp at this
  case clProc toks s k => simp only [Sim, absAct]; exact absOf_proc h
  case flSwap toks obj =>
    simp only [Sim, absAct, AbsBarrier.step]
    rw [absOf_swap h]
  case flTag toks s obj => simp only [Sim, absAct]; exact absOf_tag h
  case relUnlock => cases fixed <;> exact absOf_same (fun x => by simp [heldT]) (by simp)
  case relClosedAgain | relTryLockFail | relRecheckDone | flAdd =>
    exact absOf_same (fun x => by simp [heldT]) (by simp)
  -- the other steps are stutters by `rfl` (both program counters are constructor terms); above, where the new one is
  -- `afterCont k` or `if fixed …`, `absOf_same`
  all_goals exact rfl

theorem exec_sim {fixed : Bool} {st st1 : St} {i : Nat} {t t' : Th} {a : Barrier.Act} (h : Inv st)
    (ht : st.ths[i]? = some t) (he : exec fixed st t a = some (st1, t'))
    (hlate : lateGrant st t a = false) : Sim st t a (setT st1 i t') := by
  have hx := exec_sound he
  have := hx.sim (h.front ht) hlate
  unfold Sim at this ⊢
  rw [absOf_front ht, absOf_setT_front t' ht hx.ths]
  exact this

/-- the late grant adds a holder to the abstractly closed session `cur - 1`, whose flusher is between FL_SWAP and FL_ADD -/
theorem exec_lateGrant {fixed : Bool} {st st1 : St} {i : Nat} {t t' : Th} {a : Barrier.Act} (h : Inv st)
    (ht : st.ths[i]? = some t) (he : exec fixed st t a = some (st1, t'))
    (hlate : lateGrant st t a = true) :
    ∃ s, t.pc = .acqAdd s ∧ s + 1 = st.cur ∧ cnt (onPc (pcPend s)) st = 1 ∧
      absOf (setT st1 i t') = acqAt (absOf st) s := by
  cases a with
  | start op => simp [lateGrant] at hlate
  | stale => simp [lateGrant] at hlate
  | step =>
    obtain ⟨pc, toks⟩ := t
    cases pc <;> simp only [lateGrant, Bool.false_eq_true] at hlate
    rename_i s
    simp only [Bool.and_eq_true, decide_eq_true_eq] at hlate
    have hx := exec_sound he
    cases hx
    case acqBackoff hb => rw [grants_of_backoff hb] at hlate; cases hlate.1
    case acqGrant hreg hb =>
      have hnf := (grant_safe h ht rfl hb).1
      have hp := (h.pend s (ref_lt_at h ht (if_pos rfl))).2 hlate.2
      rw [hnf, b2n_false, Nat.zero_add] at hp
      refine ⟨s, rfl, (h.pendcur s).resolve_left (by rw [hp]; decide), hp, ?_⟩
      rw [absOf_front ht, absOf_setT_front (st1 := setS st s _) _ ht rfl, absOf_grant_any]

end NitroVerif.Barrier
