import NitroVerif.Lemmas.RefCountStepRecord
import NitroVerif.Lemmas.RefCountStepLists
import NitroVerif.Lemmas.RefCountRel
/-!
  `Inv` is inductive for the fixed `Open` (the responsibility clause is conditional on `cfg.fixedGC`), holds
  initially, hence in every state an `exec` reaches (`exec_ind`); `execTol_reach` for scripts with refused actions;
  zero is final for steps and runs.
-/
namespace NitroVerif.RefCount

theorem Step.inv {cfg : Cfg} {st st' : St} {i : Nat} {a : Act} {ev : Ev} (hO : cfg.fixedOpen = true)
    (h : Inv cfg st) (hs : Step cfg st i a st' ev) : Inv cfg st' := by
  cases hs with
  | startOpen s hi h1 h2 =>
    exact inv_setT h hi ⟨h1, h2⟩ (fun _ _ => Or.inl (Nat.le_refl _))
  | startClose s hi h1 h2 hh => exact inv_startClose h hi h1 h2 hh
  | startGc hi =>
    exact inv_setT h hi trivial (fun _ _ => Or.inl (Nat.zero_le _))
  | loadRefuse b s hi hz =>
    exact inv_setT h hi trivial (fun _ _ => Or.inl (Nat.le_refl _))
  | loadOk b s hi hnz =>
    obtain ⟨h1, h2⟩ := h.pcs i _ hi
    have := h.refs_nonneg s h1 h2
    exact inv_setT h hi ⟨h1, h2, by omega⟩ (fun _ _ => Or.inl (Nat.le_refl _))
  | casOk b s rc hi hf he => exact inv_openCasOk h hi he
  | casFail b s rc hi hf hne =>
    obtain ⟨h1, h2, _⟩ := h.pcs i _ hi
    exact inv_setT h hi ⟨h1, h2⟩ (fun _ _ => Or.inl (Nat.le_refl _))
  | addUnfixed b s rc hi hf => rw [hO] at hf; cases hf
  | decRetire b s hi hz =>
    have := inv_closeDec h hi
    rwa [if_pos hz] at this
  | decRet b s hi hnz =>
    have := inv_closeDec h hi
    rwa [if_neg hnz] at this
  | retire b s hi => exact inv_closeRetire1 h hi
  | retire2 b s hi => exact inv_closeRetire2 h hi
  | closeGC b hi =>
    exact inv_setT h hi trivial (fun _ _ => Or.inl (Nat.le_refl _))
  | tryLockFail b hi hf =>
    exact inv_setT h hi trivial (fun _ _ => Or.inr hf)
  | tryLockOk b hi hf => exact inv_tryLockOk h hi hf
  | readSpurious hi =>
    exact inv_setT h hi trivial (fun _ _ => Or.inl (Nat.le_refl _))
  | readEmpty hi hd =>
    exact inv_setT h hi trivial (fun _ _ => Or.inl (Nat.le_refl _))
  | readStop s tl hi hd hne =>
    exact inv_setT h hi trivial (fun _ _ => Or.inl (Nat.le_refl _))
  | readNext s tl hi hd he =>
    exact inv_setT h hi ⟨he, by rw [hd]; simp⟩ (fun _ _ => Or.inl (Nat.le_refl _))
  | send b s hi => exact inv_collectSend h hi
  | unlockFixed b hi hg =>
    exact inv_unlock h hi trivial (fun _ => rfl)
  | unlockUnfixed b hi hg =>
    exact inv_unlock h hi trivial (fun hg' => by rw [hg] at hg'; cases hg')
  | recheckEmpty b hi hd =>
    refine inv_setT h hi trivial (fun _ hm => ?_)
    rw [hd] at hm; simp at hm
  | recheckAgain b s tl hi hd he =>
    exact inv_setT h hi trivial (fun _ _ => Or.inl (Nat.le_refl _))
  | recheckDone b s tl hi hd hne =>
    refine inv_setT h hi trivial (fun _ hm => ?_)
    obtain ⟨tl', htl⟩ := head_of_mem h.dead_sorted (fun x hx => (h.dead_valid x hx).2.2) hm
    rw [hd] at htl
    simp at htl
    exact absurd htl.1 hne

theorem init_inv (cfg : Cfg) (n k : Nat) : Inv cfg (init n k) := by
  have hget : ∀ s, 1 ≤ s → s ≤ k → getS (init n k) s = {} := by
    intro s h1 h2
    exact snapAt_replicate k s {} h1 h2
  have hlen : (init n k).snaps.length = k := List.length_replicate
  constructor
  case count =>
    intro s h1 h2
    rw [hlen] at h2
    rw [hget s h1 h2]
    have : cnt (uDec s) (init n k).ths = 0 := cnt_replicate _ _ _ rfl
    rw [this]; rfl
  case retire =>
    intro s h1 h2
    rw [hlen] at h2
    rw [hget s h1 h2]
    have : cnt (uRet s) (init n k).ths = 0 := cnt_replicate _ _ _ rfl
    have h2 : cnt (uRet2 s) (init n k).ths = 0 := cnt_replicate _ _ _ rfl
    rw [this, h2]; rfl
  case pcs =>
    intro j pc hj
    have : pc = .idle := List.eq_of_mem_replicate (List.mem_of_getElem? hj)
    subst this; exact trivial
  case place =>
    intro s h1 h2
    rw [hlen] at h2
    rw [hget s h1 h2]
    exact ⟨nofun, fun hx => hx.elim nofun (fun a => absurd (Nat.le_trans h1 a) (Nat.not_succ_le_zero 0))⟩
  case live_iff =>
    intro s
    rw [hlen]
    constructor
    · intro hm
      have : 1 ≤ s ∧ s < 1 + k := by simpa [init, List.mem_range'_1] using hm
      refine ⟨this.1, by omega, ?_, cnt_replicate _ _ _ rfl⟩
      rw [hget s this.1 (by omega)]
    · intro ⟨h1, h2, _⟩
      simp [init, List.mem_range'_1]; omega
  case dead_valid =>
    exact nofun
  case gc_le =>
    exact Nat.zero_le _
  case dead_sorted =>
    exact List.Pairwise.nil
  case live_sorted =>
    exact List.pairwise_lt_range'
  case sent =>
    rfl
  case excl =>
    exact cnt_replicate _ _ _ rfl
  case resp =>
    exact fun _ => nofun

theorem exec_ind {cfg : Cfg} {P : St → Prop} {Q : Ev → Prop}
    (hstep : ∀ st i a st' ev, P st → step cfg st i a = some (st', ev) → P st' ∧ Q ev) :
    ∀ (sched : List (Nat × Act)) (st st' : St) (evs : List Ev),
      P st → exec cfg st sched = some (st', evs) → P st' ∧ ∀ e ∈ evs, Q e := by
  intro sched
  induction sched with
  | nil =>
    intro st st' evs h he
    cases he
    exact ⟨h, fun _ he => nomatch he⟩
  | cons x r ih =>
    intro st st' evs h he
    obtain ⟨i, a⟩ := x
    rw [exec] at he
    split at he
    · cases he
    · rename_i st1 e hstep1
      split at he
      · cases he
      · rename_i st2 es hrest
        cases he
        obtain ⟨hp, hq⟩ := hstep st i a st1 e h hstep1
        obtain ⟨hp', hq'⟩ := ih st1 _ es hp hrest
        exact ⟨hp', fun e' he' => (List.mem_cons.mp he').elim (fun a => a ▸ hq) (hq' e')⟩

theorem execTol_reach (cfg : Cfg) (sched : List (Nat × Act)) (st : St) :
    ∃ sched' evs, exec cfg st sched' = some ((execTol cfg st sched).1, evs) := by
  induction sched generalizing st with
  | nil => exact ⟨[], [], rfl⟩
  | cons x r ih =>
    obtain ⟨i, a⟩ := x
    cases hstep : step cfg st i a with
    | none =>
      obtain ⟨sched', evs, h⟩ := ih st
      refine ⟨sched', evs, ?_⟩
      simp only [execTol, hstep]; exact h
    | some p =>
      obtain ⟨st1, e⟩ := p
      obtain ⟨sched', evs, h⟩ := ih st1
      refine ⟨(i, a) :: sched', e :: evs, ?_⟩
      simp only [execTol, exec, hstep, h]

theorem step_len {cfg : Cfg} {st st' : St} {i : Nat} {a : Act} {ev : Ev}
    (hs : step cfg st i a = some (st', ev)) : st'.snaps.length = st.snaps.length := by
  cases step_sound hs with
  | startClose | casOk | addUnfixed | decRetire | decRet | retire2 => exact length_setAt _ _ _
  | _ => rfl

theorem reach_inv {cfg : Cfg} (hO : cfg.fixedOpen = true) {n k : Nat} {sched : List (Nat × Act)}
    {st : St} {evs : List Ev} (he : exec cfg (init n k) sched = some (st, evs)) :
    Inv cfg st ∧ st.snaps.length = k :=
  (exec_ind (P := fun t => Inv cfg t ∧ t.snaps.length = k) (Q := fun _ => True)
    (fun _ _ _ _ _ h hs => ⟨⟨(step_sound hs).inv hO h.1, (step_len hs).trans h.2⟩, trivial⟩)
    sched _ _ _ ⟨init_inv cfg n k, List.length_replicate⟩ he).1

/-- a count is written only by a closer before its decrement (which is counted in it) and by a
    compare-and-swap that expects a positive value -/
theorem Step.zero_final {cfg : Cfg} {st st' : St} {i : Nat} {a : Act} {ev : Ev}
    (hO : cfg.fixedOpen = true) (h : Inv cfg st) (hs : Step cfg st i a st' ev) (s : Nat)
    (hz : (getS st s).refs = 0) :
    (getS st' s).refs = 0 ∧ ev ≠ .retOpen s true := by
  have hdec : ∀ s0, st.ths[i]? = some (.closeDec s0) → s0 ≠ s := by
    intro s0 hi e; subst e
    have := h.at_closeDec hi
    rw [hz] at this
    exact Int.lt_irrefl 0 this
  cases hs with
  | startClose s0 hi h1' h2' hh => exact ⟨(proj_setS Snap.refs st h1' h2' (fun e => e ▸ rfl)).trans hz, Ev.noConfusion⟩
  | casOk b s0 rc hi hf he =>
    obtain ⟨h1', h2', hpos⟩ := h.pcs i _ hi
    have hne : s0 ≠ s := by intro e; subst e; omega
    exact ⟨(proj_setS Snap.refs st h1' h2' (fun e => absurd e hne)).trans hz,
      fun e => hne (Ev.retOpen.inj e).1⟩
  | addUnfixed b s0 rc hi hf => rw [hO] at hf; cases hf
  | decRetire b s0 hi hz0 =>
    obtain ⟨h1', h2'⟩ := h.pcs i _ hi
    exact ⟨(proj_setS Snap.refs st h1' h2' (fun e => absurd e (hdec s0 hi))).trans hz, Ev.noConfusion⟩
  | decRet b s0 hi hnz =>
    obtain ⟨h1', h2'⟩ := h.pcs i _ hi
    exact ⟨(proj_setS Snap.refs st h1' h2' (fun e => absurd e (hdec s0 hi))).trans hz, Ev.noConfusion⟩
  | retire2 b s0 hi =>
    obtain ⟨h1', h2'⟩ := h.pcs i _ hi
    exact ⟨(proj_setS Snap.refs st h1' h2' (fun e => e ▸ rfl)).trans hz, Ev.noConfusion⟩
  | loadRefuse => exact ⟨hz, fun e => Bool.noConfusion (Ev.retOpen.inj e).2⟩
  | _ => exact ⟨hz, Ev.noConfusion⟩

theorem exec_zero_final {cfg : Cfg} (hO : cfg.fixedOpen = true) {st st' : St}
    {sched : List (Nat × Act)} {evs : List Ev} (h : Inv cfg st)
    (he : exec cfg st sched = some (st', evs)) (s : Nat) (hz : (getS st s).refs = 0) :
    (getS st' s).refs = 0 ∧ ∀ e ∈ evs, e ≠ .retOpen s true := by
  have := exec_ind (cfg := cfg) (P := fun t => Inv cfg t ∧ (getS t s).refs = 0)
    (Q := fun e => e ≠ .retOpen s true)
    (fun t i a t' e ht hs =>
      have hst := step_sound hs
      have z := hst.zero_final hO ht.1 s ht.2
      ⟨⟨hst.inv hO ht.1, z.1⟩, z.2⟩)
    sched st st' evs ⟨h, hz⟩ he
  exact ⟨this.1.2, this.2⟩

end NitroVerif.RefCount
