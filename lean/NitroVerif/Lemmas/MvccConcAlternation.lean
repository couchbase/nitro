/-
  A property of every legal sequential history of `Spec/SetSpec.lean`: for each key the successful Puts and
  the successful Deletes alternate ("exactly one succeeds per state change").
-/
import NitroVerif.Lemmas.MvccConcLin

namespace NitroVerif.MvccConc
open NitroVerif.SetSpec (findKey)

def keyAlive (sp : SetSpec.State) (k : Nat) : Bool := (findKey k sp.alive).isSome

def Ev.winOn (k : Nat) : Ev → Option Bool
  | .lin _ (.put _ k' _) (.bool true) => if k' = k then some true else none
  | .lin _ (.del _ k') (.bool true) => if k' = k then some false else none
  | _ => none

/-- the successful operations on key `k` in linearization order: `true` = Put, `false` = Delete -/
def winners (k : Nat) (l : List Ev) : List Bool := l.filterMap (Ev.winOn k)

/-- Puts and Deletes alternate, starting with the one that is possible in a state where the key is alive
    (`a = true`: a Delete) or absent (`a = false`: a Put) -/
def Alternates : Bool → List Bool → Prop
  | _, [] => True
  | a, b :: r => b = !a ∧ Alternates b r

theorem specStep_key {sp sp' : SetSpec.State} {e : Ev} (k : Nat) (h : specStep sp e = some sp') :
    match Ev.winOn k e with
    | some b => b = !keyAlive sp k ∧ keyAlive sp' k = b
    | none => keyAlive sp' k = keyAlive sp k := by
  cases e with
  | call t op => cases h; exact rfl
  | ret t r => cases h; exact rfl
  | snap r =>
    simp only [specStep] at h
    split at h
    · cases h; exact rfl
    · cases h
  | lin t op res =>
    simp only [specStep] at h
    split at h
    · rename_i hc
      cases h
      obtain ⟨hop, rfl⟩ := hc
      cases op with
      | put w k' v =>
        rw [setSpec_put]
        by_cases hw : w < sp.nwriters
        · rw [if_pos hw]
          cases hf : findKey k' sp.alive with
          | some e => exact rfl
          | none =>
            by_cases hk : k' = k
            · subst hk
              simp only [Ev.winOn, if_true, keyAlive, hf, Option.isSome_none, Bool.not_false, true_and]
              exact findKey_ins_self hf
            · simp only [Ev.winOn, hk, if_false, keyAlive]
              rw [findKey_ins_other (fun h => hk h.symm)]
        · rw [if_neg hw]; exact rfl
      | del w k' =>
        rw [setSpec_del]
        by_cases hw : w < sp.nwriters
        · rw [if_pos hw]
          cases hf : findKey k' sp.alive with
          | none => exact rfl
          | some e =>
            by_cases hk : k' = k
            · subst hk
              simp only [Ev.winOn, if_true, keyAlive, hf, Option.isSome_some, Bool.not_true, true_and,
                SetSpec.delEntry, findKey_key hf]
              rw [findKey_removeKey]; rfl
            · simp only [Ev.winOn, hk, if_false, keyAlive, SetSpec.delEntry, findKey_key hf]
              rw [findKey_removeKey_other (fun h => hk h.symm)]
        · rw [if_neg hw]; exact rfl
      | get w k' =>
        rw [setSpec_get]
        by_cases hw : w < sp.nwriters
        · rw [if_pos hw]; exact rfl
        · rw [if_neg hw]; exact rfl
      | _ => cases hop
    · cases h

theorem alternates_of_replay (k : Nat) (l : List Ev) {sp sp' : SetSpec.State} (h : replay sp l = some sp') :
    Alternates (keyAlive sp k) (winners k l) := by
  induction l generalizing sp with
  | nil => trivial
  | cons e es ih =>
    rw [replay] at h
    cases hs : specStep sp e with
    | none => rw [hs] at h; cases h
    | some sp1 =>
      rw [hs] at h
      have hk := specStep_key k hs
      rw [winners, List.filterMap_cons]
      cases hw : Ev.winOn k e with
      | none =>
        rw [hw] at hk
        exact hk ▸ ih h
      | some b =>
        rw [hw] at hk
        exact ⟨hk.1, hk.2 ▸ ih h⟩

end NitroVerif.MvccConc
