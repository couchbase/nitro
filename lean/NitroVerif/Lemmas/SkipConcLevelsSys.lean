import NitroVerif.Lemmas.SkipConcLevelsSeg
import NitroVerif.Lemmas.SkipConcRefine
/-!
  Index levels of M5, system level.  `InvL`: the level-0 invariants, the configuration of /repo, `LvInv`, `TL` for every
  thread, and no two threads link the same node; kept by every move of a thread (`InvL.moved`), hence along every run (`run_invL`).
-/
namespace NitroVerif.SkipConc

structure InvL (s : Sys) : Prop where
  base : InvR s
  /-- the configuration of /repo: Insert4 checks the recorded successor's mark before the upper-level link -/
  fixed : s.sh.fixedSucc = true
  lv : LvInv s.sh.heap
  threads : ∀ (t : Nat) (th : Thread), s.threads[t]? = some th → TL s.sh.heap s.sh.level th
  /-- two threads never link the same node into the index levels -/
  uniq : ∀ (t t' : Nat) (th th' : Thread) (x : Nat), t ≠ t' → s.threads[t]? = some th → s.threads[t']? = some th' →
    insNode th.pc = some x → insNode th'.pc ≠ some x

theorem InvL.chains {s : Sys} (hI : InvL s) : HInv s.sh.heap ∧ ReachInv s.sh.heap ∧ LvInv s.sh.heap :=
  ⟨hI.base.heap, hI.base.reach, hI.lv⟩

theorem LvInv_init : LvInv initHeap where
  tail l _ h2 := .single (m := false) (by rw [word?_init_head]; simp [tailId]; omega)
  sorted l n p m _ _ hw := by
    obtain ⟨rfl, _, rfl, _⟩ := word?_init hw
    simp [keyOf, initHeap, Key.lt]
  chain l n _ hu := by
    obtain ⟨p, hp⟩ := hu
    obtain ⟨rfl, _⟩ := word?_init hp
    exact .inl (.head _ l)

theorem TL_fresh (h : Heap) (lv : Nat) : TL h lv {} := by
  have hz := getD_fresh_buf
  refine ⟨⟨by simp, by simp, fun j => ?_⟩, trivial⟩
  show Lk h ((List.replicate (Gen.maxLevel + 1) 0).getD j 0) j ∧ Lk h ((List.replicate (Gen.maxLevel + 1) 0).getD j 0) j
  rw [hz]; exact ⟨Lk_head _ _, Lk_head _ _⟩

theorem InvL_init (n : Nat) : InvL (Sys.init n) where
  base := InvR_init n
  fixed := rfl
  lv := LvInv_init
  threads t th hth := by
    simp only [Sys.init, Sys.initWith, List.getElem?_replicate] at hth
    split at hth
    · simp at hth; rw [← hth]; exact TL_fresh _ _
    · simp at hth
  uniq t t' th th' x _ hth _ hx := by
    simp only [Sys.init, Sys.initWith, List.getElem?_replicate] at hth
    split at hth
    · simp at hth; rw [← hth] at hx; simp [insNode] at hx
    · simp at hth

theorem InvL.move {s : Sys} (hI : InvL s) {t : Nat} {th : Thread} {r : Res} (hth : s.threads[t]? = some th)
    (m : Move s.sh th r) :
    TInv s.sh.heap th ∧ TL s.sh.heap s.sh.level th ∧ Good s.sh.heap r ∧ GoodL s.sh.heap th r ∧
      r.1.fixedSucc = true ∧ s.sh.level ≤ r.1.level ∧
      ∀ x, insNode r.2.1.pc = some x → insNode th.pc = some x ∨ x = s.sh.heap.length := by
  have hInv := hI.base.inv
  have hT := hInv.thread hth
  have hL := hI.threads t th hth
  refine ⟨hT, hL, (m.good hInv.heap hInv.level hT).1, ?_⟩
  cases m with
  | seg _ =>
    have s := stepThread_seg s.sh th
    exact ⟨s.goodL rfl hInv.heap hI.base.reach hI.lv hI.fixed hT hL, by rw [s.config.1]; exact hI.fixed,
      (stepThread_level hInv.level hT).2, fun x => s.insNode⟩
  | entry op hi =>
    obtain ⟨hL', hn, hf⟩ := (startOp_cases s.sh th op).levels hi hL
    refine ⟨⟨.other, by rw [startOp_heap]; exact .none, trivial, ?_⟩, by rw [hf]; exact hI.fixed,
      by rw [startOp_level]; exact Nat.le_refl _, fun x hx => ?_⟩
    · rw [startOp_heap, startOp_level]; exact hL'
    · rw [hn] at hx; cases hx

theorem InvL.moved {s : Sys} {t : Nat} {th : Thread} {r : Res} (hI : InvL s) (hth : s.threads[t]? = some th)
    (m : Move s.sh th r) : InvL (s.moved t r) := by
  have hInv := hI.base.inv
  obtain ⟨_, _, ⟨_, e, _⟩, ⟨ev, hst, hev, hnew⟩, hfix, hlevel, hins⟩ := hI.move hth m
  refine ⟨hI.base.moved hth m, hfix, hst.lvInv hInv.heap hI.lv, ?_, ?_⟩
  · -- a write that is an inserter's is not for another thread's node (`uniq`)
    exact moved_all (T := fun sh th => TL sh.heap sh.level th) hI.threads hnew fun t2 th2 hne h2 b =>
      b.keep hInv.heap hst hlevel (hInv.thread h2)
        fun x c => hI.uniq t t2 th th2 x (Ne.symm hne) hth h2 (hev.insNode c)
  · intro a b tha thb x hab ha hb
    refine moved_pair (C := fun ta tb => ∀ x, insNode ta.pc = some x → insNode tb.pc ≠ some x)
      (fun h x hb ha => h x ha hb) hth (fun a b tha thb hab ha hb x => hI.uniq a b tha thb x hab ha hb)
      (fun b thb _ hb hc x hx => ?_) a b tha thb hab ha hb x
    rcases hins x hx with h1 | h1
    · exact hc x h1
    · -- the node just published is nobody else's: theirs are published nodes
      intro c
      obtain ⟨k, hk⟩ := insNode_key (hInv.thread hb) c
      exact Nat.lt_irrefl _ (h1 ▸ lt_of_keyOf_fin hk)

theorem run_invL {s : Sys} (hI : InvL s) (as : List Action) : InvL (s.run as) :=
  run_of_act (act_of_move InvL.moved) hI as

end NitroVerif.SkipConc
