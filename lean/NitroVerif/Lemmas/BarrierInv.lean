import NitroVerif.Lemmas.BarrierBase
/-!
  The inductive invariant `Inv` of M4, phrased with thread sums `cnt f st`.

  Sessions are named by their index in `St.sess`.  The flush that closes session `s` gives it `seqno = s + 1`
  (`numbering`) and the destructor runs in seqno order, so "`s` has been destructed" is `s < freeSeqno` and "the queue
  head `s` is the next to destruct" is `s = freeSeqno`: hence ids are compared with `freeSeqno` in `place`, `proc` (and `Resp`).
  `1073741823` is `Gen.barrierFlushOffset`; the clauses carry the numeral so that `omega` can compute with it.

  `unitsT s`: tokens held for `s` + 1 if parked at `relDec s _` (every unit of `liveCount`); `realT s`: the same without
  the transient unit of a backing-off `Acquire` (`relDec s retAcq`); `refT s`: tokens for `s` + 1 if the program counter
  carries `s` at all (`pcRef`) — `range` says such an `s` is allocated; `onPc g`: `g` of the program counter alone.
-/
namespace NitroVerif.Barrier

def pcUnit (s : Nat) : PC → Nat
  | .relDec s' _ => if s' = s then 1 else 0
  | _ => 0

/-- 0 for the transient unit of a backing-off `Acquire`, 1 for a unit that was a real holder -/
def contReal : Cont → Nat
  | .retAcq => 0
  | _ => 1

def pcReal (s : Nat) : PC → Nat
  | .relDec s' k => if s' = s then contReal k else 0
  | _ => 0

def pcClosed (s : Nat) : PC → Nat
  | .relClosed s' _ => if s' = s then 1 else 0
  | _ => 0

def pcInsert (s : Nat) : PC → Nat
  | .relInsert s' _ => if s' = s then 1 else 0
  | _ => 0

def pcPend (s : Nat) : PC → Nat
  | .flTag s' _ => if s' = s then 1 else 0
  | .flAdd s' => if s' = s then 1 else 0
  | _ => 0

def pcProc (s : Nat) : PC → Nat
  | .clProc s' _ => if s' = s then 1 else 0
  | _ => 0

def pcRef (s : Nat) : PC → Nat
  | .acqAdd s' => if s' = s then 1 else 0
  | .relDec s' _ => if s' = s then 1 else 0
  | .relClosed s' _ => if s' = s then 1 else 0
  | .relInsert s' _ => if s' = s then 1 else 0
  | .clProc s' _ => if s' = s then 1 else 0
  | .flTag s' _ => if s' = s then 1 else 0
  | .flAdd s' => if s' = s then 1 else 0
  | _ => 0

def pcTag : PC → Nat
  | .flTag _ _ => 1
  | _ => 0

def contMutex : Cont → Nat
  | .retFlush => 1
  | _ => 0

/-- inside the mutex region of `FlushSession` (its inlined `Release` included) -/
def pcMutex : PC → Nat
  | .flSwap _ => 1
  | .flTag _ _ => 1
  | .flAdd _ => 1
  | .flUnlock => 1
  | .relDec _ k => contMutex k
  | .relClosed _ k => contMutex k
  | .relInsert _ k => contMutex k
  | .relTryLock k => contMutex k
  | .clRead _ k => contMutex k
  | .clProc _ k => contMutex k
  | .relUnlock k => contMutex k
  | .relRecheck k => contMutex k
  | _ => 0

/-- past FL_TAG inside a `FlushSession` (`pcMutex` without FL_SWAP and FL_TAG): these flushes are `activeSeqno`, `calls` -/
def pcPast : PC → Nat
  | .flAdd _ => 1
  | .flUnlock => 1
  | .relDec _ k => contMutex k
  | .relClosed _ k => contMutex k
  | .relInsert _ k => contMutex k
  | .relTryLock k => contMutex k
  | .clRead _ k => contMutex k
  | .clProc _ k => contMutex k
  | .relUnlock k => contMutex k
  | .relRecheck k => contMutex k
  | _ => 0

def pcLock : PC → Nat
  | .flLock _ => 1
  | _ => 0

/-- holding `isDestructorRunning` -/
def pcFlag : PC → Nat
  | .clRead _ _ => 1
  | .clProc _ _ => 1
  | .relUnlock _ => 1
  | _ => 0

@[barsimp] def unitsT (s : Nat) (t : Th) : Nat := t.toks.count s + pcUnit s t.pc
@[barsimp] def realT (s : Nat) (t : Th) : Nat := t.toks.count s + pcReal s t.pc
@[barsimp] def refT (s : Nat) (t : Th) : Nat := t.toks.count s + pcRef s t.pc
@[barsimp] def onPc (g : PC → Nat) (t : Th) : Nat := g t.pc

/-- the value of `Gen.barrierFlushOffset` (`barrierFlushOffset_val`) -/
abbrev off : Int := 1073741823

/-- The invariant.  Booleans appear as `b2n b` (0/1) so that `omega` can chain the clauses. -/
structure Inv (st : St) : Prop where
  range : ∀ s, st.sess.length ≤ s → cnt (refT s) st = 0
  curlen : st.cur + 1 = st.sess.length
  /-- `liveCount` = tokens held + threads before a decrement, plus the offset once the session is flushed -/
  count : ∀ s, s < st.sess.length →
    (getS st s).live = (cnt (unitsT s) st : Int) + (b2n (getS st s).flushed : Int) * 1073741823
  bound : ∀ s, b2n (getS st s).flushed = 0 → (getS st s).live < 1073741823
  /-- `cur` is unflushed and nobody is flushing it; every other session is flushed or is the one the mutex holder
      is closing, never both -/
  pend : ∀ s, s < st.sess.length →
    (s = st.cur → b2n (getS st s).flushed = 0 ∧ cnt (onPc (pcPend s)) st = 0) ∧
    (s ≠ st.cur → b2n (getS st s).flushed + cnt (onPc (pcPend s)) st = 1)
  /-- only session `cur - 1` can have its flusher between FL_TAG and FL_ADD -/
  pendcur : ∀ s, cnt (onPc (pcPend s)) st = 0 ∨ s + 1 = st.cur
  mutex : b2n st.mutex = cnt (onPc pcMutex) st
  flag : b2n st.flag = cnt (onPc pcFlag) st
  /-- `activeSeqno` lags `cur` by one exactly while a flusher is parked at FL_TAG -/
  active : st.activeSeqno + cnt (onPc pcTag) st = st.cur
  tagged : st.tagged.length = st.activeSeqno
  numbering : ∀ s, s < st.activeSeqno →
    (getS st s).seqno = s + 1 ∧ st.tagged[s]? = some (getS st s).obj
  flushedlt : ∀ s, b2n (getS st s).flushed = 1 → s < st.activeSeqno
  /-- a terminated session is flushed and has no real unit; units of backing-off `Acquire`s are allowed -/
  closed : ∀ s, (1 ≤ (getS st s).closed ∨ 1 ≤ cnt (onPc (pcClosed s)) st) →
    b2n (getS st s).flushed = 1 ∧ cnt (realT s) st = 0
  /-- a terminated session is in exactly one place: about to be inserted, queued, or destructed -/
  place : ∀ s,
    ((getS st s).closed = 0 →
      cnt (onPc (pcInsert s)) st = 0 ∧ st.freeq.count s = 0 ∧ st.freeSeqno ≤ s) ∧
    (1 ≤ (getS st s).closed →
      (s < st.freeSeqno → cnt (onPc (pcInsert s)) st = 0 ∧ st.freeq.count s = 0) ∧
      (st.freeSeqno ≤ s → cnt (onPc (pcInsert s)) st + st.freeq.count s = 1))
  sorted : st.freeq.Pairwise (· < ·)
  logseq : st.log.map Prod.fst = List.range' 1 st.freeSeqno
  logobj : st.log.map Prod.snd = st.tagged.take st.freeSeqno
  /-- the thread at CL_PROC works on the queue head, which is the next in order -/
  proc : ∀ s, 1 ≤ cnt (onPc (pcProc s)) st → st.freeq.head? = some s ∧ s = st.freeSeqno
  nopanic : st.panicked = false
  stats : st.numAllocated = st.activeSeqno + 1 ∧ st.numFreed = st.freeSeqno
  calls : st.flStarted = st.flDone + cnt (onPc pcLock) st + cnt (onPc pcMutex) st ∧
    st.activeSeqno = st.flDone + cnt (onPc pcPast) st
  /-- when the last unit of a flushed session is gone, somebody has terminated it or is about to -/
  last : ∀ s, b2n (getS st s).flushed = 1 → cnt (unitsT s) st = 0 →
    1 ≤ (getS st s).closed ∨ 1 ≤ cnt (onPc (pcClosed s)) st

/-! value of every counting function at every program counter: `barsimp` evaluates a weight at a constructor term
    with these and leaves it alone at a variable -/
@[barsimp] theorem pcUnit_idle (s : Nat) : pcUnit s .idle = 0 := rfl
@[barsimp] theorem pcUnit_acqLoad (s : Nat) : pcUnit s .acqLoad = 0 := rfl
@[barsimp] theorem pcUnit_acqAdd (s : Nat) (a : Nat) : pcUnit s (.acqAdd a) = 0 := rfl
@[barsimp] theorem pcUnit_relDec (s : Nat) (a : Nat) (k : Cont) : pcUnit s (.relDec a k) = if a = s then 1 else 0 := rfl
@[barsimp] theorem pcUnit_relClosed (s : Nat) (a : Nat) (k : Cont) : pcUnit s (.relClosed a k) = 0 := rfl
@[barsimp] theorem pcUnit_relInsert (s : Nat) (a : Nat) (k : Cont) : pcUnit s (.relInsert a k) = 0 := rfl
@[barsimp] theorem pcUnit_relTryLock (s : Nat) (k : Cont) : pcUnit s (.relTryLock k) = 0 := rfl
@[barsimp] theorem pcUnit_clRead (s : Nat) (b : Bool) (k : Cont) : pcUnit s (.clRead b k) = 0 := rfl
@[barsimp] theorem pcUnit_clProc (s : Nat) (a : Nat) (k : Cont) : pcUnit s (.clProc a k) = 0 := rfl
@[barsimp] theorem pcUnit_relUnlock (s : Nat) (k : Cont) : pcUnit s (.relUnlock k) = 0 := rfl
@[barsimp] theorem pcUnit_relRecheck (s : Nat) (k : Cont) : pcUnit s (.relRecheck k) = 0 := rfl
@[barsimp] theorem pcUnit_flLock (s : Nat) (o : Nat) : pcUnit s (.flLock o) = 0 := rfl
@[barsimp] theorem pcUnit_flSwap (s : Nat) (o : Nat) : pcUnit s (.flSwap o) = 0 := rfl
@[barsimp] theorem pcUnit_flTag (s : Nat) (a : Nat) (o : Nat) : pcUnit s (.flTag a o) = 0 := rfl
@[barsimp] theorem pcUnit_flAdd (s : Nat) (a : Nat) : pcUnit s (.flAdd a) = 0 := rfl
@[barsimp] theorem pcUnit_flUnlock (s : Nat) : pcUnit s .flUnlock = 0 := rfl
@[barsimp] theorem pcReal_idle (s : Nat) : pcReal s .idle = 0 := rfl
@[barsimp] theorem pcReal_acqLoad (s : Nat) : pcReal s .acqLoad = 0 := rfl
@[barsimp] theorem pcReal_acqAdd (s : Nat) (a : Nat) : pcReal s (.acqAdd a) = 0 := rfl
@[barsimp] theorem pcReal_relDec (s : Nat) (a : Nat) (k : Cont) : pcReal s (.relDec a k) = if a = s then contReal k else 0 := rfl
@[barsimp] theorem pcReal_relClosed (s : Nat) (a : Nat) (k : Cont) : pcReal s (.relClosed a k) = 0 := rfl
@[barsimp] theorem pcReal_relInsert (s : Nat) (a : Nat) (k : Cont) : pcReal s (.relInsert a k) = 0 := rfl
@[barsimp] theorem pcReal_relTryLock (s : Nat) (k : Cont) : pcReal s (.relTryLock k) = 0 := rfl
@[barsimp] theorem pcReal_clRead (s : Nat) (b : Bool) (k : Cont) : pcReal s (.clRead b k) = 0 := rfl
@[barsimp] theorem pcReal_clProc (s : Nat) (a : Nat) (k : Cont) : pcReal s (.clProc a k) = 0 := rfl
@[barsimp] theorem pcReal_relUnlock (s : Nat) (k : Cont) : pcReal s (.relUnlock k) = 0 := rfl
@[barsimp] theorem pcReal_relRecheck (s : Nat) (k : Cont) : pcReal s (.relRecheck k) = 0 := rfl
@[barsimp] theorem pcReal_flLock (s : Nat) (o : Nat) : pcReal s (.flLock o) = 0 := rfl
@[barsimp] theorem pcReal_flSwap (s : Nat) (o : Nat) : pcReal s (.flSwap o) = 0 := rfl
@[barsimp] theorem pcReal_flTag (s : Nat) (a : Nat) (o : Nat) : pcReal s (.flTag a o) = 0 := rfl
@[barsimp] theorem pcReal_flAdd (s : Nat) (a : Nat) : pcReal s (.flAdd a) = 0 := rfl
@[barsimp] theorem pcReal_flUnlock (s : Nat) : pcReal s .flUnlock = 0 := rfl
@[barsimp] theorem pcClosed_idle (s : Nat) : pcClosed s .idle = 0 := rfl
@[barsimp] theorem pcClosed_acqLoad (s : Nat) : pcClosed s .acqLoad = 0 := rfl
@[barsimp] theorem pcClosed_acqAdd (s : Nat) (a : Nat) : pcClosed s (.acqAdd a) = 0 := rfl
@[barsimp] theorem pcClosed_relDec (s : Nat) (a : Nat) (k : Cont) : pcClosed s (.relDec a k) = 0 := rfl
@[barsimp] theorem pcClosed_relClosed (s : Nat) (a : Nat) (k : Cont) : pcClosed s (.relClosed a k) = if a = s then 1 else 0 := rfl
@[barsimp] theorem pcClosed_relInsert (s : Nat) (a : Nat) (k : Cont) : pcClosed s (.relInsert a k) = 0 := rfl
@[barsimp] theorem pcClosed_relTryLock (s : Nat) (k : Cont) : pcClosed s (.relTryLock k) = 0 := rfl
@[barsimp] theorem pcClosed_clRead (s : Nat) (b : Bool) (k : Cont) : pcClosed s (.clRead b k) = 0 := rfl
@[barsimp] theorem pcClosed_clProc (s : Nat) (a : Nat) (k : Cont) : pcClosed s (.clProc a k) = 0 := rfl
@[barsimp] theorem pcClosed_relUnlock (s : Nat) (k : Cont) : pcClosed s (.relUnlock k) = 0 := rfl
@[barsimp] theorem pcClosed_relRecheck (s : Nat) (k : Cont) : pcClosed s (.relRecheck k) = 0 := rfl
@[barsimp] theorem pcClosed_flLock (s : Nat) (o : Nat) : pcClosed s (.flLock o) = 0 := rfl
@[barsimp] theorem pcClosed_flSwap (s : Nat) (o : Nat) : pcClosed s (.flSwap o) = 0 := rfl
@[barsimp] theorem pcClosed_flTag (s : Nat) (a : Nat) (o : Nat) : pcClosed s (.flTag a o) = 0 := rfl
@[barsimp] theorem pcClosed_flAdd (s : Nat) (a : Nat) : pcClosed s (.flAdd a) = 0 := rfl
@[barsimp] theorem pcClosed_flUnlock (s : Nat) : pcClosed s .flUnlock = 0 := rfl
@[barsimp] theorem pcInsert_idle (s : Nat) : pcInsert s .idle = 0 := rfl
@[barsimp] theorem pcInsert_acqLoad (s : Nat) : pcInsert s .acqLoad = 0 := rfl
@[barsimp] theorem pcInsert_acqAdd (s : Nat) (a : Nat) : pcInsert s (.acqAdd a) = 0 := rfl
@[barsimp] theorem pcInsert_relDec (s : Nat) (a : Nat) (k : Cont) : pcInsert s (.relDec a k) = 0 := rfl
@[barsimp] theorem pcInsert_relClosed (s : Nat) (a : Nat) (k : Cont) : pcInsert s (.relClosed a k) = 0 := rfl
@[barsimp] theorem pcInsert_relInsert (s : Nat) (a : Nat) (k : Cont) : pcInsert s (.relInsert a k) = if a = s then 1 else 0 := rfl
@[barsimp] theorem pcInsert_relTryLock (s : Nat) (k : Cont) : pcInsert s (.relTryLock k) = 0 := rfl
@[barsimp] theorem pcInsert_clRead (s : Nat) (b : Bool) (k : Cont) : pcInsert s (.clRead b k) = 0 := rfl
@[barsimp] theorem pcInsert_clProc (s : Nat) (a : Nat) (k : Cont) : pcInsert s (.clProc a k) = 0 := rfl
@[barsimp] theorem pcInsert_relUnlock (s : Nat) (k : Cont) : pcInsert s (.relUnlock k) = 0 := rfl
@[barsimp] theorem pcInsert_relRecheck (s : Nat) (k : Cont) : pcInsert s (.relRecheck k) = 0 := rfl
@[barsimp] theorem pcInsert_flLock (s : Nat) (o : Nat) : pcInsert s (.flLock o) = 0 := rfl
@[barsimp] theorem pcInsert_flSwap (s : Nat) (o : Nat) : pcInsert s (.flSwap o) = 0 := rfl
@[barsimp] theorem pcInsert_flTag (s : Nat) (a : Nat) (o : Nat) : pcInsert s (.flTag a o) = 0 := rfl
@[barsimp] theorem pcInsert_flAdd (s : Nat) (a : Nat) : pcInsert s (.flAdd a) = 0 := rfl
@[barsimp] theorem pcInsert_flUnlock (s : Nat) : pcInsert s .flUnlock = 0 := rfl
@[barsimp] theorem pcPend_idle (s : Nat) : pcPend s .idle = 0 := rfl
@[barsimp] theorem pcPend_acqLoad (s : Nat) : pcPend s .acqLoad = 0 := rfl
@[barsimp] theorem pcPend_acqAdd (s : Nat) (a : Nat) : pcPend s (.acqAdd a) = 0 := rfl
@[barsimp] theorem pcPend_relDec (s : Nat) (a : Nat) (k : Cont) : pcPend s (.relDec a k) = 0 := rfl
@[barsimp] theorem pcPend_relClosed (s : Nat) (a : Nat) (k : Cont) : pcPend s (.relClosed a k) = 0 := rfl
@[barsimp] theorem pcPend_relInsert (s : Nat) (a : Nat) (k : Cont) : pcPend s (.relInsert a k) = 0 := rfl
@[barsimp] theorem pcPend_relTryLock (s : Nat) (k : Cont) : pcPend s (.relTryLock k) = 0 := rfl
@[barsimp] theorem pcPend_clRead (s : Nat) (b : Bool) (k : Cont) : pcPend s (.clRead b k) = 0 := rfl
@[barsimp] theorem pcPend_clProc (s : Nat) (a : Nat) (k : Cont) : pcPend s (.clProc a k) = 0 := rfl
@[barsimp] theorem pcPend_relUnlock (s : Nat) (k : Cont) : pcPend s (.relUnlock k) = 0 := rfl
@[barsimp] theorem pcPend_relRecheck (s : Nat) (k : Cont) : pcPend s (.relRecheck k) = 0 := rfl
@[barsimp] theorem pcPend_flLock (s : Nat) (o : Nat) : pcPend s (.flLock o) = 0 := rfl
@[barsimp] theorem pcPend_flSwap (s : Nat) (o : Nat) : pcPend s (.flSwap o) = 0 := rfl
@[barsimp] theorem pcPend_flTag (s : Nat) (a : Nat) (o : Nat) : pcPend s (.flTag a o) = if a = s then 1 else 0 := rfl
@[barsimp] theorem pcPend_flAdd (s : Nat) (a : Nat) : pcPend s (.flAdd a) = if a = s then 1 else 0 := rfl
@[barsimp] theorem pcPend_flUnlock (s : Nat) : pcPend s .flUnlock = 0 := rfl
@[barsimp] theorem pcProc_idle (s : Nat) : pcProc s .idle = 0 := rfl
@[barsimp] theorem pcProc_acqLoad (s : Nat) : pcProc s .acqLoad = 0 := rfl
@[barsimp] theorem pcProc_acqAdd (s : Nat) (a : Nat) : pcProc s (.acqAdd a) = 0 := rfl
@[barsimp] theorem pcProc_relDec (s : Nat) (a : Nat) (k : Cont) : pcProc s (.relDec a k) = 0 := rfl
@[barsimp] theorem pcProc_relClosed (s : Nat) (a : Nat) (k : Cont) : pcProc s (.relClosed a k) = 0 := rfl
@[barsimp] theorem pcProc_relInsert (s : Nat) (a : Nat) (k : Cont) : pcProc s (.relInsert a k) = 0 := rfl
@[barsimp] theorem pcProc_relTryLock (s : Nat) (k : Cont) : pcProc s (.relTryLock k) = 0 := rfl
@[barsimp] theorem pcProc_clRead (s : Nat) (b : Bool) (k : Cont) : pcProc s (.clRead b k) = 0 := rfl
@[barsimp] theorem pcProc_clProc (s : Nat) (a : Nat) (k : Cont) : pcProc s (.clProc a k) = if a = s then 1 else 0 := rfl
@[barsimp] theorem pcProc_relUnlock (s : Nat) (k : Cont) : pcProc s (.relUnlock k) = 0 := rfl
@[barsimp] theorem pcProc_relRecheck (s : Nat) (k : Cont) : pcProc s (.relRecheck k) = 0 := rfl
@[barsimp] theorem pcProc_flLock (s : Nat) (o : Nat) : pcProc s (.flLock o) = 0 := rfl
@[barsimp] theorem pcProc_flSwap (s : Nat) (o : Nat) : pcProc s (.flSwap o) = 0 := rfl
@[barsimp] theorem pcProc_flTag (s : Nat) (a : Nat) (o : Nat) : pcProc s (.flTag a o) = 0 := rfl
@[barsimp] theorem pcProc_flAdd (s : Nat) (a : Nat) : pcProc s (.flAdd a) = 0 := rfl
@[barsimp] theorem pcProc_flUnlock (s : Nat) : pcProc s .flUnlock = 0 := rfl
@[barsimp] theorem pcRef_idle (s : Nat) : pcRef s .idle = 0 := rfl
@[barsimp] theorem pcRef_acqLoad (s : Nat) : pcRef s .acqLoad = 0 := rfl
@[barsimp] theorem pcRef_acqAdd (s : Nat) (a : Nat) : pcRef s (.acqAdd a) = if a = s then 1 else 0 := rfl
@[barsimp] theorem pcRef_relDec (s : Nat) (a : Nat) (k : Cont) : pcRef s (.relDec a k) = if a = s then 1 else 0 := rfl
@[barsimp] theorem pcRef_relClosed (s : Nat) (a : Nat) (k : Cont) : pcRef s (.relClosed a k) = if a = s then 1 else 0 := rfl
@[barsimp] theorem pcRef_relInsert (s : Nat) (a : Nat) (k : Cont) : pcRef s (.relInsert a k) = if a = s then 1 else 0 := rfl
@[barsimp] theorem pcRef_relTryLock (s : Nat) (k : Cont) : pcRef s (.relTryLock k) = 0 := rfl
@[barsimp] theorem pcRef_clRead (s : Nat) (b : Bool) (k : Cont) : pcRef s (.clRead b k) = 0 := rfl
@[barsimp] theorem pcRef_clProc (s : Nat) (a : Nat) (k : Cont) : pcRef s (.clProc a k) = if a = s then 1 else 0 := rfl
@[barsimp] theorem pcRef_relUnlock (s : Nat) (k : Cont) : pcRef s (.relUnlock k) = 0 := rfl
@[barsimp] theorem pcRef_relRecheck (s : Nat) (k : Cont) : pcRef s (.relRecheck k) = 0 := rfl
@[barsimp] theorem pcRef_flLock (s : Nat) (o : Nat) : pcRef s (.flLock o) = 0 := rfl
@[barsimp] theorem pcRef_flSwap (s : Nat) (o : Nat) : pcRef s (.flSwap o) = 0 := rfl
@[barsimp] theorem pcRef_flTag (s : Nat) (a : Nat) (o : Nat) : pcRef s (.flTag a o) = if a = s then 1 else 0 := rfl
@[barsimp] theorem pcRef_flAdd (s : Nat) (a : Nat) : pcRef s (.flAdd a) = if a = s then 1 else 0 := rfl
@[barsimp] theorem pcRef_flUnlock (s : Nat) : pcRef s .flUnlock = 0 := rfl
@[barsimp] theorem pcTag_idle : pcTag .idle = 0 := rfl
@[barsimp] theorem pcTag_acqLoad : pcTag .acqLoad = 0 := rfl
@[barsimp] theorem pcTag_acqAdd (a : Nat) : pcTag (.acqAdd a) = 0 := rfl
@[barsimp] theorem pcTag_relDec (a : Nat) (k : Cont) : pcTag (.relDec a k) = 0 := rfl
@[barsimp] theorem pcTag_relClosed (a : Nat) (k : Cont) : pcTag (.relClosed a k) = 0 := rfl
@[barsimp] theorem pcTag_relInsert (a : Nat) (k : Cont) : pcTag (.relInsert a k) = 0 := rfl
@[barsimp] theorem pcTag_relTryLock (k : Cont) : pcTag (.relTryLock k) = 0 := rfl
@[barsimp] theorem pcTag_clRead (b : Bool) (k : Cont) : pcTag (.clRead b k) = 0 := rfl
@[barsimp] theorem pcTag_clProc (a : Nat) (k : Cont) : pcTag (.clProc a k) = 0 := rfl
@[barsimp] theorem pcTag_relUnlock (k : Cont) : pcTag (.relUnlock k) = 0 := rfl
@[barsimp] theorem pcTag_relRecheck (k : Cont) : pcTag (.relRecheck k) = 0 := rfl
@[barsimp] theorem pcTag_flLock (o : Nat) : pcTag (.flLock o) = 0 := rfl
@[barsimp] theorem pcTag_flSwap (o : Nat) : pcTag (.flSwap o) = 0 := rfl
@[barsimp] theorem pcTag_flTag (a : Nat) (o : Nat) : pcTag (.flTag a o) = 1 := rfl
@[barsimp] theorem pcTag_flAdd (a : Nat) : pcTag (.flAdd a) = 0 := rfl
@[barsimp] theorem pcTag_flUnlock : pcTag .flUnlock = 0 := rfl
@[barsimp] theorem pcMutex_idle : pcMutex .idle = 0 := rfl
@[barsimp] theorem pcMutex_acqLoad : pcMutex .acqLoad = 0 := rfl
@[barsimp] theorem pcMutex_acqAdd (a : Nat) : pcMutex (.acqAdd a) = 0 := rfl
@[barsimp] theorem pcMutex_relDec (a : Nat) (k : Cont) : pcMutex (.relDec a k) = contMutex k := rfl
@[barsimp] theorem pcMutex_relClosed (a : Nat) (k : Cont) : pcMutex (.relClosed a k) = contMutex k := rfl
@[barsimp] theorem pcMutex_relInsert (a : Nat) (k : Cont) : pcMutex (.relInsert a k) = contMutex k := rfl
@[barsimp] theorem pcMutex_relTryLock (k : Cont) : pcMutex (.relTryLock k) = contMutex k := rfl
@[barsimp] theorem pcMutex_clRead (b : Bool) (k : Cont) : pcMutex (.clRead b k) = contMutex k := rfl
@[barsimp] theorem pcMutex_clProc (a : Nat) (k : Cont) : pcMutex (.clProc a k) = contMutex k := rfl
@[barsimp] theorem pcMutex_relUnlock (k : Cont) : pcMutex (.relUnlock k) = contMutex k := rfl
@[barsimp] theorem pcMutex_relRecheck (k : Cont) : pcMutex (.relRecheck k) = contMutex k := rfl
@[barsimp] theorem pcMutex_flLock (o : Nat) : pcMutex (.flLock o) = 0 := rfl
@[barsimp] theorem pcMutex_flSwap (o : Nat) : pcMutex (.flSwap o) = 1 := rfl
@[barsimp] theorem pcMutex_flTag (a : Nat) (o : Nat) : pcMutex (.flTag a o) = 1 := rfl
@[barsimp] theorem pcMutex_flAdd (a : Nat) : pcMutex (.flAdd a) = 1 := rfl
@[barsimp] theorem pcMutex_flUnlock : pcMutex .flUnlock = 1 := rfl
@[barsimp] theorem pcPast_idle : pcPast .idle = 0 := rfl
@[barsimp] theorem pcPast_acqLoad : pcPast .acqLoad = 0 := rfl
@[barsimp] theorem pcPast_acqAdd (a : Nat) : pcPast (.acqAdd a) = 0 := rfl
@[barsimp] theorem pcPast_relDec (a : Nat) (k : Cont) : pcPast (.relDec a k) = contMutex k := rfl
@[barsimp] theorem pcPast_relClosed (a : Nat) (k : Cont) : pcPast (.relClosed a k) = contMutex k := rfl
@[barsimp] theorem pcPast_relInsert (a : Nat) (k : Cont) : pcPast (.relInsert a k) = contMutex k := rfl
@[barsimp] theorem pcPast_relTryLock (k : Cont) : pcPast (.relTryLock k) = contMutex k := rfl
@[barsimp] theorem pcPast_clRead (b : Bool) (k : Cont) : pcPast (.clRead b k) = contMutex k := rfl
@[barsimp] theorem pcPast_clProc (a : Nat) (k : Cont) : pcPast (.clProc a k) = contMutex k := rfl
@[barsimp] theorem pcPast_relUnlock (k : Cont) : pcPast (.relUnlock k) = contMutex k := rfl
@[barsimp] theorem pcPast_relRecheck (k : Cont) : pcPast (.relRecheck k) = contMutex k := rfl
@[barsimp] theorem pcPast_flLock (o : Nat) : pcPast (.flLock o) = 0 := rfl
@[barsimp] theorem pcPast_flSwap (o : Nat) : pcPast (.flSwap o) = 0 := rfl
@[barsimp] theorem pcPast_flTag (a : Nat) (o : Nat) : pcPast (.flTag a o) = 0 := rfl
@[barsimp] theorem pcPast_flAdd (a : Nat) : pcPast (.flAdd a) = 1 := rfl
@[barsimp] theorem pcPast_flUnlock : pcPast .flUnlock = 1 := rfl
@[barsimp] theorem pcLock_idle : pcLock .idle = 0 := rfl
@[barsimp] theorem pcLock_acqLoad : pcLock .acqLoad = 0 := rfl
@[barsimp] theorem pcLock_acqAdd (a : Nat) : pcLock (.acqAdd a) = 0 := rfl
@[barsimp] theorem pcLock_relDec (a : Nat) (k : Cont) : pcLock (.relDec a k) = 0 := rfl
@[barsimp] theorem pcLock_relClosed (a : Nat) (k : Cont) : pcLock (.relClosed a k) = 0 := rfl
@[barsimp] theorem pcLock_relInsert (a : Nat) (k : Cont) : pcLock (.relInsert a k) = 0 := rfl
@[barsimp] theorem pcLock_relTryLock (k : Cont) : pcLock (.relTryLock k) = 0 := rfl
@[barsimp] theorem pcLock_clRead (b : Bool) (k : Cont) : pcLock (.clRead b k) = 0 := rfl
@[barsimp] theorem pcLock_clProc (a : Nat) (k : Cont) : pcLock (.clProc a k) = 0 := rfl
@[barsimp] theorem pcLock_relUnlock (k : Cont) : pcLock (.relUnlock k) = 0 := rfl
@[barsimp] theorem pcLock_relRecheck (k : Cont) : pcLock (.relRecheck k) = 0 := rfl
@[barsimp] theorem pcLock_flLock (o : Nat) : pcLock (.flLock o) = 1 := rfl
@[barsimp] theorem pcLock_flSwap (o : Nat) : pcLock (.flSwap o) = 0 := rfl
@[barsimp] theorem pcLock_flTag (a : Nat) (o : Nat) : pcLock (.flTag a o) = 0 := rfl
@[barsimp] theorem pcLock_flAdd (a : Nat) : pcLock (.flAdd a) = 0 := rfl
@[barsimp] theorem pcLock_flUnlock : pcLock .flUnlock = 0 := rfl
@[barsimp] theorem pcFlag_idle : pcFlag .idle = 0 := rfl
@[barsimp] theorem pcFlag_acqLoad : pcFlag .acqLoad = 0 := rfl
@[barsimp] theorem pcFlag_acqAdd (a : Nat) : pcFlag (.acqAdd a) = 0 := rfl
@[barsimp] theorem pcFlag_relDec (a : Nat) (k : Cont) : pcFlag (.relDec a k) = 0 := rfl
@[barsimp] theorem pcFlag_relClosed (a : Nat) (k : Cont) : pcFlag (.relClosed a k) = 0 := rfl
@[barsimp] theorem pcFlag_relInsert (a : Nat) (k : Cont) : pcFlag (.relInsert a k) = 0 := rfl
@[barsimp] theorem pcFlag_relTryLock (k : Cont) : pcFlag (.relTryLock k) = 0 := rfl
@[barsimp] theorem pcFlag_clRead (b : Bool) (k : Cont) : pcFlag (.clRead b k) = 1 := rfl
@[barsimp] theorem pcFlag_clProc (a : Nat) (k : Cont) : pcFlag (.clProc a k) = 1 := rfl
@[barsimp] theorem pcFlag_relUnlock (k : Cont) : pcFlag (.relUnlock k) = 1 := rfl
@[barsimp] theorem pcFlag_relRecheck (k : Cont) : pcFlag (.relRecheck k) = 0 := rfl
@[barsimp] theorem pcFlag_flLock (o : Nat) : pcFlag (.flLock o) = 0 := rfl
@[barsimp] theorem pcFlag_flSwap (o : Nat) : pcFlag (.flSwap o) = 0 := rfl
@[barsimp] theorem pcFlag_flTag (a : Nat) (o : Nat) : pcFlag (.flTag a o) = 0 := rfl
@[barsimp] theorem pcFlag_flAdd (a : Nat) : pcFlag (.flAdd a) = 0 := rfl
@[barsimp] theorem pcFlag_flUnlock : pcFlag .flUnlock = 0 := rfl

theorem contReal_le (k : Cont) : contReal k ≤ 1 := by cases k <;> simp [contReal]
theorem contMutex_le (k : Cont) : contMutex k ≤ 1 := by cases k <;> simp [contMutex]
@[barsimp] theorem contReal_retAcq : contReal .retAcq = 0 := rfl
@[barsimp] theorem contReal_retRel : contReal .retRel = 1 := rfl
@[barsimp] theorem contReal_retFlush : contReal .retFlush = 1 := rfl
@[barsimp] theorem contMutex_retAcq : contMutex .retAcq = 0 := rfl
@[barsimp] theorem contMutex_retRel : contMutex .retRel = 0 := rfl
@[barsimp] theorem contMutex_retFlush : contMutex .retFlush = 1 := rfl

/-! the point a `Release` continues at weighs nothing, except that it is inside the mutex region iff the `Release` was
    inlined in `FlushSession` -/
@[barsimp] theorem pcUnit_after (s : Nat) (k : Cont) : pcUnit s (afterCont k) = 0 := by cases k <;> rfl
@[barsimp] theorem pcReal_after (s : Nat) (k : Cont) : pcReal s (afterCont k) = 0 := by cases k <;> rfl
@[barsimp] theorem pcClosed_after (s : Nat) (k : Cont) : pcClosed s (afterCont k) = 0 := by cases k <;> rfl
@[barsimp] theorem pcInsert_after (s : Nat) (k : Cont) : pcInsert s (afterCont k) = 0 := by cases k <;> rfl
@[barsimp] theorem pcPend_after (s : Nat) (k : Cont) : pcPend s (afterCont k) = 0 := by cases k <;> rfl
@[barsimp] theorem pcProc_after (s : Nat) (k : Cont) : pcProc s (afterCont k) = 0 := by cases k <;> rfl
@[barsimp] theorem pcRef_after (s : Nat) (k : Cont) : pcRef s (afterCont k) = 0 := by cases k <;> rfl
@[barsimp] theorem pcTag_after (k : Cont) : pcTag (afterCont k) = 0 := by cases k <;> rfl
@[barsimp] theorem pcLock_after (k : Cont) : pcLock (afterCont k) = 0 := by cases k <;> rfl
@[barsimp] theorem pcFlag_after (k : Cont) : pcFlag (afterCont k) = 0 := by cases k <;> rfl
@[barsimp] theorem pcMutex_after (k : Cont) : pcMutex (afterCont k) = contMutex k := by cases k <;> rfl
@[barsimp] theorem pcPast_after (k : Cont) : pcPast (afterCont k) = contMutex k := by cases k <;> rfl

end NitroVerif.Barrier
