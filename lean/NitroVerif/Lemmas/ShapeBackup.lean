import NitroVerif.Gen.Shapes
/-!
  Control shapes, area Backup: the functions of /repo the models of this area mirror have exactly these shapes
  (tools/gofacts/shapes.go).  `Gen/Shapes.lean` is regenerated from the working tree on every run; a change
  of an operator, bound, call, early return or loop in one of these functions breaks the lemma named after it.
  The expected lists are written by hand (`go run . -shape-lemmas Backup` prints them).
-/
namespace NitroVerif.ShapeTie.Backup
open NitroVerif.Gen.Shape

/-- nitro.go `*Nitro.StoreToDisk` -/
theorem shape_StoreToDisk_ok : Backup_StoreToDisk =
    ["defer", "if(!)", "Close", "Lock", "if()", "Unlock", "return(_)", "if()", "Add", "defer", "Done", "Unlock", "Join", "MkdirAll", "NumCPU", "defer", "range", "if(!= nil)", "if(!= nil && == nil)", "Close", "for(<)", "++", "newFileWriter", "Join", "if(!= nil)", "Open", "return(_)", "if()", "numWriters", "numWriters", "numWriters", "defer", "range", "if(!= nil)", "if(!= nil && == nil)", "Close", "Join", "MkdirAll", "for(<)", "numWriters", "++", "newFileWriter", "Join", "if(!= nil)", "Open", "return(_)", "if(!= nil)", "changeDeltaWrState", "return(_)", "Close", "defer", "if(== nil)", "changeDeltaWrState", "Marshal", "WriteFile", "Join", "if(== nil)", "range", "Checksum", "Marshal", "WriteFile", "Join", "if()", "return(_)", "if(!= nil)", "WriteItem", "return(_)", "if(!= nil)", "itmCallback", "return(nil)", "Marshal", "if(== nil)", "WriteFile", "Join", "if(== nil)", "Visitor", "Marshal", "WriteFile", "Join", "if(== nil)", "range", "Checksum", "Marshal", "WriteFile", "Join", "return(_)"] := rfl

/-- nitro.go `*Nitro.LoadFromDisk` -/
theorem shape_LoadFromDisk_ok : Backup_LoadFromDisk =
    ["if-else(== nil)", "ReadFile", "Join", "if(!= nil)", "Unmarshal", "return(nil,_)", "if(!)", "IsNotExist", "return(nil,_)", "Join", "if(!= nil)", "ReadFile", "Join", "return(nil,_)", "if(!= nil)", "Unmarshal", "return(nil,_)", "if-else(== nil)", "ReadFile", "Join", "if(!= nil)", "Unmarshal", "return(nil,_)", "if(!=)", "return(nil,_)", "NewBuilderWithConfig", "newStoreConfig", "SetItemSizeFunc", "if(!= nil)", "callb", "Item", "defer", "range", "if(!= nil)", "Close", "range", "NewSegment", "SetNodeCallback", "newFileReader", "Join", "if(!= nil)", "Open", "return(nil,_)", "for(<)", "++", "Add", "go", "defer", "Done", "range", "label loop", "for()", "ReadItem", "if(!= nil)", "break loop", "if(== nil)", "break loop", "Add", "range", "send", "close", "Wait", "range", "if(&& !=)", "Checksum", "return(nil,_)", "range", "if(!= nil)", "return(nil,_)", "if()", "FreeNode", "HeadNode", "FreeNode", "TailNode", "Assemble", "if()", "Join", "if(== nil)", "ReadFile", "Join", "if(!= nil)", "Unmarshal", "return(nil,_)", "if(== nil)", "ReadFile", "Join", "if(!= nil)", "Unmarshal", "return(nil,_)", "if(!=)", "return(nil,_)", "defer", "range", "if(!= nil)", "Close", "range", "newFileReader", "Join", "if(!= nil)", "Open", "return(nil,_)", "for(<)", "++", "newWriter", "Add", "go", "defer", "Done", "range", "label loop", "for()", "ReadItem", "if(!= nil)", "break loop", "if(== nil)", "break loop", "if-else()", "Insert2", "++", "if(!= nil)", "nodeCallb", "freeItem", "++", "Merge", "AddUint64", "AddUint64", "range", "send", "close", "Wait", "range", "if(&& !=)", "Checksum", "return(nil,_)", "range", "if(!= nil)", "return(nil,_)", "GetStats", "return(_)", "NewSnapshot"] := rfl

/-- nitro.go `*Writer.doCheckpoint` -/
theorem shape_doCheckpoint_ok : Backup_doCheckpoint =
    ["switch", "case()", "send", "case()", "send"] := rfl

/-- nitro.go `*Writer.doDeltaWrite` -/
theorem shape_doDeltaWrite_ok : Backup_doDeltaWrite =
    ["if(==)", "if(<= && >)", "if(!= nil)", "WriteItem"] := rfl

/-- nitro.go `*deltaWrContext.Init` -/
theorem shape_deltaWrInit_ok : Backup_deltaWrInit =
    [] := rfl

/-- nitro.go `*Nitro.changeDeltaWrState` -/
theorem shape_changeDeltaWrState_ok : Backup_changeDeltaWrState =
    ["for(!= nil)", "if(==)", "select", "comm", "send", "break", "comm", "return(_)", "select", "comm", "if(!= nil)", "break", "comm", "return(_)", "return(_)"] := rfl

/-- nitro.go `*Nitro.numWriters` -/
theorem shape_numWriters_ok : Backup_numWriters =
    ["for(!= nil)", "++", "return(_)"] := rfl

/-- nitro.go `*Snapshot.Encode` -/
theorem shape_SnapshotEncode_ok : Backup_SnapshotEncode =
    ["if(<)", "return(_)", "PutUint32", "if(!= nil)", "Write", "return(_)", "return(nil)"] := rfl

/-- nitro.go `*Snapshot.Decode` -/
theorem shape_SnapshotDecode_ok : Backup_SnapshotDecode =
    ["if(!= nil)", "ReadFull", "return(_)", "Uint32", "return(nil)"] := rfl

end NitroVerif.ShapeTie.Backup
