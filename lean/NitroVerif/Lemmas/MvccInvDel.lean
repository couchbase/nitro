/-
  `DeleteNode`, `Delete2` and deletion through a handle preserve the invariant.  A version born in the current
  epoch is unlinked at once: no snapshot sees it, no garbage list names it.  An older one is marked dead now and
  handed to the writer's garbage list; every snapshot that saw it still does.
-/
import NitroVerif.Lemmas.MvccInv

namespace NitroVerif.Mvcc
open SetSpec

theorem count_del {store store' : List Ver} {writers : List Writer} {items : Int} {w : Nat}
    (hw : w < writers.length) (f : Writer → Writer) (hf : ∀ y, (f y).count = y.count + -1)
    (hlen : ((store'.filter isAlive).length + 1 : Nat) = (store.filter isAlive).length)
    (h : CountInv store writers items) : CountInv store' (updWriter w f writers) items := by
  unfold CountInv at h ⊢
  rw [sum_updWriter w f (-1) hf _ hw, ← Int.add_assoc, h, ← hlen, Int.natCast_add]
  exact Int.add_neg_cancel_right ..

theorem inv_delete_same {σ : State} (h : Inv σ) {w : Nat} (hw : w < σ.writers.length) {x : Ver}
    (hx : x ∈ σ.store) (hb : x.born = σ.currSn) :
    Inv { σ with store := removeId σ.store x, handles := markGone x σ.handles,
                 writers := updWriter w (fun y => { y with count := y.count - 1 }) σ.writers } := by
  have hd : x.dead = 0 := alive_of_born_cur h.chains hx hb
  have hsub : ∀ v ∈ removeId σ.store x, v ∈ σ.store := fun v hv => (mem_removeId.mp hv).1
  have hg := h.garb
  have hsame : ∀ g, InGc (updWriter w (fun y => { y with count := y.count - 1 }) σ.writers) g ↔
      InGc σ.writers g := inGc_updWriter_same (fun _ => rfl)
  -- a version born before the current epoch is not the one removed
  have hkeep : ∀ v ∈ σ.store, v.born < σ.currSn → v ∈ removeId σ.store x := fun v hv hlt =>
    mem_removeId.mpr ⟨hv, Bool.eq_false_iff.mpr fun hs =>
      Nat.ne_of_lt hlt (((sameId_iff v x).mp hs).2.trans hb)⟩
  have hkeepg : ∀ (g v : Ver), g.born < σ.currSn → v ∈ σ.store → sameId v g = true → v ∈ removeId σ.store x :=
    fun g v hgb hv hsid => hkeep v hv (((sameId_iff v g).mp hsid).2 ▸ hgb)
  refine Inv.of_fields (List.Pairwise.filter _ h.sorted) (chains_filter h.chains _)
    (count_del hw _ (fun _ => rfl) (alive_removeId_length h.sorted hx hd) h.count) h.snaps ?_ ?_ h.iters ?_
  · intro s hs hrc
    unfold removeId
    rw [view_filter]
    · exact h.view s hs hrc
    · intro v _ hq
      have hid := (sameId_iff v x).mp (by rw [← Bool.not_eq_false']; exact hq)
      refine Bool.eq_false_iff.mpr fun hv => ?_
      have h1 := ((visible_iff s.sn v).mp hv).1
      rw [hid.2, hb] at h1
      exact Nat.lt_irrefl _ (Nat.lt_of_le_of_lt h1 (h.snaps.lt s hs).2)
  · refine ⟨?_, ?_, ?_, ?_, ?_, ?_, ?_⟩
    · intro v hv hdv
      obtain ⟨g, hg1, hg2⟩ := hg.wgc v (hsub v hv) hdv
      exact ⟨g, (hsame g).mpr hg1, hg2⟩
    · intro v hv; exact hg.sgc v (hsub v hv)
    · intro g hgin
      have ⟨h1, h2⟩ := hg.wsound g ((hsame g).mp hgin)
      exact ⟨h1, fun v hv => h2 v (hsub v hv)⟩
    · intro s hs hst g hgm
      have ⟨h1, h2⟩ := hg.ssound s hs hst g hgm
      exact ⟨h1, fun v hv => h2 v (hsub v hv)⟩
    · intro v hv; exact hg.exact v (hsub v hv)
    · intro g hgin
      have hold := (hsame g).mp hgin
      obtain ⟨v, hv, hsid⟩ := hg.wpres g hold
      exact ⟨v, hkeepg g v (hg.wsound g hold).1 hv hsid, hsid⟩
    · intro s hs hst g hgm
      obtain ⟨v, hv, hsid⟩ := hg.spres s hs hst g hgm
      exact ⟨v, hkeepg g v (Nat.lt_trans (hg.ssound s hs hst g hgm).1 (h.snaps.lt s hs).2) hv hsid, hsid⟩
  · intro p hp hgone
    unfold markGone amap at hp
    obtain ⟨q, hq, rfl⟩ := List.mem_map.mp hp
    dsimp only at hgone ⊢
    by_cases hid : q.2.key = x.key ∧ q.2.born = x.born
    · rw [if_pos hid] at hgone; cases hgone
    · rw [if_neg hid] at hgone ⊢
      rcases h.handles q hq hgone with h1 | ⟨v, hv, hk⟩
      · exact Or.inl h1
      · refine Or.inr ⟨v, mem_removeId.mpr ⟨hv, Bool.eq_false_iff.mpr fun hs => ?_⟩, hk⟩
        have := (sameId_iff v x).mp hs
        exact hid ⟨hk.1.symm.trans this.1, hk.2.symm.trans this.2⟩

theorem inv_delete_mark {σ : State} (h : Inv σ) {w : Nat} (hw : w < σ.writers.length) {x : Ver}
    (hx : x ∈ σ.store) (hb : x.born ≠ σ.currSn) (hd : x.dead = 0) :
    Inv { σ with store := markDead σ.store x σ.currSn,
                 writers := updWriter w (fun y => { count := y.count - 1, gc := y.gc ++ [{ x with dead := σ.currSn }] }) σ.writers } := by
  have hb' : x.born < σ.currSn := Nat.lt_of_le_of_ne (h.chains.1 x hx).1 hb
  have hcur : σ.currSn ≠ 0 := Nat.ne_of_gt (Nat.lt_of_le_of_lt (Nat.zero_le _) hb')
  have hmem := @mem_markDead_iff σ.store h.sorted x hx σ.currSn
  have hxx : sameId { x with dead := σ.currSn } { x with dead := σ.currSn } = true := (sameId_iff _ _).mpr ⟨rfl, rfl⟩
  have hgc : ∀ g, InGc (updWriter w (fun y => { count := y.count - 1, gc := y.gc ++ [{ x with dead := σ.currSn }] }) σ.writers) g ↔
      InGc σ.writers g ∨ g = { x with dead := σ.currSn } := inGc_updWriter_app hw (fun _ => rfl)
  have hg := h.garb
  -- marking keeps every node, under the same identity
  have himg : ∀ (g v : Ver), v ∈ σ.store → sameId v g = true →
      ∃ v' ∈ markDead σ.store x σ.currSn, sameId v' g = true := by
    intro g v hv hsid
    by_cases hvx : v = x
    · exact ⟨_, hmem.mpr (Or.inr rfl), hvx ▸ hsid⟩
    · exact ⟨v, hmem.mpr (Or.inl ⟨hv, hvx⟩), hsid⟩
  refine Inv.of_fields (sorted_markDead h.sorted _ _) (chains_markDead h.sorted h.chains hx hd hb') ?_ h.snaps
    ?_ ?_ h.iters ?_
  · refine count_del hw _ (fun _ => rfl) ?_ h.count
    rw [filter_alive_markDead _ _ hcur]; exact alive_removeId_length h.sorted hx hd
  · intro s hs hrc
    rw [view_markDead h.sorted hx hd _ _ (h.snaps.lt s hs).2]
    exact h.view s hs hrc
  · refine ⟨?_, ?_, ?_, ?_, ?_, ?_, ?_⟩
    · intro v hv hdv
      rcases hmem.mp hv with ⟨hv, _⟩ | rfl
      · obtain ⟨g, hg1, hg2⟩ := hg.wgc v hv hdv
        exact ⟨g, (hgc g).mpr (Or.inl hg1), hg2⟩
      · exact ⟨_, (hgc _).mpr (Or.inr rfl), hxx⟩
    · intro v hv hdv hlt
      rcases hmem.mp hv with ⟨hv, _⟩ | rfl
      · exact hg.sgc v hv hdv hlt
      · exact absurd hlt (Nat.lt_irrefl _)
    · intro g hgin
      rcases (hgc g).mp hgin with hold | rfl
      · refine ⟨(hg.wsound g hold).1, fun v hv hsid => ?_⟩
        rcases hmem.mp hv with ⟨hv, _⟩ | rfl
        · exact (hg.wsound g hold).2 v hv hsid
        · rfl
      · refine ⟨hb', fun v hv hsid => ?_⟩
        rcases hmem.mp hv with ⟨hv, hne⟩ | rfl
        · exact absurd (eq_of_sameId h.sorted hv hx hsid) hne
        · rfl
    · intro s hs hst g hgm
      have ⟨h1, h2⟩ := hg.ssound s hs hst g hgm
      refine ⟨h1, fun v hv hsid => ?_⟩
      rcases hmem.mp hv with ⟨hv, _⟩ | rfl
      · exact h2 v hv hsid
      · -- `x` was alive, so no garbage list of a snapshot names it
        exact absurd ((h2 x hx hsid).symm.trans hd) (Nat.ne_of_gt (h.snaps.lt s hs).1)
    · intro v hv hdv
      rcases hmem.mp hv with ⟨hv, _⟩ | rfl
      · exact hg.exact v hv hdv
      · exact h.snaps.gclt
    · intro g hgin
      rcases (hgc g).mp hgin with hold | rfl
      · obtain ⟨v, hv, hsid⟩ := hg.wpres g hold
        exact himg g v hv hsid
      · exact ⟨_, hmem.mpr (Or.inr rfl), hxx⟩
    · intro s hs hst g hgm
      obtain ⟨v, hv, hsid⟩ := hg.spres s hs hst g hgm
      exact himg g v hv hsid
  · intro p hp hgone
    rcases h.handles p hp hgone with h1 | ⟨v, hv, hk⟩
    · exact Or.inl h1
    · obtain ⟨v', hv', hs'⟩ := himg ⟨p.2.key, 0, p.2.born, 0⟩ v hv ((sameId_iff _ _).mpr hk)
      exact Or.inr ⟨v', hv', (sameId_iff _ _).mp hs'⟩

theorem inv_deleteNode {σ : State} (h : Inv σ) {w : Nat} (hw : w < σ.writers.length) {x : Ver}
    (hx : x ∈ σ.store) : Inv (deleteNode σ w x).1 := by
  unfold deleteNode
  split
  · rename_i hse; exact inv_delete_same h hw hx ((Gen.sameEpoch_iff _ _).mp hse)
  · rename_i hse
    split
    · rename_i hd
      exact inv_delete_mark h hw hx (fun hb => hse ((Gen.sameEpoch_iff _ _).mpr hb)) hd
    · exact h

theorem inv_del {σ : State} (h : Inv σ) {w : Nat} (hw : w < σ.writers.length) (k : Nat) :
    Inv (del σ w k).1 := by
  unfold del
  split
  · rename_i x hx
    rw [getNode_eq h] at hx
    exact inv_deleteNode h hw (aliveOf_some hx).1
  · exact h

theorem inv_delHandle {σ : State} (h : Inv σ) {w : Nat} (hw : w < σ.writers.length) (hd : Handle) :
    Inv (delHandle σ w hd).1 := by
  unfold delHandle
  split
  · exact h
  · split
    · rename_i x hx
      exact inv_deleteNode h hw (List.mem_of_find?_eq_some hx)
    · exact h

end NitroVerif.Mvcc
