import NitroVerif.Gen.Shapes
/-!
  Control shapes, area Codec: the functions of /repo the models of this area mirror have exactly these shapes
  (tools/gofacts/shapes.go).  `Gen/Shapes.lean` is regenerated from the working tree on every run; a change
  of an operator, bound, call, early return or loop in one of these functions breaks the lemma named after it.
  The expected lists are written by hand (`go run . -shape-lemmas Codec` prints them).
-/
namespace NitroVerif.ShapeTie.Codec
open NitroVerif.Gen.Shape

/-- item.go `*Nitro.EncodeItem` -/
theorem shape_EncodeItem_ok : Codec_EncodeItem =
    ["if(<)", "return(_,_)", "PutUint32", "if(!= nil)", "Write", "return()", "ChecksumIEEE", "Bytes", "if(!= nil)", "Write", "return()", "ChecksumIEEE", "return()"] := rfl

/-- item.go `*Nitro.DecodeItem` -/
theorem shape_DecodeItem_ok : Codec_DecodeItem =
    ["if-else(== 0)", "if(!= nil)", "ReadFull", "return(nil,_,_)", "Uint16", "ChecksumIEEE", "if(!= nil)", "ReadFull", "return(nil,_,_)", "Uint32", "ChecksumIEEE", "if(> 0)", "allocItem", "Bytes", "ReadFull", "if(== nil)", "ChecksumIEEE", "return(_,_,_)", "return(nil,_,nil)"] := rfl

/-- item.go `*Item.Bytes` -/
theorem shape_ItemBytes_ok : Codec_ItemBytes =
    ["return()"] := rfl

/-- item.go `.ItemSize` -/
theorem shape_ItemSize_ok : Codec_ItemSize =
    ["return(_)"] := rfl

/-- item.go `.KVToBytes` -/
theorem shape_KVToBytes_ok : Codec_KVToBytes =
    ["PutUint16", "return(_)"] := rfl

/-- item.go `.KVFromBytes` -/
theorem shape_KVFromBytes_ok : Codec_KVFromBytes =
    ["Uint16", "return(_,_)"] := rfl

/-- item.go `.CompareKV` -/
theorem shape_CompareKV_ok : Codec_CompareKV =
    ["Uint16", "Uint16", "return(_)", "Compare"] := rfl

/-- file.go `*rawFileWriter.Open` -/
theorem shape_WriterOpen_ok : Codec_WriterOpen =
    ["OpenFile", "if(== nil)", "NewWriterSize", "return(_)"] := rfl

/-- file.go `*rawFileWriter.WriteItem` -/
theorem shape_WriteItem_ok : Codec_WriteItem =
    ["EncodeItem", "return(_)"] := rfl

/-- file.go `*rawFileWriter.Checksum` -/
theorem shape_WriterChecksum_ok : Codec_WriterChecksum =
    ["return(_)"] := rfl

/-- file.go `*rawFileWriter.Close` -/
theorem shape_WriterClose_ok : Codec_WriterClose =
    ["if(!= nil)", "WriteItem", "return(_)", "if(!= nil)", "Flush", "Close", "return(_)", "return(_)", "Close"] := rfl

/-- file.go `*rawFileReader.Open` -/
theorem shape_ReaderOpen_ok : Codec_ReaderOpen =
    ["Open", "if(== nil)", "NewReaderSize", "return(_)"] := rfl

/-- file.go `*rawFileReader.ReadItem` -/
theorem shape_ReadItem_ok : Codec_ReadItem =
    ["DecodeItem", "if(!= nil)", "return(_,_)"] := rfl

/-- file.go `*rawFileReader.Checksum` -/
theorem shape_ReaderChecksum_ok : Codec_ReaderChecksum =
    ["return(_)"] := rfl

/-- file.go `*rawFileReader.Close` -/
theorem shape_ReaderClose_ok : Codec_ReaderClose =
    ["return(_)", "Close"] := rfl

end NitroVerif.ShapeTie.Codec
