import NitroVerif.Lemmas.SkipConcLevels
/-!
  What survives a write of `LStep`, on every level (0 included).  A path of the old heap is a path of the new one and
  conversely, with three exceptions: the node an unlink takes out, the node just linked or published, an inserter's own
  unlinked node (`LStep.reach_fwd`, `LStep.reach_back`).  Hence a node stays on a chain while it is unmarked there,
  and a search keeps reaching a linked node until it is unlinked.
-/
namespace NitroVerif.SkipConc

/-- the inserter's own, not yet linked node: the one place a path can start from and be lost -/
def OwnCut (h : Heap) (j a : Nat) : Prop := ∃ old, 1 ≤ j ∧ a ≠ 0 ∧ word? h a j = some (old, false) ∧ Unlinked h a j

theorem OwnCut.ne_head {h : Heap} {j a : Nat} (c : OwnCut h j a) : a ≠ 0 := c.elim fun _ c => c.2.1

theorem LStep.reach_fwd {h h' : Heap} {ev : LEv} (H : HInv h) (s : LStep h ev h') {j a d : Nat}
    (r : ReachL h j a d) :
    ReachL h' j a d ∨
    (∃ prev next, word? h prev j = some (d, false) ∧ word? h d j = some (next, true) ∧ Lk h prev j ∧
      h' = setWord h prev j (next, false)) ∨ OwnCut h j a := by
  cases s with
  | none => exact .inl r
  | @unlink l1 prev curr next hp hc kprev =>
    by_cases e : j = l1
    · subst e
      by_cases hd : d = curr
      · subst hd; exact .inr (.inl ⟨prev, next, hp, hc, kprev, rfl⟩)
      · exact .inl (unlink_reachL hp hc r hd)
    · exact .inl ((reachL_setWord_level _ e).mpr r)
  | mark hw => exact .inl ((reachL_setWord_mark hw).mpr r)
  | @own l1 x old s1 hl1 hx0 hw hux _ =>
    by_cases e : j = l1
    · subst e
      rcases r.change (setWord_off hw (s1, false)) with r' | ⟨_, _, _, r1, _, _⟩
      · exact .inl r'
      · -- a path into an unlinked node starts at it
        obtain rfl := hux.reach_eq r1
        exact .inr (.inr ⟨old, hl1, hx0, hw, hux⟩)
    · exact .inl ((reachL_setWord_level _ e).mpr r)
  | @link l1 pred x next m _ hp hx _ k1 _ _ =>
    by_cases e : j = l1
    · subst e; exact .inl (link_reachL hp hx (fun e => Key.lt_irrefl _ (e ▸ k1)) r)
    · exact .inl ((reachL_setWord_level _ e).mpr r)
  | @publish p c nd hw hn0 _ _ =>
    rcases r.start_lt with e | ha
    · exact .inl (e ▸ .refl _)
    · cases j with
      | zero => exact .inl (publish_reach0 nd hw hn0 r)
      | succ j =>
        rw [setWord_append h nd (word?_lt hw)]
        refine .inl ((reachL_setWord_level _ (Nat.succ_ne_zero j)).mpr ?_)
        exact (reachL_grow (fun b hb => word?_append_lt h nd hb _) (fun b q m hb => H.lt_of_word hb) ha).mpr r

theorem LStep.reach_back {h h' : Heap} {ev : LEv} (H : HInv h) (s : LStep h ev h') {j a d : Nat} (ha : a < h.length)
    (r : ReachL h' j a d) : ReachL h j a d ∨ ev = .link d j ∨ d = h.length ∨ OwnCut h j a := by
  cases s with
  | none => exact .inl r
  | @unlink l1 prev curr next hp hc _ =>
    by_cases e : j = l1
    · subst e; exact .inl (unlink_reachL_back hp hc r)
    · exact .inl ((reachL_setWord_level _ e).mp r)
  | mark hw => exact .inl ((reachL_setWord_mark hw).mp r)
  | @own l1 x old s1 hl1 hx0 hw hux _ =>
    by_cases e : j = l1
    · subst e
      rcases r.change (fun b hb => (setWord_off hw (s1, false) b hb).symm) with r' | ⟨_, _, _, _, r1, _⟩
      · exact .inl r'
      · obtain rfl := hux.reach_eq r1
        exact .inr (.inr (.inr ⟨old, hl1, hx0, hw, hux⟩))
    · exact .inl ((reachL_setWord_level _ e).mp r)
  | @link l1 pred x next m _ hp hx _ _ _ _ =>
    by_cases e : j = l1
    · subst e
      rcases link_reachL_back hp hx r with r' | ⟨_, e2⟩
      · exact .inl r'
      · exact .inr (.inl (e2 ▸ rfl))
    · exact .inl ((reachL_setWord_level _ e).mp r)
  | @publish p c nd hw hn0 _ _ =>
    cases j with
    | zero => exact (publish_reach0_back H nd hw hn0 ha r).elim (fun e => .inr (.inr (.inl e))) .inl
    | succ j =>
      rw [setWord_append h nd (word?_lt hw)] at r
      have r1 := (reachL_setWord_level _ (Nat.succ_ne_zero j)).mp r
      exact .inl ((reachL_grow (fun b hb => word?_append_lt h nd hb _) (fun b q m hb => H.lt_of_word hb) ha).mp r1)

theorem OnChain.keep {h h' : Heap} {ev : LEv} (H : HInv h) (s : LStep h ev h') {l n : Nat}
    (r : OnChain h l n) (hu : unmarkedAt h' l n) : OnChain h' l n := by
  rcases s.reach_fwd H r with r' | ⟨prev, next, hp, hc, _, rfl⟩ | c
  · exact r'
  · -- the node taken out is marked at that level, before and after
    have hne : n ≠ prev := fun e => by rw [e, hp] at hc; cases hc
    obtain ⟨q, hq⟩ := hu
    rw [setWord_off hp _ _ hne, hc] at hq; cases hq
  · exact absurd rfl c.ne_head

theorem Lk.keep {h h' : Heap} {ev : LEv} (H : HInv h) (s : LStep h ev h') {c j : Nat}
    (hc : c < h.length) (k : Lk h c j) : Lk h' c j :=
  fun l h1 h2 hu => OnChain.keep H s (k l h1 h2 (unmarkedAt_back s.ext hc hu)) hu

/-- as long as `x` is unmarked at level `i`, no word of a level `≥ i` points to it -/
def UnlIf (h : Heap) (x i : Nat) : Prop := unmarkedAt h i x → Unlinked h x i

theorem UnlIf.keep {h h' : Heap} {ev : LEv} (s : LStep h ev h') {x i : Nat}
    (hx : x < h.length) (hx0 : x ≠ 0) (hi : 1 ≤ i) (hev : ∀ l, ev ≠ .link x l) (u : UnlIf h x i) :
    UnlIf h' x i := by
  intro hu'
  have hu := unmarkedAt_back s.ext hx hu'
  have U := u hu
  have hLk : ∀ l', i ≤ l' → Lk h x l' → False := fun l' hle k =>
    U.not_onChain hx0 (k i hi hle hu)
  refine U.of_words (fun b l' m hl' hwb => ?_)
  rcases s.word_back hwb with h0 | w
  · exact ⟨b, m, h0⟩
  · -- the word written: its successor was pointed to before, or cannot be `x`
    cases w with
    | unlink hc => exact ⟨_, true, hc⟩
    | mark hw => exact ⟨b, false, hw⟩
    | own hs | publishNew hs => exact (hLk l' hl' hs).elim
    | link => exact absurd rfl (hev l')
    | publishPred => exact absurd hx (Nat.lt_irrefl _)

/-- the successor stored in the upper-level word of a node that is being inserted is changed by its inserter only -/
theorem wordX_keep {h h' : Heap} {ev : LEv} (s : LStep h ev h') {x i next : Nat} {m : Bool}
    (hx0 : x ≠ 0) (hi : 1 ≤ i) (hev : ev ≠ .own x) (u : UnlIf h x i)
    (hw : word? h x i = some (next, m)) : ∃ m', word? h' x i = some (next, m') := by
  have hLk : unmarkedAt h i x → Lk h x i → False := fun hu k =>
    (u hu).not_onChain hx0 (k i hi (Nat.le_refl _) hu)
  cases s with
  | none => exact ⟨m, hw⟩
  | @unlink l1 prev curr next1 hp hc kprev =>
    rw [word?_setWord]
    by_cases hc1 : x = prev ∧ i = l1 ∧ (word? h prev l1).isSome
    · obtain ⟨rfl, rfl, _⟩ := hc1
      exact absurd (hLk ⟨curr, hp⟩ kprev) id
    · rw [if_neg hc1]; exact ⟨m, hw⟩
  | @mark l1 a e1 hwa =>
    rw [word?_setWord]
    by_cases hc1 : x = a ∧ i = l1 ∧ (word? h a l1).isSome
    · obtain ⟨rfl, rfl, _⟩ := hc1
      rw [if_pos ⟨rfl, rfl, by rw [hw]; rfl⟩]
      rw [hwa] at hw; simp at hw
      exact ⟨true, by rw [hw.1]⟩
    · rw [if_neg hc1]; exact ⟨m, hw⟩
  | @own l1 x1 old s1 hl1 hx0' hwx hux hs =>
    rw [word?_setWord]
    have hne : ¬ (x = x1 ∧ i = l1 ∧ (word? h x1 l1).isSome) := by
      intro c; exact hev (by rw [c.1])
    rw [if_neg hne]; exact ⟨m, hw⟩
  | @link l1 pred x1 next1 m1 hl1 hp hx1 kp k1 k2 kx =>
    rw [word?_setWord]
    by_cases hc1 : x = pred ∧ i = l1 ∧ (word? h pred l1).isSome
    · obtain ⟨rfl, rfl, _⟩ := hc1
      exact absurd (hLk ⟨next1, hp⟩ kp) id
    · rw [if_neg hc1]; exact ⟨m, hw⟩
  | @publish p c nd hwp hn0 hnd hnm =>
    rw [setWord_append h nd (word?_lt hwp), word?_setWord_level _ (by omega), word?_append_lt h nd (word?_lt hw)]
    exact ⟨m, hw⟩

theorem unlink_off_chain {h : Heap} (H : HInv h) (L : LvInv h) {l prev curr next : Nat}
    (hp : word? h prev l = some (curr, false)) (hc : word? h curr l = some (next, true)) (hpc : OnChain h l prev) :
    ¬ OnChain (setWord h prev l (next, false)) l curr := by
  intro hcc
  have H' := H.unlink hp hc
  have L' := L.unlink_any H hp hc
  have hne : curr ≠ prev := by
    intro e; rw [e, hp] at hc; simp at hc
  have hk : ∀ a, keyOf (setWord h prev l (next, false)) a = keyOf h a := fun a => keyOf_setWord ..
  have k1 : Key.lt (keyOf h prev) (keyOf h curr) := chain_edges_sorted H L _ _ _ _ hpc hp
  have k2 : Key.lt (keyOf h curr) (keyOf h next) := chain_edges_sorted H L _ _ _ _ (hpc.snoc hp) hc
  have hpc' := unlink_reachL hp hc hpc (fun e => hne e.symm)
  have hwp' := setWord_at hp (next, false)
  rcases ReachL.det hpc' hcc with r | r
  · cases r with
    | refl => exact hne rfl
    | step hw r' =>
      rw [hwp'] at hw; simp at hw
      obtain ⟨rfl, _⟩ := hw
      rcases chain_key H' L' (hpc'.snoc hwp') r' with e | l'
      · rw [e] at k2; exact Key.lt_irrefl _ k2
      · rw [hk, hk] at l'; exact Key.lt_asymm k2 l'
  · rcases chain_key H' L' hcc r with e | l'
    · exact hne e
    · rw [hk, hk] at l'; exact Key.lt_asymm k1 l'

theorem LStep.onChain_back {h h' : Heap} {ev : LEv} (H : HInv h) (s : LStep h ev h') {j d : Nat}
    (r : OnChain h' j d) : OnChain h j d ∨ ev = .link d j ∨ d = h.length := by
  rcases s.reach_back H (Nat.lt_of_lt_of_le Nat.zero_lt_two H.len) r with r' | e | e | c
  · exact .inl r'
  · exact .inr (.inl e)
  · exact .inr (.inr e)
  · exact absurd rfl c.ne_head

theorem LStep.markedAt_back {h h' : Heap} {ev : LEv} (s : LStep h ev h') {l n : Nat} (hm : markedAt h' l n) :
    markedAt h l n ∨ ev = .mark n l := by
  obtain ⟨q, hq⟩ := hm
  rcases s.word_back hq with h0 | w
  · exact .inl ⟨q, h0⟩
  · cases w with
    | mark _ => exact .inr rfl

theorem LStep.mark0_marked {h h' : Heap} {n : Nat} (s : LStep h (.mark n 0) h') : marked0 h' n := by
  cases s with
  | @mark _ _ e hw => exact ⟨e, setWord_at hw _⟩

/-- the hypothesis on `d` is needed against an unlink of `d` itself: `RespPC.keep` asks for the responsibility only
    while `d` is still linked -/
theorem ReachL.keep {h h' : Heap} {ev : LEv} (H : HInv h) (R : ReachInv h) (L : LvInv h)
    (s : LStep h ev h') {j a d : Nat} (ka : Lk h a j) (r : ReachL h j a d)
    (hd : OnChain h' j d) : ReachL h' j a d := by
  rcases s.reach_fwd H r with r' | ⟨prev, next, hp, hc, kprev, rfl⟩ | ⟨old, hj, h0, hw, hu⟩
  · exact r'
  · exact absurd hd (unlink_off_chain H L hp hc (kprev.onChain R L (Nat.le_refl _) ⟨d, hp⟩))
  · exact absurd (ka j hj (Nat.le_refl _) ⟨old, hw⟩) (hu.not_onChain h0)

end NitroVerif.SkipConc
