import NitroVerif.Lemmas.SkipConcLevelsThread
/-!
  The RESPONSIBLE thread of a deleted node `d` that is still linked at level `j` (`RespPC`): it is inside a findPath
  for the item of `d` that has not finished level `j` and from whose position `d` is reachable along level `j` (from
  `curr` only at `j = fp.i`: while the search is above level `j` only `prev` is known to lie before `d`), or it is about to start the cleaning search of
  `deleteNode`.  Stable under the other threads' writes while `d` stays on the chain (`RespPC.keep`); the thread's
  own segment keeps it or helps `d` out (`Seg.resp`): it cannot finish level `j` while `d` is linked there, because it
  would have to stop at an unmarked node with a key `≥` the item that lies before `d`.  `Seg.resp`'s `hm` is an
  implication because the level-0 mark shows at level `j` only once `d` is pointed to there.
-/
namespace NitroVerif.SkipConc

def RespPC (h : Heap) (d j : Nat) : PC → Prop
  | .findLevel fp => keyOf h d = .fin fp.item ∧ j ≤ fp.i ∧ ReachL h j fp.prev d
  | .findNext fp rr => keyOf h d = .fin fp.item ∧ j ≤ fp.i ∧ ReachL h j fp.prev d ∧
      (rr = false → j = fp.i → ReachL h j fp.curr d)
  | .helpDelete fp _ => keyOf h d = .fin fp.item ∧ j ≤ fp.i ∧ ReachL h j fp.prev d
  | .delSearch item => keyOf h d = .fin item
  | _ => False

theorem RespPC.keep {h h' : Heap} {ev : LEv} {lv : Nat} {th : Thread} {d j : Nat} (H : HInv h) (R : ReachInv h)
    (L : LvInv h) (s : LStep h ev h') (hL : TL h lv th)
    (r : RespPC h d j th.pc) (hd : OnChain h' j d) : RespPC h' d j th.pc := by
  have hp := hL.pcl
  have key : ∀ {item : Nat}, keyOf h d = .fin item → keyOf h' d = .fin item := fun hk =>
    (s.ext.key _ (lt_of_keyOf_fin hk)).trans hk
  generalize th.pc = pc at r hp
  cases pc with
  | findLevel fp => exact ⟨key r.1, r.2.1, r.2.2.keep H R L s (hp.2.1.mono r.2.1) hd⟩
  | findNext fp rr =>
    exact ⟨key r.1, r.2.1, r.2.2.1.keep H R L s (hp.2.1.mono r.2.1) hd, fun hr hj =>
      (r.2.2.2 hr hj).keep H R L s ((hp.2.2.1 hr).mono r.2.1) hd⟩
  | helpDelete fp _ => exact ⟨key r.1, r.2.1, r.2.2.keep H R L s (hp.2.1.mono r.2.1) hd⟩
  | delSearch item => exact key r
  | _ => exact r

theorem reachL_past {h : Heap} {j a d item : Nat} (r : ReachL h j a d) (hk : keyOf h d = .fin item)
    (hlt : Key.lt (keyOf h a) (.fin item)) : ReachL h j (getNext h a j).1 d :=
  reachL_succ r fun e => Key.lt_irrefl _ (hk ▸ e ▸ hlt)

theorem RespPC.read {h : Heap} {d j : Nat} {fp : FP} {rr : Bool} (rp : RespPC h d j (.findNext fp rr))
    (hf : Key.lt (keyOf h fp.prev) (.fin fp.item)) (hji : j = fp.i) : ReachL h j (readNode h fp rr) d := by
  obtain ⟨hk, _, rprev, rc⟩ := rp
  cases rr with
  | false => exact rc rfl hji
  | true => subst hji; exact reachL_past rprev hk hf

theorem Seg.resp {sh : Shared} {th : Thread} {pc : PC} {r : Res} {d j : Nat} (s : Seg sh th pc r) (H : HInv sh.heap)
    (R : ReachInv sh.heap) (L : LvInv sh.heap) (hp : PCInv sh.heap th pc)
    (bp : PCL sh.heap sh.level th.preds th.succs pc) (rp : RespPC sh.heap d j pc) (hd : OnChain r.1.heap j d)
    (hm : OnChain sh.heap j d → markedAt sh.heap j d) (hjl : j ≤ sh.level) : RespPC r.1.heap d j r.2.1.pc := by
  have stop : ∀ {fp : FP} {rr : Bool} {c : Nat}, pc = .findNext fp rr → c = readNode sh.heap fp rr →
      (getNext sh.heap c fp.i).2 = false →
      ¬ Gen.findAdvance (compare (keyOf sh.heap c) (.fin fp.item)) = true → OnChain sh.heap j d → j ≠ fp.i := by
    intro fp rr c e hc hdel hadv hd hji
    subst e
    have hk := rp.1
    have rcd := hc ▸ rp.read hp.1.key hji
    by_cases hc1 : c = 1
    · rw [hc1] at rcd
      rw [reachL_tail H rcd, H.tailKey] at hk; cases hk
    · have hu := unmarkedAt_of_read (read_ok H hp.1 hp.2 hc).2 hc1 hdel
      rcases chain_key H L ((hc ▸ bp.read_lk L).onChain R L rp.2.1 (unmarkedAt_down H hu rp.2.1)) rcd with e | l
      · obtain ⟨p, hp'⟩ := hu
        obtain ⟨q, hq⟩ := hm hd
        rw [← e, hji, hp'] at hq; cases hq
      · rw [hk] at l
        exact hadv ((Gen.findAdvance_iff _).mpr ((compare_neg_iff _ _).mpr l))
  cases s with
  | findLevel =>
    obtain ⟨hk, hj, rprev⟩ := rp
    exact ⟨hk, hj, rprev, fun _ hji => hji ▸ reachL_past rprev hk hp.key⟩
  | readMarked _ _ => exact ⟨rp.1, rp.2.1, rp.2.2.1⟩
  | @readAdvance fp rr c hc hdel hadv =>
    have hk := rp.1
    have hj := rp.2.1
    have hklt : Key.lt (keyOf sh.heap c) (.fin fp.item) := (compare_neg_iff _ _).mp ((Gen.findAdvance_iff _).mp hadv)
    have hc1 : c ≠ 1 := fun e => by rw [e, H.tailKey] at hklt; exact hklt
    have hu := unmarkedAt_of_read (read_ok H hp.1 hp.2 hc).2 hc1 hdel
    refine ⟨hk, hj, ?_, fun _ hji => hji ▸ reachL_past (hc ▸ rp.read hp.1.key hji) hk hklt⟩
    -- `c` is unmarked at `fp.i`, so at `j` and on chain `j` (`Lk`); its key puts it before `d`
    by_cases hji : j = fp.i
    · exact hc ▸ rp.read hp.1.key hji
    · exact reach_of_chain_lt H L ((hc ▸ bp.read_lk L).onChain R L hj (unmarkedAt_down H hu hj)) hd
        (by rw [hk]; exact hklt)
  | @readDown fp rr c i hc hdel hadv hi =>
    have := stop rfl hc hdel hadv hd
    have hj := rp.2.1
    exact ⟨rp.1, (show j ≤ i by omega), rp.2.2.1⟩
  | @readEnd fp rr c hc hdel hadv hi =>
    rw [(finishFind_shared ..).1] at hd
    have := stop rfl hc (hi ▸ hdel) hadv hd
    have := rp.2.1
    omega
  | @helpOk fp next hw =>
    obtain ⟨hk, hj, rprev⟩ := rp
    have hs : LStep sh.heap .other (setWord sh.heap fp.prev fp.i (next, false)) := .unlink hw hp.2 bp.2.1
    rw [helpStats_heap] at hd ⊢
    exact ⟨((Ext.setWord hw _).key _ (lt_of_keyOf_fin hk)).trans hk, hj,
      rprev.keep H R L hs (bp.2.1.mono hj) hd, nofun⟩
  | helpFail _ => exact ⟨rp.1, Nat.le_trans rp.2.1 bp.1, hd⟩
  | delSearch => exact ⟨rp, hjl, hd⟩
  | _ => exact rp.elim

theorem RespPC.key {h : Heap} {d j : Nat} {pc : PC} (r : RespPC h d j pc) : ∃ k, keyOf h d = .fin k := by
  cases pc with
  | findLevel _ | findNext _ _ | helpDelete _ _ => exact ⟨_, r.1⟩
  | delSearch _ => exact ⟨_, r⟩
  | _ => exact r.elim

end NitroVerif.SkipConc
