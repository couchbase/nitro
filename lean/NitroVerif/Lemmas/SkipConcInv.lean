import NitroVerif.Lemmas.SkipConcHeap
/-!
  The heap invariant `HInv` of the M5 model (closure, H5 at level 0, H4, …) and its preservation by an overwrite of an
  unmarked word (`HInv.overwrite`) and by an appended node (`HInv.append`); the publish, which is both, is
  `publish_HInv` in `SkipConcStep`.
-/
namespace NitroVerif.SkipConc

structure HInv (h : Heap) : Prop where
  len : 2 ≤ h.length
  headKey : keyOf h 0 = .neg
  tailKey : keyOf h 1 = .pos
  /-- every other node carries a user item -/
  finKey : ∀ n, 2 ≤ n → n < h.length → ∃ k, keyOf h n = .fin k
  /-- the tail has no successor words (`tail.next[i] = nil`) -/
  tailNoWord : ∀ l, word? h 1 l = none
  /-- every node but the tail has a level-0 word -/
  word0 : ∀ n, n < h.length → n ≠ 1 → (word? h n 0).isSome
  /-- the head is a full-height node -/
  headHeight : heightOf h 0 = Gen.maxLevel
  /-- every node but the tail has all words up to its height -/
  full : ∀ n l, n < h.length → n ≠ 1 → l ≤ heightOf h n → (word? h n l).isSome
  /-- a node linked at level `l` has that level (or is the tail) -/
  hl : ∀ n l p m, word? h n l = some (p, m) → p = 1 ∨ (word? h p l).isSome
  /-- words exist only up to the node's height -/
  wordLevel : ∀ n l w, word? h n l = some w → l ≤ heightOf h n
  /-- successors are published nodes -/
  closed : ∀ n l p m, word? h n l = some (p, m) → p < h.length
  /-- H5 (forward), level 0: the successor has a strictly larger key -/
  h5 : ∀ n p m, word? h n 0 = some (p, m) → Key.lt (keyOf h n) (keyOf h p)
  /-- H4: marking is top-down -/
  h4 : ∀ n l l' p p' m, word? h n l = some (p, true) → l ≤ l' → word? h n l' = some (p', m) → m = true

theorem HInv.lt_of_word {h : Heap} (H : HInv h) {n l p : Nat} {m : Bool} (hw : word? h n l = some (p, m)) :
    p < h.length := H.closed n l p m hw

theorem HInv.getNext_lt {h : Heap} (H : HInv h) (n l : Nat) : (getNext h n l).1 < h.length := by
  unfold getNext
  cases hw : word? h n l with
  | none => simp; have := H.len; omega
  | some w => obtain ⟨p, m⟩ := w; simp; exact H.lt_of_word hw

theorem HInv.overwrite {h : Heap} (H : HInv h) {n l e p : Nat} {m : Bool} (hw : word? h n l = some (e, false))
    (hk : l = 0 → Key.lt (keyOf h n) (keyOf h p))
    (hpl : p = 1 ∨ (word? h p l).isSome)
    (hup : m = true → ∀ l' q b, l < l' → word? h n l' = some (q, b) → b = true) :
    HInv (setWord h n l (p, m)) where
  len := by rw [length_setWord]; exact H.len
  headKey := by rw [keyOf_setWord]; exact H.headKey
  tailKey := by rw [keyOf_setWord]; exact H.tailKey
  headHeight := by rw [heightOf_setWord]; exact H.headHeight
  finKey n' h2 hl := by rw [keyOf_setWord]; rw [length_setWord] at hl; exact H.finKey n' h2 hl
  tailNoWord l' := by
    have := isSome_setWord hw (p, m) 1 l'
    rw [H.tailNoWord] at this
    exact Option.not_isSome_iff_eq_none.mp (by rw [this]; simp)
  word0 n' hl hn1 := by
    rw [length_setWord] at hl; rw [isSome_setWord hw]; exact H.word0 n' hl hn1
  full n' l' hl1 hn1 hle := by
    rw [length_setWord] at hl1; rw [heightOf_setWord] at hle; rw [isSome_setWord hw]
    exact H.full n' l' hl1 hn1 hle
  hl n' l' q b hw' := by
    rw [isSome_setWord hw]
    rcases word?_setWord_inv hw hw' with ⟨_, rfl, hq⟩ | ⟨_, ho⟩
    · cases hq; exact hpl
    · exact H.hl _ _ _ _ ho
  wordLevel n' l' w hw' := by
    rw [heightOf_setWord]
    rcases word?_setWord_inv hw hw' with ⟨rfl, rfl, _⟩ | ⟨_, ho⟩
    · exact H.wordLevel _ _ _ hw
    · exact H.wordLevel _ _ _ ho
  closed n' l' q b hw' := by
    rw [length_setWord]
    rcases word?_setWord_inv hw hw' with ⟨_, _, hq⟩ | ⟨_, ho⟩
    · -- the new successor is the tail or a node that has a word, hence published
      cases hq
      rcases hpl with rfl | hs
      · exact Nat.lt_of_lt_of_le Nat.one_lt_two H.len
      · obtain ⟨w, hw2⟩ := Option.isSome_iff_exists.mp hs; exact word?_lt hw2
    · exact H.lt_of_word ho
  h5 n' q b hw' := by
    rw [keyOf_setWord, keyOf_setWord]
    rcases word?_setWord_inv hw hw' with ⟨rfl, hl0, hq⟩ | ⟨_, ho⟩
    · cases hq; exact hk hl0.symm
    · exact H.h5 _ _ _ ho
  h4 n' l1 l2 q q' b hw1 hle hw2 := by
    rcases word?_setWord_inv hw hw2 with ⟨rfl, rfl, hq2⟩ | ⟨hn2, ho2⟩
    · -- the upper word is the one written: were it unmarked, H4 of the old heap would contradict `hw`
      cases hq2
      rcases word?_setWord_inv hw hw1 with ⟨_, _, hq1⟩ | ⟨_, ho1⟩
      · cases hq1; rfl
      · cases H.h4 _ _ _ _ _ _ ho1 hle hw
    · rcases word?_setWord_inv hw hw1 with ⟨rfl, rfl, hq1⟩ | ⟨_, ho1⟩
      · cases hq1
        exact hup rfl l2 q' b (Nat.lt_of_le_of_ne hle fun e => hn2 ⟨rfl, e.symm⟩) ho2
      · exact H.h4 _ _ _ _ _ _ ho1 hle ho2

/-- overwrite of an unmarked word by an unmarked word (unlink, publish link, upper link, the node's own dcas) -/
theorem HInv.setUnmarked {h : Heap} (H : HInv h) {n l e p : Nat} (hw : word? h n l = some (e, false))
    (hk : l = 0 → Key.lt (keyOf h n) (keyOf h p))
    (hpl : p = 1 ∨ (word? h p l).isSome) :
    HInv (setWord h n l (p, false)) :=
  H.overwrite hw hk hpl (fun hm => by cases hm)

/-- the mark CAS of softDelete at level `l`, all higher words being marked already -/
theorem HInv.setMark {h : Heap} (H : HInv h) {n l e : Nat} (hw : word? h n l = some (e, false))
    (hup : ∀ l' p m, l < l' → word? h n l' = some (p, m) → m = true) :
    HInv (setWord h n l (e, true)) :=
  H.overwrite hw (fun hl => by subst hl; exact H.h5 _ _ _ hw) (H.hl _ _ _ _ hw) (fun _ => hup)

theorem HInv.append {h : Heap} (H : HInv h) (x : Node) (k : Nat) (hk : x.key = .fin k)
    (hlen : ∀ (l : Nat) w, x.next[l]? = some w → l ≤ x.height)
    (hcl : ∀ (l : Nat) p m, x.next[l]? = some (p, m) → p < h.length ∧ m = false)
    (h0 : ∀ p m, x.next[0]? = some (p, m) → Key.lt (.fin k) (keyOf h p))
    (h00 : (x.next[0]?).isSome)
    (hfull : ∀ l, l ≤ x.height → (x.next[l]?).isSome)
    (hhl : ∀ (l : Nat) p m, x.next[l]? = some (p, m) → p = 1 ∨ (word? h p l).isSome) :
    HInv (h ++ [x]) := by
  have h2 := H.len
  have old : ∀ {n}, n < (h ++ [x]).length → n < h.length ∨ n = h.length := fun hn => by
    rw [List.length_append, List.length_singleton] at hn; omega
  refine
    { len := by rw [List.length_append]; exact Nat.le_add_right_of_le h2
      headKey := by rw [keyOf_append_lt h x (Nat.lt_of_lt_of_le Nat.zero_lt_two h2)]; exact H.headKey
      tailKey := by rw [keyOf_append_lt h x (Nat.lt_of_lt_of_le Nat.one_lt_two h2)]; exact H.tailKey
      headHeight := by rw [heightOf_append_lt h x (Nat.lt_of_lt_of_le Nat.zero_lt_two h2)]; exact H.headHeight
      tailNoWord := fun l => by rw [word?_append_lt h x (Nat.lt_of_lt_of_le Nat.one_lt_two h2)]; exact H.tailNoWord l
      finKey := fun n hn2 hl => ?_
      word0 := fun n hl hn1 => ?_
      full := fun n l hl hn1 hle => ?_
      hl := fun n l p m hw => ?_
      wordLevel := fun n l w hw => ?_
      closed := fun n l p m hw => ?_
      h5 := fun n p m hw => ?_
      h4 := fun n l l' p p' m hw1 hle hw2 => ?_ }
  · rcases old hl with hn | rfl
    · rw [keyOf_append_lt h x hn]; exact H.finKey n hn2 hn
    · rw [keyOf_append_new]; exact ⟨k, hk⟩
  · rcases old hl with hn | rfl
    · rw [word?_append_lt h x hn]; exact H.word0 n hn hn1
    · rw [word?_append_new]; exact h00
  · rcases old hl with hn | rfl
    · rw [word?_append_lt h x hn]; rw [heightOf_append_lt h x hn] at hle; exact H.full n l hn hn1 hle
    · rw [word?_append_new]; rw [heightOf_append_new] at hle; exact hfull l hle
  · rcases word?_append_inv hw with ⟨_, ho⟩ | ⟨_, hx⟩
    · rw [word?_append_lt h x (H.lt_of_word ho)]; exact H.hl _ _ _ _ ho
    · rw [word?_append_lt h x (hcl _ _ _ hx).1]; exact hhl _ _ _ hx
  · rcases word?_append_inv hw with ⟨hn, ho⟩ | ⟨rfl, hx⟩
    · rw [heightOf_append_lt h x hn]; exact H.wordLevel _ _ _ ho
    · rw [heightOf_append_new]; exact hlen _ _ hx
  · rw [List.length_append]
    rcases word?_append_inv hw with ⟨_, ho⟩ | ⟨_, hx⟩
    · exact Nat.lt_add_right _ (H.lt_of_word ho)
    · exact Nat.lt_add_right _ (hcl _ _ _ hx).1
  · rcases word?_append_inv hw with ⟨hn, ho⟩ | ⟨rfl, hx⟩
    · rw [keyOf_append_lt h x hn, keyOf_append_lt h x (H.lt_of_word ho)]; exact H.h5 _ _ _ ho
    · rw [keyOf_append_new, keyOf_append_lt h x (hcl _ _ _ hx).1, hk]; exact h0 _ _ hx
  · rcases word?_append_inv hw1 with ⟨hn, ho1⟩ | ⟨_, hx⟩
    · rw [word?_append_lt h x hn] at hw2; exact H.h4 _ _ _ _ _ _ ho1 hle hw2
    · cases (hcl _ _ _ hx).2

theorem ne_head_of_fin {h : Heap} (H : HInv h) {x k : Nat} (hk : keyOf h x = .fin k) : x ≠ 0 := by
  intro e; rw [e, H.headKey] at hk; simp at hk

theorem ne_tail_of_fin {h : Heap} (H : HInv h) {x k : Nat} (hk : keyOf h x = .fin k) : x ≠ 1 := by
  intro e; rw [e, H.tailKey] at hk; cases hk

theorem word0_of_fin {h : Heap} (H : HInv h) {c k : Nat} (hk : keyOf h c = .fin k) :
    ∃ p m, word? h c 0 = some (p, m) := by
  obtain ⟨⟨p, m⟩, hw⟩ := Option.isSome_iff_exists.mp (H.word0 c (lt_of_keyOf_fin hk) (ne_tail_of_fin H hk))
  exact ⟨p, m, hw⟩

theorem HInv.head_word {h : Heap} (H : HInv h) {l : Nat} (hl : l ≤ Gen.maxLevel) : (word? h 0 l).isSome :=
  H.full 0 l (Nat.lt_of_lt_of_le Nat.zero_lt_two H.len) Nat.zero_ne_one (by rw [H.headHeight]; exact hl)

theorem HInv.getNext_lv {h : Heap} (H : HInv h) (n l : Nat) (hl : l ≤ Gen.maxLevel) :
    (getNext h n l).1 = 1 ∨ (word? h (getNext h n l).1 l).isSome := by
  unfold getNext
  cases hw : word? h n l with
  | none => simp; exact H.head_word hl
  | some w => obtain ⟨p, m⟩ := w; simp; exact H.hl _ _ _ _ hw

theorem HInv.unlink {h : Heap} (H : HInv h) {prev curr next i : Nat} (hp : word? h prev i = some (curr, false))
    (hw : word? h curr i = some (next, true)) : HInv (setWord h prev i (next, false)) :=
  H.setUnmarked hp
    (fun hi0 => by subst hi0; exact Key.lt_trans (H.h5 _ _ _ hp) (H.h5 _ _ _ hw)) (H.hl _ _ _ _ hw)

end NitroVerif.SkipConc
