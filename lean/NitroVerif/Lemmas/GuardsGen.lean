import NitroVerif.Gen.Guards
/-!
  What the generated guards that more than one model calls compute (`Gen/Guards.lean`), stated once: the skiplist
  search, insertion and deletion (`findPath`, `helpDelete`, `softDelete`, `NewLevel`; SkipSeq, SkipConc, MvccConc) and the
  life cycle of a snapshot (`Snapshot.Open`, `Snapshot.Close`, `collectDead`, `hasCollectableSnapshot`, `DeleteNode`,
  `skipUnwanted`; RefCount, Mvcc, MvccConc).  A change of the Go condition regenerates the guard and breaks the lemma
  named here.
-/
namespace NitroVerif.Gen

/-- skiplist.go findPath: advance while `cmpVal < 0` -/
theorem findAdvance_iff (c : Int) : findAdvance c = true ↔ c < 0 := by
  simp [findAdvance]

/-- skiplist.go findPath: found when `cmpVal == 0` -/
theorem findFound_iff (c : Int) : findFound c = true ↔ c = 0 := by
  simp [findFound]

/-- skiplist.go helpDelete: the unlink is accounted for by the caller that succeeded at level 0 -/
theorem helpAccounts_iff (success : Bool) (level : Nat) :
    helpAccounts success level = true ↔ success = true ∧ level = 0 := by
  simp [helpAccounts]

/-- skiplist.go softDelete: the deleter is the caller whose first CAS (level 0) succeeded -/
theorem softDeleteWins_iff (swapped : Bool) (i : Nat) :
    softDeleteWins swapped i = true ↔ swapped = true ∧ i = 0 := by
  simp [softDeleteWins]

theorem newLevelClamp_eq (n : Nat) : newLevelClamp n = min n maxLevel := by
  unfold newLevelClamp
  by_cases h : n > maxLevel
  · simp [h]; exact (Nat.min_eq_right (Nat.le_of_lt h)).symm
  · simp [h]; exact (Nat.min_eq_left (Nat.le_of_not_lt h)).symm

theorem newLevelClamp_le (n : Nat) : newLevelClamp n ≤ maxLevel := by
  rw [newLevelClamp_eq]; exact Nat.min_le_right _ _

theorem newLevelBump_iff (n level : Nat) : newLevelBump n level = true ↔ level < n := by
  simp [newLevelBump]

/-- `Snapshot.Open` refuses exactly when the observed count is zero -/
theorem openRefuse_iff (rc : Int) : openRefuse rc = true ↔ rc = 0 := by
  simp [openRefuse]

/-- `Snapshot.Close` retires exactly when the decremented count is zero -/
theorem closeRetire_iff (rc : Int) : closeRetire rc = true ↔ rc = 0 := by
  simp [closeRetire]

/-- `collectDead` stops at the first snapshot that is not next in order -/
theorem gcStop_iff (sn g : Nat) : gcStop sn g = true ↔ sn ≠ g + 1 := by
  simp [gcStop]

theorem gcStop_false_iff (sn g : Nat) : gcStop sn g = false ↔ sn = g + 1 := by
  simp [gcStop]

/-- `hasCollectableSnapshot`, the re-check after dropping the collector flag, answers true exactly when the head is
    next in order -/
theorem collectableHead_iff (sn g : Nat) : collectableHead sn g = true ↔ sn = g + 1 := by
  simp [collectableHead]

theorem collectableHead_eq_not_gcStop (sn g : Nat) : collectableHead sn g = !gcStop sn g := by
  simp [collectableHead, gcStop]

/-- `DeleteNode`: physical delete iff the item was born in the current epoch -/
theorem sameEpoch_iff (b sn : Nat) : sameEpoch b sn = true ↔ b = sn := by
  simp [sameEpoch]

/-- `skipUnwanted`: a version is delivered to snapshot `sn` iff born at or before it and not dead at it -/
theorem skipUnwanted_false_iff (b d sn : Nat) : skipUnwanted b d sn = false ↔ b ≤ sn ∧ (d = 0 ∨ sn < d) := by
  unfold skipUnwanted; simp; omega

end NitroVerif.Gen
