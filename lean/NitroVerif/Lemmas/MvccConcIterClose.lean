/-
  An iterator whose thread is parked in the collector inside `Iterator.Close` has begun its Close (`closingB`): it
  is still in the table but has given its reference back.  What the tail of a Close (`CloseTail`) does to the
  threads and the iterator table (`TailThr`), and that it leaves alone every iterator but the one being closed.
-/
import NitroVerif.Lemmas.MvccConcAct

namespace NitroVerif.MvccConc

/-- the iterator whose `Close` the thread is in the middle of -/
def Pc.closes : Pc → Option Nat
  | .collectSend _ (some j) => some j
  | _ => none

theorem closes_collectSend (sn : Nat) (after : Option Nat) : (Pc.collectSend sn after).closes = after := by
  cases after <;> rfl

/-- iterator `k` has begun its `Close`: its reference is given back -/
def closingB (threads : List Pc) (k : Nat × Nat) : Bool :=
  match threads[k.1]? with
  | some pc => pc.closes == some k.2
  | none => false

theorem closingB_set_same {threads : List Pc} {t : Nat} {pc0 pc' : Pc} (ht : threads[t]? = some pc0)
    (hc : pc'.closes = pc0.closes) (k : Nat × Nat) : closingB (threads.set t pc') k = closingB threads k := by
  unfold closingB
  by_cases hk : k.1 = t
  · rw [hk, getElem?_set_same ht, ht]; simp [hc]
  · rw [List.getElem?_set_ne (fun e => hk e.symm)]

theorem closingB_set_other {threads : List Pc} {t : Nat} {pc' : Pc} {k : Nat × Nat} (hk : k.1 ≠ t) :
    closingB (threads.set t pc') k = closingB threads k := by
  unfold closingB
  rw [List.getElem?_set_ne (fun e => hk e.symm)]

theorem closingB_eq {threads : List Pc} {k : Nat × Nat} {pc : Pc} (h : threads[k.1]? = some pc) :
    closingB threads k = (pc.closes == some k.2) := by
  unfold closingB; rw [h]

theorem closingB_set_self {threads : List Pc} {t : Nat} {pc0 pc' : Pc} (ht : threads[t]? = some pc0)
    {k : Nat × Nat} (hk : k.1 = t) : closingB (threads.set t pc') k = (pc'.closes == some k.2) := by
  unfold closingB; rw [hk, getElem?_set_same ht]

theorem closes_of_not_coll {pc : Pc} (h : pc.isColl = false) : pc.closes = none := by
  cases pc <;> first | rfl | cases h

theorem ThrQuiet.closing {threads threads' : List Pc} (h : ThrQuiet threads threads') (k : Nat × Nat) :
    closingB threads' k = closingB threads k := by
  rcases h with h | ⟨t, pc0, pc', hg, h0, hp, h⟩
  · rw [h]
  · rw [h]; exact closingB_set_same hg (by rw [closes_of_not_coll h0, closes_of_not_coll hp]) k

theorem land_thread {threads : List Pc} {t i : Nat}
    (h : threads[t]? = some .idle ∨ threads[t]? = some (.iterNext i)) :
    ∃ pc0 : Pc, threads[t]? = some pc0 ∧ pc0.closes = none := by
  rcases h with ht | ht <;> exact ⟨_, ht, rfl⟩

theorem closes_landed {pc0 pc' : Pc} {i : Nat} (hc : pc0.closes = none) (hpc : pc' = .idle ∨ pc' = .iterNext i) :
    pc'.closes = pc0.closes := by
  rcases hpc with rfl | rfl <;> rw [hc] <;> rfl

theorem closing_landed {σ : State} {t' i' : Nat} {it : Iter} {land : Option Node} {pc0 pc' : Pc}
    (ht : σ.threads[t']? = some pc0) (hc : pc0.closes = none) (hpc : pc' = .idle ∨ pc' = .iterNext i')
    (k : Nat × Nat) : closingB (landed σ t' i' it land pc').threads k = closingB σ.threads k :=
  closingB_set_same ht (closes_landed hc hpc) k

/-- the threads and the iterator table after the tail of a Close of thread `t` -/
def TailThr (σ σ' : State) (t : Nat) (after : Option Nat) : Prop :=
  (σ'.threads = σ.threads.set t .idle ∧
      σ'.iters = (match after with | none => σ.iters | some i => eraseIter (t, i) σ.iters)) ∨
   (∃ sn, σ'.threads = σ.threads.set t (.collectSend sn after) ∧ σ'.iters = σ.iters)

theorem CloseTail.tail {σ : State} {t : Nat} {after : Option Nat} {p : State × Resp} (h : CloseTail σ t after p) :
    p.1.snaps = σ.snaps ∧ TailThr σ p.1 t after := by
  cases h with
  | idle g hf =>
    refine ⟨rfl, Or.inl ⟨rfl, ?_⟩⟩
    cases after with
    | none => rfl
    | some i => exact (eraseIter_absent (hf i rfl)).symm
  | iter g ha hf => subst ha; exact ⟨rfl, Or.inl ⟨rfl, rfl⟩⟩
  | send => exact ⟨rfl, Or.inr ⟨_, rfl, rfl⟩⟩

theorem CloseTail.iters_sub {σ : State} {t : Nat} {after : Option Nat} {p : State × Resp}
    (h : CloseTail σ t after p) : ∀ q ∈ p.1.iters, q ∈ σ.iters := by
  rcases h.tail.2 with ⟨_, h⟩ | ⟨_, _, h⟩
  · rw [h]
    cases after with
    | none => exact fun _ hq => hq
    | some i => exact fun q hq => (mem_eraseIter.mp hq).1
  · rw [h]; exact fun _ hq => hq

theorem closing_other {threads : List Pc} {t : Nat} {pc0 pc' : Pc} {after : Option Nat}
    (ht : threads[t]? = some pc0) (hc : pc0.closes = none ∨ pc0.closes = after)
    (hc' : pc'.closes = none ∨ pc'.closes = after) {k : Nat × Nat} (hk : ∀ i, after = some i → k ≠ (t, i)) :
    closingB (threads.set t pc') k = closingB threads k := by
  by_cases hkt : k.1 = t
  · have hne : after ≠ some k.2 := fun h => hk k.2 h (Prod.ext hkt rfl)
    rw [closingB_set_self ht hkt, closingB_eq (by rw [hkt]; exact ht)]
    have h1 : (pc'.closes == some k.2) = false := by
      rcases hc' with h | h <;> rw [h]
      · rfl
      · simpa using hne
    have h2 : (pc0.closes == some k.2) = false := by
      rcases hc with h | h <;> rw [h]
      · rfl
      · simpa using hne
    rw [h1, h2]
  · exact closingB_set_other hkt

theorem TailThr.other {σ σ' : State} {t' : Nat} {after : Option Nat} {pc0 : Pc} {t i : Nat}
    (h : TailThr σ σ' t' after) (ht : σ.threads[t']? = some pc0)
    (hc : pc0.closes = none ∨ pc0.closes = after) (hne : t' = t → after ≠ some i) :
    findIter (t, i) σ'.iters = findIter (t, i) σ.iters ∧ closingB σ'.threads (t, i) = closingB σ.threads (t, i) := by
  have hk : ∀ j, after = some j → (t, i) ≠ (t', j) :=
    fun j h e => hne (Prod.mk.inj e).1.symm (by rw [h, (Prod.mk.inj e).2])
  rcases h with ⟨h1, h2⟩ | ⟨s, h1, h2⟩
  · rw [h1, h2]
    refine ⟨?_, closing_other (after := after) ht hc (Or.inl rfl) hk⟩
    cases after with
    | none => rfl
    | some j =>
      simp only
      rw [findIter_erase]
      have : ¬ ((t', j) = (t, i)) := by
        intro e; injection e with e1 e2
        exact hne e1 (by rw [e2])
      simp [this]
  · rw [h1, h2]
    exact ⟨rfl, closing_other (after := after) ht hc (Or.inr (closes_collectSend ..)) hk⟩

end NitroVerif.MvccConc
