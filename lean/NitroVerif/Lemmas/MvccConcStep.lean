/-
  The steered machine by cases.  `step σ a` is the refusal `(σ, .bad)` or one of the named sub-steps of
  `Model/MvccConc.lean`, taken under its guard.  The tail that the three closing calls share is one relation,
  `CloseTail`.  Names: `f_cases` says what a reader's call `f` does in any state, `f_tail` gives a closing call as a
  `CloseTail`; `f_outcome` (`MvccConcOutcome`) says what a sub-step does under the invariant, without the branches
  it excludes.
-/
import NitroVerif.Model.MvccConc
import NitroVerif.Lemmas.MvccConcGen

namespace NitroVerif.MvccConc

theorem isIdle_spec {σ : State} {t : Nat} (h : isIdle σ t = true) : σ.threads[t]? = some .idle := by
  unfold isIdle at h
  simpa using h

theorem isWriter_spec {σ : State} {t : Nat} (h : isWriter σ t = true) : t < σ.writers.length := by
  unfold isWriter at h; simpa using h

theorem writersIdle_spec {σ : State} (h : writersIdle σ = true) {t : Nat} (ht : t < σ.writers.length) {pc : Pc}
    (hg : σ.threads[t]? = some pc) : pc = .idle := by
  unfold writersIdle at h
  rw [List.all_eq_true] at h
  have hm : pc ∈ σ.threads.take σ.writers.length := by
    rw [List.mem_iff_getElem?]
    exact ⟨t, by rw [List.getElem?_take]; simp [ht, hg]⟩
  have := h pc hm
  simpa using this

def Refused (σ : State) : Act → Prop
  | .snap => writersIdle σ = false
  | .put t _ _ | .del t _ | .get t _ => (isWriter σ t && isIdle σ t) = false
  | .close t _ => isIdle σ t = false
  | .itNew t _ _ | .itFirst t _ | .itNext t _ | .itClose t _ => (isReader σ t && isIdle σ t) = false
  | .step t => σ.threads[t]? = none ∨ σ.threads[t]? = some .idle
  | _ => False

inductive StepCase (σ : State) : Act → State × Resp → Prop
  | refuse (a : Act) : σ.down = true ∨ Refused σ a → StepCase σ a (σ, .bad)
  | snap : writersIdle σ = true → StepCase σ .snap (snap σ)
  | put {t k v : Nat} : t < σ.writers.length → σ.threads[t]? = some .idle → StepCase σ (.put t k v) (startPut σ t k v)
  | del {t k : Nat} : t < σ.writers.length → σ.threads[t]? = some .idle → StepCase σ (.del t k) (startDel σ t k)
  | get {t k : Nat} : t < σ.writers.length → σ.threads[t]? = some .idle → StepCase σ (.get t k) (startGet σ t k)
  | close {t s : Nat} : σ.threads[t]? = some .idle → StepCase σ (.close t s) (startClose σ t s)
  | itNew {t i s : Nat} : isReader σ t = true → σ.threads[t]? = some .idle →
      StepCase σ (.itNew t i s) (itNew σ t i s)
  | itFirst {t i : Nat} : isReader σ t = true → σ.threads[t]? = some .idle →
      StepCase σ (.itFirst t i) (itFirst σ t i)
  | itNext {t i : Nat} : isReader σ t = true → σ.threads[t]? = some .idle → StepCase σ (.itNext t i) (itNext σ t i)
  | itClose {t i : Nat} : isReader σ t = true → σ.threads[t]? = some .idle →
      StepCase σ (.itClose t i) (itClose σ t i)
  | stepPut {t n k v b : Nat} : σ.threads[t]? = some (.putInsert n k v b) →
      StepCase σ (.step t) (stepPut σ t n k v b)
  | stepDelPhys {t n tok k : Nat} : σ.threads[t]? = some (.delPhys n tok k) →
      StepCase σ (.step t) (stepDelPhys σ t n tok k)
  | stepDelFlush {t n tok k : Nat} : σ.threads[t]? = some (.delFlush n tok k) →
      StepCase σ (.step t) (stepDelFlush σ t n tok)
  | stepDelCas {t n tok k : Nat} : σ.threads[t]? = some (.delCas n tok k) →
      StepCase σ (.step t) (stepDelCas σ t n tok)
  | stepCollect {t sn : Nat} {after : Option Nat} : σ.threads[t]? = some (.collectSend sn after) →
      StepCase σ (.step t) (stepCollect σ t sn after)
  | stepIter {t i : Nat} : σ.threads[t]? = some (.iterNext i) → StepCase σ (.step t) (stepIter σ t i)
  | gc (j : Nat) : StepCase σ (.gc j) (stepGc σ j)
  | fr (j : Nat) : StepCase σ (.fr j) (stepFr σ j)
  | shutdown : StepCase σ .shutdown (shutdown σ)

theorem stepThread_cases (σ : State) (t : Nat) : StepCase σ (.step t) (stepThread σ t) := by
  unfold stepThread
  cases h : σ.threads[t]? with
  | none => exact .refuse _ (Or.inr (Or.inl h))
  | some pc =>
    cases pc with
    | idle => exact .refuse _ (Or.inr (Or.inr h))
    | putInsert n k v b => exact .stepPut h
    | delPhys n tok k => exact .stepDelPhys h
    | delFlush n tok k => exact .stepDelFlush h
    | delCas n tok k => exact .stepDelCas h
    | collectSend sn after => exact .stepCollect h
    | iterNext i => exact .stepIter h

theorem StepCase.guarded {σ : State} {a : Act} {c : Bool} {p : State × Resp} (hr : c = false → Refused σ a)
    (hp : c = true → StepCase σ a p) : StepCase σ a (if c then p else (σ, .bad)) := by
  cases c with
  | true => exact hp rfl
  | false => exact .refuse a (Or.inr (hr rfl))

theorem step_cases (σ : State) (a : Act) : StepCase σ a (step σ a) := by
  have wr : ∀ {t : Nat}, (isWriter σ t && isIdle σ t) = true → t < σ.writers.length ∧ σ.threads[t]? = some .idle :=
    fun h => ⟨isWriter_spec (Bool.and_eq_true_iff.mp h).1, isIdle_spec (Bool.and_eq_true_iff.mp h).2⟩
  have rd : ∀ {t : Nat}, (isReader σ t && isIdle σ t) = true → isReader σ t = true ∧ σ.threads[t]? = some .idle :=
    fun h => ⟨(Bool.and_eq_true_iff.mp h).1, isIdle_spec (Bool.and_eq_true_iff.mp h).2⟩
  unfold step
  split
  · exact .refuse a (Or.inl ‹_›)
  · cases a with
    | snap => exact .guarded id .snap
    | put t k v => exact .guarded id fun h => .put (wr h).1 (wr h).2
    | del t k => exact .guarded id fun h => .del (wr h).1 (wr h).2
    | get t k => exact .guarded id fun h => .get (wr h).1 (wr h).2
    | close t s => exact .guarded id fun h => .close (isIdle_spec h)
    | itNew t i s => exact .guarded id fun h => .itNew (rd h).1 (rd h).2
    | itFirst t i => exact .guarded id fun h => .itFirst (rd h).1 (rd h).2
    | itNext t i => exact .guarded id fun h => .itNext (rd h).1 (rd h).2
    | itClose t i => exact .guarded id fun h => .itClose (rd h).1 (rd h).2
    | step t => exact stepThread_cases σ t
    | gc j => exact .gc j
    | fr j => exact .fr j
    | shutdown => exact .shutdown

def Resp.isItem : Resp → Bool
  | .ret (.item _) => true
  | _ => false

def curAt (y : Node) : Cur := ⟨y.id, y.ver.key, y.ver.born⟩

/-- where `Iterator.Next` lands from cursor `c`: on the successor of the node under the cursor if that node is
    still linked, else where a fresh search for the cursor's item ends -/
def NextLand (σ : State) (c : Cur) (land : Option Node) : Prop :=
  (∃ x, findNode σ.store c.id = some x ∧ land = succN σ.store x) ∨
    (findNode σ.store c.id = none ∧ land = seekN (iterStoreCmp σ) σ.store c.key c.born)

theorem landOn_ne_uaf (σ : State) (t i : Nat) (it : Iter) (land : Option Node) : (landOn σ t i it land).2 ≠ .uaf := by
  unfold landOn
  cases land with
  | none => exact nofun
  | some y =>
    simp only
    by_cases hs : Gen.skipUnwanted y.ver.born y.ver.dead it.sn = true
    · rw [if_pos hs]; exact nofun
    · rw [if_neg hs]; exact nofun

theorem itFirst_cases (σ : State) (t i : Nat) :
    itFirst σ t i = (σ, .bad) ∨
      ∃ it, findIter (t, i) σ.iters = some it ∧ itFirst σ t i = landOn σ t i it σ.store.head? := by
  unfold itFirst
  cases findIter (t, i) σ.iters with
  | none => exact Or.inl rfl
  | some it => exact Or.inr ⟨it, rfl, rfl⟩

theorem stepIter_cases (σ : State) (t i : Nat) :
    (∃ r : Resp, r.isItem = false ∧ stepIter σ t i = (σ, r)) ∨
      ∃ it c land, findIter (t, i) σ.iters = some it ∧ it.cur = some c ∧ NextLand σ c land ∧
        stepIter σ t i = landOn σ t i it land := by
  unfold stepIter
  cases findIter (t, i) σ.iters with
  | none => exact Or.inl ⟨_, rfl, rfl⟩
  | some it =>
    simp only
    cases hc : it.cur with
    | none => exact Or.inl ⟨_, rfl, rfl⟩
    | some c =>
      simp only
      by_cases h1 : (!isLive σ (.node c.id)) = true
      · rw [if_pos h1]; exact Or.inl ⟨_, rfl, rfl⟩
      · rw [if_neg h1]
        cases hn : findNode σ.store c.id with
        | some x => exact Or.inr ⟨it, c, _, rfl, hc, Or.inl ⟨x, hn, rfl⟩, rfl⟩
        | none =>
          simp only
          by_cases h2 : (!isLive σ (.item c.id)) = true
          · rw [if_pos h2]; exact Or.inl ⟨_, rfl, rfl⟩
          · rw [if_neg h2]; exact Or.inr ⟨it, c, _, rfl, hc, Or.inr ⟨hn, rfl⟩, rfl⟩

theorem itNext_cases (σ : State) (t i : Nat) :
    itNext σ t i = (σ, .bad) ∨ itNext σ t i = (setPc σ t (.iterNext i), .at_ .ITER_NEXT) := by
  unfold itNext
  cases findIter (t, i) σ.iters with
  | none => exact Or.inl rfl
  | some it =>
    simp only
    cases it.cur with
    | none => exact Or.inl rfl
    | some _ => exact Or.inr rfl

theorem itNew_cases (σ : State) (t i s : Nat) :
    (∃ r : Resp, r.isItem = false ∧ itNew σ t i s = (σ, r)) ∨
      ∃ x, findSnap s σ.snaps = some x ∧ findIter (t, i) σ.iters = none ∧ Gen.openRefuse x.rc = false ∧
        itNew σ t i s = ({ (acquire σ (.it t i)) with
          snaps := updSnap s (fun y => { y with rc := y.rc + 1 }) σ.snaps,
          iters := setIter (t, i) ⟨s, curTok σ, none⟩ σ.iters }, .ret .ok) := by
  unfold itNew
  cases hs : findSnap s σ.snaps with
  | none => exact Or.inl ⟨_, rfl, rfl⟩
  | some x =>
    cases hf : findIter (t, i) σ.iters with
    | some _ => exact Or.inl ⟨_, rfl, rfl⟩
    | none =>
      simp only
      by_cases hr : Gen.openRefuse x.rc = true
      · rw [if_pos hr]; exact Or.inl ⟨_, rfl, rfl⟩
      · rw [if_neg hr]; exact Or.inr ⟨x, by trivial, by trivial, by simpa using hr, rfl⟩

theorem retiredHead_some {snaps : List Snap} {s : Snap} (h : retiredHead snaps = some s) :
    s ∈ snaps ∧ s.st = .retired := by
  unfold retiredHead at h
  have h1 := List.find?_some h
  simp at h1
  exact ⟨List.mem_of_find?_eq_some h, h1⟩

theorem collectable_eq {σ : State} :
    collectable σ = (retiredHead σ.snaps).bind fun s => if Gen.gcStop s.sn σ.lastGCSn then none else some s := by
  unfold collectable
  cases retiredHead σ.snaps <;> rfl

theorem collectable_some {σ : State} {s : Snap} (h : collectable σ = some s) :
    s ∈ σ.snaps ∧ s.st = .retired ∧ s.sn = σ.lastGCSn + 1 := by
  rw [collectable_eq] at h
  obtain ⟨x, hr, hx⟩ := Option.bind_eq_some_iff.mp h
  by_cases hg : Gen.gcStop x.sn σ.lastGCSn = true
  · rw [if_pos hg] at hx; cases hx
  · rw [if_neg hg] at hx; cases hx
    exact ⟨(retiredHead_some hr).1, (retiredHead_some hr).2, (gcStop_false_iff _ _).mp (Bool.not_eq_true _ ▸ hg)⟩

theorem recheck_false_of_not_collectable {σ : State} (h : collectable σ = none) : recheck σ = false := by
  rw [collectable_eq] at h
  unfold recheck
  cases hr : retiredHead σ.snaps with
  | none => rfl
  | some s =>
    rw [hr] at h
    by_cases hg : Gen.gcStop s.sn σ.lastGCSn = true
    · simp only [collectable_tests_complementary, hg]; rfl
    · simp only [Option.bind_some, if_neg hg] at h; cases h

/-- thread `t` may act as the collector: it finds the flag down, or it is the collector
    already -/
def GcLock (σ : State) (t : Nat) : Prop :=
  σ.gcFlag = false ∨ ∃ sn a, σ.threads[t]? = some (.collectSend sn a)

/-- where the tail of a `Close` of thread `t` leaves the machine, `g` being the collector flag afterwards: the
    thread goes idle, or it becomes the collector, parked before sending the next retired snapshot.  The flag
    changes, and the thread becomes the collector, only under `GcLock` -/
inductive CloseTail (σ : State) (t : Nat) (after : Option Nat) : State × Resp → Prop
  | idle (g : Bool) : (∀ i, after = some i → findIter (t, i) σ.iters = none) → g = σ.gcFlag ∨ GcLock σ t →
      CloseTail σ t after (setPc { σ with gcFlag := g } t .idle, .ret .unit)
  | iter (g : Bool) {i : Nat} {it : Iter} : after = some i → findIter (t, i) σ.iters = some it →
      g = σ.gcFlag ∨ GcLock σ t →
      CloseTail σ t after
        (setPc (release { σ with gcFlag := g, iters := eraseIter (t, i) σ.iters } it.tok (.it t i)) t .idle,
          .ret .unit)
  | send {s : Snap} : collectable σ = some s → GcLock σ t →
      CloseTail σ t after (setPc { σ with gcFlag := true } t (.collectSend s.sn after), .at_ .COLLECT_SEND)

theorem CloseTail.ne_uaf {σ : State} {t : Nat} {after : Option Nat} {p : State × Resp} (h : CloseTail σ t after p) :
    p.2 ≠ .uaf := by
  cases h <;> exact nofun

theorem CloseTail.ne_hang {σ : State} {t : Nat} {after : Option Nat} {p : State × Resp}
    (h : CloseTail σ t after p) : p.2 ≠ .hang := by
  cases h <;> exact nofun

theorem finishClose_tail (σ : State) (g : Bool) (t : Nat) (after : Option Nat) (hg : g = σ.gcFlag ∨ GcLock σ t) :
    CloseTail σ t after (finishClose { σ with gcFlag := g } t after) := by
  unfold finishClose
  cases after with
  | none => exact .idle g (fun _ h => nomatch h) hg
  | some i =>
    cases hf : findIter (t, i) σ.iters with
    | none => simp only [hf]; exact .idle g (fun j hj => by cases hj; exact hf) hg
    | some it => simp only [hf]; exact .iter g rfl hf hg

theorem collectLoop_tail (σ : State) (t : Nat) (after : Option Nat) (hl : GcLock σ t) :
    CloseTail σ t after (collectLoop σ t after) := by
  unfold collectLoop
  cases hc : collectable σ with
  | some s => exact .send hc hl
  | none =>
    simp only [recheck_false_of_not_collectable hc, Bool.false_eq_true, if_false]
    exact finishClose_tail σ false t after (Or.inr hl)

/-- the collector's loop, the one function of the model with a `hang` branch, never takes it -/
theorem collectLoop_ne_hang (σ : State) (t : Nat) (after : Option Nat) : (collectLoop σ t after).2 ≠ .hang := by
  unfold collectLoop
  cases hc : collectable σ with
  | some s => exact nofun
  | none =>
    simp only [recheck_false_of_not_collectable hc, Bool.false_eq_true, if_false]
    exact (finishClose_tail { σ with gcFlag := false } false t after (Or.inl rfl)).ne_hang

theorem runGC_tail (σ : State) (t : Nat) (after : Option Nat) : CloseTail σ t after (runGC σ t after) := by
  unfold runGC
  by_cases hg : σ.gcFlag = true
  · rw [if_pos hg]; exact finishClose_tail σ σ.gcFlag t after (Or.inl rfl)
  · rw [if_neg hg]; exact collectLoop_tail σ t after (Or.inl (Bool.not_eq_true _ ▸ hg))

/-- `Snapshot.Close` gives one reference back; with the last one the snapshot retires -/
def RefBack (rc : Int) (f : Snap → Snap) : Prop :=
  f = (fun y => { y with rc := y.rc - 1 }) ∨
    (Gen.closeRetire (rc - 1) = true ∧ f = (fun y => { y with rc := y.rc - 1, st := .retired }))

theorem closeRef_tail (σ : State) (t s : Nat) (rc : Int) (after : Option Nat) :
    ∃ f, RefBack rc f ∧ CloseTail { σ with snaps := updSnap s f σ.snaps } t after (closeRef σ t s rc after) := by
  unfold closeRef
  by_cases hr : Gen.closeRetire (rc - 1) = true
  · rw [if_pos hr]; exact ⟨_, Or.inr ⟨hr, rfl⟩, runGC_tail _ t after⟩
  · rw [if_neg hr]; exact ⟨_, Or.inl rfl, finishClose_tail { σ with snaps := _ } σ.gcFlag t after (Or.inl rfl)⟩

theorem startClose_tail (σ : State) (t s : Nat) :
    startClose σ t s = (σ, .bad) ∨
      ∃ x f, findSnap s σ.snaps = some x ∧ x.held = true ∧ RefBack x.rc f ∧
        CloseTail { σ with snaps := updSnap s f (updSnap s (fun y => { y with held := false }) σ.snaps) } t none
          (startClose σ t s) := by
  unfold startClose
  cases hf : findSnap s σ.snaps with
  | none => exact Or.inl rfl
  | some x =>
    simp only
    by_cases hh : x.held = true
    · rw [if_pos hh]
      obtain ⟨f, hf', hct⟩ :=
        closeRef_tail { σ with snaps := updSnap s (fun y => { y with held := false }) σ.snaps } t s x.rc none
      exact Or.inr ⟨x, f, rfl, hh, hf', hct⟩
    · rw [if_neg hh]; exact Or.inl rfl

theorem itClose_tail (σ : State) (t i : Nat) :
    itClose σ t i = (σ, .bad) ∨
      ∃ it x f, findIter (t, i) σ.iters = some it ∧ findSnap it.sn σ.snaps = some x ∧ RefBack x.rc f ∧
        CloseTail { σ with snaps := updSnap it.sn f σ.snaps } t (some i) (itClose σ t i) := by
  unfold itClose
  cases findIter (t, i) σ.iters with
  | none => exact Or.inl rfl
  | some it =>
    simp only
    cases hs : findSnap it.sn σ.snaps with
    | none => exact Or.inl rfl
    | some x =>
      obtain ⟨f, hf', hct⟩ := closeRef_tail σ t it.sn x.rc (some i)
      exact Or.inr ⟨it, x, f, rfl, hs, hf', hct⟩

theorem stepCollect_tail (σ : State) {t sn : Nat} {after : Option Nat}
    (ht : σ.threads[t]? = some (.collectSend sn after)) :
    stepCollect σ t sn after = (σ, .bad) ∨
      ∃ x, findSnap sn σ.snaps = some x ∧
        CloseTail { σ with lastGCSn := sn, gcJobs := σ.gcJobs ++ [⟨[], x.gclist, .recv⟩],
                           snaps := updSnap sn (fun y => { y with st := .collected }) σ.snaps } t after
          (stepCollect σ t sn after) := by
  unfold stepCollect
  cases findSnap sn σ.snaps with
  | none => exact Or.inl rfl
  | some x => exact Or.inr ⟨x, rfl, collectLoop_tail _ t after (Or.inr ⟨sn, after, ht⟩)⟩

end NitroVerif.MvccConc
