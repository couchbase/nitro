/-
  Small facts about the bookkeeping functions of the small-step M6 model: writers, snapshots,
  and the iterator table as a keyed list (`findIter` after `setIter` / `eraseIter`).
-/
import NitroVerif.Lemmas.MvccConcInv
import NitroVerif.Lemmas.MvccConcCount

namespace NitroVerif.MvccConc

theorem updWriter_length (w : Nat) (f : Writer → Writer) (l : List Writer) : (updWriter w f l).length = l.length := by
  unfold updWriter; split <;> simp

theorem sum_updWriter {w : Nat} {f : Writer → Writer} (d : Int) (hf : ∀ x, (f x).count = x.count + d)
    {l : List Writer} (hw : w < l.length) :
    ((updWriter w f l).map (·.count)).sum = (l.map (·.count)).sum + d := by
  unfold updWriter
  rw [List.getElem?_eq_getElem hw]
  simp only
  have := sum_map_set (fun (x : Writer) => x.count) l w (f l[w]) l[w] (List.getElem?_eq_getElem hw)
  simp only [hf] at this
  omega

theorem garbW_updWriter_same {w : Nat} {f : Writer → Writer} (hf : ∀ x, (f x).gc = x.gc) (l : List Writer) :
    garbW (updWriter w f l) = garbW l := by
  unfold updWriter garbW
  split
  · rename_i x hx
    have h1 := modify_eq_set f hx
    rw [← h1]
    exact flatMap_drop_modify (fun (y : Writer) => y.gc) f hf l w 0
  · rfl

theorem garbC_updWriter_same {w : Nat} {f : Writer → Writer} (hf : ∀ x, (f x).gc = x.gc) (writers : List Writer)
    (snaps : List Snap) (gcJobs : List GcJob) (n : Nat) :
    garbC (updWriter w f writers) snaps gcJobs n = garbC writers snaps gcJobs n := by
  unfold garbC; rw [garbW_updWriter_same hf]

theorem garbW_updWriter_app {w : Nat} {f : Writer → Writer} {g0 : Nat} (hf : ∀ x, (f x).gc = x.gc ++ [g0])
    {l : List Writer} (hw : w < l.length) (n : Nat) :
    (garbW (updWriter w f l)).count n = (garbW l).count n + [g0].count n := by
  unfold updWriter garbW
  rw [List.getElem?_eq_getElem hw]
  simp only
  have := count_flatMap_set (fun (y : Writer) => y.gc) n l w l[w] (f l[w]) (List.getElem?_eq_getElem hw)
  simp only [hf, List.count_append] at this
  omega

theorem findSnap_some {snaps : List Snap} {s : Nat} {x : Snap} (h : findSnap s snaps = some x) :
    x ∈ snaps ∧ x.sn = s := find?_key_some h

theorem mem_updSnap {snaps : List Snap} {s : Nat} {f : Snap → Snap} {y : Snap}
    (h : y ∈ updSnap s f snaps) : ∃ x ∈ snaps, y = if x.sn = s then f x else x := mem_map_upd h

theorem updSnap_pairwise {snaps : List Snap} (h : snaps.Pairwise (fun a b => a.sn < b.sn)) (s : Nat)
    (f : Snap → Snap) (hf : ∀ x, (f x).sn = x.sn) :
    (updSnap s f snaps).Pairwise (fun a b => a.sn < b.sn) :=
  pairwise_map_upd (key := Snap.sn) (S := (· < ·)) hf _ h

theorem updSnap_sn_lt {snaps : List Snap} {cur : Nat} (h : ∀ s ∈ snaps, s.sn < cur) (s : Nat)
    (f : Snap → Snap) (hf : ∀ x, (f x).sn = x.sn) : ∀ y ∈ updSnap s f snaps, y.sn < cur := by
  intro y hy
  obtain ⟨x, hx, rfl⟩ := mem_updSnap hy
  split
  · rw [hf]; exact h x hx
  · exact h x hx

theorem mem_updSnap_of_mem {snaps : List Snap} {s : Nat} {f : Snap → Snap} {x : Snap} (hx : x ∈ snaps) :
    (if x.sn = s then f x else x) ∈ updSnap s f snaps := by
  unfold updSnap
  exact List.mem_map.mpr ⟨x, hx, rfl⟩

theorem findIter_some {k : Nat × Nat} {l : List ((Nat × Nat) × Iter)} {it : Iter} (h : findIter k l = some it) :
    (k, it) ∈ l := by
  obtain ⟨p, hp, rfl⟩ := Option.map_eq_some_iff.mp h
  obtain ⟨hm, rfl⟩ := find?_key_some (key := Prod.fst) hp
  exact hm

theorem findIter_none {k : Nat × Nat} {l : List ((Nat × Nat) × Iter)} (h : findIter k l = none) :
    ∀ it, (k, it) ∉ l :=
  fun it hm => find?_key_none (key := Prod.fst) (Option.map_eq_none_iff.mp h) (k, it) hm rfl

theorem mem_eraseIter {k : Nat × Nat} {l : List ((Nat × Nat) × Iter)} {p : (Nat × Nat) × Iter} :
    p ∈ eraseIter k l ↔ p ∈ l ∧ p.1 ≠ k := by
  unfold eraseIter; simp

theorem mem_setIter {k : Nat × Nat} {it : Iter} {l : List ((Nat × Nat) × Iter)} {p : (Nat × Nat) × Iter} :
    p ∈ setIter k it l ↔ (p ∈ l ∧ p.1 ≠ k) ∨ p = (k, it) := by
  unfold setIter
  rw [List.mem_append, mem_eraseIter]
  simp

theorem eraseIter_pairwise {k : Nat × Nat} {l : List ((Nat × Nat) × Iter)} (h : l.Pairwise (fun a b => a.1 ≠ b.1)) :
    (eraseIter k l).Pairwise (fun a b => a.1 ≠ b.1) := by
  unfold eraseIter; exact List.Pairwise.filter _ h

theorem setIter_pairwise {k : Nat × Nat} {it : Iter} {l : List ((Nat × Nat) × Iter)}
    (h : l.Pairwise (fun a b => a.1 ≠ b.1)) : (setIter k it l).Pairwise (fun a b => a.1 ≠ b.1) := by
  unfold setIter
  rw [List.pairwise_append]
  refine ⟨eraseIter_pairwise h, by simp, ?_⟩
  intro a ha b hb
  simp at hb; subst hb
  exact (mem_eraseIter.mp ha).2

theorem iter_unique {l : List ((Nat × Nat) × Iter)} (h : l.Pairwise (fun a b => a.1 ≠ b.1)) {k : Nat × Nat}
    {a b : Iter} (ha : (k, a) ∈ l) (hb : (k, b) ∈ l) : a = b :=
  (Prod.mk.inj (eq_of_key_eq (key := Prod.fst) h (fun _ _ h => h) ha hb rfl)).2

theorem findIter_erase (k k' : Nat × Nat) (l : List ((Nat × Nat) × Iter)) :
    findIter k (eraseIter k' l) = if k' = k then none else findIter k l := by
  unfold findIter eraseIter
  rw [find?_key_filter_ne (key := Prod.fst)]
  split <;> rfl

theorem findIter_set (k k' : Nat × Nat) (it : Iter) (l : List ((Nat × Nat) × Iter)) :
    findIter k (setIter k' it l) = if k' = k then some it else findIter k l := by
  have happ : findIter k (eraseIter k' l ++ [(k', it)]) =
      (findIter k (eraseIter k' l)).or (findIter k [(k', it)]) := by
    unfold findIter
    rw [List.find?_append]
    cases List.find? (fun p => p.1 == k) (eraseIter k' l) <;> rfl
  unfold setIter
  rw [happ, findIter_erase]
  by_cases he : k' = k
  · rw [if_pos he, if_pos he]; subst he; simp [findIter]
  · rw [if_neg he, if_neg he]
    cases findIter k l <;> simp [findIter, he]

theorem eraseIter_absent {k : Nat × Nat} {l : List ((Nat × Nat) × Iter)} (h : findIter k l = none) :
    eraseIter k l = l := by
  unfold eraseIter
  apply List.filter_eq_self.mpr
  intro p hp
  have hne : p.1 ≠ k := by
    intro e
    apply findIter_none h p.2
    rw [← e]; exact hp
  simpa using hne

theorem snap_unique {snaps : List Snap} (h : snaps.Pairwise (fun a b => a.sn < b.sn)) {a b : Snap}
    (ha : a ∈ snaps) (hb : b ∈ snaps) (hs : a.sn = b.sn) : a = b :=
  eq_of_key_eq h (fun _ _ => Nat.ne_of_lt) ha hb hs

theorem updSnap_updSnap (s : Nat) (f g : Snap → Snap) (l : List Snap) (hg : ∀ x, (g x).sn = x.sn) :
    updSnap s f (updSnap s g l) = updSnap s (fun x => f (g x)) l := by
  unfold updSnap
  rw [List.map_map]
  apply List.map_congr_left
  intro x _
  simp only [Function.comp]
  by_cases h : x.sn = s
  · simp [h, hg]
  · simp [h]

theorem updSnap_keeps_sn (l : List Snap) (s : Nat) {f : Snap → Snap} (hf : ∀ x, (f x).sn = x.sn) {x : Snap}
    (hx : x ∈ l) : ∃ x' ∈ updSnap s f l, x'.sn = x.sn := by
  refine ⟨_, mem_updSnap_of_mem hx, ?_⟩
  split
  · exact hf x
  · rfl

end NitroVerif.MvccConc
