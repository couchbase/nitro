import NitroVerif.Lemmas.SkipConcGen
import NitroVerif.Lemmas.ListFacts
/-!
  Heap algebra of the M5 model: the order on keys, reading a word after `setWord` / `dcas` / an append,
  and the heap-evolution preorder `Ext` (H3 + permanence of marks + immutability of keys and heights).
  H1 … H5 are the invariants of DESIGN Appendix A.3: H1 the level-0 chain runs from head to tail with strictly
  increasing keys, H2 every published unmarked node is on it, H3 a marked word never changes, H4 marking is top-down,
  H5 the level-0 successor of a published node has a strictly larger key.
-/
namespace NitroVerif.SkipConc

theorem Key.lt_irrefl (a : Key) : ¬ Key.lt a a := by
  cases a <;> simp [Key.lt]

theorem Key.lt_trans {a b c : Key} : Key.lt a b → Key.lt b c → Key.lt a c := by
  cases b with
  | neg => intro h; cases a <;> exact h.elim
  | pos => intro _ h; cases c <;> exact h.elim
  | fin k =>
    intro h1 h2
    cases c with
    | neg => exact h2.elim
    | pos => cases a with
      | pos => exact h1.elim
      | _ => exact True.intro
    | fin c' => cases a with
      | neg => exact True.intro
      | pos => exact h1.elim
      | fin a' => exact Nat.lt_trans h1 h2

theorem Key.lt_asymm {a b : Key} : Key.lt a b → ¬ Key.lt b a :=
  fun h1 h2 => Key.lt_irrefl a (Key.lt_trans h1 h2)

theorem Key.not_lt_cases {a b : Key} : ¬ Key.lt a b → a = b ∨ Key.lt b a := by
  cases a <;> cases b <;> simp [Key.lt] <;> omega

theorem Key.eq_of_not_lt {a b : Key} (h1 : ¬ Key.lt a b) (h2 : ¬ Key.lt b a) : a = b := by
  cases a <;> cases b <;> simp [Key.lt] at * <;> omega

theorem Key.lt_of_lt_of_not_lt {a b c : Key} (h1 : Key.lt a b) (h2 : ¬ Key.lt c b) : Key.lt a c := by
  rcases Key.not_lt_cases h2 with e | l
  · rw [e]; exact h1
  · exact Key.lt_trans h1 l

theorem Key.lt_ne {a b : Key} : Key.lt a b → a ≠ b := by
  intro h e; subst e; exact Key.lt_irrefl _ h

theorem Key.neg_lt_fin (k : Nat) : Key.lt .neg (.fin k) := by simp [Key.lt]

theorem length_setWord (h : Heap) (n l : Nat) (w : Nat × Bool) : (setWord h n l w).length = h.length := by
  simp [setWord]

theorem getElem?_setWord (h : Heap) (n l : Nat) (w : Nat × Bool) (n' : Nat) :
    (setWord h n l w)[n']? =
      (h[n']?).map fun nd => if n = n' then { nd with next := nd.next.set l w } else nd := by
  simp [setWord, List.getElem?_modify]

theorem keyOf_setWord (h : Heap) (n l : Nat) (w : Nat × Bool) (n' : Nat) :
    keyOf (setWord h n l w) n' = keyOf h n' := by
  unfold keyOf
  rw [getElem?_setWord]
  cases h[n']? <;> simp
  split <;> rfl

theorem heightOf_setWord (h : Heap) (n l : Nat) (w : Nat × Bool) (n' : Nat) :
    heightOf (setWord h n l w) n' = heightOf h n' := by
  unfold heightOf
  rw [getElem?_setWord]
  cases h[n']? <;> simp
  split <;> rfl

theorem word?_setWord (h : Heap) (n l : Nat) (w : Nat × Bool) (n' l' : Nat) :
    word? (setWord h n l w) n' l' =
      if n' = n ∧ l' = l ∧ (word? h n l).isSome then some w else word? h n' l' := by
  unfold word?
  rw [getElem?_setWord]
  by_cases hn : n' = n
  · subst hn
    cases hh : h[n']? with
    | none => simp
    | some nd =>
      simp [List.getElem?_set]
      by_cases hl : l' = l
      · subst hl
        by_cases hlt : l' < nd.next.length
        · simp [hlt]
        · simp [hlt]
      · have : ¬ l = l' := fun e => hl e.symm
        simp [hl, this]
  · have : ¬ n = n' := fun e => hn e.symm
    cases hh : h[n']? <;> simp [hn, this]

theorem word?_setWord_of {h : Heap} {n l : Nat} {e : Nat × Bool} (hw : word? h n l = some e) (w : Nat × Bool)
    (n' l' : Nat) : word? (setWord h n l w) n' l' = if n' = n ∧ l' = l then some w else word? h n' l' := by
  rw [word?_setWord]; simp [hw]

theorem word?_setWord_level {h : Heap} {n l : Nat} (w : Nat × Bool) {l0 : Nat} (hne : l0 ≠ l) (a : Nat) :
    word? (setWord h n l w) a l0 = word? h a l0 := by
  rw [word?_setWord]
  have : ¬ (a = n ∧ l0 = l ∧ (word? h n l).isSome) := fun c => hne c.2.1
  rw [if_neg this]

theorem word?_setWord_same {h : Heap} {n l e : Nat} {m : Bool} (hw : word? h n l = some (e, m)) (w : Nat × Bool)
    (a : Nat) : word? (setWord h n l w) a l = if a = n then some w else word? h a l := by
  rw [word?_setWord_of hw]; simp

theorem setWord_off {h : Heap} {n l e : Nat} {m : Bool} (hw : word? h n l = some (e, m)) (w : Nat × Bool) :
    ∀ b, b ≠ n → word? (setWord h n l w) b l = word? h b l := fun b hb => by
  rw [word?_setWord_same hw, if_neg hb]

theorem setWord_at {h : Heap} {n l e : Nat} {m : Bool} (hw : word? h n l = some (e, m)) (w : Nat × Bool) :
    word? (setWord h n l w) n l = some w := by
  rw [word?_setWord_same hw, if_pos rfl]

theorem word?_setWord_inv {h : Heap} {n l : Nat} {e w w' : Nat × Bool} {n' l' : Nat} (hw : word? h n l = some e)
    (hw' : word? (setWord h n l w) n' l' = some w') :
    (n' = n ∧ l' = l ∧ w' = w) ∨ (¬ (n' = n ∧ l' = l) ∧ word? h n' l' = some w') := by
  rw [word?_setWord_of hw] at hw'
  by_cases hc : n' = n ∧ l' = l
  · rw [if_pos hc] at hw'; exact .inl ⟨hc.1, hc.2, (Option.some.inj hw').symm⟩
  · rw [if_neg hc] at hw'; exact .inr ⟨hc, hw'⟩

theorem isSome_setWord {h : Heap} {n l : Nat} {e : Nat × Bool} (hw : word? h n l = some e) (w : Nat × Bool)
    (n' l' : Nat) : (word? (setWord h n l w) n' l').isSome = (word? h n' l').isSome := by
  rw [word?_setWord_of hw]
  split
  · rename_i hc; rw [hc.1, hc.2, hw]; rfl
  · rfl

theorem word?_setWord_back {h : Heap} {n l a l' : Nat} {w v : Nat × Bool}
    (hw : word? (setWord h n l w) a l' = some v) : (a = n ∧ l' = l ∧ v = w) ∨ word? h a l' = some v := by
  rw [word?_setWord] at hw
  by_cases hc : a = n ∧ l' = l ∧ (word? h n l).isSome
  · rw [if_pos hc] at hw; exact .inl ⟨hc.1, hc.2.1, (Option.some.inj hw).symm⟩
  · rw [if_neg hc] at hw; exact .inr hw

theorem word?_lt {h : Heap} {n l : Nat} {w : Nat × Bool} (hw : word? h n l = some w) : n < h.length := by
  unfold word? at hw
  cases hh : h[n]? with
  | none => simp [hh] at hw
  | some nd => exact (List.getElem?_eq_some_iff.mp hh).1

theorem keyOf_append_lt (h : Heap) (x : Node) {n : Nat} (hn : n < h.length) :
    keyOf (h ++ [x]) n = keyOf h n := by
  unfold keyOf; rw [List.getElem?_append_left hn]

theorem heightOf_append_lt (h : Heap) (x : Node) {n : Nat} (hn : n < h.length) :
    heightOf (h ++ [x]) n = heightOf h n := by
  unfold heightOf; rw [List.getElem?_append_left hn]

theorem word?_append_lt (h : Heap) (x : Node) {n : Nat} (hn : n < h.length) (l : Nat) :
    word? (h ++ [x]) n l = word? h n l := by
  unfold word?; rw [List.getElem?_append_left hn]

theorem keyOf_append_new (h : Heap) (x : Node) : keyOf (h ++ [x]) h.length = x.key := by
  unfold keyOf; simp

theorem heightOf_append_new (h : Heap) (x : Node) : heightOf (h ++ [x]) h.length = x.height := by
  unfold heightOf; simp

theorem word?_append_new (h : Heap) (x : Node) (l : Nat) : word? (h ++ [x]) h.length l = x.next[l]? := by
  unfold word?; simp

theorem word?_ge {h : Heap} {n : Nat} (hn : h.length ≤ n) (l : Nat) : word? h n l = none := by
  unfold word?; rw [List.getElem?_eq_none hn]; rfl

theorem word?_append_inv {h : Heap} {x : Node} {n l : Nat} {w : Nat × Bool} (hw : word? (h ++ [x]) n l = some w) :
    (n < h.length ∧ word? h n l = some w) ∨ (n = h.length ∧ x.next[l]? = some w) := by
  by_cases hn : n < h.length
  · rw [word?_append_lt h x hn] at hw; exact .inl ⟨hn, hw⟩
  · have hl := word?_lt hw
    have : n = h.length := by simp at hl; omega
    subst this; rw [word?_append_new] at hw; exact .inr ⟨rfl, hw⟩

theorem setWord_append (h : Heap) (x : Node) {n : Nat} (hn : n < h.length) (l : Nat) (w : Nat × Bool) :
    setWord h n l w ++ [x] = setWord (h ++ [x]) n l w :=
  modify_append_left _ h n [x] hn

/-- `Ext h h'`: `h'` is a possible later heap.  Nodes are only added, keys and heights are immutable,
    words exist at the same places, and a MARKED word never changes (H3; with it, marks are permanent). -/
structure Ext (h h' : Heap) : Prop where
  len : h.length ≤ h'.length
  key : ∀ n, n < h.length → keyOf h' n = keyOf h n
  height : ∀ n, n < h.length → heightOf h' n = heightOf h n
  dom : ∀ n l, n < h.length → ((word? h' n l).isSome ↔ (word? h n l).isSome)
  marked : ∀ n l p, word? h n l = some (p, true) → word? h' n l = some (p, true)

theorem Ext.refl (h : Heap) : Ext h h :=
  ⟨Nat.le_refl _, fun _ _ => rfl, fun _ _ => rfl, fun _ _ _ => Iff.rfl, fun _ _ _ x => x⟩

theorem Ext.trans {a b c : Heap} (h1 : Ext a b) (h2 : Ext b c) : Ext a c where
  len := Nat.le_trans h1.len h2.len
  key n hn := by rw [h2.key n (Nat.lt_of_lt_of_le hn h1.len), h1.key n hn]
  height n hn := by rw [h2.height n (Nat.lt_of_lt_of_le hn h1.len), h1.height n hn]
  dom n l hn := (h2.dom n l (Nat.lt_of_lt_of_le hn h1.len)).trans (h1.dom n l hn)
  marked n l p hw := h2.marked n l p (h1.marked n l p hw)

theorem Ext.setWord {h : Heap} {n l : Nat} {p : Nat} (hw : word? h n l = some (p, false)) (w : Nat × Bool) :
    Ext h (setWord h n l w) where
  len := by rw [length_setWord]; exact Nat.le_refl _
  key n' _ := keyOf_setWord ..
  height n' _ := heightOf_setWord ..
  dom n' l' _ := by rw [isSome_setWord hw]
  marked n' l' q hq := by
    rw [word?_setWord_of hw, if_neg]
    · exact hq
    · rintro ⟨rfl, rfl⟩; rw [hw] at hq; cases hq

theorem Ext.append (h : Heap) (x : Node) : Ext h (h ++ [x]) where
  len := by simp
  key n hn := keyOf_append_lt h x hn
  height n hn := heightOf_append_lt h x hn
  dom n l hn := by rw [word?_append_lt h x hn]
  marked n l p hw := by rw [word?_append_lt h x (word?_lt hw)]; exact hw

theorem dcas_cases (h : Heap) (n l e p : Nat) (m : Bool) :
    (word? h n l = some (e, false) ∧ dcas h n l e p m = (setWord h n l (p, m), true)) ∨
    (word? h n l ≠ some (e, false) ∧ dcas h n l e p m = (h, false)) := by
  unfold dcas
  by_cases hw : word? h n l = some (e, false)
  · exact .inl ⟨hw, if_pos hw⟩
  · exact .inr ⟨hw, if_neg hw⟩

theorem dcas_ok_iff (h : Heap) (n l e p : Nat) (m : Bool) :
    (dcas h n l e p m).2 = true ↔ word? h n l = some (e, false) := by
  unfold dcas; by_cases hw : word? h n l = some (e, false) <;> simp [hw]

theorem dcas_ok_heap (h : Heap) (n l e p : Nat) (m : Bool) (hs : (dcas h n l e p m).2 = true) :
    (dcas h n l e p m).1 = setWord h n l (p, m) := by
  unfold dcas at *; by_cases hw : word? h n l = some (e, false) <;> simp_all

theorem getNext_of_word {h : Heap} {n l : Nat} {w : Nat × Bool} (hw : word? h n l = some w) :
    getNext h n l = w := by simp [getNext, hw]

theorem word?_of_getNext_marked {h : Heap} {n l : Nat} (hm : (getNext h n l).2 = true) :
    word? h n l = some ((getNext h n l).1, true) := by
  unfold getNext at *
  cases hw : word? h n l with
  | none => simp [hw] at hm
  | some w => simp [hw] at hm ⊢; cases w; simp_all

theorem lt_of_keyOf_fin {h : Heap} {c k : Nat} (hk : keyOf h c = .fin k) : c < h.length := by
  by_cases hc : c < h.length
  · exact hc
  · have : keyOf h c = .pos := by unfold keyOf; rw [List.getElem?_eq_none (by omega)]
    rw [this] at hk; simp at hk

end NitroVerif.SkipConc
