import NitroVerif.Lemmas.ListFacts
import NitroVerif.Lemmas.SkipConcLevelsKeep
import NitroVerif.Lemmas.SkipConcLevelsPath
/-!
  Statistics of M5: counting along the level-0 chain.  How the list of nodes of the level-0 chain changes under an unlink
  (exactly the node goes, `chain0_unlink`) and under a publish (exactly the node comes, `chain0_publish`), and
  counting lemmas over lists without duplicates (nothing counts with them: Props/C14q, NOT PROVED).
-/
namespace NitroVerif.SkipConc

theorem countP_set_add {α : Type} (p : α → Bool) : ∀ (l : List α) (t : Nat) (a v : α), l[t]? = some a →
    (l.set t v).countP p + (if p a = true then 1 else 0) = l.countP p + (if p v = true then 1 else 0) := by
  intro l t a v h
  obtain ⟨e1, e2⟩ := set_split h
  have h1 := congrArg (List.countP p) e1
  rw [List.countP_append, List.countP_cons] at h1
  rw [e2 v, List.countP_append, List.countP_cons]
  omega

theorem countP_flip {q q' : Nat → Bool} {n : Nat} : ∀ (ns : List Nat), ns.Nodup → n ∈ ns →
    (∀ x, x ≠ n → q' x = q x) → q n = false → q' n = true → ns.countP q' = ns.countP q + 1
  | [], _, hm, _, _, _ => by simp at hm
  | b :: r, hn, hm, hq, h0, h1 => by
    obtain ⟨hb, hr⟩ := List.nodup_cons.mp hn
    simp only [List.countP_cons]
    by_cases e : b = n
    · subst e
      have : r.countP q' = r.countP q := by
        refine List.countP_congr (fun x hx => ?_)
        have : x ≠ b := fun c => hb (c ▸ hx)
        rw [hq x this]
      rw [this, h0, h1]; simp
    · have hm' : n ∈ r := by
        simp at hm
        rcases hm with h | h
        · exact absurd h.symm e
        · exact h
      rw [countP_flip r hr hm' hq h0 h1, hq b e]
      omega

theorem countP_extra {ns ms : List Nat} {c : Nat} (hn : ns.Nodup) (hm : ms.Nodup) (hc : c ∉ ms)
    (hmem : ∀ x, x ∈ ns ↔ x = c ∨ x ∈ ms) (q : Nat → Bool) :
    ns.countP q = ms.countP q + (if q c = true then 1 else 0) := by
  have hp : ns.Perm (c :: ms) := by
    refine (List.perm_ext_iff_of_nodup hn (List.nodup_cons.mpr ⟨hc, hm⟩)).mpr (fun x => ?_)
    rw [hmem x]; simp
  rw [hp.countP_eq, List.countP_cons]

theorem length_extra {ns ms : List Nat} {c : Nat} (hn : ns.Nodup) (hm : ms.Nodup) (hc : c ∉ ms)
    (hmem : ∀ x, x ∈ ns ↔ x = c ∨ x ∈ ms) : ns.length = ms.length + 1 := by
  simpa using countP_extra hn hm hc hmem (fun _ => true)

theorem addAt_length (l : List Int) (i : Nat) (d : Int) : (addAt l i d).length = l.length := by
  simp [addAt]

theorem addAt_getD (l : List Int) {i : Nat} (d : Int) (hi : i < l.length) (k : Nat) :
    (addAt l i d).getD k 0 = l.getD k 0 + (if k = i then d else 0) := by
  unfold addAt
  simp only [List.getD_eq_getElem?_getD, List.getElem?_set]
  by_cases e : i = k
  · subst e; simp [hi]
  · have : ¬ k = i := fun c => e c.symm
    simp [e, this]

/-- paths only depend on the successor part of the words -/
theorem PathL.congr {h h' : Heap} {l : Nat} (he : ∀ a, (word? h' a l).map (·.1) = (word? h a l).map (·.1))
    {a c : Nat} {ns : List Nat} (p : PathL h' l a ns c) : PathL h l a ns c := by
  induction p with
  | nil => exact .nil _
  | @cons a b c ns m hw _ ih =>
    have := he a
    rw [hw] at this
    cases hw' : word? h a l with
    | none => rw [hw'] at this; simp at this
    | some w =>
      obtain ⟨q, m'⟩ := w
      rw [hw'] at this; simp at this
      subst this
      exact .cons hw' ih

theorem mem_chain {h : Heap} (H : HInv h) (L : LvInv h) {l : Nat} {ns : List Nat} (p : PathL h l 0 (0 :: ns) 1)
    (x : Nat) : x ∈ ns ↔ OnChain h l x ∧ x ≠ 0 ∧ x ≠ 1 := by
  have hs := (p.sorted (chain_edges_sorted H L l) (.refl _)).1
  constructor
  · intro hx
    obtain ⟨r, hw⟩ := p.mem (x := x) (by simp [hx])
    refine ⟨r, ?_, ?_⟩
    · intro e
      have := (List.pairwise_cons.mp hs).1 x hx
      rw [e] at this; exact Key.lt_irrefl _ this
    · intro e; rw [e, H.tailNoWord] at hw; simp at hw
  · intro ⟨r, h0, h1⟩
    rcases p.mem_of_reach (H.tailNoWord _) r with e | e
    · exact absurd e h1
    · simp at e
      rcases e with e | e
      · exact absurd e h0
      · exact e

theorem chain_nodup {h : Heap} (H : HInv h) (L : LvInv h) {l : Nat} {ns : List Nat} (p : PathL h l 0 (0 :: ns) 1) :
    ns.Nodup := by
  have hs := (p.sorted (chain_edges_sorted H L l) (.refl _)).1
  refine (List.pairwise_cons.mp hs).2.imp (fun hab e => ?_)
  rw [e] at hab; exact Key.lt_irrefl _ hab

theorem chain0_exists {h : Heap} (R : ReachInv h) : ∃ ns, PathL h 0 0 (0 :: ns) 1 := by
  obtain ⟨L, p⟩ := (reachL_zero_iff.mpr R.tail).toPath
  cases p with
  | cons hw p' => exact ⟨_, .cons hw p'⟩

theorem chain0_unlink {h : Heap} (H : HInv h) (R : ReachInv h) (L : LvInv h) {prev curr next : Nat}
    (hp : word? h prev 0 = some (curr, false)) (hc : word? h curr 0 = some (next, true))
    (H' : HInv (setWord h prev 0 (next, false))) (L' : LvInv (setWord h prev 0 (next, false)))
    {ns ns' : List Nat} (p : PathL h 0 0 (0 :: ns) 1) (p' : PathL (setWord h prev 0 (next, false)) 0 0 (0 :: ns') 1) :
    curr ∉ ns' ∧ ∀ x, x ∈ ns ↔ x = curr ∨ x ∈ ns' := by
  have hpc : OnChain h 0 prev := reachL_zero_iff.mpr (R.live ⟨curr, hp⟩)
  have hoff := unlink_off_chain H L hp hc hpc
  have hc0 : curr ≠ 0 := by
    intro e
    have := H.h5 _ _ _ hp
    rw [e, H.headKey] at this
    cases hk : keyOf h prev <;> simp [hk, Key.lt] at this
  have hc1 : curr ≠ 1 := by
    intro e; rw [e, H.tailNoWord] at hc; simp at hc
  refine ⟨fun hm => hoff ((mem_chain H' L' p' curr).mp hm).1, fun x => ?_⟩
  rw [mem_chain H L p x, mem_chain H' L' p' x]
  constructor
  · intro ⟨r, h0, h1⟩
    by_cases e : x = curr
    · exact .inl e
    · exact .inr ⟨unlink_reachL hp hc r e, h0, h1⟩
  · rintro (e | ⟨r, h0, h1⟩)
    · subst e; exact ⟨hpc.snoc hp, hc0, hc1⟩
    · exact ⟨unlink_reachL_back hp hc r, h0, h1⟩

theorem chain0_publish {h : Heap} (H : HInv h) (R : ReachInv h) (L : LvInv h) {p c : Nat} (nd : Node)
    (hw : word? h p 0 = some (c, false)) (hn0 : nd.next[0]? = some (c, false))
    (H' : HInv (setWord h p 0 (h.length, false) ++ [nd])) (L' : LvInv (setWord h p 0 (h.length, false) ++ [nd]))
    {ns ns' : List Nat} (q : PathL h 0 0 (0 :: ns) 1)
    (q' : PathL (setWord h p 0 (h.length, false) ++ [nd]) 0 0 (0 :: ns') 1) :
    h.length ∉ ns ∧ ∀ x, x ∈ ns' ↔ x = h.length ∨ x ∈ ns := by
  have h2 := H.len
  have hpc : OnChain h 0 p := reachL_zero_iff.mpr (R.live ⟨c, hw⟩)
  have hnew : OnChain (setWord h p 0 (h.length, false) ++ [nd]) 0 h.length :=
    ReachL.snoc (m := false) (publish_reach0 nd hw hn0 hpc) (by rw [word0_publish h hw]; simp)
  refine ⟨fun hm => ?_, fun x => ?_⟩
  · have := ((mem_chain H L q _).mp hm).1.lt H
    omega
  · rw [mem_chain H L q x, mem_chain H' L' q' x]
    constructor
    · intro ⟨r, h0, h1⟩
      rcases publish_reach0_back H nd hw hn0 (by omega) r with e | r1
      · exact .inl e
      · exact .inr ⟨r1, h0, h1⟩
    · rintro (e | ⟨r, h0, h1⟩)
      · subst e; exact ⟨hnew, by omega, by omega⟩
      · exact ⟨publish_reach0 nd hw hn0 r, h0, h1⟩

end NitroVerif.SkipConc
