import NitroVerif.Spec.RefCount
import NitroVerif.Lemmas.RefCountGen
import NitroVerif.Lemmas.ListFacts
/-!
  Basic lemmas for the `RefCount` model: sums `cnt f` of a per-thread weight (a step replaces one entry: `cnt_set`)
  and the arithmetic of a move, the weights and their bridge to the counts of the specification, snapshot records,
  ordered insertion into the dead list.
-/
namespace NitroVerif.RefCount

def cnt (f : PC → Nat) (l : List PC) : Nat := (l.map f).sum

theorem cnt_set (f : PC → Nat) (l : List PC) (i : Nat) (t t' : PC) (h : l[i]? = some t) :
    cnt f (l.set i t') + f t = cnt f l + f t' :=
  sum_map_set f l i t' t h

theorem cnt_set_eq (f : PC → Nat) {l : List PC} {i : Nat} {t : PC} (t' : PC) (h : l[i]? = some t)
    (hf : f t' = f t) : cnt f (l.set i t') = cnt f l :=
  Nat.add_right_cancel (hf ▸ cnt_set f l i t t' h)

/-- `hm`, `hd`, `he` have the shape `cnt_set` delivers (`cnt f l' + f old =
    cnt f l + f new`; `+ 0`: a weight that is 0 at the caller): `d`, `e` sums before the move, `d'`, `e'` after, `u`, `u'`
    the old and new weight; `r`, `h` count and pool, `ρ` the `retired` ghost. -/
theorem count_after_move {r h r' h' : Int} {d d' u u' : Nat} (hc : r = h + d)
    (hm : d' + u = d + u') (hb : r' - h' + u = r - h + u') : r' = h' + d' := by omega

theorem retire_after_move {ρ d d' e u u' a a' : Nat} (hr : ρ + d + e = a)
    (hm : d' + u = d + u') (hb : u' + a = u + a') : ρ + d' + e = a' := by omega

theorem retire_after_shift {ρ d d' e e' u a : Nat} (hr : ρ + d + e = a) (hd : d' + u = d + 0)
    (he : e' + 0 = e + u) : ρ + d' + e' = a := by
  rw [Nat.add_zero] at hd he; subst hd he hr; ac_rfl

theorem retire_after_insert {ρ d e e' a : Nat} (hr : ρ + d + e = a) (he : e' + 1 = e + 0) :
    ρ + 1 + d + e' = a := by
  rw [Nat.add_zero] at he; subst he hr; ac_rfl

theorem resp_after_move {d d' u u' : Nat} (hr : 1 ≤ d) (hm : d' + u = d + u') (hb : u ≤ u') :
    1 ≤ d' :=
  Nat.le_of_add_le_add_right (hm ▸ Nat.add_le_add hr hb : 1 + u ≤ d' + u)

/-- the retire clause on numbers (`d`, `e`: the closers parked before the two list operations, `p`: "the count is 0") -/
theorem retire_cases {ρ d e : Nat} {p : Prop} [Decidable p] (h : ρ + d + e = if p then 1 else 0) :
    ρ ≤ 1 ∧ (ρ = 1 ↔ p ∧ d = 0 ∧ e = 0) ∧ (¬ p → d = 0 ∧ e = 0) ∧ d + e ≤ 1 := by
  by_cases hp : p
  · rw [if_pos hp] at h
    have : ρ ≤ 1 ∧ (ρ = 1 ↔ d = 0 ∧ e = 0) ∧ d + e ≤ 1 := by omega
    exact ⟨this.1, ⟨fun hx => ⟨hp, this.2.1.mp hx⟩, fun hx => this.2.1.mpr hx.2⟩,
      fun hn => absurd hp hn, this.2.2⟩
  · rw [if_neg hp] at h
    have : ρ = 0 ∧ d = 0 ∧ e = 0 := by omega
    exact ⟨this.1 ▸ Nat.zero_le 1, ⟨fun hx => (by rw [this.1] at hx; cases hx), fun hx => absurd hx.1 hp⟩,
      fun _ => this.2, by rw [this.2.1, this.2.2]; exact Nat.zero_le 1⟩

theorem cnt_ge (f : PC → Nat) (l : List PC) (i : Nat) (t : PC) (h : l[i]? = some t) : f t ≤ cnt f l :=
  le_sum_map f (List.mem_of_getElem? h)

theorem cnt_replicate (f : PC → Nat) (n : Nat) (pc : PC) (h : f pc = 0) :
    cnt f (List.replicate n pc) = 0 :=
  (sum_map_replicate f pc n).trans (h ▸ Nat.mul_zero n)

theorem cnt_all_idle (f : PC → Nat) (l : List PC) (h : l.all (fun pc => pc == .idle) = true)
    (hf : f .idle = 0) : cnt f l = 0 :=
  sum_map_eq_zero fun x hx => (beq_iff_eq.mp (List.all_eq_true.mp h x hx)) ▸ hf

/-- 1 iff the thread is parked before the decrement of `s` (it carries one reference) -/
def uDec (s : Nat) : PC → Nat
  | .closeDec s' => if s' = s then 1 else 0
  | _ => 0

/-- 1 iff the thread is parked before retiring `s` -/
def uRet (s : Nat) : PC → Nat
  | .closeRetire s' => if s' = s then 1 else 0
  | _ => 0

/-- 1 iff the thread deleted `s` from the live list and is parked before inserting it into the
    dead list -/
def uRet2 (s : Nat) : PC → Nat
  | .closeRetire2 s' => if s' = s then 1 else 0
  | _ => 0

/-- 1 iff the thread is inside the collector's critical section (holds `isGCRunning`) -/
def uCrit : PC → Nat
  | .collectRead | .collectSend _ | .gcUnlock => 1
  | _ => 0

/-- 1 iff the thread is responsible for a collectable head: it will (re-)try the collector -/
def uResp : PC → Nat
  | .closeGC | .gcTryLock | .collectRead | .collectSend _ | .gcUnlock | .gcRecheck => 1
  | _ => 0

theorem cnt_eq_countP (f : PC → Nat) (p : PC → Bool) (hf : ∀ pc, f pc = if p pc then 1 else 0)
    (l : List PC) : cnt f l = l.countP p := sum_map_eq_countP f p hf l

theorem closing_eq (st : St) (s : Nat) : closing st s = cnt (uDec s) st.ths := by
  unfold closing
  rw [cnt_eq_countP (uDec s) (fun pc => pc == .closeDec s)]
  intro pc
  cases pc with
  | closeDec s' => simp [uDec]
  | _ => rfl

theorem retiring_eq (st : St) (s : Nat) : retiring st s = cnt (uRet s) st.ths := by
  unfold retiring
  rw [cnt_eq_countP (uRet s) (fun pc => pc == .closeRetire s)]
  intro pc
  cases pc with
  | closeRetire s' => simp [uRet]
  | _ => rfl

theorem retiring2_eq (st : St) (s : Nat) : retiring2 st s = cnt (uRet2 s) st.ths := by
  unfold retiring2
  rw [cnt_eq_countP (uRet2 s) (fun pc => pc == .closeRetire2 s)]
  intro pc
  cases pc with
  | closeRetire2 s' => simp [uRet2]
  | _ => rfl

theorem uDec_self (s : Nat) : uDec s (.closeDec s) = 1 := if_pos rfl
theorem uDec_ne {s s' : Nat} (h : s ≠ s') : uDec s' (.closeDec s) = 0 := if_neg h
theorem uRet_self (s : Nat) : uRet s (.closeRetire s) = 1 := if_pos rfl
theorem uRet_ne {s s' : Nat} (h : s ≠ s') : uRet s' (.closeRetire s) = 0 := if_neg h
theorem uRet2_self (s : Nat) : uRet2 s (.closeRetire2 s) = 1 := if_pos rfl
theorem uRet2_ne {s s' : Nat} (h : s ≠ s') : uRet2 s' (.closeRetire2 s) = 0 := if_neg h

theorem uResp_le_one (t : PC) : uResp t ≤ 1 := by
  cases t <;> simp [uResp]

theorem uCrit_le_uResp (t : PC) : uCrit t ≤ uResp t := by
  cases t <;> simp [uCrit, uResp]

@[simp] theorem length_setAt (l : List Snap) (a : Nat) (x : Snap) : (setAt l a x).length = l.length := by
  cases a <;> simp [setAt]

theorem snapAt_setAt (l : List Snap) (a s : Nat) (x : Snap) (h1 : 1 ≤ a) (h2 : a ≤ l.length) :
    snapAt (setAt l a x) s = if a = s then x else snapAt l s := by
  cases a with
  | zero => cases h1
  | succ n =>
    cases s with
    | zero => exact (if_neg (Nat.succ_ne_zero n)).symm
    | succ m =>
      show (l.set n x).getD m noSnap = if n + 1 = m + 1 then x else l.getD m noSnap
      rw [getD_set]
      by_cases h : n = m
      · rw [if_pos ⟨h, h2⟩, if_pos (congrArg (· + 1) h)]
      · rw [if_neg (fun c => h c.1), if_neg (fun c => h (Nat.succ.inj c))]

theorem snapAt_replicate (k s : Nat) (x : Snap) (h1 : 1 ≤ s) (h2 : s ≤ k) :
    snapAt (List.replicate k x) s = x := by
  cases s with
  | zero => omega
  | succ n =>
    have : n < k := by omega
    simp [snapAt, List.getD_eq_getElem?_getD, this]

theorem getS_setT (st : St) (i : Nat) (pc : PC) (s : Nat) : getS (setT st i pc) s = getS st s := rfl

theorem getS_setS (st : St) (a s : Nat) (x : Snap) (h1 : 1 ≤ a) (h2 : a ≤ st.snaps.length) :
    getS (setS st a x) s = if a = s then x else getS st s := by
  unfold getS setS; exact snapAt_setAt _ _ _ _ h1 h2

theorem getS_setS_self (st : St) (a : Nat) (x : Snap) (h1 : 1 ≤ a) (h2 : a ≤ st.snaps.length) :
    getS (setS st a x) a = x := by
  rw [getS_setS st a a x h1 h2, if_pos rfl]

theorem getS_setS_ne (st : St) {a s : Nat} (x : Snap) (hne : a ≠ s) :
    getS (setS st a x) s = getS st s := by
  cases a with
  | zero => rfl
  | succ n =>
    cases s with
    | zero => rfl
    | succ m => exact getD_set_ne (fun e => hne (congrArg (· + 1) e))

theorem proj_setS {α : Type} (f : Snap → α) (st : St) {a s : Nat} {x : Snap} (h1 : 1 ≤ a)
    (h2 : a ≤ st.snaps.length) (hx : a = s → f x = f (getS st s)) :
    f (getS (setS st a x) s) = f (getS st s) := by
  by_cases e : a = s
  · subst e; rw [getS_setS_self st a x h1 h2]; exact hx rfl
  · rw [getS_setS_ne st x e]

theorem mem_dinsert (s x : Nat) (l : List Nat) : x ∈ dinsert s l ↔ x = s ∨ x ∈ l := by
  induction l with
  | nil => simp [dinsert]
  | cons y ys ih =>
    unfold dinsert
    simp only
    split
    · rename_i h; rw [compareSnapshot_eq_zero] at h; subst h; simp
    · split
      · simp
      · rw [List.mem_cons, ih, List.mem_cons]
        exact or_left_comm

theorem pairwise_dinsert (s : Nat) (l : List Nat) (h : l.Pairwise (· < ·)) :
    (dinsert s l).Pairwise (· < ·) := by
  induction l with
  | nil => simp [dinsert]
  | cons y ys ih =>
    unfold dinsert
    simp only
    split
    · exact h
    · rename_i hne
      rw [compareSnapshot_eq_zero] at hne
      split
      · rename_i hlt
        rw [compareSnapshot_neg] at hlt
        rw [List.pairwise_cons] at h ⊢
        refine ⟨?_, List.pairwise_cons.mpr h⟩
        intro a ha
        rcases List.mem_cons.mp ha with rfl | ha
        · exact hlt
        · have := h.1 a ha; omega
      · rename_i hge
        rw [compareSnapshot_neg] at hge
        rw [List.pairwise_cons] at h ⊢
        refine ⟨?_, ih h.2⟩
        intro a ha
        rw [mem_dinsert] at ha
        rcases ha with rfl | ha
        · omega
        · exact h.1 a ha

end NitroVerif.RefCount
