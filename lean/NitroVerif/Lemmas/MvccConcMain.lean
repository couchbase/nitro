/-
  The invariant holds initially and is preserved by every action of the steered machine (a `shutdown` that is
  carried out apart).  The induction over reachable states is `invAll_reachable`: `InvAll` is what holds in every
  reachable state, shut down or not — the invariant while up, V1 and V2 of the store, the allocator's logs.
  `reachable_ind` proves a further predicate of every reachable state with the invariant at hand; `inv_step_up`
  starts from any state, reachable or not.  First consequence, memory safety: no step dereferences a block that is
  not live (`step_ne_uaf`), read off the outcomes of the sub-steps, where the tests on `isLive` are decided.
-/
import NitroVerif.Lemmas.MvccConcStep
import NitroVerif.Lemmas.MvccConcInvSnap
import NitroVerif.Lemmas.MvccConcInvJobs
import NitroVerif.Lemmas.MvccConcInvWrite
import NitroVerif.Lemmas.MvccConcOutcome
import NitroVerif.Lemmas.MvccConcShutdown

namespace NitroVerif.MvccConc

open NitroVerif.Mvcc (Sorted Chains)

theorem inv_init (nw nr : Nat) (fx : Bool) : Inv (init nw nr fx) := by
  have hthr : ∀ (t : Nat) (pc : Pc), (List.replicate (nw + nr) Pc.idle)[t]? = some pc → pc = .idle :=
    fun t pc h => List.eq_of_mem_replicate (List.mem_of_getElem? h)
  have hnores : ∀ n, ¬ reserved (List.replicate (nw + nr) Pc.idle) n := by
    rintro n ⟨k, v, b, hm⟩
    have := (List.mem_replicate.mp hm).2; cases this
  have hown0 : ∀ n, ownC [] (List.replicate (nw + nr) Pc.idle) [] [⟨[], false, []⟩] 0 [] n = 0 := by
    intro n
    unfold ownC sessfr thrOwned gcOwned sessOwned frOwned storeIds
    rw [List.flatMap_eq_nil_iff.mpr fun a ha => by rw [(List.mem_replicate.mp ha).2]; rfl]
    simp
  have nomem : ∀ {α : Type} {P : α → Prop} (a : α), a ∈ ([] : List α) → P a := fun _ h => absurd h List.not_mem_nil
  refine inv_iff.mpr ?_
  simp only [init]
  refine ⟨?_, ?_, ?_, ?_, ?_, ?_⟩
  · refine ⟨.nil, ⟨nomem, nomem⟩, ?_, Nat.one_pos, List.nodup_nil, nomem, nomem, .nil, nomem, nomem⟩
    show (0 : Int) + ((List.replicate nw (⟨0, []⟩ : Writer)).map (·.count)).sum = _
    rw [sum_map_eq_zero fun a ha => by rw [(List.mem_replicate.mp ha).2]]; simp [vers]
  · refine ⟨fun {t pc} hg => ?_, fun t1 _ s1 a1 _ _ hg _ => by cases hthr t1 _ hg⟩
    rw [hthr t pc hg]; trivial
  · have hg0 : ∀ n, garbC (List.replicate nw (⟨0, []⟩ : Writer)) [] [] n = 0 := by
      intro n
      unfold garbC garbW garbS garbJ
      rw [List.flatMap_eq_nil_iff.mpr fun a ha => by rw [(List.mem_replicate.mp ha).2]]; simp
    exact ⟨fun n => by rw [hg0]; exact Nat.zero_le 1, fun n hn => by rw [hg0] at hn; exact absurd hn (Nat.lt_irrefl 0),
      nomem⟩
  · refine ⟨⟨fun n => ?_, by simp, by simp, by simp⟩, rfl⟩
    rw [hown0]
    exact ⟨Nat.zero_le 1, fun hn => absurd hn (Nat.lt_irrefl 0), fun hr => absurd hr (hnores n), by simp,
      by simp, by simp, by simp⟩
  · refine ⟨⟨?_, by simp, by simp, by simp, by simp, ?_, ?_, ?_⟩, ?_⟩
    · intro t pc tok hg htk; have := hthr t _ hg; subst this; simp [Pc.tok] at htk
    · intro i s hs
      cases i with
      | zero => simp at hs; subst hs; simp
      | succ i => simp at hs
    · intro i s hs hf
      cases i with
      | zero => simp at hs; subst hs; rfl
      | succ i => simp at hs
    · intro i s hs
      cases i with
      | zero => simp at hs; subst hs; simp
      | succ i => simp at hs
    · intro s hs; simp at hs; subst hs; simp [Sess.terminated]
  · refine ⟨fun t pc n tok hg hr => ?_, by simp⟩
    rw [hthr t pc hg] at hr; cases hr

theorem inv_step {σ : State} (h : Inv σ) (a : Act) (ha : a ≠ .shutdown) : Inv (step σ a).1 := by
  have hc := step_cases σ a
  generalize step σ a = p at hc
  cases hc with
  | refuse => exact h
  | snap hi => exact inv_snap h hi
  | put hw ht => exact inv_startPut h ht hw
  | del hw ht => exact inv_startDel h ht hw
  | get => exact h
  | close ht => exact inv_startClose h ht
  | itNew => exact inv_itNew h
  | itFirst _ ht => exact inv_itFirst h ht
  | itNext _ ht => exact inv_itNext h ht
  | itClose _ ht => exact inv_itClose h ht
  | stepPut ht => exact inv_stepPut h ht
  | stepDelPhys ht => exact inv_stepDelPhys h ht
  | stepDelFlush ht => exact inv_stepDelFlush h ht
  | stepDelCas ht => exact inv_stepDelCas h ht
  | stepCollect ht => exact inv_stepCollect h ht
  | stepIter ht => exact inv_stepIter h ht
  | gc => exact inv_stepGc h
  | fr => exact inv_stepFr h
  | shutdown => exact absurd rfl ha

theorem step_down {σ : State} (hd : σ.down = true) (a : Act) : step σ a = (σ, .bad) := by
  unfold step; simp [hd]

theorem step_up_cases (σ : State) (a : Act) :
    step σ a = (σ, .bad) ∨
      (a = .shutdown ∧ σ.down = false ∧ quiescent σ = true ∧ step σ a = shutdown σ ∧ (shutdown σ).1.down = true) ∨
      (a ≠ .shutdown ∧ σ.down = false) := by
  by_cases hd : σ.down = true
  · exact Or.inl (step_down hd a)
  have hd0 : σ.down = false := Bool.not_eq_true _ ▸ hd
  by_cases ha : a = .shutdown
  · subst ha
    have hs : step σ .shutdown = shutdown σ := if_neg hd
    by_cases hq : quiescent σ = true
    · exact Or.inr (Or.inl ⟨rfl, hd0, hq, hs, by unfold shutdown; rw [if_pos hq]⟩)
    · exact Or.inl (by rw [hs]; unfold shutdown; rw [if_neg hq])
  · exact Or.inr (Or.inr ⟨ha, hd0⟩)

theorem shutdown_untouched (σ : State) :
    (shutdown σ).1.store = σ.store ∧ (shutdown σ).1.currSn = σ.currSn ∧ (shutdown σ).1.writers = σ.writers ∧
      (shutdown σ).1.threads = σ.threads := by
  unfold shutdown
  split
  · simp only [mvcc_fields, and_self]
  · exact ⟨rfl, rfl, rfl, rfl⟩

theorem inv_step_up {σ : State} (h : σ.down = false → Inv σ) (a : Act) :
    (step σ a).1.down = false → Inv (step σ a).1 := by
  intro hd'
  rcases step_up_cases σ a with e | ⟨_, _, _, e, hdown⟩ | ⟨ha, hd⟩
  · rw [e] at hd' ⊢; exact h hd'
  · rw [e, hdown] at hd'; cases hd'
  · exact inv_step (h hd) a ha

structure InvAll (σ : State) : Prop where
  up : σ.down = false → Inv σ
  store : Sorted (vers σ.store) ∧ Chains σ.currSn (vers σ.store)
  books : Books σ

theorem InvAll.of_inv {σ : State} (h : Inv σ) : InvAll σ :=
  ⟨fun _ => h, ⟨h.store.sorted, h.store.chains⟩, books_of_inv h⟩

theorem invAll_step {σ : State} (h : InvAll σ) (a : Act) : InvAll (step σ a).1 := by
  rcases step_up_cases σ a with e | ⟨_, hd, hq, e, hdown⟩ | ⟨ha, hd⟩
  · rw [e]; exact h
  · rw [e]
    have hi := h.up hd
    obtain ⟨h1, h2, _, h4, h5⟩ := shutdown_books hi hq
    obtain ⟨e1, e2, _, _⟩ := shutdown_untouched σ
    refine ⟨fun hd' => ?_, ?_, h1, h4, ?_, fun b hb => (h5 b).mp hb⟩
    · rw [hdown] at hd'; cases hd'
    · rw [e1, e2]; exact h.store
    · rw [h2]; exact hi.own.a_nodup
  · exact .of_inv (inv_step (h.up hd) a ha)

theorem invAll_reachable {fx : Bool} {nw nr : Nat} {σ : State} (hr : ReachableFx fx nw nr σ) : InvAll σ := by
  induction hr with
  | init => exact .of_inv (inv_init nw nr fx)
  | step a _ ih => exact invAll_step ih a

theorem inv_reachable {fx : Bool} {nw nr : Nat} {σ : State} (hr : ReachableFx fx nw nr σ) : σ.down = false → Inv σ :=
  (invAll_reachable hr).up

theorem books_reachable {fx : Bool} {nw nr : Nat} {σ : State} (hr : ReachableFx fx nw nr σ) : Books σ :=
  (invAll_reachable hr).books

theorem store_facts_reachable {fx : Bool} {nw nr : Nat} {σ : State} (hr : ReachableFx fx nw nr σ) :
    Sorted (vers σ.store) ∧ Chains σ.currSn (vers σ.store) :=
  (invAll_reachable hr).store

theorem reachable_ind {fx : Bool} {nw nr : Nat} {P : State → Prop} (h0 : P (init nw nr fx))
    (hs : ∀ σ a, Inv σ → P σ → P (step σ a).1) {σ : State} (hr : ReachableFx fx nw nr σ) : P σ := by
  induction hr with
  | init => exact h0
  | @step σ a hr ih =>
    by_cases hd : σ.down = true
    · rw [step_down hd]; exact ih
    · exact hs σ a (inv_reachable hr (Bool.not_eq_true _ ▸ hd)) ih

theorem reachable_run {fx : Bool} {nw nr : Nat} {σ : State} (h : ReachableFx fx nw nr σ) (sched : List Act) :
    ReachableFx fx nw nr (run σ sched) := by
  induction sched generalizing σ with
  | nil => exact h
  | cons a as ih => exact ih (ReachableFx.step a h)

theorem step_ne_uaf {σ : State} (h : Inv σ) (a : Act) : (step σ a).2 ≠ .uaf := by
  have hc := step_cases σ a
  generalize step σ a = p at hc
  cases hc with
  | refuse | snap | put | get | stepDelFlush => exact nofun
  | del =>
    rcases startDel_outcome h _ _ with ⟨_, e⟩ | ⟨x, _, _, _, _, ⟨_, e⟩ | ⟨_, e⟩⟩ <;> rw [e] <;> exact nofun
  | close =>
    rcases startClose_tail σ _ _ with e | ⟨_, _, _, _, _, hct⟩
    · rw [e]; exact nofun
    · exact hct.ne_uaf
  | itNew =>
    unfold itNew
    split
    · split <;> exact nofun
    · exact nofun
  | itFirst =>
    rcases itFirst_cases σ _ _ with e | ⟨_, _, e⟩
    · rw [e]; exact nofun
    · rw [e]; exact landOn_ne_uaf _ _ _ _ _
  | itNext =>
    rcases itNext_cases σ _ _ with e | e <;> rw [e] <;> exact nofun
  | itClose =>
    rcases itClose_tail σ _ _ with e | ⟨_, _, _, _, _, _, hct⟩
    · rw [e]; exact nofun
    · exact hct.ne_uaf
  | stepPut ht =>
    obtain ⟨_, _, ⟨_, _, e⟩ | ⟨_, e⟩⟩ := stepPut_outcome h ht <;> rw [e] <;> exact nofun
  | stepDelPhys ht =>
    obtain ⟨_, ⟨_, _, _, _, _, e⟩ | ⟨_, e⟩⟩ := stepDelPhys_outcome h ht <;> rw [e] <;> exact nofun
  | stepDelCas ht =>
    obtain ⟨_, ⟨_, _, _, _, _, e⟩ | ⟨_, e⟩⟩ := stepDelCas_outcome h ht <;> rw [e] <;> exact nofun
  | stepCollect ht =>
    rcases stepCollect_tail σ ht with e | ⟨_, _, hct⟩
    · rw [e]; exact nofun
    · exact hct.ne_uaf
  | stepIter =>
    rcases stepIter_outcome h _ _ with e | ⟨_, _, _, _, _, _, e⟩
    · rw [e]; exact nofun
    · rw [e]; exact landOn_ne_uaf _ _ _ _ _
  | gc j =>
    have hg := stepGc_outcome h j
    generalize stepGc σ j = q at hg
    cases hg <;> exact nofun
  | fr j =>
    unfold stepFr
    split
    · split <;> exact nofun
    · exact nofun
  | shutdown =>
    unfold shutdown
    split <;> exact nofun

theorem step_ne_uaf_of_reachable {fx : Bool} {nw nr : Nat} {σ : State} (hr : ReachableFx fx nw nr σ) (a : Act) :
    (step σ a).2 ≠ .uaf := by
  by_cases hd : σ.down = true
  · rw [step_down hd]; exact nofun
  · exact step_ne_uaf (inv_reachable hr (Bool.eq_false_iff.mpr hd)) a

end NitroVerif.MvccConc
