import NitroVerif.Lemmas.SkipConcScanInv
/-!
  Whole scans: monotonicity.  `MonoInv` (behind `C15_monotone`) keeps `MonoF` along the returned positions.  What makes
  "an equal key comes from a node published later" provable is `Uniq h b L` for the last position `b`: when `b` is returned
  it is on the level-0 chain from the head, as is every unmarked node, and the chain is strictly sorted; marks are permanent.
  Coverage and monotonicity together hold along every instrumented run (`runG_scan`).
-/
namespace NitroVerif.SkipConc

variable {h : Heap} {g : Ghost} {it : Nat} {th : Thread}

/-- the second conjunct is what `C15_present_partial` adds for searches -/
theorem arrive_reach {sh : Shared} (H : HInv sh.heap) (R : ReachInv sh.heap)
    (hT : TInv sh.heap th) (R' : ReachInv (stepThread sh th).1.heap)
    (hown : pcIter th.pc = some it)
    (hpc : (stepThread sh th).2.1.pc = .idle ∨ (stepThread sh th).2.1.pc = .iterRefresh it) :
    Reach (stepThread sh th).1.heap 0 ((stepThread sh th).2.1.iter it).curr ∧
    ((searchOf th.pc).isSome → ((stepThread sh th).2.1.iter it).curr = 1 ∨
      unmarked0 (stepThread sh th).1.heap ((stepThread sh th).2.1.iter it).curr) := by
  have seg := stepThread_iter (sh := sh) hown hT.buf.succs_pos
  generalize stepThread sh th = r at seg R' hpc ⊢
  generalize hp : th.pc = pc at seg
  cases seg with
  | search _ hf' _ _ _ _ => exact absurd hpc (searchOf_ne hf' it)
  | @found fp rr c _ hc hi0 hm _ h1 h2 _ =>
    obtain ⟨_, hlive⟩ := search_end_live H (hp ▸ hT.pc) hc hi0 hm
    rw [h1, h2]
    refine ⟨?_, fun _ => hlive⟩
    rcases hlive with e | hu
    · rw [e]; exact R.tail
    · exact R.live hu
  | nextMarked => exact absurd hpc (by simp)
  | nextMove hm h1 h2 _ =>
    obtain ⟨k, hk⟩ : PCInv sh.heap th (.iterNext it) := hp ▸ hT.pc
    obtain ⟨p, m, hw⟩ := word0_of_fin H hk
    rw [h1, h2]
    refine ⟨?_, fun h => by simp [searchOf] at h⟩
    rw [getNext_of_word hw] at hm ⊢
    cases hm
    exact (R.live ⟨p, hw⟩).trans (.single hw)
  | @helpOk next _ hw h1 h2 _ =>
    rw [h2]
    refine ⟨?_, fun h => by simp [searchOf] at h⟩
    have hw' : word? r.1.heap (th.iter it).prev 0 = some (next, false) := by
      rw [h1, word?_setWord_same hw]; simp
    exact (R'.live ⟨next, hw'⟩).trans (.single hw')
  | helpFail => exact absurd hpc (searchOf_ne (pc := .findLevel _) rfl it)
  | refresh => exact absurd hpc (searchOf_ne (pc := .findLevel _) rfl it)

/-- position `c` (returned in a state with `L` published nodes) and the next position `c'` -/
def Rel (h : Heap) (c L c' : Nat) : Prop :=
  Key.lt (keyOf h c) (keyOf h c') ∨ (keyOf h c = keyOf h c' ∧ marked0 h c ∧ L ≤ c')

/-- `Rel` along the list of positions (`stamps` = number of published nodes at each return) -/
def MonoF (h : Heap) : List Nat → List Nat → Prop
  | c :: ps, L :: ss => (∀ c', ps.head? = some c' → Rel h c L c') ∧ MonoF h ps ss
  | _, _ => True

/-- every other node among the first `L` that carries the key of `b` is marked -/
def Uniq (h : Heap) (b L : Nat) : Prop := ∀ n, n < L → n ≠ b → keyOf h n = keyOf h b → ¬ unmarked0 h n

/-- the last position against the item a findPath of the iterator searches -/
def RelK (h : Heap) (b k : Nat) : Prop := Key.lt (keyOf h b) (.fin k) ∨ (keyOf h b = .fin k ∧ marked0 h b)

theorem Rel.ext {h h' : Heap} (e : Ext h h') {c L c' : Nat} (hc : c < h.length) (hc' : c' < h.length)
    (r : Rel h c L c') : Rel h' c L c' := by
  unfold Rel at *
  rw [e.key c hc, e.key c' hc']
  rcases r with r | ⟨r1, r2, r3⟩
  · exact .inl r
  · exact .inr ⟨r1, r2.ext e, r3⟩

theorem RelK.ext {h h' : Heap} (e : Ext h h') {b k : Nat} (hb : b < h.length) (r : RelK h b k) : RelK h' b k := by
  unfold RelK at *
  rw [e.key b hb]
  rcases r with r | ⟨r1, r2⟩
  · exact .inl r
  · exact .inr ⟨r1, r2.ext e⟩

theorem Uniq.ext {h h' : Heap} (e : Ext h h') {b L : Nat} (hL : L ≤ h.length) (hb : b < h.length)
    (u : Uniq h b L) : Uniq h' b L := by
  intro n hn hne hk hu
  have hnl : n < h.length := Nat.lt_of_lt_of_le hn hL
  rw [e.key n hnl, e.key b hb] at hk
  exact u n hn hne hk (unmarkedAt_back e hnl hu)

theorem MonoF.ext {h h' : Heap} (e : Ext h h') : ∀ (ps ss : List Nat), (∀ c ∈ ps, c < h.length) →
    MonoF h ps ss → MonoF h' ps ss := by
  intro ps
  induction ps with
  | nil => intro ss _ _; trivial
  | cons c ps ih =>
    intro ss hb m
    cases ss with
    | nil => trivial
    | cons L ss =>
      exact ⟨fun c' hc' => (m.1 c' hc').ext e (hb c List.mem_cons_self)
          (hb c' (List.mem_cons_of_mem _ (List.mem_of_mem_head? hc'))),
        ih ss (fun x hx => hb x (List.mem_cons_of_mem _ hx)) m.2⟩

theorem MonoF_snoc (b L c' L' : Nat) (hrel : Rel h b L c') : ∀ (ps0 ss0 : List Nat),
    ps0.length = ss0.length → MonoF h (ps0 ++ [b]) (ss0 ++ [L]) → MonoF h (ps0 ++ [b] ++ [c']) (ss0 ++ [L] ++ [L']) := by
  intro ps0
  induction ps0 with
  | nil =>
    intro ss0 hl _
    cases ss0 with
    | nil => exact ⟨fun x hx => by cases hx; exact hrel, nofun, trivial⟩
    | cons _ _ => cases hl
  | cons p ps ih =>
    intro ss0 hl m
    cases ss0 with
    | nil => cases hl
    | cons s ss =>
      refine ⟨fun x hx => m.1 x ?_, ih ss (Nat.succ.inj hl) m.2⟩
      cases ps <;> exact hx

/-- for every `L`: `L` matters only for the stability of `Uniq` (`Uniq.ext`) -/
theorem uniq_of_reach (H : HInv h) (R : ReachInv h) {c : Nat} (hr : Reach h 0 c) (L : Nat) :
    Uniq h c L := by
  intro n _ hne hk hu
  rcases (R.live hu).det hr with r | r
  · rcases r.key H with e | l
    · exact hne e
    · rw [hk] at l; exact Key.lt_irrefl _ l
  · rcases r.key H with e | l
    · exact hne e.symm
    · rw [hk] at l; exact Key.lt_irrefl _ l

theorem unmarked0_of_live (H : HInv h) {c k : Nat} (hlive : c = 1 ∨ unmarked0 h c)
    (e : keyOf h c = .fin k) : unmarked0 h c := by
  rcases hlive with h1 | hu
  · rw [h1, H.tailKey] at e; cases e
  · exact hu

theorem rel_of_search_end (H : HInv h) {b L k c : Nat} (r : RelK h b k) (u : Uniq h b L)
    (hge : ¬ Key.lt (keyOf h c) (.fin k)) (hlive : c = 1 ∨ unmarked0 h c) : Rel h b L c := by
  rcases r with r | ⟨r1, r2⟩
  · exact .inl (Key.lt_of_lt_of_not_lt r hge)
  · rcases Key.not_lt_cases hge with e | l
    · refine .inr ⟨by rw [r1, e], r2, ?_⟩
      have hu := unmarked0_of_live H hlive e
      have hne : c ≠ b := fun ec => not_unmarked0_of_marked0 r2 (ec ▸ hu)
      by_cases hlt : c < L
      · exact absurd hu (u c hlt hne (by rw [e, r1]))
      · omega
    · exact .inl (by rw [r1]; exact l)

/-- the end of the findPath of an EXPLICIT refresh (searched item = key of the last position `b`, which need not be
    marked): findPath stops at `b` itself, or at a node related to `b` by `Rel` -/
theorem rel_or_same_of_search_end (H : HInv h) (R : ReachInv h) {b L k c : Nat}
    (hkb : keyOf h b = .fin k) (u : Uniq h b L) (hge : ¬ Key.lt (keyOf h c) (.fin k))
    (hlive : c = 1 ∨ unmarked0 h c) : Rel h b L c ∨ c = b := by
  by_cases hcb : c = b
  · exact .inr hcb
  · refine .inl ?_
    rcases Key.not_lt_cases hge with e | l
    · -- another node with the key of `b` is on the chain: `b` is not
      obtain ⟨p, m, hw⟩ := word0_of_fin H hkb
      cases m with
      | true => exact rel_of_search_end H (.inr ⟨hkb, p, hw⟩) u hge hlive
      | false =>
        exact absurd ⟨p, hw⟩ (uniq_of_reach H R (R.live (unmarked0_of_live H hlive e)) (b + 1) b (by omega)
          (fun e2 => hcb e2.symm) (by rw [hkb, e]))
    · exact .inl (by rw [hkb]; exact l)

theorem MonoF_last_stamp (b L L' : Nat) : ∀ (ps0 ss0 : List Nat),
    ps0.length = ss0.length → MonoF h (ps0 ++ [b]) (ss0 ++ [L]) → MonoF h (ps0 ++ [b]) (ss0 ++ [L']) := by
  intro ps0
  induction ps0 with
  | nil =>
    intro ss0 hl _
    cases ss0 with
    | nil => exact ⟨nofun, trivial⟩
    | cons _ _ => cases hl
  | cons p ps ih =>
    intro ss0 hl m
    cases ss0 with
    | nil => cases hl
    | cons s ss => exact ⟨m.1, ih ss (Nat.succ.inj hl) m.2⟩

/-- `b` is the last of the positions `ps`, returned in a state with `L` published nodes (the last of the stamps `ss`) -/
structure Last (h : Heap) (ps ss : List Nat) (b L : Nat) : Prop where
  len : ps.length = ss.length
  lt : ∀ c ∈ ps, c < h.length
  mono : MonoF h ps ss
  pos : ∃ ps0, ps = ps0 ++ [b]
  stamp : ∃ ss0, ss = ss0 ++ [L]
  le : L ≤ h.length
  uniq : Uniq h b L

theorem Last.lt_last {ps ss : List Nat} {b L : Nat} (l : Last h ps ss b L) : b < h.length :=
  let ⟨_, hp⟩ := l.pos
  l.lt b (by rw [hp]; simp)

theorem Last.ext {h h' : Heap} (e : Ext h h') {ps ss : List Nat} {b L : Nat} (l : Last h ps ss b L) : Last h' ps ss b L :=
  ⟨l.len, fun c hc => Nat.lt_of_lt_of_le (l.lt c hc) e.len, l.mono.ext e _ _ l.lt, l.pos, l.stamp,
    Nat.le_trans l.le e.len, l.uniq.ext e l.le l.lt_last⟩

/-- The alternatives with `g.refreshing = true` belong to an explicit Refresh, which is accepted with the cursor on the last
    position `b` and searches for the key of `b`.  At ITER_REFRESH the cursor is then `b` itself, so `Rel` fails.  In the
    search `b` carries the searched item and need not be marked, so `RelK` may fail. -/
def MonoInv (h : Heap) (g : Ghost) (it : Nat) (th : Thread) : Prop :=
  g.positions.length = g.stamps.length ∧ (∀ c ∈ g.positions, c < h.length) ∧ MonoF h g.positions g.stamps ∧
  ((g.positions = [] ∧ ∃ fp, searchOf th.pc = some fp ∧ fp.cont = .iterSeek it) ∨
   (∃ ps0 ss0 b L, g.positions = ps0 ++ [b] ∧ g.stamps = ss0 ++ [L] ∧ L ≤ h.length ∧ Uniq h b L ∧
      (((pcIter th.pc ≠ some it ∨ th.pc = .iterNext it ∨ ∃ n, th.pc = .iterHelp it n) ∧ (th.iter it).curr = b) ∨
       (th.pc = .iterRefresh it ∧ (th.iter it).curr < h.length ∧
          (Rel h b L (th.iter it).curr ∨ (g.refreshing = true ∧ (th.iter it).curr = b))) ∨
       (∃ fp, searchOf th.pc = some fp ∧ (fp.cont = .iterNext it ∨ fp.cont = .iterRefresh it) ∧
          (RelK h b fp.item ∨ (g.refreshing = true ∧ keyOf h b = .fin fp.item)) ∧
          (fp.cont = .iterNext it → (th.iter it).curr = b)))))

theorem monoInv_iff : MonoInv h g it th ↔
    (g.positions.length = g.stamps.length ∧ (∀ c ∈ g.positions, c < h.length) ∧ MonoF h g.positions g.stamps ∧
      g.positions = [] ∧ ∃ fp, searchOf th.pc = some fp ∧ fp.cont = .iterSeek it) ∨
    ∃ b L, Last h g.positions g.stamps b L ∧
      ((AtCursor it th.pc ∧ (th.iter it).curr = b) ∨
       (th.pc = .iterRefresh it ∧ (th.iter it).curr < h.length ∧
          (Rel h b L (th.iter it).curr ∨ (g.refreshing = true ∧ (th.iter it).curr = b))) ∨
       (∃ fp, searchOf th.pc = some fp ∧ (fp.cont = .iterNext it ∨ fp.cont = .iterRefresh it) ∧
          (RelK h b fp.item ∨ (g.refreshing = true ∧ keyOf h b = .fin fp.item)) ∧
          (fp.cont = .iterNext it → (th.iter it).curr = b))) := by
  constructor
  · rintro ⟨hlen, hbd, hm, hs | ⟨ps0, ss0, b, L, hp, hs, hL, hu, ph⟩⟩
    · exact .inl ⟨hlen, hbd, hm, hs⟩
    · exact .inr ⟨b, L, ⟨hlen, hbd, hm, ⟨ps0, hp⟩, ⟨ss0, hs⟩, hL, hu⟩, ph⟩
  · rintro (⟨hlen, hbd, hm, hs⟩ | ⟨b, L, ⟨hlen, hbd, hm, ⟨ps0, hp⟩, ⟨ss0, hs⟩, hL, hu⟩, ph⟩)
    · exact ⟨hlen, hbd, hm, .inl hs⟩
    · exact ⟨hlen, hbd, hm, .inr ⟨ps0, ss0, b, L, hp, hs, hL, hu, ph⟩⟩

theorem MonoInv.cursor {b L : Nat} (l : Last h g.positions g.stamps b L)
    (hp : AtCursor it th.pc) (hcur : (th.iter it).curr = b) : MonoInv h g it th :=
  monoInv_iff.mpr (.inr ⟨b, L, l, .inl ⟨hp, hcur⟩⟩)

theorem MonoInv.refresh {b L : Nat} (l : Last h g.positions g.stamps b L)
    (hpc : th.pc = .iterRefresh it) (hc : (th.iter it).curr < h.length)
    (hrel : Rel h b L (th.iter it).curr ∨ (g.refreshing = true ∧ (th.iter it).curr = b)) : MonoInv h g it th :=
  monoInv_iff.mpr (.inr ⟨b, L, l, .inr (.inl ⟨hpc, hc, hrel⟩)⟩)

theorem MonoInv.search {b L : Nat} (l : Last h g.positions g.stamps b L)
    {fp : FP} (hf : searchOf th.pc = some fp) (hcn : fp.cont = .iterNext it ∨ fp.cont = .iterRefresh it)
    (hrk : RelK h b fp.item ∨ (g.refreshing = true ∧ keyOf h b = .fin fp.item))
    (hcur : fp.cont = .iterNext it → (th.iter it).curr = b) : MonoInv h g it th :=
  monoInv_iff.mpr (.inr ⟨b, L, l, .inr (.inr ⟨fp, hf, hcn, hrk, hcur⟩)⟩)

theorem MonoInv.seeking {fp : FP}
    (hlen : g.positions.length = g.stamps.length) (hpos : g.positions = []) (hf : searchOf th.pc = some fp)
    (hcn : fp.cont = .iterSeek it) : MonoInv h g it th :=
  monoInv_iff.mpr (.inl ⟨hlen, by rw [hpos]; nofun, by rw [hpos]; trivial, hpos, fp, hf, hcn⟩)

theorem MonoInv.len (inv : MonoInv h g it th) :
    g.positions.length = g.stamps.length := inv.1

theorem MonoInv.monoF (inv : MonoInv h g it th) :
    MonoF h g.positions g.stamps := inv.2.2.1

theorem contIter_of_next_or_refresh {c : Cont} {it : Nat} (h : c = .iterNext it ∨ c = .iterRefresh it) :
    contIter c = some it := by
  rcases h with h | h <;> rw [h] <;> rfl

theorem MonoInv.ext {h h' : Heap} (e : Ext h h') (b : MonoInv h g it th) :
    MonoInv h' g it th := by
  rcases monoInv_iff.mp b with ⟨hlen, _, _, hpos, fp, hf, hcn⟩ | ⟨b, L, l, ph⟩
  · exact .seeking hlen hpos hf hcn
  · have hbl := l.lt_last
    rcases ph with ⟨c, hcur⟩ | ⟨hpc, hc, hrel⟩ | ⟨fp, hf, hcn, hrk, hcur⟩
    · exact .cursor (l.ext e) c hcur
    · exact .refresh (l.ext e) hpc (Nat.lt_of_lt_of_le hc e.len) (hrel.imp (·.ext e hbl hc) id)
    · exact .search (l.ext e) hf hcn (hrk.imp (·.ext e hbl) fun ⟨hr, hk⟩ => ⟨hr, by rw [e.key b hbl]; exact hk⟩) hcur

theorem MonoInv.stable {h h' : Heap} {ev : Event} (_H : HInv h) (e : Ext h h') (_s : HStep h ev h') {g : Ghost}
    {it : Nat} {th : Thread} (b : MonoInv h g it th) : MonoInv h' g it th := b.ext e

theorem MonoInv.arrive {r : Res} {b L : Nat}
    (hown : pcIter th.pc = some it) (l : Last r.1.heap g.positions g.stamps b L) (H' : HInv r.1.heap)
    (R' : ReachInv r.1.heap) (hc : (r.2.1.iter it).curr < r.1.heap.length)
    (hreach : Reach r.1.heap 0 (r.2.1.iter it).curr)
    (hrel : Rel r.1.heap b L (r.2.1.iter it).curr ∨ (g.refreshing = true ∧ (r.2.1.iter it).curr = b))
    (hpc : r.2.1.pc = .idle ∨ r.2.1.pc = .iterRefresh it) : MonoInv r.1.heap (g.onStep it th r) it r.2.1 := by
  rcases hpc with h | h
  · obtain ⟨_, _, hpos⟩ := g.onStep_ret it th r hown (by rw [h]; rfl)
    obtain ⟨hlen, hbd, hm, ⟨ps0, hp⟩, ⟨ss0, hs⟩, -, -⟩ := l
    have hl0 : ps0.length = ss0.length := by
      rw [hp, hs] at hlen; simpa using hlen
    have hlast : g.positions.getLast? = some b := by rw [hp]; exact List.getLast?_concat
    have hidle : pcIter r.2.1.pc ≠ some it := by rw [h]; exact nofun
    rcases hpos with ⟨e1, e2, hsame⟩ | ⟨e1, e2, hnot⟩
    · rw [hlast] at hsame
      have hcb : (r.2.1.iter it).curr = b := (Option.some.inj hsame).symm
      refine MonoInv.cursor (b := b) (L := r.1.heap.length) ?_ (.inl hidle) hcb
      rw [e1, e2, hs, List.dropLast_concat]
      rw [hp, hs] at hm
      exact ⟨by rw [hp]; simp [hl0], hbd, by rw [hp]; exact MonoF_last_stamp b L _ ps0 ss0 hl0 hm, ⟨ps0, hp⟩,
        ⟨ss0, rfl⟩, Nat.le_refl _, uniq_of_reach H' R' (hcb ▸ hreach) _⟩
    · have hrel' : Rel r.1.heap b L (r.2.1.iter it).curr :=
        hrel.elim id fun ⟨hr, hcb⟩ => absurd ⟨hr, by rw [hlast, hcb]⟩ hnot
      refine MonoInv.cursor (b := (r.2.1.iter it).curr) (L := r.1.heap.length) ?_ (.inl hidle) rfl
      rw [e1, e2]
      refine ⟨by simp [hlen], fun c hcm => ?_, ?_, ⟨_, rfl⟩, ⟨_, rfl⟩, Nat.le_refl _, uniq_of_reach H' R' hreach _⟩
      · rcases List.mem_append.mp hcm with hcm | hcm
        · exact hbd c hcm
        · rw [List.mem_singleton.mp hcm]; exact hc
      · rw [hp, hs] at hm ⊢
        exact MonoF_snoc b L _ _ hrel' ps0 ss0 hl0 hm
  · rw [g.onStep_stay it th r (by rw [h]; rfl)]
    exact .refresh l h hc hrel

theorem MonoInv.arrive_seek {r : Res}
    (hown : pcIter th.pc = some it) (hlen : g.positions.length = g.stamps.length) (hp : g.positions = [])
    (H' : HInv r.1.heap) (R' : ReachInv r.1.heap)
    (hc : (r.2.1.iter it).curr < r.1.heap.length) (hreach : Reach r.1.heap 0 (r.2.1.iter it).curr)
    (hpc : r.2.1.pc = .idle) : MonoInv r.1.heap (g.onStep it th r) it r.2.1 := by
  have hs : g.stamps = [] := by
    rw [hp] at hlen
    exact List.eq_nil_of_length_eq_zero hlen.symm
  obtain ⟨_, _, hpos⟩ := g.onStep_ret it th r hown (by rw [hpc]; rfl)
  have hpos' : (g.onStep it th r).positions = [(r.2.1.iter it).curr] ∧
      (g.onStep it th r).stamps = [r.1.heap.length] := by
    rcases hpos with ⟨_, _, hl⟩ | ⟨e1, e2, _⟩
    · rw [hp] at hl; simp at hl
    · rw [e1, e2, hp, hs]; exact ⟨rfl, rfl⟩
  refine .cursor (b := (r.2.1.iter it).curr) (L := r.1.heap.length) ?_ (.inl (by rw [hpc]; nofun)) rfl
  rw [hpos'.1, hpos'.2]
  exact ⟨rfl, fun c hcm => by rw [List.mem_singleton.mp hcm]; exact hc, by simp [MonoF], ⟨[], rfl⟩, ⟨[], rfl⟩, Nat.le_refl _,
    uniq_of_reach H' R' hreach _⟩

theorem MonoInv.atCursor (inv : MonoInv h g it th)
    (c : AtCursor it th.pc) : ∃ b L, Last h g.positions g.stamps b L ∧ (th.iter it).curr = b := by
  rcases monoInv_iff.mp inv with ⟨_, _, _, _, fp, hf, hcn⟩ | ⟨b, L, l, ⟨_, hcur⟩ | ⟨hpc, _⟩ | ⟨fp, hf, hcn, _⟩⟩
  · exact absurd (by rw [hcn]; rfl) (c.not_search hf)
  · exact ⟨b, L, l, hcur⟩
  · exact absurd hpc c.not_refresh
  · exact absurd (contIter_of_next_or_refresh hcn) (c.not_search hf)

theorem MonoInv.atRefresh (inv : MonoInv h g it th)
    (hpc : th.pc = .iterRefresh it) :
    ∃ b L, Last h g.positions g.stamps b L ∧
      (Rel h b L (th.iter it).curr ∨ (g.refreshing = true ∧ (th.iter it).curr = b)) := by
  rcases monoInv_iff.mp inv with ⟨_, _, _, _, fp, hf, _⟩ | ⟨b, L, l, ⟨c, _⟩ | ⟨_, _, hrel⟩ | ⟨fp, hf, _⟩⟩
  · exact absurd (.inr hpc) (searchOf_ne hf it)
  · exact absurd hpc c.not_refresh
  · exact ⟨b, L, l, hrel⟩
  · exact absurd (.inr hpc) (searchOf_ne hf it)

theorem MonoInv.atSearch (inv : MonoInv h g it th) {fp : FP}
    (hf : searchOf th.pc = some fp) (hown : pcIter th.pc = some it) :
    (g.positions = [] ∧ fp.cont = .iterSeek it) ∨
    ∃ b L, Last h g.positions g.stamps b L ∧ (fp.cont = .iterNext it ∨ fp.cont = .iterRefresh it) ∧
      (RelK h b fp.item ∨ (g.refreshing = true ∧ keyOf h b = .fin fp.item)) ∧
      (fp.cont = .iterNext it → (th.iter it).curr = b) := by
  rcases monoInv_iff.mp inv with ⟨_, _, _, hpos, fp1, hf1, hcn⟩ | ⟨b, L, l, ⟨c, _⟩ | ⟨hpc, _⟩ | ⟨fp1, hf1, ph⟩⟩
  · rw [hf] at hf1; cases hf1; exact .inl ⟨hpos, hcn⟩
  · exact absurd hown (c.not_own_search hf)
  · exact absurd (.inr hpc) (searchOf_ne hf it)
  · rw [hf] at hf1; cases hf1; exact .inr ⟨b, L, l, ph⟩

theorem mono_step_own {sh : Shared} (H : HInv sh.heap)
    (R : ReachInv sh.heap) (hT : TInv sh.heap th) (hS : SInv sh.heap th) (e : Ext sh.heap (stepThread sh th).1.heap)
    (H' : HInv (stepThread sh th).1.heap) (R' : ReachInv (stepThread sh th).1.heap)
    (hT' : TInv (stepThread sh th).1.heap (stepThread sh th).2.1) (inv : MonoInv sh.heap g it th) :
    MonoInv (stepThread sh th).1.heap (g.onStep it th (stepThread sh th)) it (stepThread sh th).2.1 := by
  -- the invariant is carried to the heap after the segment first; every case reads it there
  have invS := inv.ext e
  have hc'' := hT'.curr_lt H' it
  by_cases hown : pcIter th.pc = some it
  rotate_left
  · rw [g.onStep_other it th _ hown]
    obtain ⟨h1, h2⟩ := step_other (sh := sh) hown
    obtain ⟨b, L, l, hcur⟩ := invS.atCursor (.inl hown)
    exact .cursor l (.inl h1) (by rw [iter_of_iter? h2]; exact hcur)
  have areach := arrive_reach H R hT R' hown
  have hp := hT.pc
  have seg := stepThread_iter (sh := sh) hown hT.buf.succs_pos
  generalize stepThread sh th = r at seg e H' R' hc'' invS areach ⊢
  generalize hpc : th.pc = pc at seg hp
  cases seg with
  | @search _ _ fp fp' hf hf' hitem _ hcont hiters =>
    subst hpc
    rw [g.onStep_stay it th _ (isIdle_of_searchOf hf')]
    have hi : r.2.1.iter it = th.iter it := iter_of_iter? (iter?_of_iters hiters it)
    rcases invS.atSearch hf hown with ⟨hpos, hcn⟩ | ⟨b, L, l, hcn, hrk, hcur⟩
    · exact .seeking invS.len hpos hf' (by rw [hcont]; exact hcn)
    · refine .search l hf' (by rw [hcont]; exact hcn) (by rw [hitem]; exact hrk) fun hc => ?_
      rw [hi]; exact hcur (by rw [← hcont]; exact hc)
  | @found fp rr c _ hc hi0 hmk ha h1 h2 h3 =>
    have hsr : (searchOf th.pc).isSome := by rw [hpc]; rfl
    have hge := (search_ends hp (hpc ▸ hS) hc hi0 ha).1
    rw [← h2, ← h1] at hge
    rcases invS.atSearch (fp := fp) (by rw [hpc]; rfl) hown with ⟨hpos, hcn⟩ | ⟨b, L, l, hcn, hrk, hcur⟩
    · have hidle : r.2.1.pc = .idle := by
        rcases h3 with h | ⟨h, _⟩
        · exact h
        · rw [hcn] at h; cases h
      exact MonoInv.arrive_seek hown invS.len hpos H' R' hc'' (areach (.inl hidle)).1 hidle
    · have arrive := fun hpc' =>
        have ⟨hreach, hlive⟩ := areach hpc'
        MonoInv.arrive hown l H' R' hc'' hreach
          (hrk.elim (fun hrk => .inl (rel_of_search_end H' hrk l.uniq hge (hlive hsr)))
            fun ⟨hr, hkb⟩ => (rel_or_same_of_search_end H' R' hkb l.uniq hge (hlive hsr)).imp id fun h => ⟨hr, h⟩) hpc'
      rcases h3 with h | ⟨hcont, h | ⟨h, hsame⟩⟩
      · exact arrive (.inl h)
      · exact arrive (.inr h)
      · rw [g.onStep_stay it th _ (by rw [h]; rfl)]
        exact .cursor l (.inr (.inl h)) (by rw [h2, hsame]; exact hcur hcont)
  | nextMarked =>
    obtain ⟨b, L, l, hcur⟩ := invS.atCursor (.inr (.inl hpc))
    rw [g.onStep_stay it th _ rfl]
    exact .cursor l (.inr (.inr ⟨_, rfl⟩)) hcur
  | nextMove hmk h1 h2 h3 =>
    obtain ⟨b, L, l, hcur⟩ := invS.atCursor (.inr (.inl hpc))
    refine MonoInv.arrive hown l H' R' hc'' (areach h3).1 (.inl ?_) h3
    obtain ⟨k, hk⟩ := hp
    obtain ⟨p, m, hw⟩ := word0_of_fin H hk
    rw [h2, h1, getNext_of_word hw, ← hcur]
    exact .inl (H.h5 _ _ _ hw)
  | @helpOk next _ hw h1 h2 h3 =>
    obtain ⟨b, L, l, hcur⟩ := invS.atCursor (.inr (.inr ⟨_, hpc⟩))
    refine MonoInv.arrive hown l H' R' hc'' (areach h3).1 (.inl ?_) h3
    rw [h2, ← hcur]
    exact .inl (H'.h5 _ _ _ (e.marked _ _ _ hp.1))
  | @helpFail next =>
    obtain ⟨b, L, l, hcur⟩ := invS.atCursor (.inr (.inr ⟨_, hpc⟩))
    obtain ⟨hw, k, hk⟩ := hp
    rw [g.onStep_stay it th _ rfl]
    -- the re-search is for the item of the marked cursor node, the last position
    refine .search l rfl (.inl rfl) (.inl (.inr ⟨?_, ?_⟩)) fun _ => hcur
    · show keyOf sh.heap b = .fin (itemOfKey (keyOf sh.heap (th.iter it).curr))
      rw [← hcur, hk]; rfl
    · rw [← hcur]; exact ⟨next, hw⟩
  | refresh =>
    obtain ⟨k, hk⟩ := hp
    obtain ⟨b, L, l, hrel⟩ := invS.atRefresh hpc
    rw [g.onStep_stay it th _ rfl]
    refine .search l rfl (.inr rfl) ?_ (fun hc => by cases hc)
    show RelK sh.heap b (itemOfKey (keyOf sh.heap (th.iter it).curr)) ∨
      (g.refreshing = true ∧ keyOf sh.heap b = .fin (itemOfKey (keyOf sh.heap (th.iter it).curr)))
    -- this segment has not touched the heap
    replace hrel : Rel sh.heap b L (th.iter it).curr ∨ (g.refreshing = true ∧ (th.iter it).curr = b) := hrel
    rw [hk]
    rcases hrel with hrel | ⟨hr, hcb⟩
    · unfold Rel at hrel
      rw [hk] at hrel
      rcases hrel with r | ⟨r1, r2, _⟩
      · exact .inl (.inl r)
      · exact .inl (.inr ⟨r1, r2⟩)
    · exact .inr ⟨hr, by rw [← hcb]; exact hk⟩

theorem mono_start_own {sh : Shared} (H : HInv sh.heap)
    (R : ReachInv sh.heap) (hidle : th.pc = .idle) (op : Op) (hT' : TInv sh.heap (startOp sh th op).2.1)
    (inv : g.active = true → MonoInv sh.heap g it th) :
    (g.onStart it sh th op).active = true →
      MonoInv sh.heap (g.onStart it sh th op) it (startOp sh th op).2.1 := by
  have hid : pcIter th.pc ≠ some it := by rw [hidle]; exact nofun
  -- a thread state with the same cursor, outside a call on `it` or at ITER_NEXT; `refreshing` is not read
  have same : ∀ (th' : Thread) (rf : Bool), (pcIter th'.pc ≠ some it ∨ th'.pc = .iterNext it) →
      (th'.iter it).curr = (th.iter it).curr → g.active = true → MonoInv sh.heap { g with refreshing := rf } it th' := by
    intro th' rf hp hcur hact
    obtain ⟨b, L, l, hc⟩ := (inv hact).atCursor (.inl hid)
    exact .cursor l (hp.elim .inl fun h => .inr (.inl h)) (by rw [hcur]; exact hc)
  by_cases ho : opIter op = some it
  rotate_left
  · rw [g.onStart_other sh th ho]
    obtain ⟨h1, h2⟩ := (startOp_cases sh th op).other hidle ho
    exact same _ g.refreshing (.inl h1) (by rw [iter_of_iter? h2])
  have hlt := hT'.curr_lt H it
  have s := startOp_iter (sh := sh) (th := th) g ho
  generalize (startOp sh th op).2.1 = th' at s hlt ⊢
  generalize g.onStart it sh th op = g' at s ⊢
  cases s with
  | first =>
    rw [moveIter_iter] at hlt
    refine fun _ => .cursor (b := (getNext sh.heap headId 0).1) (L := sh.heap.length)
      ⟨rfl, fun c hcm => by rw [List.mem_singleton.mp hcm]; exact hlt, by simp [MonoF], ⟨[], rfl⟩, ⟨[], rfl⟩, Nat.le_refl _,
        uniq_of_reach H R (reach_first H) _⟩ (.inl hid) ?_
    rw [moveIter_iter]
  | seek => exact fun _ => .seeking rfl rfl rfl rfl
  | next => exact same _ g.refreshing (.inr rfl) rfl
  | refresh =>
    intro hact
    obtain ⟨b, L, l, hc⟩ := (inv hact).atCursor (.inl hid)
    exact .refresh l rfl hlt (.inr ⟨rfl, hc⟩)
  | close => exact nofun
  | same hpc hcur => exact same _ _ (.inl (by rw [hpc]; exact hid)) hcur

def ScanBoth (h : Heap) (g : Ghost) (it : Nat) (th : Thread) : Prop := ScanInv h g it th ∧ MonoInv h g it th

/-- the scan invariant lifted to the system: it is required of the scanning thread while a scan is active -/
def SysP (t it : Nat) (s : Sys) (g : Ghost) : Prop :=
  g.active = true → ∃ th, s.threads[t]? = some th ∧ ScanBoth s.sh.heap g it th

theorem SysP_init (t it : Nat) (s : Sys) : SysP t it s {} := by
  intro h; simp at h

theorem act_scan {t it : Nat} {s : Sys} {g : Ghost} (hI : InvS s) (b : SysP t it s g) (a : Action) :
    SysP t it (s.act a) (ghostAct t it s g a) := by
  have hI' := act_of_move InvS.moved hI a
  have c := actG_cases t it s g a
  generalize s.act a = s' at c hI'
  generalize ghostAct t it s g a = g' at c
  have H := hI.invR.heap
  cases c with
  | same => exact b
  | @startOwn op th hth hidle =>
    intro hact
    have htl := (List.getElem?_eq_some_iff.mp hth).1
    obtain ⟨_, R, _, _⟩ := hI.thread hth
    have hT' : TInv s.sh.heap (startOp s.sh th op).2.1 :=
      startOp_heap s.sh th op ▸ (hI'.thread (List.getElem?_set_self htl)).2.2.1
    have inv : g.active = true → ScanBoth s.sh.heap g it th := fun ha => by
      obtain ⟨th0, h0, inv⟩ := b ha
      rw [hth] at h0; cases h0; exact inv
    refine ⟨_, List.getElem?_set_self htl, ?_⟩
    show ScanBoth (startOp s.sh th op).1.heap _ it _
    rw [startOp_heap]
    exact ⟨scan_start_own R hidle op (fun h => (inv h).1) hact, mono_start_own H R hidle op hT' (fun h => (inv h).2) hact⟩
  | @startOther t' op th htt hth =>
    intro hact
    obtain ⟨th0, h0, inv⟩ := b hact
    exact ⟨th0, (List.getElem?_set_ne htt).trans h0,
      by show ScanBoth (startOp s.sh th op).1.heap g it th0; rw [startOp_heap]; exact inv⟩
  | @stepOwn th hth =>
    obtain ⟨_, R, hT, hS⟩ := hI.thread hth
    obtain ⟨ev, hs, _⟩ := stepThread_hstep (sh := s.sh) hT
    have htl := (List.getElem?_eq_some_iff.mp hth).1
    obtain ⟨H', R', hT', _⟩ := hI'.thread (List.getElem?_set_self htl)
    have e := (stepThread_good H hI.invR.inv.level hT).2.1
    intro hact
    rw [g.onStep_active] at hact
    obtain ⟨th0, h0, inv⟩ := b hact
    rw [hth] at h0; cases h0
    exact ⟨_, List.getElem?_set_self htl, scan_step_own H hT hS e hs inv.1, mono_step_own H R hT hS e H' R' hT' inv.2⟩
  | @stepOther t' th htt hth =>
    obtain ⟨_, _, hT, _⟩ := hI.thread hth
    obtain ⟨ev, hs, _⟩ := stepThread_hstep (sh := s.sh) hT
    have e := (stepThread_good H hI.invR.inv.level hT).2.1
    intro hact
    obtain ⟨th0, h0, inv⟩ := b hact
    exact ⟨th0, (List.getElem?_set_ne htt).trans h0, inv.1.stable H e hs, inv.2.stable H e hs⟩

theorem runG_scan {t it : Nat} {s : Sys} {g : Ghost} (hI : InvS s) (b : SysP t it s g) (as : List Action) :
    InvS (Sys.runG t it (s, g) as).1 ∧
    SysP t it (Sys.runG t it (s, g) as).1 (Sys.runG t it (s, g) as).2 := by
  induction as generalizing s g with
  | nil => exact ⟨hI, b⟩
  | cons a r ih =>
    simp only [Sys.runG, List.foldl_cons]
    exact ih (act_of_move InvS.moved hI a) (act_scan hI b a)

end NitroVerif.SkipConc
