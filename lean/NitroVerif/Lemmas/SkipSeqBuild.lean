import NitroVerif.Lemmas.SkipSeqRep
/-!
  `Builder.Assemble` on the heap.  The first loop of `Assemble` appends the segments one after the
  other, level by level, to per-level chains whose ends it keeps in `head`/`tail`; the second loop ties
  every chain to the two sentinels.  Then the builder's invariant `BuildOK` (`SegOK`, `SegStats`, `allNodes`).
-/
namespace NitroVerif.SkipSeq

theorem getD_head?_ne_nil {X : List Nat} (hlo : ∀ x ∈ X, 3 ≤ x) :
    ((X.head?).getD nilId != nilId) = !X.isEmpty := by
  cases X with
  | nil => simp [nilId]
  | cons a r => have := hlo a (by simp); simp [nilId]; exact ne_of_three_le this (by decide)

theorem getD_getLast?_ne_nil {X : List Nat} (hlo : ∀ x ∈ X, 3 ≤ x) :
    ((X.getLast?).getD nilId != nilId) = !X.isEmpty := by
  cases hX : X.getLast? with
  | none => have := List.getLast?_eq_none_iff.mp hX; simp [this, nilId]
  | some a =>
    have hm := List.mem_of_getLast? hX
    have := hlo a hm
    have hne : X ≠ [] := by intro e; rw [e] at hm; simp at hm
    cases X with
    | nil => exact absurd rfl hne
    | cons b r => simp [nilId]; exact ne_of_three_le this (by decide)

/-- one level of the inner loop of `Assemble`: chain `C` built so far, chain `X` of the segment; the `let`s
    are the body of the model's `asmSeg` -/
theorem asm_level {h : Heap} {l : Nat} (C X : List Nat)
    (hC : Path h nomk l C) (hX : Path h nomk l X) (hnd : (C ++ X).Nodup)
    (hlo : ∀ x ∈ C ++ X, 3 ≤ x) (hslot : ∀ c ∈ C, l < nextLen h c) :
    let t := (C.getLast?).getD nilId
    let hd := (C.head?).getD nilId
    let sh := (X.head?).getD nilId
    let st := (X.getLast?).getD nilId
    let h' := if t != nilId && sh != nilId then setNext h t l (sh, false) else h
    let hd' := if t != nilId && sh != nilId then hd else if hd == nilId && sh != nilId then sh else hd
    let tl' := if st != nilId then st else t
    Path h' nomk l (C ++ X) ∧ hd' = (((C ++ X).head?).getD nilId) ∧ tl' = (((C ++ X).getLast?).getD nilId) ∧
      (h' = h ∨ ∃ t ∈ C, h' = setNext h t l (sh, false)) := by
  intro t hd sh st h' hd' tl'
  have hloC : ∀ x ∈ C, 3 ≤ x := fun x hx => hlo x (List.mem_append_left _ hx)
  have hloX : ∀ x ∈ X, 3 ≤ x := fun x hx => hlo x (List.mem_append_right _ hx)
  cases X with
  | nil =>
    have hsh : sh = nilId := rfl
    have hst : st = nilId := rfl
    simp only [h', hd', tl', hsh, hst, bne_self_eq_false, Bool.and_false, Bool.false_eq_true, if_false,
      List.append_nil]
    exact ⟨hC, rfl, rfl, Or.inl trivial⟩
  | cons x X' =>
    have hsh : sh = x := rfl
    have hx3 : 3 ≤ x := hloX x (by simp)
    have hshne : (sh != nilId) = true := by rw [hsh]; simp [nilId]; exact ne_of_three_le hx3 (by decide)
    have hstne : (st != nilId) = true := by
      have := getD_getLast?_ne_nil hloX
      simpa using this
    cases hCl : C.getLast? with
    | none =>
      have hCnil : C = [] := List.getLast?_eq_none_iff.mp hCl
      subst hCnil
      have ht : t = nilId := by simp [t]
      have hhd : hd = nilId := by simp [hd]
      simp only [h', hd', tl', ht, hhd, bne_self_eq_false, Bool.false_and, Bool.false_eq_true, if_false,
        beq_self_eq_true, Bool.true_and, hshne, hstne, if_true, List.nil_append]
      exact ⟨hX, by simp [hsh], rfl, Or.inl trivial⟩
    | some c =>
      rcases List.getLast?_eq_some_iff.mp hCl with ⟨C', hC'⟩
      subst hC'
      have hc3 : 3 ≤ c := hloC c (by simp)
      have ht : t = c := by simp [t]
      have htne : (t != nilId) = true := by rw [ht]; simp [nilId]; exact ne_of_three_le hc3 (by decide)
      simp only [h', hd', tl', htne, hshne, hstne, Bool.and_self, if_true]
      have hnd' := List.nodup_append.mp hnd
      have hcC' : c ∉ C' := by
        have := List.nodup_append.mp hnd'.1
        intro hm; exact this.2.2 c hm c (by simp) rfl
      have hcX : c ∉ x :: X' := fun hm => hnd'.2.2 c (by simp) c hm rfl
      have := path_join (mk := nomk) C' c x X' hC hX hcC' hcX (hslot c (by simp))
      refine ⟨?_, ?_, ?_, Or.inr ⟨c, by simp, by rw [ht, hsh]⟩⟩
      · rw [ht, hsh]; simpa [nomk] using this
      · simp only [hd]
        cases C' <;> simp
      · simp only [st, List.getLast?_append]
        cases hl : (x :: X').getLast? with
        | none => simp at hl
        | some z => simp

/-- per level `l ≤ MaxLevel` the chain `C l` is linked in `h`, and `head[l]` / `tail[l]` are its two ends
    (`nil` for an empty chain) -/
structure Chains (h : Heap) (C : Nat → List Nat) (head tail : List Nat) : Prop where
  hlen : head.length = Gen.maxLevel + 1
  tlen : tail.length = Gen.maxLevel + 1
  ends : ∀ l, l ≤ Gen.maxLevel →
    head.getD l nilId = ((C l).head?).getD nilId ∧ tail.getD l nilId = ((C l).getLast?).getD nilId
  paths : ∀ l, l ≤ Gen.maxLevel → Path h nomk l (C l)

theorem Chains.congr {h : Heap} {C C' : Nat → List Nat} {head tail : List Nat} (c : Chains h C head tail)
    (hc : ∀ l, l ≤ Gen.maxLevel → C' l = C l) : Chains h C' head tail :=
  ⟨c.hlen, c.tlen, fun l hl => by rw [hc l hl]; exact c.ends l hl, fun l hl => by rw [hc l hl]; exact c.paths l hl⟩

/-- a filled segment: `xs` are its nodes in the order they were added -/
structure SegOK (h : Heap) (seg : Segment) (xs : List Nat) : Prop where
  hlen : seg.head.length = Gen.maxLevel + 1
  tlen : seg.tail.length = Gen.maxLevel + 1
  ends : ∀ l, l ≤ Gen.maxLevel →
    seg.head.getD l nilId = ((LL h xs l).head?).getD nilId ∧
    seg.tail.getD l nilId = ((LL h xs l).getLast?).getD nilId
  paths : ∀ l, l ≤ Gen.maxLevel → Path h nomk l (LL h xs l)

theorem SegOK.chains {h : Heap} {seg : Segment} {xs : List Nat} (ok : SegOK h seg xs) :
    Chains h (fun l => LL h xs l) seg.head seg.tail := ⟨ok.hlen, ok.tlen, ok.ends, ok.paths⟩

theorem Chains.segOK {h : Heap} {seg : Segment} {xs : List Nat} (c : Chains h (fun l => LL h xs l) seg.head seg.tail) :
    SegOK h seg xs := ⟨c.hlen, c.tlen, c.ends, c.paths⟩

/-- state of the assembly: the chains `Cf` built so far with their ends in `head`/`tail`.  `U` lists the
    nodes appended so far, the only ones whose link words may differ from the start heap `h0` — so the
    segments still to come are as `SegOK h0` describes them. -/
structure AsmInv (h0 h : Heap) (Cf : Nat → List Nat) (head tail : List Nat) (U : List Nat) : Prop where
  chains : Chains h Cf head tail
  shape : SameShape h0 h
  frame : ∀ n l, n ∉ U → getNext h n l = getNext h0 n l

theorem AsmInv.congr {h0 h : Heap} {Cf Cf' : Nat → List Nat} {head tail U : List Nat}
    (inv : AsmInv h0 h Cf head tail U) (hc : ∀ l, l ≤ Gen.maxLevel → Cf' l = Cf l) :
    AsmInv h0 h Cf' head tail U :=
  ⟨inv.chains.congr hc, inv.shape, inv.frame⟩

/-- chains while segment `xs` is being appended: levels `< l` already have it -/
def CfMid (h0 : Heap) (D xs : List Nat) (l : Nat) : Nat → List Nat :=
  fun l' => if l' < l then LL h0 (D ++ xs) l' else LL h0 D l'

theorem CfMid_lt {h0 : Heap} {D xs : List Nat} {l l' : Nat} (h : l' < l) : CfMid h0 D xs l l' = LL h0 (D ++ xs) l' :=
  if_pos h

theorem CfMid_ge {h0 : Heap} {D xs : List Nat} {l l' : Nat} (h : ¬ l' < l) : CfMid h0 D xs l l' = LL h0 D l' :=
  if_neg h

theorem CfMid_succ (h0 : Heap) (D xs : List Nat) (l l' : Nat) :
    CfMid h0 D xs (l + 1) l' = if l' = l then LL h0 D l ++ LL h0 xs l else CfMid h0 D xs l l' := by
  by_cases e : l' = l
  · rw [if_pos e, e, CfMid_lt (Nat.lt_succ_self l), LL_append]
  · rw [if_neg e]
    by_cases e2 : l' < l
    · rw [CfMid_lt e2, CfMid_lt (Nat.lt_succ_of_lt e2)]
    · rw [CfMid_ge e2, CfMid_ge (fun h => e2 (Nat.lt_of_le_of_ne (Nat.le_of_lt_succ h) e))]

theorem asmSeg_step {h0 h : Heap} {seg : Segment} {xs D head tail : List Nat} {l : Nat}
    (hs : SegOK h0 seg xs) (hnd : (D ++ xs).Nodup) (hlo : ∀ x ∈ D ++ xs, 3 ≤ x)
    (hslotD : ∀ x ∈ D, nextLen h0 x = levelOf h0 x + 1) (hl : l ≤ Gen.maxLevel)
    (inv : AsmInv h0 h (CfMid h0 D xs l) head tail D) :
    AsmInv h0
      (if tail.getD l nilId != nilId && seg.head.getD l nilId != nilId
        then setNext h (tail.getD l nilId) l (seg.head.getD l nilId, false) else h)
      (CfMid h0 D xs (l + 1))
      (if tail.getD l nilId != nilId && seg.head.getD l nilId != nilId then head
        else if head.getD l nilId == nilId && seg.head.getD l nilId != nilId
          then head.set l (seg.head.getD l nilId) else head)
      (if seg.tail.getD l nilId != nilId then tail.set l (seg.tail.getD l nilId) else tail) D := by
  have hCl : CfMid h0 D xs l l = LL h0 D l := CfMid_ge (Nat.lt_irrefl l)
  have hends := inv.chains.ends l hl
  rw [hCl] at hends
  have hpC := inv.chains.paths l hl
  rw [hCl] at hpC
  have hdisj : ∀ a ∈ xs, a ∉ D := fun a ha hD => (List.nodup_append.mp hnd).2.2 a hD a ha rfl
  have hpX : Path h nomk l (LL h0 xs l) := by
    rw [path_congr (h := h0) (mk := nomk)]
    · exact hs.paths l hl
    · intro a ha; exact ⟨inv.frame a l (hdisj a (mem_LL.mp ha).1), rfl⟩
  have hndl : (LL h0 D l ++ LL h0 xs l).Nodup := by
    rw [← LL_append]; exact hnd.filter _
  have hlol : ∀ x ∈ LL h0 D l ++ LL h0 xs l, 3 ≤ x := by
    intro x hx; rw [← LL_append] at hx; exact hlo x (mem_LL.mp hx).1
  have hslot : ∀ c ∈ LL h0 D l, l < nextLen h c := by
    intro c hc
    have := mem_LL.mp hc
    rw [inv.shape.nlen, hslotD c this.1]; exact Nat.lt_succ_of_le this.2
  have key := asm_level (h := h) (l := l) (LL h0 D l) (LL h0 xs l) hpC hpX hndl hlol hslot
  simp only at key
  rw [← hends.1, ← hends.2, ← (hs.ends l hl).1, ← (hs.ends l hl).2] at key
  rcases key with ⟨k1, k2, k3, k4⟩
  have hCnew := CfMid_succ h0 D xs l
  have hheap : ∀ n l', (l' ≠ l ∨ n ∉ D) →
      getNext (if tail.getD l nilId != nilId && seg.head.getD l nilId != nilId
        then setNext h (tail.getD l nilId) l (seg.head.getD l nilId, false) else h) n l' = getNext h n l' := by
    intro n l' hor
    rcases k4 with e | ⟨t, ht, e⟩
    · rw [e]
    · rw [e]
      apply getNext_setNext_ne
      rcases hor with h1 | h1
      · right; exact Ne.symm h1
      · left; intro e'; exact h1 (e' ▸ (mem_LL.mp ht).1)
  have hgetD : ∀ (c : Prop) [Decidable c] (xs : List Nat) (v l' : Nat), l < xs.length →
      (if c then xs.set l v else xs).getD l' nilId
        = if l' = l then (if c then v else xs.getD l nilId) else xs.getD l' nilId := by
    intro c _ xs v l' hlt
    by_cases e : l' = l
    · subst e; rw [if_pos rfl, apply_ite (fun ys => List.getD ys l' nilId), getD_set_same hlt]
    · rw [if_neg e, apply_ite (fun ys => List.getD ys l' nilId), getD_set_ne (Ne.symm e), ite_self]
  have hlh : l < head.length := inv.chains.hlen ▸ Nat.lt_succ_of_le hl
  have hlt : l < tail.length := inv.chains.tlen ▸ Nat.lt_succ_of_le hl
  refine ⟨⟨?_, ?_, ?_, ?_⟩, ?_, ?_⟩
  · rw [apply_ite List.length, apply_ite List.length, List.length_set, ite_self, ite_self]; exact inv.chains.hlen
  · rw [apply_ite List.length, List.length_set, ite_self]; exact inv.chains.tlen
  · intro l' hl'
    rw [hCnew l', apply_ite (fun ys => List.getD ys l' nilId), hgetD _ _ _ _ hlh,
      hgetD _ _ _ _ hlt]
    by_cases e : l' = l
    · subst e
      rw [if_pos rfl, if_pos rfl, if_pos rfl, ← k2, ← k3]
      exact ⟨rfl, rfl⟩
    · rw [if_neg e, if_neg e, if_neg e, ite_self]
      exact inv.chains.ends l' hl'
  · intro l' hl'
    rw [hCnew l']
    by_cases e : l' = l
    · subst e; rw [if_pos rfl]; exact k1
    · rw [if_neg e, path_congr (h := h) (mk := nomk)]
      · exact inv.chains.paths l' hl'
      · intro a _; exact ⟨hheap a l' (Or.inl e), rfl⟩
  · split
    · exact inv.shape.setNext _ _ _
    · exact inv.shape
  · intro n l' hn
    rw [hheap n l' (Or.inr hn)]; exact inv.frame n l' hn

theorem asmSeg_spec {h0 : Heap} {seg : Segment} {xs D : List Nat}
    (hs : SegOK h0 seg xs) (hnd : (D ++ xs).Nodup) (hlo : ∀ x ∈ D ++ xs, 3 ≤ x)
    (hslotD : ∀ x ∈ D, nextLen h0 x = levelOf h0 x + 1) :
    ∀ (n l : Nat) (h : Heap) (head tail : List Nat), l + n = Gen.maxLevel + 1 →
      AsmInv h0 h (CfMid h0 D xs l) head tail D →
      AsmInv h0 (asmSeg seg n l h head tail).1 (fun l' => LL h0 (D ++ xs) l')
        (asmSeg seg n l h head tail).2.1 (asmSeg seg n l h head tail).2.2 D := by
  intro n
  induction n with
  | zero =>
    intro l h head tail hl inv
    simp only [asmSeg]
    apply inv.congr
    intro l' hl'
    exact (CfMid_lt (Nat.lt_of_le_of_lt hl' (Nat.lt_of_lt_of_eq (Nat.lt_succ_self _) hl.symm))).symm
  | succ n ih =>
    intro l h head tail hl inv
    simp only [asmSeg]
    exact ih (l + 1) _ _ _ (loop_step hl).2
      (asmSeg_step hs hnd hlo hslotD (Nat.le_of_lt_succ (loop_step hl).1) inv)

/-- all nodes of a list of (segment, nodes) pairs, in order -/
def allNodes (segs : List (Segment × List Nat)) : List Nat := (segs.map (·.2)).flatten

theorem allNodes_cons (e : Segment × List Nat) (r : List (Segment × List Nat)) :
    allNodes (e :: r) = e.2 ++ allNodes r := by simp [allNodes]

theorem allNodes_nil : allNodes [] = [] := rfl

theorem allNodes_mid (L1 : List (Segment × List Nat)) (e : Segment × List Nat) (L2 : List (Segment × List Nat)) :
    allNodes (L1 ++ e :: L2) = allNodes L1 ++ (e.2 ++ allNodes L2) := by
  simp [allNodes]

theorem mem_allNodes {segs : List (Segment × List Nat)} {n : Nat} :
    n ∈ allNodes segs ↔ ∃ e ∈ segs, n ∈ e.2 := by
  simp only [allNodes, List.mem_flatten, List.mem_map]
  constructor
  · rintro ⟨l, ⟨e, he, rfl⟩, hn⟩; exact ⟨e, he, hn⟩
  · rintro ⟨e, he, hn⟩; exact ⟨e.2, ⟨e, he, rfl⟩, hn⟩

theorem allNodes_disjoint {L1 L2 : List (Segment × List Nat)} {e0 e : Segment × List Nat}
    (hnd : (allNodes (L1 ++ e0 :: L2)).Nodup) (he : e ∈ L1 ∨ e ∈ L2) {y : Nat} (hy : y ∈ e.2) :
    y ∉ e0.2 := by
  rw [allNodes_mid] at hnd
  have a1 := List.nodup_append.mp hnd
  intro hy0
  rcases he with h | h
  · exact a1.2.2 y (mem_allNodes.mpr ⟨e, h, hy⟩) y (List.mem_append_left _ hy0) rfl
  · exact (List.nodup_append.mp a1.2.1).2.2 y hy0 y (mem_allNodes.mpr ⟨e, h, hy⟩) rfl

theorem allNodes_sublist {a b : List (Segment × List Nat)} (h : a.Sublist b) :
    (allNodes a).Sublist (allNodes b) := by
  induction h with
  | slnil => simp [allNodes]
  | cons e _ ih => rw [allNodes_cons]; exact List.Sublist.trans ih (List.sublist_append_right _ _)
  | cons_cons e _ ih => rw [allNodes_cons, allNodes_cons]; exact List.Sublist.append (List.Sublist.refl _) ih

theorem allNodes_perm {a b : List (Segment × List Nat)} (h : a.Perm b) : (allNodes a).Perm (allNodes b) :=
  List.Perm.flatten (List.Perm.map _ h)

theorem allNodes_map (segs : List (Segment × List Nat)) (f : Nat → Int) :
    (allNodes segs).map f = (segs.map fun e => e.2.map f).flatten := by
  simp [allNodes, List.map_flatten, List.map_map, Function.comp_def]

theorem asmSegs_spec {h0 : Heap} : ∀ (segs : List (Segment × List Nat)) (D : List Nat) (h : Heap)
    (head tail : List Nat),
    (∀ e ∈ segs, SegOK h0 e.1 e.2) → (D ++ allNodes segs).Nodup → (∀ x ∈ D ++ allNodes segs, 3 ≤ x) →
    (∀ x ∈ D ++ allNodes segs, nextLen h0 x = levelOf h0 x + 1) →
    AsmInv h0 h (fun l => LL h0 D l) head tail D →
    AsmInv h0 (asmSegs (segs.map (·.1)) h head tail).1 (fun l => LL h0 (D ++ allNodes segs) l)
      (asmSegs (segs.map (·.1)) h head tail).2.1 (asmSegs (segs.map (·.1)) h head tail).2.2
      (D ++ allNodes segs) := by
  intro segs
  induction segs with
  | nil =>
    intro D h head tail _ _ _ _ inv
    simpa [asmSegs, allNodes] using inv
  | cons e r ih =>
    intro D h head tail hs hnd hlo hsl inv
    rw [allNodes_cons] at hnd hlo hsl ⊢
    simp only [List.map_cons, asmSegs]
    have hnd1 : (D ++ e.2).Nodup := by
      rw [← List.append_assoc] at hnd; exact (List.nodup_append.mp hnd).1
    have inv0 : AsmInv h0 h (CfMid h0 D e.2 0) head tail D := inv.congr (fun l _ => CfMid_ge (Nat.not_lt_zero l))
    have inv1 := asmSeg_spec (hs e (by simp)) hnd1
      (fun x hx => hlo x (by simp only [List.mem_append] at hx ⊢; rcases hx with h1 | h1; exact Or.inl h1; exact Or.inr (Or.inl h1)))
      (fun x hx => hsl x (List.mem_append_left _ hx)) (Gen.maxLevel + 1) 0 h head tail (Nat.zero_add _) inv0
    have inv2 : AsmInv h0 (asmSeg e.1 (Gen.maxLevel + 1) 0 h head tail).1 (fun l => LL h0 (D ++ e.2) l)
        (asmSeg e.1 (Gen.maxLevel + 1) 0 h head tail).2.1 (asmSeg e.1 (Gen.maxLevel + 1) 0 h head tail).2.2
        (D ++ e.2) :=
      ⟨inv1.chains, inv1.shape,
       fun n l hn => inv1.frame n l (fun hD => hn (List.mem_append_left _ hD))⟩
    have := ih (D ++ e.2) _ _ _ (fun e' he' => hs e' (List.mem_cons_of_mem _ he'))
      (by rw [List.append_assoc]; exact hnd) (by rw [List.append_assoc]; exact hlo)
      (by rw [List.append_assoc]; exact hsl) inv2
    rw [List.append_assoc] at this
    exact this

/-- the two stores of the second loop of `Assemble` on level `l` -/
def endsStep (h : Heap) (l hd tl : Nat) : Heap :=
  if tl != nilId then setNext (if hd != nilId then setNext h headId l (hd, false) else h) tl l (tailId, false)
  else (if hd != nilId then setNext h headId l (hd, false) else h)

theorem asmEnds_level {h : Heap} {l : Nat} (C : List Nat) (hC : Path h nomk l C) (hnd : C.Nodup)
    (hlo : ∀ x ∈ C, 3 ≤ x) (hslot : ∀ c ∈ C, l < nextLen h c) (hhs : l < nextLen h headId)
    (hht : getNext h headId l = (tailId, false)) :
    Path (endsStep h l ((C.head?).getD nilId) ((C.getLast?).getD nilId))
      nomk l (headId :: C ++ [tailId]) := by
  unfold endsStep
  cases hCl : C.getLast? with
  | none =>
    have hCnil : C = [] := List.getLast?_eq_none_iff.mp hCl
    subst hCnil
    simp [nilId, hht, nomk]
  | some cz =>
    rcases List.getLast?_eq_some_iff.mp hCl with ⟨C', hC'⟩
    subst hC'
    have hz3 : 3 ≤ cz := hlo cz (by simp)
    have hzne : (cz != nilId) = true := by simp [nilId]; exact ne_of_three_le hz3 (by decide)
    have hne : (((C' ++ [cz]).head?).getD nilId != nilId) = true := by
      rw [getD_head?_ne_nil hlo]; simp
    simp only [Option.getD_some, hzne, hne, if_true]
    obtain ⟨c0, R, hc0⟩ : ∃ c0 R, C' ++ [cz] = c0 :: R := by
      cases C' with
      | nil => exact ⟨cz, [], rfl⟩
      | cons a t => exact ⟨a, t ++ [cz], rfl⟩
    have hhead : ((C' ++ [cz]).head?).getD nilId = c0 := by rw [hc0]; rfl
    rw [hhead]
    have hHnot : headId ∉ C' ++ [cz] := fun hm => absurd (hlo _ hm) (by decide)
    have hp1 : Path (setNext h headId l (c0, false)) nomk l (headId :: C' ++ [cz]) := by
      rw [hc0] at hC hHnot
      rw [List.cons_append, hc0]
      exact path_join (mk := nomk) [] headId c0 R trivial hC List.not_mem_nil hHnot hhs
    have hczC' : cz ∉ headId :: C' := by
      intro hm
      rcases List.mem_cons.mp hm with e | e
      · exact absurd (e ▸ hz3) (by decide)
      · exact (List.nodup_append.mp hnd).2.2 cz e cz List.mem_cons_self rfl
    have := path_join (headId :: C') cz tailId [] hp1 trivial hczC'
      (fun hm => absurd ((List.mem_singleton.mp hm) ▸ hz3) (by decide))
      (by rw [nextLen_setNext]; exact hslot cz (by simp))
    rw [List.cons_append, List.append_assoc]
    exact this

theorem endsStep_shape {h0 h : Heap} (sh : SameShape h0 h) (l hd tl : Nat) :
    SameShape h0 (endsStep h l hd tl) := by
  unfold endsStep
  split <;> split <;> first | exact sh | exact sh.setNext _ _ _ | exact (sh.setNext _ _ _).setNext _ _ _

theorem endsStep_other (h : Heap) (l hd tl a l' : Nat)
    (hor : l' ≠ l ∨ (a ≠ headId ∧ (a ≠ tl ∨ tl = nilId))) :
    getNext (endsStep h l hd tl) a l' = getNext h a l' := by
  unfold endsStep
  have h1 : ∀ g : Heap, ∀ v, getNext (setNext g headId l v) a l' = getNext g a l' := by
    intro g v; apply getNext_setNext_ne
    rcases hor with e | e
    · right; exact Ne.symm e
    · left; exact Ne.symm e.1
  by_cases ht : (tl != nilId) = true
  · have h2 : ∀ g : Heap, ∀ v, getNext (setNext g tl l v) a l' = getNext g a l' := by
      intro g v; apply getNext_setNext_ne
      rcases hor with e | e
      · right; exact Ne.symm e
      · left
        rcases e.2 with e2 | e2
        · exact Ne.symm e2
        · simp [e2] at ht
    by_cases hh : (hd != nilId) = true <;> simp [ht, hh, h1, h2]
  · by_cases hh : (hd != nilId) = true <;> simp [ht, hh, h1]

theorem asmEnds_eq (head tail : List Nat) (n l : Nat) (h : Heap) :
    asmEnds head tail (n + 1) l h
      = asmEnds head tail n (l + 1) (endsStep h l (head.getD l nilId) (tail.getD l nilId)) := by
  simp only [asmEnds, endsStep]

/-- what the first loop of `Assemble` leaves in `hA`: every chain linked, its ends in `head`/`tail`, while
    the head sentinel still points to the tail -/
structure EndCtx (hA : Heap) (C : Nat → List Nat) (Dall head tail : List Nat) : Prop where
  chains : Chains hA C head tail
  sub : ∀ l, ∀ x ∈ C l, x ∈ Dall ∧ l ≤ levelOf hA x
  nodup : ∀ l, (C l).Nodup
  lo : ∀ x ∈ Dall, 3 ≤ x
  slots : ∀ x ∈ Dall, nextLen hA x = levelOf hA x + 1
  headLen : nextLen hA headId = Gen.maxLevel + 1
  headLink : ∀ l, l ≤ Gen.maxLevel → getNext hA headId l = (tailId, false)

/-- the second loop before level `l`: the levels below are complete `head → C l' → tail` chains, the
    levels from `l` on are untouched -/
structure EndInv (hA : Heap) (C : Nat → List Nat) (Dall : List Nat) (l : Nat) (h : Heap) : Prop where
  done : ∀ l', l' ≤ Gen.maxLevel → l' < l → Path h nomk l' (headId :: C l' ++ [tailId])
  todo : ∀ l', l ≤ l' → ∀ a, getNext h a l' = getNext hA a l'
  shape : SameShape hA h
  frame : ∀ n, n ∉ headId :: Dall → ∀ l', getNext h n l' = getNext hA n l'

theorem asmEnds_spec {hA : Heap} {C : Nat → List Nat} {Dall head tail : List Nat}
    (c : EndCtx hA C Dall head tail) :
    ∀ (n l : Nat) (h : Heap), l + n = Gen.maxLevel + 1 → EndInv hA C Dall l h →
      EndInv hA C Dall (Gen.maxLevel + 1) (asmEnds head tail n l h) := by
  intro n
  induction n with
  | zero =>
    intro l h hl inv
    have : l = Gen.maxLevel + 1 := hl
    subst this
    simpa [asmEnds] using inv
  | succ n ih =>
    intro l h hl inv
    rw [asmEnds_eq]
    apply ih (l + 1) _ (loop_step hl).2
    have hlm : l ≤ Gen.maxLevel := Nat.le_of_lt_succ (loop_step hl).1
    have he := c.chains.ends l hlm
    have hpl : Path h nomk l (C l) := by
      rw [path_congr (h := hA) (mk := nomk)]
      · exact c.chains.paths l hlm
      · intro a _; exact ⟨inv.todo l (Nat.le_refl _) a, rfl⟩
    have hlvl := asmEnds_level (h := h) (l := l) (C l) hpl (c.nodup l)
      (fun x hx => c.lo x (c.sub l x hx).1)
      (fun x hx => by
        have := c.sub l x hx
        rw [inv.shape.nlen, c.slots x this.1]; exact Nat.lt_succ_of_le this.2)
      (by rw [inv.shape.nlen, c.headLen]; exact Nat.lt_succ_of_le hlm)
      (by rw [inv.todo l (Nat.le_refl _)]; exact c.headLink l hlm)
    rw [← he.1, ← he.2] at hlvl
    refine ⟨?_, ?_, ?_, ?_⟩
    · intro l' hl' hlt
      by_cases e : l' = l
      · subst e; exact hlvl
      · rw [path_congr (h := h) (mk := nomk)]
        · exact inv.done l' hl' (Nat.lt_of_le_of_ne (Nat.le_of_lt_succ hlt) e)
        · intro a _; exact ⟨endsStep_other _ _ _ _ _ _ (Or.inl e), rfl⟩
    · intro l' hl' a
      rw [endsStep_other _ _ _ _ _ _ (Or.inl (Nat.ne_of_gt hl'))]
      exact inv.todo l' (Nat.le_of_succ_le hl') a
    · exact endsStep_shape inv.shape _ _ _
    · intro m hm l'
      have hmh : m ≠ headId := fun e => hm (by rw [e]; simp)
      have hmt : m ≠ tail.getD l nilId ∨ tail.getD l nilId = nilId := by
        rw [he.2]
        cases hCl : (C l).getLast? with
        | none => right; rfl
        | some z =>
          left
          intro e
          simp at e
          have := (c.sub l z (List.mem_of_getLast? hCl)).1
          exact hm (by rw [e]; exact List.mem_cons_of_mem _ this)
      rw [endsStep_other _ _ _ _ _ _ (Or.inr ⟨hmh, hmt⟩)]
      exact inv.frame m hm l'

theorem asmSeg_shape {h0 : Heap} (seg : Segment) : ∀ (n l : Nat) (h : Heap) (head tail : List Nat),
    SameShape h0 h → SameShape h0 (asmSeg seg n l h head tail).1 := by
  intro n
  induction n with
  | zero => intro l h head tail sh; exact sh
  | succ n ih =>
    intro l h head tail sh
    simp only [asmSeg]
    apply ih
    split
    · exact sh.setNext _ _ _
    · exact sh

theorem asmSegs_shape {h0 : Heap} : ∀ (segs : List Segment) (h : Heap) (head tail : List Nat),
    SameShape h0 h → SameShape h0 (asmSegs segs h head tail).1 := by
  intro segs
  induction segs with
  | nil => intro h head tail sh; exact sh
  | cons seg r ih => intro h head tail sh; exact ih _ _ _ (asmSeg_shape seg _ _ _ _ _ sh)

theorem asmEnds_shape {h0 : Heap} (head tail : List Nat) : ∀ (n l : Nat) (h : Heap),
    SameShape h0 h → SameShape h0 (asmEnds head tail n l h) := by
  intro n
  induction n with
  | zero => intro l h sh; exact sh
  | succ n ih => intro l h sh; rw [asmEnds_eq]; exact ih _ _ (endsStep_shape sh _ _ _)

/-- local statistics of a filled segment -/
structure SegStats (h : Heap) (seg : Segment) (xs : List Nat) : Prop where
  len : seg.sts.levelNodesCount.length = Gen.maxLevel + 1
  dist : ∀ g, g ≤ Gen.maxLevel → seg.sts.levelNodesCount.getD g 0 = (cntLevel h xs g : Int)
  soft : seg.sts.softDeletes = 0
  frees : seg.sts.nodeFrees = 0
  allocs : seg.sts.nodeAllocs = (xs.length : Int)

/-- an empty store together with filled, pairwise disjoint segments allocated in its heap -/
structure BuildOK (s : SL) (segs : List (Segment × List Nat)) : Prop where
  rep : Rep s []
  segok : ∀ e ∈ segs, SegOK s.nodes e.1 e.2
  nodup : (allNodes segs).Nodup
  lo : ∀ x ∈ allNodes segs, 3 ≤ x
  hi : ∀ x ∈ allNodes segs, x < s.nodes.length
  slots : ∀ x ∈ allNodes segs, nextLen s.nodes x = levelOf s.nodes x + 1
  keys : ∀ x ∈ allNodes segs, keyOf s.nodes x = .item (ikey s.nodes x)
  lvls : ∀ x ∈ allNodes segs, levelOf s.nodes x ≤ s.level
  size : (allNodes segs).length + 3 ≤ s.nodes.length
  stats : ∀ e ∈ segs, SegStats s.nodes e.1 e.2

theorem BuildOK.nodeOK {s : SL} {segs : List (Segment × List Nat)} (b : BuildOK s segs) {x : Nat}
    (hx : x ∈ allNodes segs) : NodeOK s x :=
  ⟨b.lo x hx, b.hi x hx, b.keys x hx, b.lvls x hx, b.slots x hx⟩

theorem BuildOK.of_nodeOK {s : SL} {segs : List (Segment × List Nat)} (rep : Rep s [])
    (segok : ∀ e ∈ segs, SegOK s.nodes e.1 e.2) (nodup : (allNodes segs).Nodup)
    (nodes : ∀ x ∈ allNodes segs, NodeOK s x) (size : (allNodes segs).length + 3 ≤ s.nodes.length)
    (stats : ∀ e ∈ segs, SegStats s.nodes e.1 e.2) : BuildOK s segs :=
  ⟨rep, segok, nodup, fun x hx => (nodes x hx).lo, fun x hx => (nodes x hx).hi, fun x hx => (nodes x hx).len,
   fun x hx => (nodes x hx).key, fun x hx => (nodes x hx).lvl, size, stats⟩

theorem SegOK.congr {h h' : Heap} {seg : Segment} {ys : List Nat} (ok : SegOK h seg ys)
    (hl : ∀ y ∈ ys, levelOf h' y = levelOf h y) (hn : ∀ y ∈ ys, ∀ l, getNext h' y l = getNext h y l) :
    SegOK h' seg ys := by
  have hLL : ∀ l, LL h' ys l = LL h ys l := fun l => LL_congr l hl
  refine ⟨ok.hlen, ok.tlen, fun l hl' => by rw [hLL]; exact ok.ends l hl', fun l hl' => ?_⟩
  rw [hLL, path_congr (h := h) (mk := nomk)]
  · exact ok.paths l hl'
  · intro a ha; exact ⟨hn a (mem_LL.mp ha).1 l, rfl⟩

theorem SegStats.congr {h h' : Heap} {seg : Segment} {ys : List Nat} (st : SegStats h seg ys)
    (hl : ∀ y ∈ ys, levelOf h' y = levelOf h y) : SegStats h' seg ys :=
  ⟨st.len, fun g hg => by rw [cntLevel_congr g hl]; exact st.dist g hg, st.soft, st.frees, st.allocs⟩

end NitroVerif.SkipSeq
