/-
  How `StoreInv` and `OwnInv` carry over.  A change of the thread table (`threads.set t pc'`): which ids are
  reserved afterwards, and that the owner counts move by `pcOwn` of the two entries; a program counter that parks
  no Put and carries nothing (`Pc.plain`).  Conditions on a pc are equations on its projections (`putOwn`, `flushOwn`,
  `pcOwn`, `Pc.tok`, `Pc.ref`).  Unlinking a node (`StoreInv.remove`); an update of one snapshot; the owner count of
  sessions and free jobs across `release`, `acquire`, `flush`.
-/
import NitroVerif.Lemmas.MvccConcTok
import NitroVerif.Lemmas.MvccConcOwn

namespace NitroVerif.MvccConc

variable {threads threads' : List Pc} {store unl : List Node} {gcJobs : List GcJob} {sess : List Sess}
  {iters : List ((Nat × Nat) × Iter)} {fs nextId nextId' cur : Nat} {items : Int} {writers : List Writer}
  {snaps : List Snap} {frJobs : List FrJob} {allocd freed bad : List Blk}

/-- the pc neither parks a Put nor carries a node, a token or the collector's role -/
def Pc.plain : Pc → Prop
  | .idle => True
  | .iterNext _ => True
  | _ => False

theorem Pc.plain.own {pc : Pc} (h : pc.plain) : pcOwn pc = [] := by
  cases pc <;> simp [Pc.plain] at h <;> rfl

theorem Pc.plain.put {pc : Pc} (h : pc.plain) : putOwn pc = [] := by
  cases pc <;> simp [Pc.plain] at h <;> rfl

theorem Pc.plain.flush {pc : Pc} (h : pc.plain) : flushOwn pc = [] := by
  cases pc <;> simp [Pc.plain] at h <;> rfl

theorem Pc.plain.tok {pc : Pc} (h : pc.plain) : pc.tok = none := by
  cases pc <;> simp [Pc.plain] at h <;> rfl

theorem Pc.plain.ref {pc : Pc} (h : pc.plain) : pc.ref = none := by
  cases pc <;> simp [Pc.plain] at h <;> rfl

theorem putOwn_of_pcOwn {pc : Pc} (h : pcOwn pc = []) : putOwn pc = [] := by
  cases pc <;> first | rfl | cases h

theorem flushOwn_of_pcOwn {pc : Pc} (h : pcOwn pc = []) : flushOwn pc = [] := by
  cases pc <;> first | rfl | cases h

theorem reserved_set_of_not_put {t : Nat} {pc : Pc} (hpc : putOwn pc = []) {n : Nat}
    (h : reserved (threads.set t pc) n) : reserved threads n := by
  obtain ⟨k, v, b, hm⟩ := h
  rcases (List.mem_or_eq_of_mem_set hm).symm with h | h
  · rw [← h] at hpc; cases hpc
  · exact ⟨k, v, b, h⟩

theorem reserved_set {t : Nat} {pc0 pc' : Pc} (ht : threads[t]? = some pc0) (h0 : putOwn pc0 = []) (n : Nat) :
    reserved (threads.set t pc') n ↔ (reserved threads n ∨ n ∈ putOwn pc') := by
  rw [reserved_iff_count, reserved_iff_count]
  unfold putOwned
  rw [count_flatMap_set_grow putOwn n ht (L := putOwn pc') (h0 ▸ rfl), Nat.add_pos_iff_pos_or_pos,
    List.count_pos_iff, List.count_pos_iff]

theorem reserved_set_iff {t : Nat} {pc0 pc' : Pc} (ht : threads[t]? = some pc0) (h0 : putOwn pc0 = [])
    (h' : putOwn pc' = []) (n : Nat) : reserved (threads.set t pc') n ↔ reserved threads n := by
  rw [reserved_set ht h0, h']
  exact or_iff_left List.not_mem_nil

theorem reserved_set_put_iff {t m k0 v0 b0 : Nat} {pc0 : Pc} (ht : threads[t]? = some pc0) (h0 : putOwn pc0 = [])
    (n : Nat) : reserved (threads.set t (Pc.putInsert m k0 v0 b0)) n ↔ (reserved threads n ∨ n = m) := by
  rw [reserved_set ht h0]
  exact or_congr Iff.rfl List.mem_singleton

theorem OwnInv.reserved_put_idle (hown : OwnInv store threads gcJobs sess fs frJobs nextId allocd freed bad)
    {t n k v b : Nat} (ht : threads[t]? = some (.putInsert n k v b)) (m : Nat) :
    reserved (threads.set t .idle) m ↔ (reserved threads m ∧ m ≠ n) := by
  have h1 : (putOwned (threads.set t .idle)).count m + [n].count m = (putOwned threads).count m + [].count m :=
    count_flatMap_set putOwn m threads t _ .idle ht
  have h2 := thrOwned_split (threads := threads) m
  have h3 := (hown.node m).le
  unfold ownC at h3
  rw [reserved_iff_count, reserved_iff_count]
  rw [List.count_nil] at h1
  by_cases he : m = n
  · subst he
    rw [List.count_singleton_self] at h1
    exact ⟨fun h => absurd h (by omega), fun h => absurd rfl h.2⟩
  · rw [List.count_singleton, beq_eq_false_iff_ne.mpr (Ne.symm he), if_neg Bool.false_ne_true] at h1
    exact ⟨fun h => ⟨by omega, he⟩, fun h => by omega⟩

theorem StoreInv.ids_mono (h : StoreInv store unl cur items writers snaps threads nextId) (hn : nextId ≤ nextId')
    (hr : ∀ n, n < nextId → reserved threads' n → reserved threads n) :
    StoreInv store unl cur items writers snaps threads' nextId' :=
  ⟨h.sorted, h.chains, h.cnt, h.cur_pos, h.ids,
   fun x hx => ⟨(h.unl x hx).1, Nat.lt_of_lt_of_le (h.unl x hx).2.1 hn, fun hn' => (h.unl x hx).2.2 (hr _ (h.unl x hx).2.1 hn')⟩,
   fun x hx => ⟨Nat.lt_of_lt_of_le (h.id_lt x hx).1 hn, fun hn' => (h.id_lt x hx).2 (hr _ (h.id_lt x hx).1 hn')⟩,
   h.snaps_inc, h.snaps_lt, h.rc_dead⟩

theorem StoreInv.set_not_put (h : StoreInv store unl cur items writers snaps threads nextId) (t : Nat) {pc' : Pc}
    (h' : putOwn pc' = []) : StoreInv store unl cur items writers snaps (threads.set t pc') nextId :=
  h.ids_mono (Nat.le_refl _) (fun _ _ hn => reserved_set_of_not_put h' hn)

open NitroVerif.Mvcc (Ver Sorted Chains isAlive) in
theorem StoreInv.remove {store unl : List Node} {cur : Nat} {items items' : Int} {writers writers' : List Writer}
    {snaps : List Snap} {threads : List Pc} {nextId : Nat}
    (h : StoreInv store unl cur items writers snaps threads nextId) {n : Nat} {x : Node}
    (hf : findNode store n = some x)
    (hcnt : items' + (writers'.map (·.count)).sum = (((vers (removeNode store n)).filter isAlive).length : Nat)) :
    StoreInv (removeNode store n) (unl ++ [x]) cur items' writers' snaps threads nextId := by
  have ⟨hx, hid⟩ := findNode_some hf
  have hv := vers_removeNode h.sorted h.ids hf
  refine ⟨?_, ?_, hcnt, h.cur_pos, storeIds_removeNode_nodup h.ids n, ?_, ?_, h.snaps_inc, h.snaps_lt, h.rc_dead⟩
  · rw [hv]; exact List.Pairwise.filter _ h.sorted
  · rw [hv]; exact Mvcc.chains_filter h.chains _
  · intro y hy
    rcases List.mem_append.mp hy with hy | hy
    · have := h.unl y hy
      exact ⟨fun hm => this.1 (mem_storeIds_removeNode_iff.mp hm).1, this.2⟩
    · simp at hy; subst hy
      rw [hid]
      exact ⟨fun hm => (mem_storeIds_removeNode_iff.mp hm).2 rfl, by rw [← hid]; exact h.id_lt y hx⟩
  · intro y hy
    exact h.id_lt y (mem_removeNode.mp hy).1

theorem OwnInv.congr {store store' : List Node} {threads threads' : List Pc} {gcJobs gcJobs' : List GcJob}
    {sess sess' : List Sess} {fs fs' : Nat} {frJobs frJobs' : List FrJob} {nextId : Nat} {allocd freed bad : List Blk}
    (h : OwnInv store threads gcJobs sess fs frJobs nextId allocd freed bad)
    (ho : ∀ n, ownC store' threads' gcJobs' sess' fs' frJobs' n = ownC store threads gcJobs sess fs frJobs n)
    (hr : ∀ n, reserved threads' n ↔ reserved threads n) :
    OwnInv store' threads' gcJobs' sess' fs' frJobs' nextId allocd freed bad :=
  ⟨h.toOwnBooks.congr ho hr, h.bad⟩

theorem ownC_set {t : Nat} {pc0 : Pc} (ht : threads[t]? = some pc0) (pc' : Pc) (n : Nat) :
    ownC store (threads.set t pc') gcJobs sess fs frJobs n + (pcOwn pc0).count n =
      ownC store threads gcJobs sess fs frJobs n + (pcOwn pc').count n := by
  unfold ownC thrOwned
  rw [Nat.add_right_comm _ (sessfr sess fs frJobs n), Nat.add_right_comm _ ((gcOwned gcJobs).count n),
    Nat.add_assoc ((storeIds store).count n), count_flatMap_set pcOwn n threads t pc0 pc' ht, ← Nat.add_assoc,
    Nat.add_right_comm _ ((pcOwn pc').count n), Nat.add_right_comm _ ((pcOwn pc').count n)]

theorem ownC_set_same {t : Nat} {pc0 pc' : Pc} (ht : threads[t]? = some pc0) (ho : pcOwn pc' = pcOwn pc0) (n : Nat) :
    ownC store (threads.set t pc') gcJobs sess fs frJobs n = ownC store threads gcJobs sess fs frJobs n := by
  unfold ownC thrOwned
  rw [count_flatMap_set_same pcOwn n ht ho]

theorem OwnInv.set_same
    (h : OwnInv store threads gcJobs sess fs frJobs nextId allocd freed bad) {t : Nat} {pc0 pc' : Pc}
    (ht : threads[t]? = some pc0) (ho : pcOwn pc' = pcOwn pc0)
    (h0 : putOwn pc0 = []) (h' : putOwn pc' = []) :
    OwnInv store (threads.set t pc') gcJobs sess fs frJobs nextId allocd freed bad :=
  h.congr (fun n => ownC_set_same ht ho n) (reserved_set_iff ht h0 h')

theorem StoreInv.updSnap (h : StoreInv store unl cur items writers snaps threads nextId) {s : Nat} {f : Snap → Snap}
    (hsn : ∀ x, (f x).sn = x.sn) (hrc : ∀ x ∈ snaps, x.sn = s → (f x).st ≠ .live → (f x).rc ≤ 0) :
    StoreInv store unl cur items writers (MvccConc.updSnap s f snaps) threads nextId := by
  refine ⟨h.sorted, h.chains, h.cnt, h.cur_pos, h.ids, h.unl, h.id_lt, updSnap_pairwise h.snaps_inc s f hsn,
    updSnap_sn_lt h.snaps_lt s f hsn, fun y hy hne => ?_⟩
  obtain ⟨z, hz, rfl⟩ := mem_updSnap hy
  by_cases hzs : z.sn = s
  · simp only [hzs, if_true] at hne ⊢
    exact hrc z hz hzs hne
  · simp only [hzs, if_false] at hne ⊢
    exact h.rc_dead z hz hne

theorem sessfr_release (sess : List Sess) (tok : Nat) (h : Holder) (fs : Nat) (frJobs : List FrJob) (n : Nat) :
    sessfr (relSess sess tok h) (fs + (readySess (relSess sess tok h) fs).length)
        (frJobs ++ newFrJobs (readySess (relSess sess tok h) fs)) n = sessfr sess fs frJobs n := by
  rw [sessfr_cleanup]
  unfold sessfr
  rw [sessOwned_relSess]

theorem sessfr_acquire (sess : List Sess) (h : Holder) (fs : Nat) (frJobs : List FrJob) (n : Nat) :
    sessfr (acqSess sess h) fs frJobs n = sessfr sess fs frJobs n := by
  unfold sessfr
  rw [sessOwned_acqSess]

theorem sessfr_flush (hp : TokPre threads sess iters fs) (L : List Nat) (frJobs : List FrJob) (n : Nat) :
    sessfr (flushSess sess L) (fs + (readySess (flushSess sess L) fs).length)
        (frJobs ++ newFrJobs (readySess (flushSess sess L) fs)) n = sessfr sess fs frJobs n + L.count n := by
  rw [sessfr_cleanup]
  unfold sessfr
  obtain ⟨c, hc, _, _, hcl⟩ := hp.last
  rw [sessOwned_flushSess hp.lt hc hcl]
  omega

end NitroVerif.MvccConc
