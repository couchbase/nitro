import NitroVerif.Lemmas.SkipConcScan
import NitroVerif.Lemmas.SkipConcSearch
/-!
  The instrumented run and the coverage invariant behind `C15_complete`.

  How an explicit refresh is recorded (`Ghost.refreshing`, `Ghost.onStep`).  When it returns on the node that is already the
  last position, `positions` does not grow and the stamp of that position is renewed (the node has just been found again by
  a search, so `Uniq` of SkipConcScanMono holds for the later state); on another node (the node under the cursor was deleted
  meanwhile), that node is what the next `Get()` returns and is appended like the result of a Next.  `returns` grows in
  both cases.  The "same node" rule applies to explicit refreshes only: a Next that stayed on its node would show up as a
  violation of `C15_monotone`, not be hidden by the ghost.

  `ScanInv`: every `SStable` node is accounted for according to the phase of the call in progress.  At the cursor
  (`AtCursor`): returned or reachable from the cursor (`Cov`), and the cursor is the last position.  At ITER_REFRESH: `Cov` for
  the cursor, which need not be a position yet.  Inside a findPath for the iterator: returned or key ≥ the searched item
  (`CovK`), turned back into `Cov` by `search_ends` when findPath returns; there `g.startLen ≤ fp.startLen` makes a node
  published before the SCAN one published before THIS findPath (`SStable.stable`), and since the re-search of Next can land
  on the node it started from and go on at ITER_NEXT (`FinR.iterAgain`), for continuation ITER_NEXT the cursor is the last
  position throughout the search.
-/
namespace NitroVerif.SkipConc

structure Ghost where
  /-- a scan of the iterator has started and the iterator was not closed since -/
  active : Bool := false
  /-- heap length (= number of published nodes) when the first call of the scan started -/
  startLen : Nat := 0
  /-- the seek key; `none` for SeekFirst -/
  lo : Option Nat := none
  /-- cursor node after each completed call of the scan -/
  positions : List Nat := []
  /-- heap length in the state each of those calls returned -/
  stamps : List Nat := []
  /-- number of calls on the iterator that have returned a position so far (over all its scans; explicit refreshes
      included, whether they land on the same node or on a later one) -/
  returns : Nat := 0
  /-- an explicit `Refresh()` of the iterator (`Op.itRefresh`) has been entered and has not returned yet -/
  refreshing : Bool := false
deriving Repr, DecidableEq

/-- ghost update of a segment of the scanning thread: a call on the iterator returns (the thread becomes idle).
    An explicit refresh that returns on the node that is already the last position does not grow `positions` (only the
    stamp of that position is renewed); every other return appends the cursor. -/
def Ghost.onStep (g : Ghost) (it : Nat) (th : Thread) (r : Res) : Ghost :=
  if pcIter th.pc = some it ∧ isIdle r.2.1.pc = true then
    if g.refreshing = true ∧ g.positions.getLast? = some (r.2.1.iter it).curr then
      { g with stamps := g.stamps.dropLast ++ [r.1.heap.length], returns := g.returns + 1, refreshing := false }
    else
      { g with positions := g.positions ++ [(r.2.1.iter it).curr], stamps := g.stamps ++ [r.1.heap.length],
               returns := g.returns + 1, refreshing := false }
  else g

/-- ghost update of a call entry of the scanning thread -/
def Ghost.onStart (g : Ghost) (it : Nat) (sh : Shared) (th : Thread) : Op → Ghost
  | .itFirst it' =>
    if it' = it then
      { active := true, startLen := sh.heap.length, lo := none,
        positions := [((startOp sh th (.itFirst it)).2.1.iter it).curr], stamps := [sh.heap.length],
        returns := g.returns + 1 }
    else g
  | .itSeek it' x =>
    if it' = it then
      { active := true, startLen := sh.heap.length, lo := some x, positions := [], stamps := [], returns := g.returns }
    else g
  | .itClose it' => if it' = it then { g with active := false } else g
  | .itRefresh it' =>
    -- `refreshing` = the entry was accepted (the thread is parked at ITER_REFRESH); `false` after a refused entry
    if it' = it then { g with refreshing := !isIdle (startOp sh th (.itRefresh it)).2.1.pc } else g
  | _ => g

/-- the history variables of the scan of iterator `it` of thread `t`, updated along an action -/
def ghostAct (t it : Nat) (s : Sys) (g : Ghost) : Action → Ghost
  | .start t' op =>
    match s.threads[t']? with
    | some th => if t' = t ∧ isIdle th.pc = true then g.onStart it s.sh th op else g
    | none => g
  | .step t' =>
    match s.threads[t']? with
    | some th => if t' = t then g.onStep it th (stepThread s.sh th) else g
    | none => g

def Sys.actG (t it : Nat) (sg : Sys × Ghost) (a : Action) : Sys × Ghost :=
  (sg.1.act a, ghostAct t it sg.1 sg.2 a)

def Sys.runG (t it : Nat) (sg : Sys × Ghost) (as : List Action) : Sys × Ghost := as.foldl (Sys.actG t it) sg

theorem runG_append (t it : Nat) (sg : Sys × Ghost) (as bs : List Action) :
    Sys.runG t it sg (as ++ bs) = Sys.runG t it (Sys.runG t it sg as) bs := by
  simp [Sys.runG, List.foldl_append]

/-- node `a` is stable for the scan: published before the scan started, not the head, unmarked at level 0 now,
    key not below the seek key -/
def SStable (h : Heap) (L : Nat) (lo : Option Nat) (a : Nat) : Prop :=
  a < L ∧ a ≠ 0 ∧ unmarked0 h a ∧ ∀ x, lo = some x → ¬ Key.lt (keyOf h a) (.fin x)

/-- every stable node has been returned or is reachable along level 0 from `c` -/
def Cov (h : Heap) (L : Nat) (lo : Option Nat) (ps : List Nat) (c : Nat) : Prop :=
  ∀ a, SStable h L lo a → a ∈ ps ∨ Reach h c a

/-- every stable node has been returned or has a key ≥ `k` -/
def CovK (h : Heap) (L : Nat) (lo : Option Nat) (ps : List Nat) (k : Nat) : Prop :=
  ∀ a, SStable h L lo a → a ∈ ps ∨ ¬ Key.lt (keyOf h a) (.fin k)

def ScanInv (h : Heap) (g : Ghost) (it : Nat) (th : Thread) : Prop :=
  g.startLen ≤ h.length ∧
  (((pcIter th.pc ≠ some it ∨ th.pc = .iterNext it ∨ ∃ n, th.pc = .iterHelp it n) ∧
      Cov h g.startLen g.lo g.positions (th.iter it).curr ∧ ∃ ps0, g.positions = ps0 ++ [(th.iter it).curr]) ∨
   (th.pc = .iterRefresh it ∧ Cov h g.startLen g.lo g.positions (th.iter it).curr) ∨
   (∃ fp, searchOf th.pc = some fp ∧ contIter fp.cont = some it ∧ g.startLen ≤ fp.startLen ∧
      CovK h g.startLen g.lo g.positions fp.item ∧
      (fp.cont = .iterNext it → ∃ ps0, g.positions = ps0 ++ [(th.iter it).curr])))

variable {h : Heap} {g : Ghost} {it : Nat} {th : Thread} {L : Nat} {lo : Option Nat} {a : Nat}

theorem SStable.lt (s : SStable h L lo a) : a < L := s.1
theorem SStable.ne_head (s : SStable h L lo a) : a ≠ 0 := s.2.1
theorem SStable.unmarked (s : SStable h L lo a) : unmarked0 h a := s.2.2.1
theorem SStable.ge_lo {x : Nat} (s : SStable h L (some x) a) : ¬ Key.lt (keyOf h a) (.fin x) :=
  s.2.2.2 x rfl

theorem SStable.stable {L' k : Nat} (s : SStable h L lo a) (hL : L ≤ L')
    (hge : ¬ Key.lt (keyOf h a) (.fin k)) : Stable h L' k a := ⟨Nat.lt_of_lt_of_le s.lt hL, s.unmarked, hge⟩

theorem SStable.back {h h' : Heap} (e : Ext h h') (hL : L ≤ h.length)
    (s : SStable h' L lo a) : SStable h L lo a := by
  have hn : a < h.length := Nat.lt_of_lt_of_le s.lt hL
  refine ⟨s.lt, s.ne_head, unmarkedAt_back e hn s.unmarked, fun x hx => ?_⟩
  rw [← e.key a hn]; exact s.2.2.2 x hx

theorem Cov.stable {h h' : Heap} {ev : Event} (H : HInv h) (e : Ext h h') (s : HStep h ev h') {L : Nat}
    {lo : Option Nat} {ps : List Nat} {c : Nat} (hL : L ≤ h.length) (b : Cov h L lo ps c) : Cov h' L lo ps c := by
  intro a ha
  rcases b a (ha.back e hL) with hm | hr
  · exact .inl hm
  · exact .inr (s.reach_keep hr ha.unmarked)

theorem CovK.stable {h h' : Heap} (e : Ext h h') {L : Nat} {lo : Option Nat} {ps : List Nat} {k : Nat}
    (hL : L ≤ h.length) (b : CovK h L lo ps k) : CovK h' L lo ps k := by
  intro a ha
  rcases b a (ha.back e hL) with hm | hr
  · exact .inl hm
  · refine .inr ?_
    rw [e.key a (Nat.lt_of_lt_of_le ha.lt hL)]; exact hr

theorem Cov.append {h : Heap} {L : Nat} {lo : Option Nat} {ps : List Nat} {c : Nat} (b : Cov h L lo ps c) (x : Nat) :
    Cov h L lo (ps ++ [x]) c := by
  intro a ha
  rcases b a ha with hm | hr
  · exact .inl (by simp [hm])
  · exact .inr hr

theorem ScanInv.cursor (hL : g.startLen ≤ h.length)
    (c : AtCursor it th.pc) (hcov : Cov h g.startLen g.lo g.positions (th.iter it).curr)
    (hlast : ∃ ps0, g.positions = ps0 ++ [(th.iter it).curr]) : ScanInv h g it th := ⟨hL, .inl ⟨c, hcov, hlast⟩⟩

theorem ScanInv.refresh (hL : g.startLen ≤ h.length)
    (hpc : th.pc = .iterRefresh it) (hcov : Cov h g.startLen g.lo g.positions (th.iter it).curr) : ScanInv h g it th :=
  ⟨hL, .inr (.inl ⟨hpc, hcov⟩)⟩

theorem ScanInv.search {fp : FP} (hL : g.startLen ≤ h.length)
    (hf : searchOf th.pc = some fp) (hcn : contIter fp.cont = some it) (hfl : g.startLen ≤ fp.startLen)
    (hk : CovK h g.startLen g.lo g.positions fp.item)
    (hlast : fp.cont = .iterNext it → ∃ ps0, g.positions = ps0 ++ [(th.iter it).curr]) : ScanInv h g it th :=
  ⟨hL, .inr (.inr ⟨fp, hf, hcn, hfl, hk, hlast⟩)⟩

/-- a step of ANOTHER thread keeps the scan invariant of the scanning thread -/
theorem ScanInv.stable {h h' : Heap} {ev : Event} (H : HInv h) (e : Ext h h') (s : HStep h ev h') {g : Ghost}
    {it : Nat} {th : Thread} (b : ScanInv h g it th) : ScanInv h' g it th := by
  obtain ⟨hL, b⟩ := b
  have hL' := Nat.le_trans hL e.len
  rcases b with ⟨hp, hc, hm⟩ | ⟨hp, hc⟩ | ⟨fp, h1, h2, h3, h4, h5⟩
  · exact .cursor hL' hp (hc.stable H e s hL) hm
  · exact .refresh hL' hp (hc.stable H e s hL)
  · exact .search hL' h1 h2 h3 (h4.stable e hL) h5

section
variable (g) (it) (th) (r : Res)

theorem Ghost.onStep_eq (h : ¬ (pcIter th.pc = some it ∧ isIdle r.2.1.pc = true)) : g.onStep it th r = g := by
  unfold Ghost.onStep
  rw [if_neg h]

theorem Ghost.onStep_stay (h : isIdle r.2.1.pc = false) : g.onStep it th r = g :=
  g.onStep_eq it th r fun c => by rw [h] at c; cases c.2

theorem Ghost.onStep_other (h : pcIter th.pc ≠ some it) : g.onStep it th r = g :=
  g.onStep_eq it th r fun c => h c.1

theorem Ghost.onStep_ret (hown : pcIter th.pc = some it)
    (hidle : isIdle r.2.1.pc = true) :
    (g.onStep it th r).startLen = g.startLen ∧ (g.onStep it th r).lo = g.lo ∧
    (((g.onStep it th r).positions = g.positions ∧ (g.onStep it th r).stamps = g.stamps.dropLast ++ [r.1.heap.length] ∧
        g.positions.getLast? = some (r.2.1.iter it).curr) ∨
     ((g.onStep it th r).positions = g.positions ++ [(r.2.1.iter it).curr] ∧
        (g.onStep it th r).stamps = g.stamps ++ [r.1.heap.length] ∧
        ¬ (g.refreshing = true ∧ g.positions.getLast? = some (r.2.1.iter it).curr))) := by
  unfold Ghost.onStep
  rw [if_pos ⟨hown, hidle⟩]
  by_cases hc : g.refreshing = true ∧ g.positions.getLast? = some (r.2.1.iter it).curr
  · rw [if_pos hc]
    exact ⟨rfl, rfl, .inl ⟨rfl, rfl, hc.2⟩⟩
  · rw [if_neg hc]
    exact ⟨rfl, rfl, .inr ⟨rfl, rfl, hc⟩⟩

theorem Ghost.onStep_returns (hown : pcIter th.pc = some it)
    (hidle : isIdle r.2.1.pc = true) : (g.onStep it th r).returns = g.returns + 1 := by
  unfold Ghost.onStep
  rw [if_pos ⟨hown, hidle⟩]
  split <;> rfl

theorem Ghost.onStep_refreshing (hown : pcIter th.pc = some it)
    (hidle : isIdle r.2.1.pc = true) : (g.onStep it th r).refreshing = false := by
  unfold Ghost.onStep
  rw [if_pos ⟨hown, hidle⟩]
  split <;> rfl

theorem Ghost.onStep_last (hown : pcIter th.pc = some it)
    (hidle : isIdle r.2.1.pc = true) : ∃ ps0, (g.onStep it th r).positions = ps0 ++ [(r.2.1.iter it).curr] := by
  obtain ⟨_, _, hpos⟩ := g.onStep_ret it th r hown hidle
  rcases hpos with ⟨e1, _, hl⟩ | ⟨e1, _⟩
  · rw [e1]; exact List.getLast?_eq_some_iff.mp hl
  · exact ⟨g.positions, e1⟩

theorem Ghost.onStep_active : (g.onStep it th r).active = g.active := by
  unfold Ghost.onStep
  by_cases c : pcIter th.pc = some it ∧ isIdle r.2.1.pc = true
  · rw [if_pos c]
    by_cases c' : g.refreshing = true ∧ g.positions.getLast? = some (r.2.1.iter it).curr
    · rw [if_pos c']
    · rw [if_neg c']
  · rw [if_neg c]

end

theorem ScanInv.arrive {r : Res} (hown : pcIter th.pc = some it)
    (hL : g.startLen ≤ r.1.heap.length)
    (hcov : Cov r.1.heap g.startLen g.lo g.positions (r.2.1.iter it).curr)
    (hpc : r.2.1.pc = .idle ∨ r.2.1.pc = .iterRefresh it) : ScanInv r.1.heap (g.onStep it th r) it r.2.1 := by
  rcases hpc with h | h
  · obtain ⟨e1, e2, hpos⟩ := g.onStep_ret it th r hown (by rw [h]; rfl)
    refine .cursor (by rw [e1]; exact hL) (.inl (by rw [h]; nofun)) ?_ (g.onStep_last it th r hown (by rw [h]; rfl))
    rw [e1, e2]
    rcases hpos with ⟨hp, _⟩ | ⟨hp, _⟩
    · rw [hp]; exact hcov
    · rw [hp]; exact hcov.append _
  · rw [g.onStep_stay it th r (by rw [h]; rfl)]
    exact .refresh hL h hcov

theorem ScanInv.atCursor (inv : ScanInv h g it th)
    (c : AtCursor it th.pc) :
    Cov h g.startLen g.lo g.positions (th.iter it).curr ∧ ∃ ps0, g.positions = ps0 ++ [(th.iter it).curr] := by
  rcases inv.2 with ⟨_, hc, hm⟩ | ⟨hp, _⟩ | ⟨fp, hf, hcn, _⟩
  · exact ⟨hc, hm⟩
  · exact absurd hp c.not_refresh
  · exact absurd hcn (c.not_search hf)

theorem ScanInv.atRefresh (inv : ScanInv h g it th)
    (hpc : th.pc = .iterRefresh it) : Cov h g.startLen g.lo g.positions (th.iter it).curr := by
  rcases inv.2 with ⟨c, _⟩ | ⟨_, hc⟩ | ⟨fp, hf, _⟩
  · exact absurd hpc (AtCursor.not_refresh c)
  · exact hc
  · exact absurd (.inr hpc) (searchOf_ne hf it)

theorem ScanInv.atSearch (inv : ScanInv h g it th) {fp : FP}
    (hf : searchOf th.pc = some fp) (hown : pcIter th.pc = some it) :
    g.startLen ≤ fp.startLen ∧ CovK h g.startLen g.lo g.positions fp.item ∧
    (fp.cont = .iterNext it → ∃ ps0, g.positions = ps0 ++ [(th.iter it).curr]) := by
  rcases inv.2 with ⟨c, _⟩ | ⟨hp, _⟩ | ⟨fp1, hf1, _, h3, h4, h5⟩
  · exact absurd hown (AtCursor.not_own_search c hf)
  · exact absurd (.inr hp) (searchOf_ne hf it)
  · rw [hf] at hf1; cases hf1; exact ⟨h3, h4, h5⟩

theorem Cov.toK (H : HInv h) {ps : List Nat} {c k : Nat}
    (b : Cov h L lo ps c) (hk : keyOf h c = .fin k) : CovK h L lo ps k := by
  intro a ha
  rcases b a ha with hm | hr
  · exact .inl hm
  · exact .inr (by rw [← hk]; exact hr.not_lt H)

theorem ScanInv.complete (H : HInv h) (inv : ScanInv h g it th)
    (hcall : pcIter th.pc ≠ some it) :
    (∃ ps0, g.positions = ps0 ++ [(th.iter it).curr]) ∧
    ∀ a, SStable h g.startLen g.lo a → Key.lt (keyOf h a) (keyOf h (th.iter it).curr) → a ∈ g.positions := by
  obtain ⟨hc, hm⟩ := inv.atCursor (.inl hcall)
  refine ⟨hm, fun a ha hlt => (hc a ha).elim id fun hr => ?_⟩
  rcases hr.key H with e | l
  · obtain ⟨ps0, hps⟩ := hm
    rw [hps, ← e]; exact List.mem_append_right _ (List.mem_singleton.mpr rfl)
  · exact absurd hlt (Key.lt_asymm l)

theorem ScanInv.complete_at_end (H : HInv h) (inv : ScanInv h g it th)
    (hcall : pcIter th.pc ≠ some it) (hend : (th.iter it).curr = tailId) :
    ∀ a, SStable h g.startLen g.lo a → a ∈ g.positions := by
  intro a ha
  refine (inv.complete H hcall).2 a ha ?_
  obtain ⟨p, hp⟩ := ha.unmarked
  have ha1 : a ≠ 1 := fun e => by rw [e, H.tailNoWord] at hp; cases hp
  have ha0 := ha.ne_head
  obtain ⟨k, hk⟩ := H.finKey a (by omega) (word?_lt hp)
  rw [hend, hk]
  show Key.lt _ (keyOf h 1)
  rw [H.tailKey]
  trivial

theorem scan_step_own {sh : Shared} (H : HInv sh.heap)
    (hT : TInv sh.heap th) (hS : SInv sh.heap th) (e : Ext sh.heap (stepThread sh th).1.heap) {ev : Event}
    (hs : HStep sh.heap ev (stepThread sh th).1.heap) (inv : ScanInv sh.heap g it th) :
    ScanInv (stepThread sh th).1.heap (g.onStep it th (stepThread sh th)) it (stepThread sh th).2.1 := by
  have hL := inv.1
  by_cases hown : pcIter th.pc = some it
  rotate_left
  · rw [g.onStep_other it th _ hown]
    obtain ⟨h1, h2⟩ := step_other (sh := sh) hown
    have hi := iter_of_iter? h2
    obtain ⟨hc, hm⟩ := inv.atCursor (.inl hown)
    exact .cursor (Nat.le_trans hL e.len) (.inl h1) (by rw [hi]; exact hc.stable H e hs hL) (by rw [hi]; exact hm)
  have hp := hT.pc
  have seg := stepThread_iter (sh := sh) hown hT.buf.succs_pos
  generalize stepThread sh th = r at seg e hs ⊢
  generalize hpc : th.pc = pc at seg hp
  cases seg with
  | @search _ _ fp fp' hf hf' hitem hlen hcont hiters =>
    subst hpc
    obtain ⟨hfl, hk, hlast⟩ := inv.atSearch hf hown
    rw [g.onStep_stay it th _ (isIdle_of_searchOf hf')]
    have hi : r.2.1.iter it = th.iter it := iter_of_iter? (iter?_of_iters hiters it)
    refine .search (Nat.le_trans hL e.len) hf' ?_ (by rw [hlen]; exact hfl) (by rw [hitem]; exact hk.stable e hL) fun hc => ?_
    · rw [hcont, ← pcIter_of_searchOf hf]; exact hown
    · rw [hi]; exact hlast (by rw [← hcont]; exact hc)
  | @found fp rr c _ hc hi0 hm ha h1 h2 h3 =>
    obtain ⟨hfl, hk, hlast⟩ := inv.atSearch (fp := fp) (by rw [hpc]; rfl) hown
    have hreach := (search_ends hp (hpc ▸ hS) hc hi0 ha).2
    have hcov : Cov r.1.heap g.startLen g.lo g.positions (r.2.1.iter it).curr := by
      rw [h1, h2]
      intro a ha
      rcases hk a ha with hmem | hge'
      · exact .inl hmem
      · exact .inr (hreach a (ha.stable hfl hge'))
    have hL' : g.startLen ≤ r.1.heap.length := by rw [h1]; exact hL
    rcases h3 with h3 | ⟨hcont, h3 | ⟨h3, h4⟩⟩
    · exact ScanInv.arrive hown hL' hcov (.inl h3)
    · exact ScanInv.arrive hown hL' hcov (.inr h3)
    · rw [g.onStep_stay it th _ (by rw [h3]; rfl)]
      exact .cursor hL' (.inr (.inl h3)) hcov (by rw [h2, h4]; exact hlast hcont)
  | nextMarked =>
    obtain ⟨hc, hlast⟩ := inv.atCursor (.inr (.inl hpc))
    rw [g.onStep_stay it th _ rfl]
    exact .cursor hL (.inr (.inr ⟨_, rfl⟩)) hc hlast
  | nextMove hm h1 h2 h3 =>
    obtain ⟨hc, ps0, hlast⟩ := inv.atCursor (.inr (.inl hpc))
    refine ScanInv.arrive hown (by rw [h1]; exact hL) ?_ h3
    rw [h1, h2]
    intro a ha
    rcases hc a ha with hmem | hr
    · exact .inl hmem
    · by_cases hac : a = (th.iter it).curr
      · exact .inl (by rw [hlast, hac]; simp)
      · exact .inr (hr.tail_of_ne hac)
  | @helpOk next _ hw h1 h2 h3 =>
    obtain ⟨hc, ps0, hlast⟩ := inv.atCursor (.inr (.inr ⟨_, hpc⟩))
    have hwm : word? sh.heap (th.iter it).curr 0 = some (next, true) := hp.1
    refine ScanInv.arrive hown (Nat.le_trans hL e.len) ?_ h3
    rw [h2]
    intro a ha
    have ha0 := ha.back e hL
    rcases hc a ha0 with hmem | hr
    · exact .inl hmem
    · have hac : a ≠ (th.iter it).curr := fun c => not_unmarked0_of_marked0 ⟨next, hwm⟩ (c ▸ ha0.unmarked)
      have := hr.tail_of_ne hac
      rw [getNext_of_word hwm] at this
      exact .inr (hs.reach_keep this ha.unmarked)
  | helpFail =>
    obtain ⟨hc, hlast⟩ := inv.atCursor (.inr (.inr ⟨_, hpc⟩))
    obtain ⟨k, hk⟩ := hp.2
    rw [g.onStep_stay it th _ rfl]
    refine .search hL rfl rfl hL ?_ fun _ => hlast
    show CovK sh.heap g.startLen g.lo g.positions (itemOfKey (keyOf sh.heap (th.iter it).curr))
    rw [hk]; exact hc.toK H hk
  | refresh =>
    have hc := inv.atRefresh hpc
    obtain ⟨k, hk⟩ := hp
    rw [g.onStep_stay it th _ rfl]
    refine .search hL rfl rfl hL ?_ nofun
    show CovK sh.heap g.startLen g.lo g.positions (itemOfKey (keyOf sh.heap (th.iter it).curr))
    rw [hk]; exact hc.toK H hk

theorem Ghost.onStart_other (g : Ghost) {it : Nat} (sh : Shared) (th : Thread) {op : Op} (ho : opIter op ≠ some it) :
    g.onStart it sh th op = g := by
  cases op with
  | itFirst it' | itClose it' | itRefresh it' => exact if_neg fun e => ho (by rw [e]; rfl)
  | itSeek it' x => exact if_neg fun e => ho (by rw [e]; rfl)
  | _ => rfl

/-- a call entry on iterator `it` by an idle thread `th`: the thread and the history variables afterwards -/
inductive IterStart (it : Nat) (sh : Shared) (th : Thread) (g : Ghost) : Thread → Ghost → Prop
  /-- (a new scan starts with `refreshing := false`, the default) -/
  | first : IterStart it sh th g (th.moveIter it headId (getNext sh.heap headId 0).1)
      { active := true, startLen := sh.heap.length, lo := none, positions := [(getNext sh.heap headId 0).1],
        stamps := [sh.heap.length], returns := g.returns + 1 }
  | seek {x : Nat} : IterStart it sh th g (startFind sh th x (.iterSeek it)).2.1
      { active := true, startLen := sh.heap.length, lo := some x, positions := [], stamps := [], returns := g.returns }
  | next : IterStart it sh th g { th with pc := .iterNext it } g
  | refresh : IterStart it sh th g { th with pc := .iterRefresh it } { g with refreshing := true }
  /-- the scan is over: nothing is asked of the thread -/
  | close {th' : Thread} : IterStart it sh th g th' { g with active := false }
  /-- a refused entry, or SetRefreshInterval; `b`: `refreshing` unchanged, or `false` after a refused explicit refresh -/
  | same {th' : Thread} {b : Bool} : th'.pc = th.pc → (th'.iter it).curr = (th.iter it).curr →
      IterStart it sh th g th' { g with refreshing := b }

theorem startOp_iter {sh : Shared} (g : Ghost) {op : Op} (ho : opIter op = some it) :
    IterStart it sh th g (startOp sh th op).2.1 (g.onStart it sh th op) := by
  have s := startOp_cases sh th op
  cases op with
  | ins k lvl | del k | look k => cases ho
  | itFirst it' =>
    cases ho
    simp only [Ghost.onStart, if_true, startOp]
    rw [moveIter_iter]
    exact .first
  | itSeek it' x => cases ho; simp only [Ghost.onStart, if_true]; exact .seek
  | itClose it' => cases ho; simp only [Ghost.onStart, if_true]; exact .close
  | itNext it' =>
    cases ho
    simp only [Ghost.onStart]
    generalize startOp sh th (.itNext it) = r at s ⊢
    cases s with
    | itNext _ _ => exact .next
    | nextRefused => exact .same (b := g.refreshing) rfl rfl
  | itInterval it' n =>
    cases ho
    simp only [Ghost.onStart]
    generalize startOp sh th (.itInterval it n) = r at s ⊢
    cases s with
    | @itInterval _ _ I hI _ => exact .same (b := g.refreshing) rfl (by rw [iter_setIter_self]; simp [Thread.iter, hI])
    | intervalRefused => exact .same (b := g.refreshing) rfl rfl
  | itRefresh it' =>
    cases ho
    simp only [Ghost.onStart, if_true]
    generalize startOp sh th (.itRefresh it) = r at s ⊢
    cases s with
    | itRefresh _ _ => exact .refresh
    | refreshRefused => exact .same rfl rfl

theorem scan_start_own {sh : Shared} (R : ReachInv sh.heap)
    (hidle : th.pc = .idle) (op : Op) (inv : g.active = true → ScanInv sh.heap g it th) :
    (g.onStart it sh th op).active = true →
      ScanInv sh.heap (g.onStart it sh th op) it (startOp sh th op).2.1 := by
  have hid : pcIter th.pc ≠ some it := by rw [hidle]; exact nofun
  have cur := fun hact => (inv hact).atCursor (.inl hid)
  by_cases ho : opIter op = some it
  rotate_left
  · rw [g.onStart_other sh th ho]
    intro hact
    obtain ⟨h1, h2⟩ := (startOp_cases sh th op).other hidle ho
    have hi := iter_of_iter? h2
    exact .cursor (inv hact).1 (.inl h1) (by rw [hi]; exact (cur hact).1) (by rw [hi]; exact (cur hact).2)
  have s := startOp_iter (sh := sh) (th := th) g ho
  generalize (startOp sh th op).2.1 = th' at s ⊢
  generalize g.onStart it sh th op = g' at s ⊢
  cases s with
  | first =>
    intro _
    refine .cursor (Nat.le_refl _) (.inl hid) (fun a ha => .inr ?_) ⟨[], by rw [moveIter_iter]; rfl⟩
    rw [moveIter_iter]
    exact (R.live ha.unmarked).tail_of_ne ha.ne_head
  | seek =>
    -- a stable node has a key not below the seek key, the item searched
    exact fun _ => .search (Nat.le_refl _) rfl rfl (Nat.le_refl _) (fun a ha => .inr ha.ge_lo) nofun
  | next => exact fun hact => .cursor (inv hact).1 (.inr (.inl rfl)) (cur hact).1 (cur hact).2
  | refresh => exact fun hact => .refresh (inv hact).1 rfl (cur hact).1
  | close => exact nofun
  | same hpc hcur =>
    exact fun hact => .cursor (inv hact).1 (.inl (by rw [hpc]; exact hid)) (by rw [hcur]; exact (cur hact).1)
      (by rw [hcur]; exact (cur hact).2)

inductive ActG (t it : Nat) (s : Sys) (g : Ghost) : Action → Sys → Ghost → Prop
  | same {a : Action} : ActG t it s g a s g
  | startOwn {op : Op} {th : Thread} : s.threads[t]? = some th → th.pc = .idle →
      ActG t it s g (.start t op)
        { sh := (startOp s.sh th op).1, threads := s.threads.set t (startOp s.sh th op).2.1 } (g.onStart it s.sh th op)
  | startOther {t' : Nat} {op : Op} {th : Thread} : t' ≠ t → s.threads[t']? = some th →
      ActG t it s g (.start t' op)
        { sh := (startOp s.sh th op).1, threads := s.threads.set t' (startOp s.sh th op).2.1 } g
  | stepOwn {th : Thread} : s.threads[t]? = some th →
      ActG t it s g (.step t)
        { sh := (stepThread s.sh th).1, threads := s.threads.set t (stepThread s.sh th).2.1 }
        (g.onStep it th (stepThread s.sh th))
  | stepOther {t' : Nat} {th : Thread} : t' ≠ t → s.threads[t']? = some th →
      ActG t it s g (.step t')
        { sh := (stepThread s.sh th).1, threads := s.threads.set t' (stepThread s.sh th).2.1 } g

theorem actG_cases (t it : Nat) (s : Sys) (g : Ghost) (a : Action) :
    ActG t it s g a (s.act a) (ghostAct t it s g a) := by
  cases a with
  | start t' op =>
    simp only [Sys.act, ghostAct]
    cases hth : s.threads[t']? with
    | none => rw [Sys.start_none hth]; exact .same
    | some th =>
      cases hidle : isIdle th.pc with
      | false => rw [Sys.start_busy hth hidle]; simp only [hidle, Bool.false_eq_true, and_false, if_false]; exact .same
      | true =>
        rw [Sys.start_idle hth hidle]
        by_cases htt : t' = t
        · subst htt; simp only [hidle, and_self, if_true]; exact .startOwn hth ((isIdle_iff _).mp hidle)
        · simp only [htt, false_and, if_false]; exact .startOther htt hth
  | step t' =>
    simp only [Sys.act, ghostAct]
    cases hth : s.threads[t']? with
    | none => rw [Sys.step_none hth]; exact .same
    | some th =>
      by_cases hidle : th.pc = .idle
      · rw [Sys.step_idle hth hidle]
        have : (if t' = t then g.onStep it th (stepThread s.sh th) else g) = g := by
          split
          · exact g.onStep_other it th _ (by rw [hidle]; exact nofun)
          · rfl
        simp only [this]; exact .same
      · rw [Sys.step_busy hth hidle]
        by_cases htt : t' = t
        · subst htt; simp only [if_true]; exact .stepOwn hth
        · simp only [htt, if_false]; exact .stepOther htt hth

end NitroVerif.SkipConc
