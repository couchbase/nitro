import NitroVerif.Lemmas.RefCountInv
/-!
  Preservation of `Inv` by the steps that rewrite the count or the reference pool of one snapshot
  (start of `Close`, the compare-and-swap of `Open`, the decrement of `Close`).
-/
namespace NitroVerif.RefCount

/-- thread `i` moves and rewrites the count / pool of snapshot `s`: what the move adds to the closers in flight it
    takes from `refs - held` (`hcount`); it arrives before `CLOSE_RETIRE s` exactly when the count becomes 0
    (`hretire`) -/
theorem inv_setS_setT {cfg : Cfg} {st : St} {i : Nat} {pc pc' : PC} {s : Nat} {x' : Snap}
    (h : Inv cfg st) (hi : st.ths[i]? = some pc) (h1 : 1 ≤ s) (h2 : s ≤ st.snaps.length)
    (hr : x'.retired = (getS st s).retired) (hok : PCok st pc')
    (hcount : x'.refs - (x'.held : Int) + (uDec s pc : Int) =
      (getS st s).refs - ((getS st s).held : Int) + (uDec s pc' : Int))
    (hdec : ∀ s', s ≠ s' → uDec s' pc' = uDec s' pc)
    (hretire : uRet s pc' + (if (getS st s).refs = 0 then 1 else 0) =
      uRet s pc + (if x'.refs = 0 then 1 else 0))
    (hret : ∀ s', s ≠ s' → uRet s' pc' = uRet s' pc)
    (hret2 : ∀ s', uRet2 s' pc' = uRet2 s' pc)
    (hcrit : uCrit pc' = uCrit pc) (hresp : uResp pc ≤ uResp pc') :
    Inv cfg (setT (setS st s x') i pc') := by
  have hlen : (setT (setS st s x') i pc').snaps.length = st.snaps.length := length_setAt _ _ _
  exact { h with
  count := fun s' h1' h2' => by
    show (getS (setS st s x') s').refs = ((getS (setS st s x') s').held : Int) +
      ((cnt (uDec s') (st.ths.set i pc') : Nat) : Int)
    by_cases e : s = s'
    · subst e
      rw [getS_setS_self st s x' h1 h2]
      exact count_after_move (h.count s h1 h2) (cnt_set (uDec s) st.ths i pc pc' hi) hcount
    · rw [getS_setS_ne st x' e, cnt_set_eq _ _ hi (hdec s' e)]
      exact h.count s' h1' (hlen ▸ h2')
  retire := fun s' h1' h2' => by
    show (getS (setS st s x') s').retired + cnt (uRet s') (st.ths.set i pc') +
      cnt (uRet2 s') (st.ths.set i pc') = if (getS (setS st s x') s').refs = 0 then 1 else 0
    rw [cnt_set_eq _ _ hi (hret2 s')]
    by_cases e : s = s'
    · subst e
      rw [getS_setS_self st s x' h1 h2, hr]
      exact retire_after_move (h.retire s h1 h2) (cnt_set (uRet s) st.ths i pc pc' hi) hretire
    · rw [getS_setS_ne st x' e, cnt_set_eq _ _ hi (hret s' e)]
      exact h.retire s' h1' (hlen ▸ h2')
  pcs := pcs_move h.pcs rfl (length_setAt _ _ _) rfl (fun _ a => a) hok
  place := fun s' h1' h2' => by
    show (getS (setS st s x') s').retired = 1 ↔ _
    rw [proj_setS Snap.retired st h1 h2 (fun e => e ▸ hr)]; exact h.place s' h1' (hlen ▸ h2')
  live_iff := fun s' => by
    show _ ↔ (_ ∧ s' ≤ (setAt st.snaps s x').length ∧ (getS (setS st s x') s').retired = 0 ∧
      cnt (uRet2 s') (st.ths.set i pc') = 0)
    rw [cnt_set_eq _ _ hi (hret2 s'), length_setAt, proj_setS Snap.retired st h1 h2 (fun e => e ▸ hr)]
    exact h.live_iff s'
  dead_valid := fun s' hs' => by
    show _ ∧ s' ≤ (setAt st.snaps s x').length ∧ _
    rw [length_setAt]; exact h.dead_valid s' hs'
  gc_le := by
    show _ ≤ (setAt st.snaps s x').length
    rw [length_setAt]; exact h.gc_le
  excl := (cnt_set_eq _ _ hi hcrit).trans h.excl
  resp := fun hg hm => by
    exact resp_after_move (h.resp hg hm) (cnt_set uResp st.ths i pc pc' hi) hresp }

theorem inv_startClose {cfg : Cfg} {st : St} {i s : Nat} (h : Inv cfg st)
    (hi : st.ths[i]? = some .idle) (h1 : 1 ≤ s) (h2 : s ≤ st.snaps.length)
    (hh : 0 < (getS st s).held) :
    Inv cfg (setT (setS st s { getS st s with held := (getS st s).held - 1 }) i (.closeDec s)) := by
  refine inv_setS_setT (pc' := .closeDec s) h hi h1 h2 rfl ⟨h1, h2⟩ ?_ ?_ rfl (fun _ _ => rfl)
    (fun _ => rfl) rfl (Nat.zero_le _)
  · show (getS st s).refs - (((getS st s).held - 1 : Nat) : Int) + ((0 : Nat) : Int) =
      (getS st s).refs - ((getS st s).held : Int) + ((if s = s then 1 else 0 : Nat) : Int)
    rw [if_pos rfl]; omega
  · intro s' e; exact uDec_ne e

theorem inv_openCasOk {cfg : Cfg} {st : St} {i s : Nat} {rc : Int} (h : Inv cfg st)
    (hi : st.ths[i]? = some (.openCas s rc)) (hrc : (getS st s).refs = rc) :
    Inv cfg (setT (setS st s { getS st s with refs := rc + 1, held := (getS st s).held + 1 }) i .idle) := by
  obtain ⟨h1, h2, hpos⟩ := h.pcs i _ hi
  refine inv_setS_setT (pc' := .idle) h hi h1 h2 rfl trivial ?_ (fun _ _ => rfl) ?_ (fun _ _ => rfl)
    (fun _ => rfl) rfl (Nat.le_refl _)
  · show rc + 1 - (((getS st s).held + 1 : Nat) : Int) + ((0 : Nat) : Int) =
      (getS st s).refs - ((getS st s).held : Int) + ((0 : Nat) : Int)
    omega
  · show 0 + (if (getS st s).refs = 0 then 1 else 0) = 0 + (if rc + 1 = 0 then 1 else 0)
    rw [if_neg (by omega), if_neg (by omega)]

theorem inv_closeDec {cfg : Cfg} {st : St} {i s : Nat} (h : Inv cfg st)
    (hi : st.ths[i]? = some (.closeDec s)) :
    Inv cfg (setT (setS st s { getS st s with refs := (getS st s).refs - 1 }) i
      (if (getS st s).refs - 1 = 0 then .closeRetire s else .idle)) := by
  obtain ⟨h1, h2⟩ := h.pcs i _ hi
  have hne : ¬ (getS st s).refs = 0 := fun e => Int.lt_irrefl 0 (e ▸ h.at_closeDec hi)
  have hd : ∀ pc', (∀ s', uDec s' pc' = 0) →
      (getS st s).refs - 1 - ((getS st s).held : Int) + ((uDec s (.closeDec s) : Nat) : Int) =
      (getS st s).refs - ((getS st s).held : Int) + ((uDec s pc' : Nat) : Int) := by
    intro pc' h0
    rw [h0, uDec_self]; omega
  by_cases hz : (getS st s).refs - 1 = 0
  · rw [if_pos hz]
    refine inv_setS_setT (pc' := .closeRetire s) h hi h1 h2 rfl ⟨h1, h2⟩ (hd _ (fun _ => rfl)) ?_ ?_ ?_
      (fun _ => rfl) rfl (Nat.le_refl _)
    · intro s' e; exact (uDec_ne e).symm
    · show uRet s (.closeRetire s) + (if (getS st s).refs = 0 then 1 else 0) =
        0 + (if (getS st s).refs - 1 = 0 then 1 else 0)
      rw [uRet_self, if_neg hne, if_pos hz]
    · intro s' e; exact uRet_ne e
  · rw [if_neg hz]
    refine inv_setS_setT (pc' := .idle) h hi h1 h2 rfl trivial (hd _ (fun _ => rfl)) ?_ ?_
      (fun _ _ => rfl) (fun _ => rfl) rfl (Nat.le_refl _)
    · intro s' e; exact (uDec_ne e).symm
    · show 0 + (if (getS st s).refs = 0 then 1 else 0) = 0 + (if (getS st s).refs - 1 = 0 then 1 else 0)
      rw [if_neg hne, if_neg hz]

end NitroVerif.RefCount
