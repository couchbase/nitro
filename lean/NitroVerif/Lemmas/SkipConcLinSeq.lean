import NitroVerif.Lemmas.SkipConcLinCall
/-!
  The computable ingredients of the explicit sequential history (`linearization`, assembled in `SkipConcLinReplay`).

  An `Entry` is a linearized call: thread, entry position of the call (the pair identifies the call), kind
  (`Kind.ins k`, `Kind.del k`, `Kind.look k`) and Boolean result.  A completed call that only read (`retAt`, with
  `startOf` for its entry) is placed at `readPoint`: the first position of its interval at which its answer is true of
  the abstract set, found with the decidable `absB` (any such position would replay; the first makes the choice a
  function).  An action that is a successful publish / winning level-0 mark contributes the update `updAt`,
  recognised by its effect on the heap.  `point_class`: what an action does to the abstract set, for which call, and
  the entry it contributes.
-/
namespace NitroVerif.SkipConc

def unmarked0B (h : Heap) (n : Nat) : Bool :=
  match word? h n 0 with
  | some (_, false) => true
  | _ => false

theorem unmarked0B_iff (h : Heap) (n : Nat) : unmarked0B h n = true ↔ unmarked0 h n := by
  unfold unmarked0B unmarked0
  cases hw : word? h n 0 with
  | none => simp
  | some w =>
    obtain ⟨p, m⟩ := w
    cases m <;> simp

def absB (h : Heap) (k : Nat) : Bool :=
  (List.range h.length).any fun n => unmarked0B h n && (keyOf h n == .fin k)

theorem absB_iff (h : Heap) (k : Nat) : absB h k = true ↔ absOf h k := by
  unfold absB absOf
  rw [List.any_eq_true]
  constructor
  · rintro ⟨m, _, hm⟩
    simp only [Bool.and_eq_true, beq_iff_eq] at hm
    exact ⟨m, (unmarked0B_iff h m).mp hm.1, hm.2⟩
  · rintro ⟨m, hu, hk⟩
    refine ⟨m, List.mem_range.mpr (unmarkedAt_lt hu), ?_⟩
    simp only [Bool.and_eq_true, beq_iff_eq]
    exact ⟨(unmarked0B_iff h m).mpr hu, hk⟩

/-- the position of the last call entry of thread `t`, idle at that position, before position `j` (0 if none) -/
def startOf (n : Nat) (as : List Action) (t : Nat) : Nat → Nat
  | 0 => 0
  | j + 1 =>
    match as[j]?, thrAt n as t j with
    | some (.start t' _), some th => if t' = t ∧ isIdle th.pc = true then j else startOf n as t j
    | _, _ => startOf n as t j

theorem startOf_inCall {n : Nat} {as : List Action} {t : Nat} {op : Op} {s : Nat} :
    ∀ {j : Nat}, InCall n as t op s j → startOf n as t j = s := by
  intro j
  induction j with
  | zero => intro h; exact absurd h.lt (Nat.not_lt_zero _)
  | succ j ih =>
    intro h
    by_cases hsj : s = j
    · subst hsj
      obtain ⟨haj, th, hth, hidle⟩ := h.starts
      simp only [startOf, haj, hth, hidle, and_self, if_true]
    · have hsj' : s < j := Nat.lt_of_le_of_ne (Nat.le_of_lt_succ h.lt) hsj
      have h0 := h.prev hsj'
      obtain ⟨th, hth, hb⟩ := h0.busy
      have hrec := ih h0
      unfold startOf
      split
      · rename_i t' op' th' h1 h2
        rw [hth] at h2
        have : th = th' := by simpa using h2
        subst this
        rw [if_neg (by rw [hb]; simp)]
        exact hrec
      · exact hrec

/-- the kind of the call entered at action `s` -/
def opAt (as : List Action) (s : Nat) : Kind :=
  match as[s]? with
  | some (.start _ op) => opKind op
  | _ => .none

/-- the call returned by action `e`, if any: thread, entry position, kind, printed line -/
def retAt (n : Nat) (as : List Action) (e : Nat) : Option (Nat × Nat × Kind × String) :=
  match as[e]? with
  | some (.step t) =>
    match thrAt n as t e, thrAt n as t (e + 1) with
    | some th, some th' =>
      if isIdle th.pc = false ∧ isIdle th'.pc = true then
        some (t, startOf n as t e, opAt as (startOf n as t e), ((stAt n as e).step t).2)
      else none
    | _, _ => none
  | _ => none

theorem retAt_of_call {n : Nat} {as : List Action} {t : Nat} {op : Op} {s e : Nat} {out : String}
    (c : Call n as t op s e out) : retAt n as e = some (t, s, opKind op, out) := by
  obtain ⟨th, hth, hb⟩ := c.inCall.busy
  obtain ⟨th', hth', hidle⟩ := c.idle
  have hop : opAt as s = opKind op := by unfold opAt; rw [c.inCall.starts.action]
  simp only [retAt, c.step, hth, hth', hb, hidle, and_self, if_true, startOf_inCall c.inCall, hop, c.out]

theorem call_of_retAt {n : Nat} {as : List Action} {e t s : Nat} {K : Kind} {out : String}
    (h : retAt n as e = some (t, s, K, out)) : ∃ op, Call n as t op s e out ∧ K = opKind op := by
  unfold retAt at h
  split at h
  · rename_i t' haj
    split at h
    · rename_i th th' hth hth'
      split at h
      · rename_i hc
        simp only [Option.some.injEq, Prod.mk.injEq] at h
        obtain ⟨rfl, hs, hK, ho⟩ := h
        obtain ⟨op, s', hin⟩ := busy_inCall n as e t' ⟨th, hth, hc.1⟩
        have hs' := startOf_inCall hin
        rw [hs'] at hs hK
        subst hs
        refine ⟨op, ⟨hin, haj, ⟨th', hth', hc.2⟩, ho⟩, ?_⟩
        rw [← hK]; unfold opAt; rw [hin.starts.action]
      · simp at h
    · simp at h
  · simp at h

/-- the first position in `(s, e]` at which membership of `k` in the abstract set is `want` (default `e`) -/
def readPoint (n : Nat) (as : List Action) (s e k : Nat) (want : Bool) : Nat :=
  ((List.range (e + 1)).find? fun q => decide (s < q) && (absB (heapAt n as q) k == want)).getD e

theorem readPoint_le (n : Nat) (as : List Action) (s e k : Nat) (w : Bool) : readPoint n as s e k w ≤ e := by
  unfold readPoint
  cases hf : (List.range (e + 1)).find? fun q => decide (s < q) && (absB (heapAt n as q) k == w) with
  | none => simp
  | some r =>
    have h2 := List.mem_range.mp (List.mem_of_find?_eq_some hf)
    simp only [Option.getD_some]; omega

theorem readPoint_spec {n : Nat} {as : List Action} {s e k : Nat} {want : Bool}
    (h : ∃ q, s < q ∧ q ≤ e ∧ absB (heapAt n as q) k = want) :
    s < readPoint n as s e k want ∧ absB (heapAt n as (readPoint n as s e k want)) k = want := by
  unfold readPoint
  cases hf : (List.range (e + 1)).find? fun q => decide (s < q) && (absB (heapAt n as q) k == want) with
  | none =>
    obtain ⟨q, h1, h2, h3⟩ := h
    have := List.find?_eq_none.mp hf q (List.mem_range.mpr (Nat.lt_succ_of_le h2))
    simp [h1, h3] at this
  | some r =>
    have h1 := List.find?_some hf
    simp only [Bool.and_eq_true, decide_eq_true_eq, beq_iff_eq] at h1
    exact h1

theorem readPoint_abs {n : Nat} {as : List Action} {s e k : Nat} (want : Bool)
    (h : ∃ q, s < q ∧ q ≤ e ∧ (absAt n as q k ↔ want = true)) :
    s < readPoint n as s e k want ∧ readPoint n as s e k want ≤ e ∧
      (absAt n as (readPoint n as s e k want) k ↔ want = true) := by
  have conv : ∀ q, absB (heapAt n as q) k = want ↔ (absAt n as q k ↔ want = true) := by
    intro q
    unfold absAt
    rw [← absB_iff]
    cases absB (heapAt n as q) k <;> cases want <;> simp
  obtain ⟨q, h1, h2, h3⟩ := h
  obtain ⟨r1, r3⟩ := readPoint_spec (n := n) (as := as) (s := s) (e := e) (k := k) (want := want)
    ⟨q, h1, h2, (conv q).mpr h3⟩
  exact ⟨r1, readPoint_le n as s e k want, (conv _).mp r3⟩

/-- a linearized call: `(t, s)` identifies the call (thread, position of its entry) -/
structure Entry where
  t : Nat
  s : Nat
  kind : Kind
  res : Bool
deriving DecidableEq, Repr

/-- the update made by action `i`, recognised by its effect: INS_PUBLISH that lengthens the heap, SOFT_MARK after
    which the node is no longer unmarked at level 0 (the level of the SOFT_MARK is not tested: a mark above level 0
    leaves the level-0 word alone, so the before/after test selects level 0) -/
def updAt (n : Nat) (as : List Action) (i : Nat) : List Entry :=
  match as[i]? with
  | some (.step t) =>
    match thrAt n as t i with
    | some th =>
      match th.pc with
      | .insPublish k _ =>
        if (heapAt n as (i + 1)).length = (heapAt n as i).length + 1 then [⟨t, startOf n as t i, .ins k, true⟩]
        else []
      | .softMark k nd _ _ _ =>
        if unmarked0B (heapAt n as i) nd = true ∧ unmarked0B (heapAt n as (i + 1)) nd = false then
          [⟨t, startOf n as t i, .del k, true⟩]
        else []
      | _ => []
    | none => []
  | _ => []

/-- action `p` is the publish of thread `t`, inside its `Insert k` call entered at `s` that has changed nothing so far -/
structure InsAct (n : Nat) (as : List Action) (p t k lvl lvl' s : Nat) (th : Thread) : Prop where
  step : as[p]? = some (.step t)
  thr : thrAt n as t p = some th
  pc : th.pc = .insPublish k lvl
  eff : PublishEff (heapAt n as p) (heapAt n as (p + 1)) k
  call : InCall n as t (.ins k lvl') s p
  quiet : NoOwnChange n as t s p
  entry : updAt n as p = [⟨t, s, .ins k, true⟩]

/-- action `p` is the winning level-0 mark by thread `t`, inside its `Delete k` call entered at `s` that has changed
    nothing so far, of the node `nd`, which carries `k` -/
structure DelAct (n : Nat) (as : List Action) (p t k nd next s : Nat) (th : Thread) : Prop where
  step : as[p]? = some (.step t)
  thr : thrAt n as t p = some th
  pc : th.pc = .softMark k nd 0 next false
  key : keyOf (heapAt n as p) nd = .fin k
  eff : MarkEff (heapAt n as p) (heapAt n as (p + 1)) nd
  call : InCall n as t (.del k) s p
  quiet : NoOwnChange n as t s p
  entry : updAt n as p = [⟨t, s, .del k, true⟩]

theorem InsAct.point {n : Nat} {as : List Action} {p t k lvl lvl' s : Nat} {th : Thread}
    (a : InsAct n as p t k lvl lvl' s th) : InsPoint n as t k p := .of_eff a.step a.eff

theorem DelAct.point {n : Nat} {as : List Action} {p t k nd next s : Nat} {th : Thread}
    (a : DelAct n as p t k nd next s th) : DelPoint n as t k p := .of_eff a.step a.eff a.key

/-- what action `p` does to the abstract set, for whom, and the entry it contributes to the history -/
inductive PointClass (n : Nat) (as : List Action) (p : Nat) : Prop
  | same : UnmSame (heapAt n as p) (heapAt n as (p + 1)) → updAt n as p = [] → PointClass n as p
  | ins {t k lvl lvl' s : Nat} {th : Thread} : InsAct n as p t k lvl lvl' s th → PointClass n as p
  | del {t k nd next s : Nat} {th : Thread} : DelAct n as p t k nd next s th → PointClass n as p

theorem point_class (n : Nat) (as : List Action) (p : Nat) : PointClass n as p := by
  rcases step_class n as p with u | ⟨t, th, k, lvl, haj, hth, hpc, pe⟩ |
      ⟨t, th, item, nd, next, marked, haj, hth, hpc, me⟩
  · refine .same u ?_
    unfold updAt
    split
    · split
      · split
        · rw [if_neg (by rw [u.len]; omega)]
        · rename_i k nd _ _ _ _
          have : ¬ (unmarked0B (heapAt n as p) nd = true ∧ unmarked0B (heapAt n as (p + 1)) nd = false) := by
            rintro ⟨h1, h2⟩
            have := (unmarked0B_iff _ _).mpr ((u.iff nd).mpr ((unmarked0B_iff _ _).mp h1))
            rw [h2] at this; simp at this
          rw [if_neg this]
        · rfl
      · rfl
    · rfl
  · obtain ⟨lvl', s, hc, hno⟩ := publish_inCall hth hpc
    refine .ins ⟨haj, hth, hpc, pe, hc, hno, ?_⟩
    simp only [updAt, haj, hth, hpc, pe.len, if_true, startOf_inCall hc]
  · obtain ⟨s, hc, hkey, hf, ht⟩ := mark_inCall hth hpc
    cases marked with
    | true => exact absurd me.was (not_unmarked0_of_marked0 (ht rfl).1)
    | false =>
      refine .del ⟨haj, hth, hpc, hkey, me, hc, (hf rfl).1, ?_⟩
      have h1 : unmarked0B (heapAt n as p) nd = true := (unmarked0B_iff _ _).mpr me.was
      have h2 : unmarked0B (heapAt n as (p + 1)) nd = false := by
        cases hu : unmarked0B (heapAt n as (p + 1)) nd with
        | false => rfl
        | true => exact absurd ((unmarked0B_iff _ _).mp hu) (not_unmarked0_of_marked0 me.now)
      simp only [updAt, haj, hth, hpc, h1, h2, and_self, if_true, startOf_inCall hc]

end NitroVerif.SkipConc
