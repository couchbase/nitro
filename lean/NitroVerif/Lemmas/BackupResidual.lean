import NitroVerif.Lemmas.Backup
import NitroVerif.Lemmas.CodecV0
import NitroVerif.Lemmas.CodecPrefix
/-!
  `load` on damaged images of a completed store (C11) and on crash images (C12): a successful load is
  inverted down to the single shard reads (`ShardReads`), which are then compared with what was
  written; what the comparison leaves are the residual cases `R1`–`R4` of C11.
-/
/-! The residual cases of property C11 (`Props/C11.lean`), here so that the classifications of this file
  conclude with them. -/
namespace NitroVerif.Props.C11
open NitroVerif.Codec NitroVerif.Backup

/-- **R1** checksum collision: a damaged shard re-frames successfully to a DIFFERENT item list whose
    XOR-of-CRC equals the stored one (e.g. the same items in another order) -/
def R1 (h : Bytes → Nat) (parts : List (List Bytes)) (img' : Image) : Prop :=
  ∃ cs' : List Bytes, cs'.length = parts.length ∧
    img' = { storeImage h parts with data := filesOf 0 cs' } ∧
    ∃ i, ∃ (hi : i < parts.length) (hc : i < cs'.length), cs'[i] ≠ writeFile parts[i] ∧
      ∃ items' rest, readFile h 1 cs'[i] = .ok items' (writerChecksum h parts[i]) rest ∧
        items' ≠ parts[i]

/-- **R2** nitro.json removed (tolerated: old backups have none) or altered to version 0: the shards
    are decoded with 2-byte lengths, and a NON-EMPTY shard decodes to a different item list with the
    stored checksum (for items shorter than 2^16 bytes: to the empty list, stored checksum 0) -/
def R2 (h : Bytes → Nat) (parts : List (List Bytes)) (img' : Image) : Prop :=
  (img' = { storeImage h parts with version := .absent } ∨
   img' = { storeImage h parts with version := .parsed 0 }) ∧
    ∃ i, ∃ (hi : i < parts.length), parts[i] ≠ [] ∧
      ∃ items' rest, readFile h 0 (writeFile parts[i]) = .ok items' (writerChecksum h parts[i]) rest ∧
        items' ≠ parts[i]

/-- **R3** checksums.json removed (old backups have none) AND a damaged shard that re-frames to a
    different item list: nothing is left to detect it -/
def R3 (h : Bytes → Nat) (parts : List (List Bytes)) (img' : Image) : Prop :=
  ∃ cs' : List Bytes, cs'.length = parts.length ∧
    img' = { storeImage h parts with data := filesOf 0 cs', sums := .absent } ∧
    ∃ i, ∃ (hi : i < parts.length) (hc : i < cs'.length), cs'[i] ≠ writeFile parts[i] ∧
      ∃ items' sum rest, readFile h 1 cs'[i] = .ok items' sum rest ∧ items' ≠ parts[i]

/-- **R4** files.json altered to another list of the stored length that names existing shard files
    only, each with the checksum stored at its position (e.g. two shards with equal checksums
    exchanged, or one of them named twice); the shards are then restored in that order -/
def R4 (h : Bytes → Nat) (cmp : Bytes → Bytes → Int) (parts : List (List Bytes)) (img' : Image) : Prop :=
  ∃ fs' : List String, fs' ≠ shardNames parts.length ∧
    img' = { storeImage h parts with files := .parsed fs' } ∧
    ∃ l : List (List Bytes), load h cmp false img' = .ok l.flatten ∧
      fs'.length = parts.length ∧ l.length = parts.length ∧
      ∀ k, ∀ (hk : k < fs'.length) (hl : k < l.length) (hp : k < parts.length),
        ∃ j, ∃ (hj : j < parts.length), fs'[k] = shardName j ∧ l[k] = parts[j] ∧
          writerChecksum h parts[j] = writerChecksum h parts[k]

end NitroVerif.Props.C11

namespace NitroVerif.Backup
open NitroVerif.Codec NitroVerif.Backup.GenLemmas NitroVerif.Props.C11

/-- `l` is, file by file, what the reader returns on `cs`, each with a checksum that `ss` accepts -/
def ShardReads (h : Bytes → Nat) (ver : Nat) (mm : Nat → Nat → Bool) (ss : List Nat) (cs : List Bytes)
    (l : List (List Bytes)) : Prop :=
  ∀ i (hc : i < cs.length) (hs : i < ss.length) (hl : i < l.length),
    ∃ sum rest, readFile h ver cs[i] = .ok l[i] sum rest ∧ mm ss[i] sum = false

theorem allSome_shards_inv {h : Bytes → Nat} {ver : Nat} {mm : Nat → Nat → Bool} {ss : List Nat}
    {cs : List Bytes} {l : List (List Bytes)} (hlen : ss.length = cs.length)
    (hr : allSome ((ss.zip cs).map (shardResult h ver mm)) = some l) :
    l.length = cs.length ∧ ShardReads h ver mm ss cs l := by
  obtain ⟨hl, hall⟩ := allSome_map_inv _ _ _ hr
  have hz : (ss.zip cs).length = cs.length := by rw [List.length_zip, hlen, Nat.min_self]
  refine ⟨hl.trans hz, fun i hc hs hli => ?_⟩
  have := hall i (hz.symm ▸ hc) hli
  rw [List.getElem_zip] at this
  exact shardResult_some this

theorem loadShards_some_inv {h : Bytes → Nat} {ver : Nat} {mm : Bool → Nat → Nat → Bool}
    {files : List String} {sums : Manifest (List Nat)} {fs : List (String × Bytes)}
    {shards : List (List Bytes)} (hl : loadShards h ver mm files sums fs = some shards) :
    ∃ (has : Bool) (ss : List Nat) (contents : List Bytes),
      sumsOf sums files.length = some (has, ss) ∧
      contents.length = files.length ∧ shards.length = files.length ∧
      (∀ k (hf : k < files.length) (hc : k < contents.length), lookup files[k] fs = some contents[k]) ∧
      ShardReads h ver (mm has) ss contents shards := by
  unfold loadShards at hl
  cases hs : sumsOf sums files.length with
  | none => rw [hs] at hl; cases hl
  | some p =>
    obtain ⟨has, ss⟩ := p
    rw [hs] at hl
    cases ho : openAll fs files with
    | none => rw [ho] at hl; cases hl
    | some contents =>
      rw [ho] at hl
      simp only [readShards_eq] at hl
      rw [openAll_eq] at ho
      obtain ⟨hcl, hcall⟩ := allSome_map_inv _ _ _ ho
      have hsl := sumsOf_length hs
      obtain ⟨hll, hall⟩ := allSome_shards_inv (hsl.trans hcl.symm) hl
      exact ⟨has, ss, contents, rfl, hcl, hll.trans hcl, hcall, hall⟩

theorem loadShards_canonical_inv {h : Bytes → Nat} {ver : Nat} {mm : Bool → Nat → Nat → Bool}
    {sums : Manifest (List Nat)} {l : List (List Bytes)} (cs : List Bytes)
    (hl : loadShards h ver mm (shardNames cs.length) sums (filesOf 0 cs) = some l) :
    ∃ (has : Bool) (ss : List Nat), sumsOf sums cs.length = some (has, ss) ∧
      ss.length = cs.length ∧ l.length = cs.length ∧ ShardReads h ver (mm has) ss cs l := by
  rw [loadShards_canonical h ver mm sums cs] at hl
  cases hs : sumsOf sums cs.length with
  | none => rw [hs] at hl; cases hl
  | some p =>
    obtain ⟨has, ss⟩ := p
    rw [hs] at hl
    have hsl := sumsOf_length hs
    obtain ⟨hll, hall⟩ := allSome_shards_inv hsl hl
    exact ⟨has, ss, rfl, hsl, hll, hall⟩

theorem loadShards_truncated (h : Bytes → Nat) {ver : Nat} (hv : ver ≠ 0) (mm : Bool → Nat → Nat → Bool)
    (sums : Manifest (List Nat)) (parts : List (List Bytes))
    (hval : ValidItems parts.flatten) (cs : List Bytes) (hlen : cs.length = parts.length)
    (i : Nat) (hi : i < parts.length) (hpre : cs[i]'(hlen ▸ hi) <+: writeFile parts[i])
    (hne : cs[i]'(hlen ▸ hi) ≠ writeFile parts[i]) :
    loadShards h ver mm (shardNames parts.length) sums (filesOf 0 cs) = none := by
  cases hl : loadShards h ver mm (shardNames parts.length) sums (filesOf 0 cs) with
  | none => rfl
  | some l =>
    rw [← hlen] at hl
    obtain ⟨has, ss, _, hsl, hll, hall⟩ := loadShards_canonical_inv cs hl
    have hc : i < cs.length := hlen ▸ hi
    obtain ⟨sum, rest, hread, _⟩ := hall i hc (hsl.symm ▸ hc) (hll.symm ▸ hc)
    exact absurd (readFile_prefix_written h hv (validItems_of_flatten hval (List.getElem_mem hi))
      hpre hread).1 hne

theorem load_canonical_inv {h : Bytes → Nat} {cmp : Bytes → Bytes → Int} {img : Image}
    {items : List Bytes} (cs : List Bytes)
    (hfiles : img.files = .parsed (shardNames cs.length))
    (hdata : img.data = filesOf 0 cs)
    (hok : load h cmp false img = .ok items) :
    ∃ (ver : Nat) (has : Bool) (ss : List Nat) (l : List (List Bytes)),
      versionOf img.version = some ver ∧ sumsOf img.sums cs.length = some (has, ss) ∧
      ss.length = cs.length ∧ l.length = cs.length ∧ items = l.flatten ∧
      ShardReads h ver (Gen.checksumMismatch has) ss cs l := by
  obtain ⟨l, hd, rfl⟩ := dataSide_of_load_ok hok
  rw [hfiles, hdata] at hd
  obtain ⟨ver, files, hv, hf, hl⟩ := sideShards_some hd
  cases hf
  obtain ⟨has, ss, hs, hsl, hll, hall⟩ := loadShards_canonical_inv cs hl
  exact ⟨ver, has, ss, l, hv, hs, hsl, hll, rfl, hall⟩

/-- a crash during the store leaves prefixes of the written shard files: an error unless every file
    is complete, whatever checksums.json is -/
theorem load_prefix_shards (h : Bytes → Nat) (cmp : Bytes → Bytes → Int) (parts : List (List Bytes))
    (hval : ValidItems parts.flatten) {ver : Nat} (hv : ver ≠ 0) (img : Image)
    (hver : img.version = .parsed ver) (cs : List Bytes) (hlen : cs.length = parts.length)
    (hfiles : img.files = .parsed (shardNames parts.length))
    (hdata : img.data = filesOf 0 cs)
    (hpre : ∀ i (h1 : i < cs.length) (h2 : i < parts.length), cs[i] <+: writeFile parts[i]) :
    load h cmp false img = .err ∨
      (load h cmp false img = .ok parts.flatten ∧ cs = parts.map writeFile) := by
  cases hl : load h cmp false img with
  | err => exact Or.inl rfl
  | ok items =>
    right
    obtain ⟨ver', has, ss, l, hv', _, hsl, hll, rfl, hall⟩ :=
      load_canonical_inv cs (by rw [hfiles, hlen]) hdata hl
    rw [hver] at hv'
    cases hv'
    have hi : ∀ i (h1 : i < cs.length) (h2 : i < parts.length) (h3 : i < l.length),
        cs[i] = writeFile parts[i] ∧ l[i] = parts[i] := by
      intro i h1 h2 h3
      obtain ⟨sum, rest, hread, _⟩ := hall i h1 (hsl.symm ▸ h1) h3
      have := readFile_prefix_written h hv (validItems_of_flatten hval (List.getElem_mem h2))
        (hpre i h1 h2) hread
      exact this
    have hlp : l = parts :=
      List.ext_getElem (hll.trans hlen) (fun i h3 h2 => (hi i (hlen.symm ▸ h2) h2 h3).2)
    refine ⟨by rw [hlp], List.ext_getElem (hlen.trans (List.length_map _).symm) (fun i h1 h2 => ?_)⟩
    have h2' : i < parts.length := hlen ▸ h1
    rw [(hi i h1 h2' (hll.symm ▸ h1)).1, List.getElem_map]

theorem load_truncated (h : Bytes → Nat) (cmp : Bytes → Bytes → Int) (parts : List (List Bytes))
    (hval : ValidItems parts.flatten) {ver : Nat} (hv : ver ≠ 0) (img : Image)
    (hver : img.version = .parsed ver) (cs : List Bytes) (hlen : cs.length = parts.length)
    (hfiles : img.files = .parsed (shardNames parts.length))
    (hdata : img.data = filesOf 0 cs)
    (i : Nat) (hi : i < parts.length) (hpre : cs[i]'(hlen ▸ hi) <+: writeFile parts[i])
    (hne : cs[i]'(hlen ▸ hi) ≠ writeFile parts[i]) (useDelta : Bool) :
    load h cmp useDelta img = .err := by
  refine load_err_of_dataSide ?_ useDelta
  rw [hver, hfiles, hdata]
  exact loadShards_truncated h hv _ _ parts hval cs hlen i hi hpre hne

theorem load_replaced_classify (h : Bytes → Nat) (cmp : Bytes → Bytes → Int) (parts : List (List Bytes))
    (hval : ValidItems parts.flatten) (cs' : List Bytes) (hlen : cs'.length = parts.length) (img : Image)
    (himg : img = { storeImage h parts with data := filesOf 0 cs' } ∨
      img = { storeImage h parts with data := filesOf 0 cs', sums := .absent }) :
    load h cmp false img = .err ∨ load h cmp false img = .ok parts.flatten ∨
      R1 h parts img ∨ R3 h parts img := by
  have hfiles : img.files = .parsed (shardNames cs'.length) := by
    rcases himg with rfl | rfl <;> exact hlen ▸ rfl
  have hdata : img.data = filesOf 0 cs' := by rcases himg with rfl | rfl <;> rfl
  cases hl : load h cmp false img with
  | err => exact Or.inl rfl
  | ok items =>
    right
    obtain ⟨ver', has, ss, l, hv', hs, hsl, hll, rfl, hall⟩ := load_canonical_inv cs' hfiles hdata hl
    have hver : ver' = 1 := by rcases himg with rfl | rfl <;> cases hv' <;> rfl
    subst hver
    by_cases hlp : l = parts
    · left; rw [hlp]
    · right
      obtain ⟨i, h1, h2, hd⟩ := exists_getElem_ne (hll.trans hlen) hlp
      have hc : i < cs'.length := hlen ▸ h2
      obtain ⟨sum, rest, hread, hmm⟩ := hall i hc (hsl.symm ▸ hc) h1
      have hne : cs'[i] ≠ writeFile parts[i] := fun he =>
        hd (readFile_written_eq h (by decide) (validItems_of_flatten hval (List.getElem_mem h2))
          (he ▸ hread)).1
      rcases himg with rfl | rfl
      · left
        obtain ⟨-, rfl, rfl⟩ := sumsOf_parsed_inv hs
        have hsum : writerChecksum h parts[i] = sum := by
          simpa using (checksumMismatch_false_iff _ _ _).1 hmm rfl
        exact ⟨cs', hlen, rfl, i, h2, hc, hne, l[i], rest, hsum ▸ hread, hd⟩
      · exact Or.inr ⟨cs', hlen, rfl, i, h2, hc, hne, l[i], sum, rest, hread, hd⟩

theorem load_v0_classify (h : Bytes → Nat) (cmp : Bytes → Bytes → Int) (parts : List (List Bytes))
    (img : Image)
    (himg : img = { storeImage h parts with version := .absent } ∨
      img = { storeImage h parts with version := .parsed 0 }) :
    load h cmp false img = .err ∨ load h cmp false img = .ok parts.flatten ∨ R2 h parts img := by
  have hver : versionOf img.version = some 0 := by rcases himg with rfl | rfl <;> rfl
  have hfiles : img.files = .parsed (shardNames parts.length) := by rcases himg with rfl | rfl <;> rfl
  have hdata : img.data = shardFiles 0 parts := by rcases himg with rfl | rfl <;> rfl
  have hsums : img.sums = .parsed (parts.map (writerChecksum h)) := by rcases himg with rfl | rfl <;> rfl
  cases hl : load h cmp false img with
  | err => exact Or.inl rfl
  | ok items =>
    right
    obtain ⟨ver', has, ss, l, hv', hs, hsl, hll, rfl, hall⟩ :=
      load_canonical_inv (parts.map writeFile) (by rw [hfiles]; simp) hdata hl
    rw [hver] at hv'
    cases hv'
    rw [hsums] at hs
    obtain ⟨-, rfl, rfl⟩ := sumsOf_parsed_inv hs
    rw [List.length_map] at hll
    by_cases hlp : l = parts
    · left; rw [hlp]
    · right
      obtain ⟨i, h1, h2, hd⟩ := exists_getElem_ne hll hlp
      have hm : i < (parts.map writeFile).length := (List.length_map writeFile).symm ▸ h2
      obtain ⟨sum, rest, hread, hmm⟩ := hall i hm ((List.length_map (writerChecksum h)).symm ▸ h2) h1
      rw [List.getElem_map] at hread hmm
      have hsum : writerChecksum h parts[i] = sum := (checksumMismatch_false_iff _ _ _).1 hmm rfl
      refine ⟨himg, i, h2, fun hemp => ?_, l[i], rest, by rw [hsum]; exact hread, hd⟩
      -- an empty part reads as itself under version 0, so a shard that differs is not empty
      obtain ⟨tail, ht⟩ := readFile_v0_small h [] [] (by simp)
      rw [List.append_nil] at ht
      rw [hemp, ht] at hread
      simp only [ReadResult.ok.injEq] at hread
      exact hd (by rw [hemp]; exact hread.1.symm)

/-- with items shorter than 2^16 bytes the version-0 reader sees every shard as empty with checksum 0:
    the load fails unless every stored checksum is 0, and then it returns the EMPTY database -/
theorem load_v0_small (h : Bytes → Nat) (cmp : Bytes → Bytes → Int) (parts : List (List Bytes))
    (hsmall : ∀ d ∈ parts.flatten, d.length < 2 ^ 16)
    (img : Image) (hver : versionOf img.version = some 0)
    (hfiles : img.files = .parsed (shardNames parts.length))
    (hdata : img.data = shardFiles 0 parts)
    (hsums : img.sums = .parsed (parts.map (writerChecksum h))) :
    load h cmp false img =
      if ∀ p ∈ parts, writerChecksum h p = 0 then .ok [] else .err := by
  have hc := loadShards_canonical h 0 Gen.checksumMismatch img.sums (parts.map writeFile)
  rw [List.length_map, hsums, sumsOf_parsed (by simp)] at hc
  rw [load_eq, sideShards_eq hver (congrArg parsedOf hfiles), hdata, shardFiles, hsums, hc]
  have hres : ∀ p ∈ parts, shardResult h 0 (Gen.checksumMismatch true) (writerChecksum h p, writeFile p)
      = if writerChecksum h p = 0 then some [] else none := by
    intro p hp
    obtain ⟨tail, ht⟩ := readFile_v0_small h p []
      (fun d hd => hsmall d (List.mem_flatten.2 ⟨p, hp, List.mem_of_mem_head? hd⟩))
    rw [List.append_nil] at ht
    rw [shardResult_of_read ht, checksumMismatch_checked]
    by_cases h0 : writerChecksum h p = 0 <;> simp [h0]
  simp only
  have hzip : ((parts.map (writerChecksum h)).zip (parts.map writeFile)).map
      (shardResult h 0 (Gen.checksumMismatch true))
      = parts.map (fun p => if writerChecksum h p = 0 then some [] else none) := by
    rw [List.zip_map', List.map_map]
    exact List.map_congr_left hres
  rw [hzip, allSome_map_ite]
  by_cases hall : ∀ p ∈ parts, writerChecksum h p = 0
  · rw [if_pos hall, if_pos hall]
    simp
  · rw [if_neg hall, if_neg hall]

theorem load_sums_altered (h : Bytes → Nat) (cmp : Bytes → Bytes → Int) (parts : List (List Bytes))
    (hval : ValidItems parts.flatten) {ver : Nat} (hv : ver ≠ 0) (cs' : List Nat)
    (hne : cs' ≠ parts.map (writerChecksum h)) (useDelta : Bool) :
    load h cmp useDelta { storeImage h parts ver with sums := .parsed cs' } = .err := by
  apply load_err_of_base_err
  cases hl : load h cmp false { storeImage h parts ver with sums := .parsed cs' } with
  | err => rfl
  | ok items =>
    exfalso
    obtain ⟨ver', has, ss, l, hv', hs, hsl, hll, _, hall⟩ :=
      load_canonical_inv (parts.map writeFile) (by simp [storeImage]) rfl hl
    cases hv'
    rw [List.length_map] at hs hsl hll
    obtain ⟨hcl, rfl, rfl⟩ := sumsOf_parsed_inv hs
    apply hne
    apply List.ext_getElem (hcl.trans (List.length_map _).symm)
    intro i h1 h2
    have hi : i < parts.length := hcl ▸ h1
    obtain ⟨sum, rest, hread, hmm⟩ :=
      hall i ((List.length_map writeFile).symm ▸ hi) h1 (hll.symm ▸ hi)
    rw [List.getElem_map] at hread
    have hw := readFile_written_eq h hv (validItems_of_flatten hval (List.getElem_mem hi)) hread
    rw [List.getElem_map, ← hw.2]
    exact (checksumMismatch_false_iff _ _ _).1 hmm rfl

theorem load_files_altered (h : Bytes → Nat) (cmp : Bytes → Bytes → Int) (parts : List (List Bytes))
    (hval : ValidItems parts.flatten) (fs' : List String) (hne : fs' ≠ shardNames parts.length) :
    load h cmp false { storeImage h parts with files := .parsed fs' } = .err ∨
      R4 h cmp parts { storeImage h parts with files := .parsed fs' } := by
  have hv : (1 : Nat) ≠ 0 := by decide
  cases hl : load h cmp false { storeImage h parts with files := .parsed fs' } with
  | err => exact Or.inl rfl
  | ok items =>
    right
    obtain ⟨l, hd, rfl⟩ := dataSide_of_load_ok hl
    obtain ⟨ver', files, hv', hf, hload⟩ := sideShards_some hd
    cases hv'
    cases hf
    obtain ⟨has, ss, contents, hs, hcl, hll, hlooks, hall⟩ := loadShards_some_inv hload
    obtain ⟨hfl', rfl, rfl⟩ := sumsOf_parsed_inv hs
    have hfl : fs'.length = parts.length := ((List.length_map _).symm.trans hfl').symm
    refine ⟨fs', hne, rfl, l, hl, hfl, hll.trans hfl, fun k hk hlk hp => ?_⟩
    have hlook := hlooks k hk (hcl.symm ▸ hk)
    obtain ⟨sum, rest, hread, hmm⟩ :=
      hall k (hcl.symm ▸ hk) ((List.length_map (writerChecksum h)).symm ▸ hp) hlk
    obtain ⟨j, hname, hget⟩ := lookup_filesOf_some hlook
    rw [Nat.zero_add] at hname
    obtain ⟨hj', hcont⟩ := List.getElem?_eq_some_iff.1 hget
    have hj : j < parts.length := List.length_map writeFile ▸ hj'
    rw [List.getElem_map] at hcont
    rw [← hcont] at hread
    have hw := readFile_written_eq h hv (validItems_of_flatten hval (List.getElem_mem hj)) hread
    refine ⟨j, hj, hname, hw.1, ?_⟩
    have := (checksumMismatch_false_iff _ _ _).1 hmm rfl
    rw [List.getElem_map] at this
    rw [← hw.2, this]

end NitroVerif.Backup
