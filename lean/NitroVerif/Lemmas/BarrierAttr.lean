import Lean
/-! `barsimp`: the simp set an M4 state is evaluated with (field accessors, session updates, per-pc weights at a
    constructor, propositional clean-up).  A module of its own: an attribute cannot be used where it is registered. -/
register_simp_attr barsimp
