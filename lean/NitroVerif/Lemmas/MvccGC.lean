/-
  One in-order collection pass (`collectDead`): ending with frontier `g'`, it has marked every snapshot up to
  `g'` collected (`collectUpTo`) and kept exactly the versions alive or dead after `g'` (`keptAfter`).
-/
import NitroVerif.Lemmas.MvccStoreOps

namespace NitroVerif.Mvcc

theorem collectDead_stop {s : Snap} {g : Nat} (hr : s.st = .retired) (hs : s.sn ≠ g + 1)
    (rest : List Snap) (store : List Ver) : collectDead (s :: rest) g store = (s :: rest, g, store) := by
  have hstop : Gen.gcStop s.sn g = true := decide_eq_true hs
  rw [collectDead, if_pos hr, if_pos hstop]

theorem collectDead_collect {s : Snap} {g : Nat} (hr : s.st = .retired) (hs : s.sn = g + 1)
    (rest : List Snap) (store : List Ver) :
    collectDead (s :: rest) g store =
      ({ s with st := .collected } :: (collectDead rest s.sn (removeAll store s.gclist)).1,
       (collectDead rest s.sn (removeAll store s.gclist)).2) := by
  have hstop : ¬ Gen.gcStop s.sn g = true := by
    rw [Bool.not_eq_true]; exact (Gen.gcStop_false_iff _ _).mpr hs
  rw [collectDead, if_pos hr, if_neg hstop]

theorem collectDead_skip {s : Snap} (hr : s.st ≠ .retired) (rest : List Snap) (g : Nat) (store : List Ver) :
    collectDead (s :: rest) g store = (s :: (collectDead rest g store).1, (collectDead rest g store).2) := by
  rw [collectDead, if_neg hr]

def collectUpTo (g' : Nat) (z : Snap) : Snap :=
  { z with st := if z.sn ≤ g' then .collected else z.st }

def keptAfter (g' : Nat) (v : Ver) : Bool := v.dead == 0 || decide (g' < v.dead)

theorem keptAfter_iff {g' : Nat} {v : Ver} : keptAfter g' v = true ↔ v.dead = 0 ∨ g' < v.dead := by
  unfold keptAfter; rw [Bool.or_eq_true, beq_iff_eq, decide_eq_true_eq]

theorem keptAfter_false {g' : Nat} {v : Ver} (h : keptAfter g' v = false) : v.dead ≠ 0 ∧ v.dead ≤ g' :=
  ⟨fun h0 => Bool.eq_false_iff.mp h (keptAfter_iff.mpr (Or.inl h0)),
   Nat.not_lt.mp fun hlt => Bool.eq_false_iff.mp h (keptAfter_iff.mpr (Or.inr hlt))⟩

theorem mem_keptAfter {g' : Nat} {store : List Ver} {v : Ver} (hv : v ∈ store) (h : g' < v.dead) :
    v ∈ store.filter (keptAfter g') :=
  List.mem_filter.mpr ⟨hv, keptAfter_iff.mpr (Or.inr h)⟩

theorem filter_alive_keptAfter (g' : Nat) (store : List Ver) :
    (store.filter (keptAfter g')).filter isAlive = store.filter isAlive :=
  filter_filter_of_imp _ _ _ fun _ _ hk =>
    Bool.eq_false_iff.mpr fun ha => (keptAfter_false hk).1 (beq_iff_eq.mp ha)

theorem collectUpTo_of_collected {g' : Nat} {z : Snap} (h : z.sn ≤ g' → z.st = .collected) : collectUpTo g' z = z := by
  unfold collectUpTo
  by_cases hle : z.sn ≤ g'
  · rw [if_pos hle, ← h hle]
  · rw [if_neg hle]

theorem collect_nothing {L : List Snap} {g : Nat} {store : List Ver} (hcoll : ∀ s ∈ L, (s.st = .collected ↔ s.sn ≤ g))
    (hex : ∀ v ∈ store, v.dead = 0 ∨ g < v.dead) :
    (L.map (collectUpTo g), g, store.filter (keptAfter g)) = (L, g, store) := by
  rw [List.filter_eq_self.mpr fun v hv => keptAfter_iff.mpr (hex v hv),
    (List.map_congr_left fun z hz => collectUpTo_of_collected (hcoll z hz).mpr).trans (List.map_id L)]

/-- `hcoll`, `hex`: the pass starts exact for frontier `g`; `hdied`: the list of a retired snapshot names exactly
    what died in its epoch.  The conjuncts before the equation say where the pass stops (`Frontier`). -/
theorem collectDead_eq (L : List Snap) (g : Nat) (store : List Ver)
    (hinc : L.Pairwise (fun a b => a.sn < b.sn))
    (hcoll : ∀ s ∈ L, (s.st = .collected ↔ s.sn ≤ g))
    (hdied : ∀ s ∈ L, s.st = .retired → ∀ v ∈ store, (s.gclist.any (fun x => sameId v x) = true ↔ v.dead = s.sn))
    (hex : ∀ v ∈ store, v.dead = 0 ∨ g < v.dead) :
    ∃ g', g ≤ g' ∧ (∀ n, g < n → n ≤ g' → ∃ s ∈ L, s.st = .retired ∧ s.sn = n) ∧
      (∀ s ∈ L, s.st = .retired → s.sn ≠ g' + 1) ∧
      collectDead L g store = (L.map (collectUpTo g'), g', store.filter (keptAfter g')) := by
  induction L generalizing g store with
  | nil =>
    exact ⟨g, Nat.le_refl _, fun n h1 h2 => absurd h1 (Nat.not_lt.mpr h2), nofun,
      (collect_nothing (fun _ h => absurd h List.not_mem_nil) hex).symm⟩
  | cons s rest ih =>
    have hi := List.pairwise_cons.mp hinc
    have hs := List.mem_cons_self (a := s) (l := rest)
    by_cases hr : s.st = .retired
    · have hsg : g < s.sn := Nat.not_le.mp fun hle => by
        have := (hcoll s hs).mpr hle
        rw [hr] at this; cases this
      by_cases hsn : s.sn = g + 1
      · -- collected: what its list names is what died in `g + 1`
        have hrem : removeAll store s.gclist = store.filter (fun v => v.dead != s.sn) := by
          unfold removeAll
          refine List.filter_congr fun v hv => ?_
          rw [Bool.eq_iff_iff, Bool.not_eq_true', ← Bool.not_eq_true, hdied s hs hr v hv, bne_iff_ne]
        obtain ⟨g', hge, hrange, hstop, e⟩ := ih s.sn (store.filter (fun v => v.dead != s.sn)) hi.2
          (fun z hz => ⟨fun hc => absurd ((hcoll z (List.mem_cons_of_mem _ hz)).mp hc)
              (Nat.not_le.mpr (Nat.lt_trans hsg (hi.1 z hz))),
            fun hle => absurd hle (Nat.not_le.mpr (hi.1 z hz))⟩)
          (fun z hz hzr v hv => hdied z (List.mem_cons_of_mem _ hz) hzr v (List.mem_filter.mp hv).1)
          (fun v hv => (hex v (List.mem_filter.mp hv).1).imp_right fun hlt =>
            Nat.lt_of_le_of_ne (hsn ▸ hlt) fun he => bne_iff_ne.mp (List.mem_filter.mp hv).2 he.symm)
        refine ⟨g', Nat.le_trans (Nat.le_of_lt hsg) hge, fun n h1 h2 => ?_, fun z hz hzr => ?_, ?_⟩
        · by_cases hn : n = s.sn
          · exact ⟨s, hs, hr, hn.symm⟩
          · obtain ⟨z, hz, hz'⟩ := hrange n (Nat.lt_of_le_of_ne (hsn ▸ h1) (Ne.symm hn)) h2
            exact ⟨z, List.mem_cons_of_mem _ hz, hz'⟩
        · rcases List.mem_cons.mp hz with rfl | hz
          · exact Nat.ne_of_lt (Nat.lt_succ_of_le hge)
          · exact hstop z hz hzr
        · rw [collectDead_collect hr hsn, hrem, e, List.map_cons]
          refine Prod.ext (congrArg (· :: _) ?_) (Prod.ext rfl ?_)
          · unfold collectUpTo; rw [if_pos hge]
          · refine filter_filter_of_imp _ _ _ fun v _ hq => Bool.eq_false_iff.mpr fun hk => ?_
            have hd : v.dead = s.sn := Decidable.of_not_not fun hne => Bool.eq_false_iff.mp hq (bne_iff_ne.mpr hne)
            exact (keptAfter_iff.mp hk).elim (fun h0 => Nat.ne_of_gt (Nat.lt_of_le_of_lt (Nat.zero_le _) hsg) (hd.symm.trans h0))
              fun hlt => Nat.not_le.mpr hlt (hd ▸ hge)
      · have hlt : g + 1 < s.sn := Nat.lt_of_le_of_ne hsg (Ne.symm hsn)
        refine ⟨g, Nat.le_refl _, fun n h1 h2 => absurd h1 (Nat.not_lt.mpr h2), fun z hz _ => ?_, ?_⟩
        · rcases List.mem_cons.mp hz with rfl | hz
          · exact Nat.ne_of_gt hlt
          · exact Nat.ne_of_gt (Nat.lt_trans hlt (hi.1 z hz))
        · rw [collectDead_stop hr hsn, collect_nothing hcoll hex]
    · obtain ⟨g', hge, hrange, hstop, e⟩ := ih g store hi.2 (fun z hz => hcoll z (List.mem_cons_of_mem _ hz))
        (fun z hz => hdied z (List.mem_cons_of_mem _ hz)) hex
      refine ⟨g', hge, fun n h1 h2 => ?_, fun z hz hzr => ?_, ?_⟩
      · obtain ⟨z, hz, hz'⟩ := hrange n h1 h2
        exact ⟨z, List.mem_cons_of_mem _ hz, hz'⟩
      · rcases List.mem_cons.mp hz with rfl | hz
        · exact absurd hzr hr
        · exact hstop z hz hzr
      · rw [collectDead_skip hr, e, List.map_cons]
        refine Prod.ext (congrArg (· :: _) (collectUpTo_of_collected fun hle => ?_).symm) rfl
        -- a number passed belongs to a retired snapshot further on, unless it was behind the frontier already
        refine (hcoll s hs).mpr (Nat.not_lt.mp fun hgs => ?_)
        obtain ⟨z, hz, _, hzs⟩ := hrange s.sn hgs hle
        exact Nat.lt_irrefl _ (hzs ▸ hi.1 z hz)

end NitroVerif.Mvcc
