import NitroVerif.Lemmas.GuardsGen
/-!
  Characterisation of the generated decision predicates the `RefCount` model calls (those of `Open`, `Close`,
  `collectDead`, `hasCollectableSnapshot`: in `Lemmas/GuardsGen.lean`), and the atomic skeletons of `Open`, `Close`,
  `GC`, `collectDead`.  A change of the Go condition or of the order / kind of the shared-memory operations changes
  `Gen.*` and breaks the lemma named here.
  Namespace `RefCountGenExtra`: the skeletons of `NewIterator` / `Iterator.Close`.
-/
namespace NitroVerif.RefCount

theorem collectableHead_eq_not_gcStop (sn l : Nat) : Gen.collectableHead sn l = !Gen.gcStop sn l :=
  Gen.collectableHead_eq_not_gcStop sn l

/-- `CompareSnapshot` orders by snapshot number -/
theorem compareSnapshot_eq_zero (a b : Nat) : Gen.compareSnapshot a b = 0 ↔ a = b := by
  unfold Gen.compareSnapshot; omega

theorem compareSnapshot_neg (a b : Nat) : Gen.compareSnapshot a b < 0 ↔ a < b := by
  unfold Gen.compareSnapshot; omega

theorem compareSnapshot_pos (a b : Nat) : 0 < Gen.compareSnapshot a b ↔ b < a := by
  unfold Gen.compareSnapshot; omega

theorem skeleton_Open_ok : Gen.skeleton_Open =
    ["atomic.LoadInt32(s.refCount)", "atomic.CompareAndSwapInt32(s.refCount)"] := rfl

theorem skeleton_Close_ok : Gen.skeleton_Close =
    ["atomic.AddInt32(s.refCount)", "defer", "s.db.snapshots.Delete", "s.db.gcsnapshots.Insert",
     "s.db.GC"] := rfl

theorem skeleton_GC_ok : Gen.skeleton_GC =
    ["atomic.CompareAndSwapInt32(m.isGCRunning)", "m.collectDead",
     "atomic.CompareAndSwapInt32(m.isGCRunning)", "m.hasCollectableSnapshot"] := rfl

theorem skeleton_collectDead_ok : Gen.skeleton_collectDead =
    ["defer", "defer", "defer", "iter.Close", "iter.SeekFirst", "iter.Next",
     "atomic.StoreUint32(m.lastGCSn)", "send(m.gcchan)", "m.gcsnapshots.DeleteNode"] := rfl

end NitroVerif.RefCount

namespace NitroVerif.RefCountGenExtra
/-- `NewIterator` takes its reference (`Open`) before anything else and `Iterator.Close` gives it back first: for
    the count they are `Open` and `Snapshot.Close` -/
theorem skeleton_NitroNewIterator_ok :
    Gen.skeleton_NitroNewIterator = ["snap.Open", "snap.db.store.MakeBuf", "m.store.NewIterator"] := rfl
theorem skeleton_NitroIteratorClose_ok :
    Gen.skeleton_NitroIteratorClose = ["it.snap.Close", "it.snap.db.store.FreeBuf", "it.iter.Close"] := rfl
end NitroVerif.RefCountGenExtra
