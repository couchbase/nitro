import NitroVerif.Lemmas.SkipConcLinSeq
/-!
  The explicit sequential history `linearization n as`.  Replaying it on the set specification (`Entry.ok`,
  `Entry.next`) from the empty set succeeds — every recorded result is the one the specification gives — and ends in
  the abstract set of the final state (`lin_replay`): bucket by bucket the specification state IS the trace
  (`range'_replay`).  Then: every completed call is in it (`lin_read`, `lin_upd_true`), every entry belongs to a call
  (`bucket_mem`), real-time order (`lin_real_time`), and no call twice.
-/
namespace NitroVerif.SkipConc

/-- the read entry contributed by the call that action `e` returns, with the position it is placed at -/
def readEntry (n : Nat) (as : List Action) (e : Nat) : Option (Nat × Entry) :=
  match retAt n as e with
  | some (t, s, .ins k, out) =>
    if out = "ret false" then some (readPoint n as s e k true, ⟨t, s, .ins k, false⟩) else none
  | some (t, s, .del k, out) =>
    if out = "ret false" then some (readPoint n as s e k false, ⟨t, s, .del k, false⟩) else none
  | some (t, s, .look k, out) =>
    if out = "ret true" then some (readPoint n as s e k true, ⟨t, s, .look k, true⟩)
    else if out = "ret false" then some (readPoint n as s e k false, ⟨t, s, .look k, false⟩) else none
  | _ => none

/-- the reads placed at state `i` -/
def readsAt (n : Nat) (as : List Action) (i : Nat) : List Entry :=
  (List.range as.length).filterMap fun e =>
    match readEntry n as e with
    | some (q, en) => if q = i then some en else none
    | none => none

/-- the reads placed at state `i`, then the update made by action `i` -/
def bucket (n : Nat) (as : List Action) (i : Nat) : List Entry := readsAt n as i ++ updAt n as i

/-- THE SEQUENTIAL HISTORY of the run `as` from `Sys.init n` -/
def linearization (n : Nat) (as : List Action) : List Entry :=
  (List.range (as.length + 1)).flatMap (bucket n as)

/-- the recorded result is the one the set specification gives in state `S`:
    Insert succeeds iff the item is absent, Delete iff it is present, Lookup reports membership -/
def Entry.ok (S : Nat → Prop) (en : Entry) : Prop :=
  match en.kind with
  | .ins k => (en.res = true ↔ ¬ S k)
  | .del k => (en.res = true ↔ S k)
  | .look k => (en.res = true ↔ S k)
  | _ => False

/-- the state of the set specification after the call -/
def Entry.next (S : Nat → Prop) (en : Entry) : Nat → Prop :=
  match en.kind, en.res with
  | .ins k, true => fun x => S x ∨ x = k
  | .del k, true => fun x => S x ∧ x ≠ k
  | _, _ => S

/-- replaying a sequential history on the set specification from `S`: every recorded result is right, the final
    state is `S'` -/
def Replay : (Nat → Prop) → List Entry → (Nat → Prop) → Prop
  | S, [], S' => S = S'
  | S, en :: r, S' => en.ok S ∧ Replay (en.next S) r S'

theorem Replay_append {S T U : Nat → Prop} {l1 l2 : List Entry} (h1 : Replay S l1 T) (h2 : Replay T l2 U) :
    Replay S (l1 ++ l2) U := by
  induction l1 generalizing S with
  | nil => simp only [Replay] at h1; subst h1; exact h2
  | cons en r ih => exact ⟨h1.1, ih h1.2⟩

theorem Replay_reads {S : Nat → Prop} {l : List Entry} (h : ∀ en ∈ l, en.ok S ∧ en.next S = S) : Replay S l S := by
  induction l with
  | nil => rfl
  | cons en r ih =>
    have h1 := h en (List.mem_cons_self ..)
    refine ⟨h1.1, ?_⟩
    rw [h1.2]
    exact ih (fun e he => h e (List.mem_cons_of_mem _ he))

/-- `en` is the entry of the completed call that action `e` returns, a read, placed at position `i` -/
structure ReadAt (n : Nat) (as : List Action) (e i : Nat) (en : Entry) : Prop where
  call : ∃ op out, Call n as en.t op en.s e out ∧ opKind op = en.kind
  lo : en.s < i
  hi : i ≤ e
  ok : en.ok (absAt n as i)
  same : en.next (absAt n as i) = absAt n as i
  quiet : NoOwnChange n as en.t en.s (e + 1)

theorem readEntry_some {n : Nat} {as : List Action} {e i : Nat} {en : Entry} (h : readEntry n as e = some (i, en)) :
    ReadAt n as e i en := by
  unfold readEntry at h
  split at h
  · rename_i t s k out hr
    split at h
    · rename_i ho
      subst ho
      cases h
      obtain ⟨op, c, hK⟩ := call_of_retAt hr
      obtain ⟨lvl, rfl⟩ := opKind_ins hK
      rcases call_spec c with ⟨h1, _⟩ | ⟨_, hno, q, hq1, hq2, hq3⟩
      · exact absurd h1 (by simp)
      · obtain ⟨r1, r2, r3⟩ := readPoint_abs true ⟨q, hq1, hq2, ⟨fun _ => rfl, fun _ => hq3⟩⟩
        exact ⟨⟨_, _, c, rfl⟩, r1, r2, ⟨fun h => Bool.noConfusion h, fun h => absurd (r3.mpr rfl) h⟩, rfl, hno⟩
    · cases h
  · rename_i t s k out hr
    split at h
    · rename_i ho
      subst ho
      cases h
      obtain ⟨op, c, hK⟩ := call_of_retAt hr
      have hop := opKind_del hK
      subst hop
      rcases call_spec c with ⟨h1, _⟩ | ⟨_, hno, q, hq1, hq2, hq3⟩
      · exact absurd h1 (by simp)
      · obtain ⟨r1, r2, r3⟩ := readPoint_abs false ⟨q, hq1, hq2, ⟨fun h => absurd h hq3, fun h => by cases h⟩⟩
        exact ⟨⟨_, _, c, rfl⟩, r1, r2, ⟨fun h => Bool.noConfusion h, fun h => r3.mp h⟩, rfl, hno⟩
    · cases h
  · rename_i t s k out hr
    obtain ⟨op, c, hK⟩ := call_of_retAt hr
    have hop := opKind_look hK
    subst hop
    obtain ⟨hno, hans⟩ := call_spec c
    split at h
    · rename_i ho
      subst ho
      cases h
      rcases hans with ⟨_, q, hq1, hq2, hq3⟩ | ⟨h1, _⟩
      · obtain ⟨r1, r2, r3⟩ := readPoint_abs true ⟨q, hq1, hq2, ⟨fun _ => rfl, fun _ => hq3⟩⟩
        exact ⟨⟨_, _, c, rfl⟩, r1, r2, r3.symm, rfl, hno⟩
      · exact absurd h1 (by simp)
    · split at h
      · rename_i ho
        subst ho
        cases h
        rcases hans with ⟨h1, _⟩ | ⟨_, q, hq1, hq2, hq3⟩
        · exact absurd h1 (by simp)
        · obtain ⟨r1, r2, r3⟩ := readPoint_abs false ⟨q, hq1, hq2, ⟨fun h => absurd h hq3, fun h => by cases h⟩⟩
          exact ⟨⟨_, _, c, rfl⟩, r1, r2, r3.symm, rfl, hno⟩
      · cases h
  · cases h

theorem readsAt_pick {n : Nat} {as : List Action} {i e : Nat} {b : Entry}
    (hf : (match readEntry n as e with
      | some (q, en) => if q = i then some en else none
      | none => none) = some b) : readEntry n as e = some (i, b) := by
  split at hf
  · rename_i q en' hq
    split at hf
    · rename_i hqi
      subst hqi
      cases hf
      exact hq
    · cases hf
  · cases hf

theorem readsAt_mem {n : Nat} {as : List Action} {i : Nat} {en : Entry} (h : en ∈ readsAt n as i) :
    ∃ e, readEntry n as e = some (i, en) := by
  unfold readsAt at h
  obtain ⟨e, _, hf⟩ := List.mem_filterMap.mp h
  exact ⟨e, readsAt_pick hf⟩

theorem mem_readsAt {n : Nat} {as : List Action} {e i : Nat} {en : Entry} (he : e < as.length)
    (h : readEntry n as e = some (i, en)) : en ∈ readsAt n as i := by
  unfold readsAt
  refine List.mem_filterMap.mpr ⟨e, List.mem_range.mpr he, ?_⟩
  simp [h]

theorem upd_replay (n : Nat) (as : List Action) (i : Nat) :
    Replay (absAt n as i) (updAt n as i) (absAt n as (i + 1)) := by
  cases point_class n as i with
  | same u hu =>
    rw [hu]
    show absAt n as i = absAt n as (i + 1)
    funext k
    exact propext ((AbsSame.of_unmSame u) k).symm
  | @ins t k _ _ _ _ a =>
    rw [a.entry]
    refine ⟨?_, ?_⟩
    · show (true = true ↔ ¬ absAt n as i k)
      exact ⟨fun _ => a.point.absent, fun _ => rfl⟩
    · show (fun x => absAt n as i x ∨ x = k) = absAt n as (i + 1)
      funext x
      exact propext (a.point.adds x).symm
  | @del t k _ _ _ _ a =>
    rw [a.entry]
    refine ⟨?_, ?_⟩
    · show (true = true ↔ absAt n as i k)
      exact ⟨fun _ => a.point.present, fun _ => rfl⟩
    · show (fun x => absAt n as i x ∧ x ≠ k) = absAt n as (i + 1)
      funext x
      exact propext (a.point.removes x).symm

theorem bucket_replay (n : Nat) (as : List Action) (i : Nat) :
    Replay (absAt n as i) (bucket n as i) (absAt n as (i + 1)) := by
  refine Replay_append (Replay_reads ?_) (upd_replay n as i)
  intro en hen
  obtain ⟨e, he⟩ := readsAt_mem hen
  exact ⟨(readEntry_some he).ok, (readEntry_some he).same⟩

theorem range'_replay (n : Nat) (as : List Action) :
    ∀ m i, Replay (absAt n as i) ((List.range' i m).flatMap (bucket n as)) (absAt n as (i + m)) := by
  intro m
  induction m with
  | zero => intro i; rfl
  | succ m ih =>
    intro i
    rw [List.range'_succ, List.flatMap_cons]
    have h := ih (i + 1)
    have e : i + 1 + m = i + (m + 1) := by omega
    rw [e] at h
    exact Replay_append (bucket_replay n as i) h

theorem range_replay (n : Nat) (as : List Action) (i : Nat) :
    Replay (fun _ => False) ((List.range i).flatMap (bucket n as)) (absAt n as i) := by
  have h := range'_replay n as i 0
  rw [absAt_zero_eq, ← List.range_eq_range', Nat.zero_add] at h
  exact h

theorem lin_replay (n : Nat) (as : List Action) :
    Replay (fun _ => False) (linearization n as) (absAt n as as.length) := by
  have h := range_replay n as (as.length + 1)
  rw [absAt_ge n as (Nat.le_succ _), ← absAt_ge n as (Nat.le_refl _)] at h
  exact h

theorem mem_lin_of_bucket {n : Nat} {as : List Action} {i : Nat} {en : Entry} (hi : i ≤ as.length)
    (h : en ∈ bucket n as i) : en ∈ linearization n as :=
  List.mem_flatMap.mpr ⟨i, List.mem_range.mpr (Nat.lt_succ_of_le hi), h⟩

theorem lin_read {n : Nat} {as : List Action} {t : Nat} {op : Op} {s e k : Nat} {out : String} {want : Bool}
    {en : Entry} (c : Call n as t op s e out)
    (h : readEntry n as e = some (readPoint n as s e k want, en)) : en ∈ linearization n as :=
  mem_lin_of_bucket (Nat.le_of_lt (Nat.lt_of_le_of_lt (readPoint_le n as s e k want) c.end_lt))
    (List.mem_append_left _ (mem_readsAt c.end_lt h))

theorem updAt_of_change {n : Nat} {as : List Action} {t : Nat} {op : Op} {s p : Nat} (hin : InCall n as t op s p)
    (hst : as[p]? = some (.step t)) (hch : ¬ AbsSame n as p) :
    updAt n as p = [⟨t, s, opKind op, true⟩] := by
  cases point_class n as p with
  | same u => exact absurd (AbsSame.of_unmSame u) hch
  | ins a =>
    cases step_thread_eq a.step hst
    obtain ⟨rfl, rfl⟩ := a.call.unique hin
    exact a.entry
  | del a =>
    cases step_thread_eq a.step hst
    obtain ⟨rfl, rfl⟩ := a.call.unique hin
    exact a.entry

theorem updAt_mem {n : Nat} {as : List Action} {i : Nat} {en : Entry} (h : en ∈ updAt n as i) :
    ∃ op, InCall n as en.t op en.s i ∧ opKind op = en.kind ∧ as[i]? = some (.step en.t) ∧ ¬ AbsSame n as i ∧
      NoOwnChange n as en.t en.s i := by
  cases point_class n as i with
  | same _ hu => rw [hu] at h; cases h
  | ins a =>
    rw [a.entry] at h
    cases List.mem_singleton.mp h
    exact ⟨_, a.call, rfl, a.step, a.point.changes, a.quiet⟩
  | del a =>
    rw [a.entry] at h
    cases List.mem_singleton.mp h
    exact ⟨_, a.call, rfl, a.step, a.point.changes, a.quiet⟩

theorem lin_upd_true {n : Nat} {as : List Action} {t : Nat} {op : Op} {s e p : Nat} {out : String}
    (c : Call n as t op s e out) (hp1 : s < p) (hp2 : p ≤ e) (hst : as[p]? = some (.step t))
    (hch : ¬ AbsSame n as p) : ⟨t, s, opKind op, true⟩ ∈ linearization n as := by
  have hu := updAt_of_change (c.inCall_at hp1 hp2) hst hch
  exact mem_lin_of_bucket (Nat.le_of_lt (Nat.lt_of_le_of_lt hp2 c.end_lt))
    (List.mem_append_right _ (by rw [hu]; exact List.mem_singleton.mpr rfl))

theorem bucket_mem {n : Nat} {as : List Action} {i : Nat} {en : Entry} (h : en ∈ bucket n as i) :
    ∃ op, InCall n as en.t op en.s i ∧ opKind op = en.kind ∧
      ∀ op' e out, Call n as en.t op' en.s e out → i ≤ e := by
  rcases List.mem_append.mp h with h | h
  · obtain ⟨e, he⟩ := readsAt_mem h
    have r := readEntry_some he
    obtain ⟨op, out, c, hk⟩ := r.call
    refine ⟨op, c.inCall_at r.lo r.hi, hk, fun op' e' out' c' => ?_⟩
    exact c.unique_end c' ▸ r.hi
  · obtain ⟨op, hc, hk, _⟩ := updAt_mem h
    exact ⟨op, hc, hk, fun op' e out c' => hc.le_end c'⟩

/-- `a` comes before `b` in `l` -/
def Before (l : List Entry) (a b : Entry) : Prop := ∃ l1 l2 l3, l = l1 ++ a :: (l2 ++ b :: l3)

theorem Before.append_right {l : List Entry} {a b : Entry} (h : Before l a b) (l' : List Entry) :
    Before (l ++ l') a b := by
  obtain ⟨l1, l2, l3, rfl⟩ := h
  exact ⟨l1, l2, l3 ++ l', by simp [List.append_assoc]⟩

theorem Before.of_mem {l l' : List Entry} {a b : Entry} (ha : a ∈ l) (hb : b ∈ l') : Before (l ++ l') a b := by
  obtain ⟨x1, x2, rfl⟩ := List.append_of_mem ha
  obtain ⟨y1, y2, rfl⟩ := List.append_of_mem hb
  exact ⟨x1, x2 ++ y1, y2, by simp [List.append_assoc]⟩

theorem before_flatMap {f : Nat → List Entry} {a b : Entry} {i j : Nat} (hij : i < j) (ha : a ∈ f i) (hb : b ∈ f j) :
    ∀ N, j < N → Before ((List.range N).flatMap f) a b := by
  intro N
  induction N with
  | zero => intro h; exact absurd h (Nat.not_lt_zero _)
  | succ N ih =>
    intro hj
    rw [List.range_succ, List.flatMap_append]
    by_cases hjN : j = N
    · subst hjN
      have hb' : b ∈ List.flatMap f [j] := by simpa using hb
      exact Before.of_mem (List.mem_flatMap.mpr ⟨i, List.mem_range.mpr hij, ha⟩) hb'
    · exact (ih (Nat.lt_of_le_of_ne (Nat.le_of_lt_succ hj) hjN)).append_right _

theorem lin_real_time {n : Nat} {as : List Action} {a b : Entry} {opA : Op} {eA : Nat} {outA : String}
    (ha : a ∈ linearization n as) (hb : b ∈ linearization n as) (cA : Call n as a.t opA a.s eA outA)
    (hAB : eA < b.s) : Before (linearization n as) a b := by
  obtain ⟨i, _, hai⟩ := List.mem_flatMap.mp ha
  obtain ⟨j, hj, hbj⟩ := List.mem_flatMap.mp hb
  obtain ⟨_, _, _, hle⟩ := bucket_mem hai
  obtain ⟨_, hcb, _, _⟩ := bucket_mem hbj
  have h1 := hle _ _ _ cA
  have h2 := hcb.lt
  exact before_flatMap (Nat.lt_trans (Nat.lt_of_le_of_lt h1 hAB) h2) hai hbj _ (List.mem_range.mp hj)

def SameCall (a b : Entry) : Prop := a.t = b.t ∧ a.s = b.s

theorem read_read {n : Nat} {as : List Action} {e1 e2 i j : Nat} {x y : Entry}
    (h1 : readEntry n as e1 = some (i, x)) (h2 : readEntry n as e2 = some (j, y)) (h : SameCall x y) : e1 = e2 := by
  obtain ⟨op1, out1, c1, _⟩ := (readEntry_some h1).call
  obtain ⟨op2, out2, c2, _⟩ := (readEntry_some h2).call
  rw [h.1, h.2] at c1
  exact c1.unique_end c2

theorem read_upd {n : Nat} {as : List Action} {e i j : Nat} {x y : Entry}
    (h1 : readEntry n as e = some (i, x)) (h2 : y ∈ updAt n as j) (h : SameCall x y) : False := by
  obtain ⟨op, out, c, _⟩ := (readEntry_some h1).call
  have hno := (readEntry_some h1).quiet
  obtain ⟨op', hc, _, hst, hch, _⟩ := updAt_mem h2
  rw [← h.1, ← h.2] at hc
  rw [← h.1] at hst
  have hle := hc.le_end c
  exact hch (hno j hc.lt (Nat.lt_succ_of_le hle) hst)

theorem upd_upd {n : Nat} {as : List Action} {i j : Nat} {x y : Entry}
    (h1 : x ∈ updAt n as i) (h2 : y ∈ updAt n as j) (h : SameCall x y) (hij : i < j) : False := by
  obtain ⟨_, hc1, _, hst1, hch1, _⟩ := updAt_mem h1
  obtain ⟨_, _, _, _, _, hno2⟩ := updAt_mem h2
  rw [← h.1, ← h.2] at hno2
  exact hch1 (hno2 i hc1.lt hij hst1)

theorem bucket_tag_inj {n : Nat} {as : List Action} {i j : Nat} {x y : Entry}
    (hx : x ∈ bucket n as i) (hy : y ∈ bucket n as j) (h : SameCall x y) : i = j := by
  rcases List.mem_append.mp hx with hx | hx <;> rcases List.mem_append.mp hy with hy | hy
  · obtain ⟨e1, h1⟩ := readsAt_mem hx
    obtain ⟨e2, h2⟩ := readsAt_mem hy
    have := read_read h1 h2 h
    subst this
    rw [h1] at h2
    simp only [Option.some.injEq, Prod.mk.injEq] at h2
    exact h2.1
  · obtain ⟨e1, h1⟩ := readsAt_mem hx
    exact (read_upd h1 hy h).elim
  · obtain ⟨e2, h2⟩ := readsAt_mem hy
    exact (read_upd h2 hx ⟨h.1.symm, h.2.symm⟩).elim
  · by_cases hij : i = j
    · exact hij
    · rcases Nat.lt_or_gt_of_ne hij with hlt | hgt
      · exact (upd_upd hx hy h hlt).elim
      · exact (upd_upd hy hx ⟨h.1.symm, h.2.symm⟩ hgt).elim

theorem readsAt_pairwise (n : Nat) (as : List Action) (i : Nat) :
    (readsAt n as i).Pairwise (fun a b => ¬ SameCall a b) := by
  unfold readsAt
  rw [List.pairwise_filterMap]
  refine List.Pairwise.imp ?_ List.pairwise_lt_range
  intro e e' hlt b hb b' hb' hsame
  have := read_read (readsAt_pick hb) (readsAt_pick hb') hsame
  omega

theorem updAt_pairwise (n : Nat) (as : List Action) (i : Nat) :
    (updAt n as i).Pairwise (fun a b => ¬ SameCall a b) := by
  cases point_class n as i with
  | same _ hu => rw [hu]; exact List.Pairwise.nil
  | ins a => rw [a.entry]; exact List.pairwise_singleton _ _
  | del a => rw [a.entry]; exact List.pairwise_singleton _ _

theorem bucket_pairwise (n : Nat) (as : List Action) (i : Nat) :
    (bucket n as i).Pairwise (fun a b => ¬ SameCall a b) := by
  unfold bucket
  rw [List.pairwise_append]
  refine ⟨readsAt_pairwise n as i, updAt_pairwise n as i, fun a ha b hb hs => ?_⟩
  obtain ⟨e, h1⟩ := readsAt_mem ha
  exact read_upd h1 hb hs

end NitroVerif.SkipConc
