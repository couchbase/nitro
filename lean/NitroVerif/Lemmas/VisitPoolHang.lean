import NitroVerif.Lemmas.VisitPool
/-!
  The converse of `progress_sharp`: when more than `cap + c` shards come out of the split and the first `c` of them
  fail, a deadlock state is reachable — every worker takes one shard and leaves, the dispatcher fills the buffer
  and blocks.  A constructed schedule for every `c`, `cap ≥ 1` and `n > cap + c` (induction, not enumeration).
-/
namespace NitroVerif.VisitPool

theorem run_append {fails : Nat → Bool} {n cap : Nat} (s1 s2 : List Action) (st st1 st2 : State)
    (h1 : run fails n cap st s1 = some st1) (h2 : run fails n cap st1 s2 = some st2) :
    run fails n cap st (s1 ++ s2) = some st2 := by
  induction s1 generalizing st with
  | nil => simp only [run, Option.some.injEq] at h1; subst h1; simpa using h2
  | cons a r ih =>
    simp only [run, List.cons_append] at h1 ⊢
    cases hs : step fails n cap st a with
    | none => rw [hs] at h1; cases h1
    | some s' => rw [hs] at h1; exact ih s' h1

theorem serve_one {fails : Nat → Bool} {n cap : Nat} {st : State} {w : Nat} (hcap : 0 < cap)
    (hn : st.next < n) (hch : st.chan = []) (hcl : st.closed = false)
    (hw : st.workers[w]? = some .idle) (hf : fails st.next = true) :
    ∃ st', run fails n cap st [.send, .recv w, .finish w] = some st' ∧ st'.next = st.next + 1 ∧
      st'.chan = [] ∧ st'.closed = false ∧ st'.workers = st.workers.set w .done := by
  have hb : (st.workers.set w (.busy st.next))[w]? = some (.busy st.next) := by
    rw [List.getElem?_set_self (lt_length_of_getElem? hw)]
  refine ⟨{ st with next := st.next + 1, chan := [], workers := st.workers.set w .done,
                    errors := st.errors.set st.next true, log := st.log ++ [(w, st.next)] },
    ?_, rfl, rfl, hcl, rfl⟩
  simp [run, step, hn, hcl, hch, hcap, hw, hb, hf]

/-- after `k` rounds of `serve_one`: workers `< k` gone, `next = k`, buffer empty -/
theorem phase1 (fails : Nat → Bool) (n c cap : Nat) (hcap1 : 0 < cap) (hfail : ∀ s, s < c → fails s = true)
    (k : Nat) (hkc : k ≤ c) (hkn : k ≤ n) :
    ∃ sched st, run fails n cap (init n c) sched = some st ∧ st.next = k ∧ st.chan = [] ∧ st.closed = false ∧
      st.workers.length = c ∧ (∀ w, w < k → st.workers[w]? = some .done) ∧
      (∀ w, k ≤ w → w < c → st.workers[w]? = some .idle) := by
  induction k with
  | zero =>
    refine ⟨[], init n c, rfl, rfl, rfl, rfl, by simp [init], fun w hw => by omega, ?_⟩
    intro w _ hw
    simp [init, hw]
  | succ k ih =>
    obtain ⟨sched, st, hrun, hnext, hch, hcl, hlen, hdone, hidle⟩ :=
      ih (Nat.le_of_succ_le hkc) (Nat.le_of_succ_le hkn)
    obtain ⟨st', hrun', hnext', hch', hcl', hws⟩ :=
      serve_one (fails := fails) (n := n) hcap1 (by rw [hnext]; exact hkn) hch hcl
        (hidle k (Nat.le_refl _) hkc) (by rw [hnext]; exact hfail k hkc)
    refine ⟨sched ++ [.send, .recv k, .finish k], st', run_append _ _ _ _ _ hrun hrun',
      by rw [hnext', hnext], hch', hcl', by rw [hws, List.length_set]; exact hlen, ?_, ?_⟩
    · intro w hw
      rw [hws, List.getElem?_set]
      by_cases hwk : k = w
      · rw [if_pos hwk, if_pos (by rw [hlen]; exact hkc)]
      · rw [if_neg hwk]
        exact hdone w (Nat.lt_of_le_of_ne (Nat.le_of_lt_succ hw) (Ne.symm hwk))
    · intro w hw1 hw2
      rw [hws, List.getElem?_set, if_neg (Nat.ne_of_lt hw1)]
      exact hidle w (Nat.le_of_succ_le hw1) hw2

/-- then `j` more sends fill the buffer -/
theorem phase2 (fails : Nat → Bool) (n c cap : Nat) (hcap1 : 0 < cap) (hfail : ∀ s, s < c → fails s = true)
    (hn : cap + c < n) (j : Nat) (hj : j ≤ cap) :
    ∃ sched st, run fails n cap (init n c) sched = some st ∧ st.next = c + j ∧ st.chan.length = j ∧
      st.closed = false ∧ ∀ w ∈ st.workers, w = .done := by
  induction j with
  | zero =>
    obtain ⟨sched, st, hrun, hnext, hch, hcl, hlen, hdone, _⟩ :=
      phase1 fails n c cap hcap1 hfail c (Nat.le_refl _)
        (Nat.le_trans (Nat.le_add_left c cap) (Nat.le_of_lt hn))
    refine ⟨sched, st, hrun, hnext, by rw [hch]; rfl, hcl, ?_⟩
    intro x hx
    obtain ⟨w, hw, hget⟩ := List.getElem_of_mem hx
    have := hdone w (hlen ▸ hw)
    rw [List.getElem?_eq_getElem hw, hget] at this
    exact Option.some.inj this
  | succ j ih =>
    obtain ⟨sched, st, hrun, hnext, hch, hcl, hdone⟩ := ih (Nat.le_of_succ_le hj)
    have hs1 := step_iff.mpr (Step.send (fails := fails) (n := n) (cap := cap) (st := st) (by omega) hcl (by omega))
    refine ⟨sched ++ [.send], { st with next := st.next + 1, chan := st.chan ++ [st.next] },
      run_append _ _ _ _ _ hrun ?_, ?_, ?_, hcl, hdone⟩
    · simp only [run, hs1]
    · show st.next + 1 = c + (j + 1); rw [hnext]; rfl
    · show (st.chan ++ [st.next]).length = j + 1; rw [List.length_append, hch]; rfl

theorem deadlock_reachable (fails : Nat → Bool) (n c cap : Nat) (hcap1 : 0 < cap)
    (hfail : ∀ s, s < c → fails s = true) (hn : cap + c < n) :
    ∃ sched st, run fails n cap (init n c) sched = some st ∧ ¬ final n st ∧
      ∀ a, step fails n cap st a = none := by
  obtain ⟨sched, st, hrun, hnext, hch, _, hdone⟩ := phase2 fails n c cap hcap1 hfail hn cap (Nat.le_refl _)
  exact ⟨sched, st, hrun, stuck_of (by omega) (by omega) hdone⟩

end NitroVerif.VisitPool
