/-
  C01 along concurrent histories: one step of a reader's cursor against the store, for the code as it is
  (`fixedIter = true`: snapshot iterators on the insert comparator; with the key-only comparator the property
  fails, `C01c.C01_unfixed_duplicate_witness`).  Whatever the node under the cursor has become (still linked, or
  unlinked by a writer or a collection job), `Iterator.Next` lands on a node such that the visible versions at or
  below the new cursor are exactly those at or below the old one plus (if it is visible) the node landed on.
-/
import NitroVerif.Lemmas.MvccConcIterInv

namespace NitroVerif.MvccConc
open NitroVerif.Mvcc (Ver Sorted vlt visible)

def Cur.kb (c : Cur) : Nat × Nat := (c.key, c.born)

/-- lexicographic order on `(key, bornSn)` — the physical order of the store -/
def kbLt (a b : Nat × Nat) : Prop := a.1 < b.1 ∨ (a.1 = b.1 ∧ a.2 < b.2)
def kbLe (a b : Nat × Nat) : Prop := kbLt a b ∨ a = b

theorem kbLt_curAt {a b : Node} : kbLt (curAt a).kb (curAt b).kb ↔ vlt a.ver b.ver := Iff.rfl

theorem kbLt_trans {a b c : Nat × Nat} (h1 : kbLt a b) (h2 : kbLt b c) : kbLt a c :=
  Mvcc.vlt_trans (a := ⟨a.1, 0, a.2, 0⟩) (b := ⟨b.1, 0, b.2, 0⟩) (c := ⟨c.1, 0, c.2, 0⟩) h1 h2

theorem kbLt_of_le_of_lt {a b c : Nat × Nat} (h1 : kbLe a b) (h2 : kbLt b c) : kbLt a c := by
  rcases h1 with h1 | rfl
  · exact kbLt_trans h1 h2
  · exact h2

theorem kbLe_trans {a b c : Nat × Nat} (h1 : kbLe a b) (h2 : kbLe b c) : kbLe a c := by
  rcases h2 with h2 | rfl
  · exact Or.inl (kbLt_of_le_of_lt h1 h2)
  · exact h1

theorem kbLt_irrefl (a : Nat × Nat) : ¬ kbLt a a := Mvcc.vlt_irrefl ⟨a.1, 0, a.2, 0⟩

theorem kbLt_asymm {a b : Nat × Nat} (h : kbLt a b) : ¬ kbLt b a :=
  fun h' => kbLt_irrefl a (kbLt_trans h h')

theorem kb_total (a b : Nat × Nat) : kbLt a b ∨ a = b ∨ kbLt b a :=
  (Mvcc.vlt_total ⟨a.1, 0, a.2, 0⟩ ⟨b.1, 0, b.2, 0⟩).imp id (Or.imp (fun h => Prod.ext h.1 h.2) id)

theorem kbLe_of_not_lt {a b : Nat × Nat} (h : ¬ kbLt b a) : kbLe a b := by
  rcases kb_total a b with h1 | h1 | h1
  · exact Or.inl h1
  · exact Or.inr h1
  · exact absurd h1 h

def leCur (c : Cur) (v : Ver) : Bool := decide (v.key < c.key ∨ (v.key = c.key ∧ v.born ≤ c.born))

theorem leCur_false {c : Cur} {v : Ver} : leCur c v = false ↔ kbLt c.kb (v.key, v.born) := by
  unfold leCur kbLt Cur.kb
  simp only [decide_eq_false_iff_not]
  constructor
  · intro h
    rcases Nat.lt_trichotomy v.key c.key with h1 | h1 | h1
    · exact absurd (Or.inl h1) h
    · exact Or.inr ⟨h1.symm, Nat.lt_of_not_le (fun h2 => h (Or.inr ⟨h1, h2⟩))⟩
    · exact Or.inl h1
  · rintro (h | ⟨e, h⟩) (h' | ⟨e', h'⟩)
    · exact Nat.lt_asymm h h'
    · exact Nat.lt_irrefl _ (e' ▸ h)
    · exact Nat.lt_irrefl _ (e ▸ h')
    · exact Nat.not_le_of_lt h h'

theorem leCur_true {c : Cur} {v : Ver} : leCur c v = true ↔ ¬ kbLt c.kb (v.key, v.born) := by
  rw [← leCur_false, Bool.not_eq_false]

def upTo (V : List Ver) : Option Cur → List Ver
  | none => V
  | some c => V.filter (leCur c)

/-- the version a landing hands out: the node landed on, if the snapshot sees it -/
def landVer (sn : Nat) : Option Node → Option Ver
  | none => none
  | some y => if visible sn y.ver then some y.ver.norm else none

theorem upTo_view_some (S : List Node) (sn : Nat) (c : Cur) :
    upTo (Mvcc.view (vers S) sn) (some c) =
      (S.filter (fun x => visible sn x.ver && leCur c x.ver)).map (fun x => x.ver.norm) := by
  rw [view_eq]
  show List.filter (leCur c) _ = _
  rw [List.filter_map, List.filter_filter]
  congr 1
  apply List.filter_congr
  intro x _
  simp only [Function.comp]
  rw [Bool.and_comm]
  rfl

theorem map_norm_landed (sn : Nat) (y : Node) :
    (if visible sn y.ver then [y] else []).map (fun x => x.ver.norm) = (landVer sn (some y)).toList := by
  show _ = (if visible sn y.ver then some y.ver.norm else none).toList
  cases visible sn y.ver
  · rfl
  · rfl

/-- a search that finds the first node satisfying a test `q` which holds from the cursor `c` on: the nodes
    failing it are at or below `c`, those passing it at or above, strictly above if the snapshot can see them -/
theorem advance_of_find {S : List Node} (hs : S.Pairwise (fun a b => vlt a.ver b.ver)) (sn : Nat) (c : Cur)
    (q : Node → Bool)
    (h0 : ∀ x ∈ S, q x = false → ¬ kbLt c.kb (curAt x).kb)
    (h1 : ∀ x ∈ S, q x = true → ¬ kbLt (curAt x).kb c.kb)
    (h2 : ∀ x ∈ S, q x = true → x.ver.born ≤ sn → kbLt c.kb (curAt x).kb) :
    upTo (Mvcc.view (vers S) sn) ((S.find? q).map curAt) =
      upTo (Mvcc.view (vers S) sn) (some c) ++ (landVer sn (S.find? q)).toList := by
  cases hf : S.find? q with
  | none =>
    show Mvcc.view (vers S) sn = _ ++ []
    rw [List.append_nil, upTo_view_some, view_eq]
    congr 1
    apply List.filter_congr
    intro x hx
    have := List.find?_eq_none.mp hf x hx
    rw [leCur_true.mpr (h0 x hx (by simpa using this))]; simp
  | some y =>
    show upTo _ (some (curAt y)) = _ ++ (landVer sn (some y)).toList
    rw [upTo_view_some, upTo_view_some, ← map_norm_landed, ← List.map_append]
    congr 1
    obtain ⟨hqy, A, B, hS, hA⟩ := List.find?_eq_some_iff_append.mp hf
    have hym : y ∈ S := by rw [hS]; simp
    rw [hS] at hs ⊢
    have hp := List.pairwise_append.mp hs
    have hyB : ∀ b ∈ B, kbLt (curAt y).kb (curAt b).kb :=
      fun b hb => kbLt_curAt.mpr ((List.pairwise_cons.mp hp.2.1).1 b hb)
    apply filter_split_at (fun x : Node => visible sn x.ver) (fun x : Node => leCur c x.ver)
      (fun x : Node => leCur (curAt y) x.ver)
    · intro a ha
      have hay : kbLt (curAt a).kb (curAt y).kb := kbLt_curAt.mpr (hp.2.2 a ha y (by simp))
      exact ⟨leCur_true.mpr (h0 a (by rw [hS]; simp [ha]) (by simpa using hA a ha)), leCur_true.mpr (kbLt_asymm hay)⟩
    · exact fun hv => leCur_false.mpr (h2 y hym hqy ((Mvcc.visible_iff sn y.ver).mp hv).1)
    · exact leCur_true.mpr (kbLt_irrefl _)
    · intro b hb
      exact ⟨leCur_false.mpr (kbLt_of_le_of_lt (kbLe_of_not_lt (h1 y hym hqy)) (hyB b hb)), leCur_false.mpr (hyB b hb)⟩

theorem nextLand_find {σ : State} {t i : Nat} {it : Iter} {c : Cur} {land : Option Node}
    (hk : IterInv σ) (hfx : σ.fixedIter = true) (hf : findIter (t, i) σ.iters = some it) (hc : it.cur = some c)
    (hl : NextLand σ c land) :
    ∃ q : Node → Bool, land = σ.store.find? q ∧ (∀ x ∈ σ.store, q x = false → ¬ kbLt c.kb (curAt x).kb) ∧
      (∀ x ∈ σ.store, q x = true → ¬ kbLt (curAt x).kb c.kb) ∧
      (∀ x ∈ σ.store, q x = true → x.ver.born ≤ it.sn → kbLt c.kb (curAt x).kb) := by
  have hm := findIter_some hf
  rcases hl with ⟨x, hn, rfl⟩ | ⟨hn, rfl⟩
  · have ⟨hx, hxid⟩ := findNode_some hn
    have hxc := hk.cache (t, i) it c hm hc x (List.mem_append_left _ hx) hxid
    have hq : ∀ y : Node, Mvcc.insLt x.ver y.ver = true ↔ kbLt c.kb (curAt y).kb := by
      intro y
      rw [Mvcc.insLt_iff]
      show vlt x.ver y.ver ↔ (c.key < y.ver.key ∨ (c.key = y.ver.key ∧ c.born < y.ver.born))
      rw [← hxc.1, ← hxc.2]; rfl
    refine ⟨fun y => Mvcc.insLt x.ver y.ver, rfl, ?_, ?_, ?_⟩
    · intro y _ h hlt; dsimp only at h; rw [(hq y).mpr hlt] at h; cases h
    · exact fun y _ h => kbLt_asymm ((hq y).mp h)
    · exact fun y _ h _ => (hq y).mp h
  · have hq : ∀ y : Node, Gen.findAdvance (Mvcc.insCmp y.ver ⟨c.key, 0, c.born, 0⟩) = true ↔
        kbLt (curAt y).kb c.kb := by
      intro y
      rw [Gen.findAdvance_iff, Mvcc.insCmp_neg]; rfl
    refine ⟨fun y => !Gen.findAdvance (Mvcc.insCmp y.ver ⟨c.key, 0, c.born, 0⟩),
      by rw [iterStoreCmp_eq, if_pos hfx, seekN_eq_find], ?_, ?_, ?_⟩
    · intro y _ h
      exact kbLt_asymm ((hq y).mp (by simpa using h))
    · intro y _ h hlt
      dsimp only at h; rw [(hq y).mpr hlt] at h; cases h
    · intro y hy h hvis
      have hny : ¬ kbLt (curAt y).kb c.kb := by
        intro hlt; dsimp only at h; rw [(hq y).mpr hlt] at h; cases h
      rcases kb_total c.kb (curAt y).kb with h1 | h1 | h1
      · exact h1
      · -- a linked node with the key and epoch of the unlinked node under the cursor was born after the
        -- snapshot: the unlinked one, visible to it, would otherwise still be linked
        exfalso
        have hk1 : c.key = y.ver.key := congrArg Prod.fst h1
        have hk2 : c.born = y.ver.born := congrArg Prod.snd h1
        rcases hk.somewhere (t, i) it c hm hc with h2 | ⟨x, hx, hxid⟩
        · exact findNode_none_iff.mp hn h2
        · have hxc := hk.cache (t, i) it c hm hc x (List.mem_append_right _ hx) hxid
          have hxd := hk.gone (t, i) it c hm hc (hk2 ▸ hvis) x hx hxid
          exact hk.uniq x hx hxd y hy ⟨hk1.symm.trans hxc.1.symm, hk2.symm.trans hxc.2.symm⟩
      · exact absurd h1 hny

theorem nextLand_cursor {σ : State} {t i : Nat} {it : Iter} {c : Cur} {land : Option Node}
    (hk : IterInv σ) (hfx : σ.fixedIter = true) (hf : findIter (t, i) σ.iters = some it) (hc : it.cur = some c)
    (hl : NextLand σ c land) {y : Node} (hy : land = some y) :
    kbLe c.kb (curAt y).kb := by
  obtain ⟨q, rfl, _, h1, _⟩ := nextLand_find hk hfx hf hc hl
  exact kbLe_of_not_lt (h1 y (List.mem_of_find?_eq_some hy) (List.find?_some hy))

theorem nextLand_advance {σ : State} {t i : Nat} {it : Iter} {c : Cur} {land : Option Node} (hi : Inv σ)
    (hk : IterInv σ) (hfx : σ.fixedIter = true) (hf : findIter (t, i) σ.iters = some it) (hc : it.cur = some c)
    (hl : NextLand σ c land) :
    upTo (Mvcc.view (vers σ.store) it.sn) (land.map curAt) =
      upTo (Mvcc.view (vers σ.store) it.sn) (some c) ++ (landVer it.sn land).toList := by
  obtain ⟨q, rfl, h0, h1, h2⟩ := nextLand_find hk hfx hf hc hl
  exact advance_of_find (pairwise_nodes hi.store.sorted) it.sn c q h0 h1 h2

theorem first_land {S : List Node} (hs : S.Pairwise (fun a b => vlt a.ver b.ver)) (sn : Nat) :
    upTo (Mvcc.view (vers S) sn) (S.head?.map curAt) = (landVer sn S.head?).toList := by
  cases S with
  | nil => rfl
  | cons y B =>
    show upTo _ (some (curAt y)) = (landVer sn (some y)).toList
    rw [upTo_view_some, ← map_norm_landed]
    congr 1
    have hyB := (List.pairwise_cons.mp hs).1
    have := filter_split_at (fun x : Node => visible sn x.ver) (fun _ => false)
      (fun x : Node => leCur (curAt y) x.ver) [] B y
      (by intro a ha; cases ha) (fun _ => rfl) (leCur_true.mpr (kbLt_irrefl _)) (by
        intro b hb
        refine ⟨rfl, ?_⟩
        exact leCur_false.mpr (hyB b hb))
    have hnil : B.filter (fun _ => false) = [] := List.filter_eq_nil_iff.mpr (fun _ _ => by simp)
    simpa [hnil] using this

end NitroVerif.MvccConc
