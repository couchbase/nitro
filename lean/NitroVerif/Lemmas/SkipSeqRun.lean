import NitroVerif.Lemmas.SkipSeqStep
import NitroVerif.Lemmas.SkipSeqWF
/-!
  The simulation lifts from one step to whole scripts (from the empty skiplist: `sim_init`); what can be
  observed of any state that satisfies `Rep`.
-/
namespace NitroVerif.SkipSeq
open NitroVerif.OrdSet

theorem sim_init : Sim St.init SpecSt.init [] :=
  ⟨rep_init, by simp [SpecSt.init], by simp [St.init, SpecSt.init, HRel]⟩

/-- number of successful inserts of a script, read off its outputs -/
def insCount : List Op → List Out → Nat
  | op :: ops, o :: os => insOk op o + insCount ops os
  | _, _ => 0

/-- C13/C14 on M3, for whole scripts -/
theorem run_sim : ∀ (ops : List Op) (st : St) (sp : SpecSt) (L0 : List Nat), Sim st sp L0 →
    (run st ops).2 = (specRun sp ops).2 ∧
    (∃ L0', Sim (run st ops).1 (specRun sp ops).1 L0') ∧
    (run st ops).1.sl.stats.nodeAllocs = st.sl.stats.nodeAllocs + insCount ops (run st ops).2 := by
  intro ops
  induction ops with
  | nil => intro st sp L0 h; exact ⟨rfl, ⟨L0, h⟩, by simp [run, insCount]⟩
  | cons op ops ih =>
    intro st sp L0 h
    rcases step_sim h op with ⟨h1, ⟨L1, h2⟩, h3⟩
    rcases ih _ _ L1 h2 with ⟨i1, i2, i3⟩
    refine ⟨?_, ?_, ?_⟩
    · simp only [run, specRun]; rw [h1, i1]
    · simpa [run, specRun] using i2
    · simp only [run, insCount]
      rw [i3, h3]
      omega

theorem sim_of_rep {s : SL} {L : List Nat} (hr : Rep s L) :
    Sim { sl := s, handles := [] } { set := L.map (ikey s.nodes), handles := [] } L :=
  ⟨hr, rfl, by simp [HRel]⟩

theorem rep_continues {s : SL} {L : List Nat} (hr : Rep s L) {ks : List Int}
    (hk : L.map (ikey s.nodes) = ks) (later : List Op) :
    (run { sl := s, handles := [] } later).2 = (specRun { set := ks, handles := [] } later).2 :=
  hk ▸ (run_sim later _ _ _ (sim_of_rep hr)).1

theorem rep_observables {s : SL} {L : List Nat} (hr : Rep s L) {ks : List Int}
    (hk : L.map (ikey s.nodes) = ks) :
    (scanAll s).1 = s ∧ (scanAll s).2.map (keyOf s.nodes) = ks.map Key.item ∧ WF s ∧
    nodeCount s = (ks.length : Int) ∧
    ∀ later : List Op, (run { sl := s, handles := [] } later).2
      = (specRun { set := ks, handles := [] } later).2 := by
  refine ⟨by rw [scanAll_spec hr], ?_, hr.wf, ?_, rep_continues hr hk⟩
  · rw [scanAll_spec hr, keys_map hr, hk]
  · rw [hr.count, ← hk]; simp

theorem run_append : ∀ (a b : List Op) (st : St),
    run st (a ++ b) = ((run (run st a).1 b).1, (run st a).2 ++ (run (run st a).1 b).2) := by
  intro a
  induction a with
  | nil => intro b st; simp [run]
  | cons op a ih => intro b st; simp only [List.cons_append, run, ih]

theorem specRun_append : ∀ (a b : List Op) (sp : SpecSt),
    specRun sp (a ++ b) = ((specRun (specRun sp a).1 b).1, (specRun sp a).2 ++ (specRun (specRun sp a).1 b).2) := by
  intro a
  induction a with
  | nil => intro b sp; simp [specRun]
  | cons op r ih => intro b sp; simp [specRun, ih]

end NitroVerif.SkipSeq
