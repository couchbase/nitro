import NitroVerif.Lemmas.SkipConcInv
import NitroVerif.Lemmas.SkipConcSeg
/-!
  Thread-local invariant `TInv`, its stability under heap evolution, and the main preservation lemma
  `stepThread_good`: every segment of every thread keeps `HInv`, evolves the heap by `Ext` (H3, permanence of marks)
  and re-establishes the thread's own `TInv`; likewise every call entry (`startOp_good`).
-/
namespace NitroVerif.SkipConc

/-- the action buffer `buf.preds` / `buf.succs`: non-empty, every entry a published node, and a recorded successor of
    level `j` has that level or is the tail (only for `j ≤ MaxLevel`: an entry never written is `0`, the head, which
    has words up to MaxLevel only) -/
def BufOK (h : Heap) (preds succs : List Nat) : Prop :=
  0 < preds.length ∧ 0 < succs.length ∧ (∀ i, preds.getD i 0 < h.length) ∧ (∀ i, succs.getD i 0 < h.length) ∧
  (∀ j, j ≤ Gen.maxLevel → succs.getD j 0 = 1 ∨ (word? h (succs.getD j 0) j).isSome)

section
variable {h : Heap} {preds succs : List Nat} (b : BufOK h preds succs)
include b
theorem BufOK.preds_pos : 0 < preds.length := b.1
theorem BufOK.succs_pos : 0 < succs.length := b.2.1
theorem BufOK.pred_lt (i : Nat) : preds.getD i 0 < h.length := b.2.2.1 i
theorem BufOK.succ_lt (i : Nat) : succs.getD i 0 < h.length := b.2.2.2.1 i
theorem BufOK.succ_lv (j : Nat) (hj : j ≤ Gen.maxLevel) : succs.getD j 0 = 1 ∨ (word? h (succs.getD j 0) j).isSome :=
  b.2.2.2.2 j hj
end

/-- every iterator of the thread sits on published nodes -/
def ItersOK (h : Heap) (iters : List (Nat × Iter)) : Prop :=
  ∀ p ∈ iters, p.2.prev < h.length ∧ p.2.curr < h.length

/-- what findPath's caller needs to go on when the search returns: Insert4's published node `x` with its item,
    height and the level being linked (after `insUnlink` nothing is linked any more, so `x` and its key suffice);
    the iterator re-searches look for the item under the cursor -/
def ContInv (h : Heap) (th : Thread) (item : Nat) : Cont → Prop
  | .insFirst lvl => lvl ≤ Gen.maxLevel
  | .insRetry lvl => lvl ≤ Gen.maxLevel
  | .insRelink x lvl i => x < h.length ∧ keyOf h x = .fin item ∧ 1 ≤ i ∧ i ≤ lvl ∧ lvl ≤ Gen.maxLevel ∧
      heightOf h x = lvl
  | .insSuccDeleted x lvl i => x < h.length ∧ keyOf h x = .fin item ∧ 1 ≤ i ∧ i ≤ lvl ∧ lvl ≤ Gen.maxLevel ∧
      heightOf h x = lvl
  | .insUnlink x _ => x < h.length ∧ keyOf h x = .fin item
  /- the re-search of Iterator.Next looks for the item of the node under the cursor -/
  | .iterNext it => keyOf h (th.iter it).curr = .fin item
  /- so does the Seek of Refresh -/
  | .iterRefresh it => keyOf h (th.iter it).curr = .fin item
  | _ => True

/-- findPath: `prev`, `curr` are published and `key prev < item` -/
def FPInv (h : Heap) (th : Thread) (fp : FP) : Prop :=
  fp.prev < h.length ∧ fp.curr < h.length ∧ Key.lt (keyOf h fp.prev) (.fin fp.item) ∧
    ContInv h th fp.item fp.cont ∧ fp.i ≤ Gen.maxLevel

section
variable {h : Heap} {th : Thread} {fp : FP} (b : FPInv h th fp)
include b
theorem FPInv.prev_lt : fp.prev < h.length := b.1
theorem FPInv.curr_lt : fp.curr < h.length := b.2.1
theorem FPInv.key : Key.lt (keyOf h fp.prev) (.fin fp.item) := b.2.2.1
theorem FPInv.cont : ContInv h th fp.item fp.cont := b.2.2.2.1
theorem FPInv.lvl : fp.i ≤ Gen.maxLevel := b.2.2.2.2
end

/-- in the level loop `curr` was read from a level-`i` word, so it has that level (or is the tail) -/
def CurrLv (h : Heap) (fp : FP) : Prop := fp.curr = 1 ∨ (word? h fp.curr fp.i).isSome

/-- the locals of the yield point the thread is parked at: every node id is published; at HELP_DELETE the marked word
    that was read; at INS_PUBLISH `key preds[0] < item < key succs[0]`; at SOFT_MARK of level `i` all words above `i`
    are marked already (the H4 obligation of the next mark) -/
def PCInv (h : Heap) (th : Thread) : PC → Prop
  | .idle => True
  | .newLevel _ req level => level < req ∧ req ≤ Gen.maxLevel
  | .findLevel fp => FPInv h th fp
  | .findNext fp _ => FPInv h th fp ∧ CurrLv h fp
  | .helpDelete fp next => FPInv h th fp ∧ word? h fp.curr fp.i = some (next, true)
  | .insPublish item lvl =>
    Key.lt (keyOf h (th.pred 0)) (.fin item) ∧ Key.lt (.fin item) (keyOf h (th.succ 0)) ∧ lvl ≤ Gen.maxLevel
  | .insUpRead item x lvl i => x < h.length ∧ keyOf h x = .fin item ∧ 1 ≤ i ∧ i ≤ lvl ∧ lvl ≤ Gen.maxLevel ∧
      heightOf h x = lvl
  | .insUpLink item x lvl i next => x < h.length ∧ keyOf h x = .fin item ∧ 1 ≤ i ∧ next < h.length ∧ i ≤ lvl ∧
      lvl ≤ Gen.maxLevel ∧ heightOf h x = lvl
  | .softMark _ n i next _ =>
    n < h.length ∧ next < h.length ∧ ∀ l p m, i < l → word? h n l = some (p, m) → m = true
  | .delSearch _ => True
  | .iterNext it => ∃ k, keyOf h (th.iter it).curr = .fin k
  | .iterHelp it next =>
    word? h (th.iter it).curr 0 = some (next, true) ∧ ∃ k, keyOf h (th.iter it).curr = .fin k
  | .iterRefresh it => ∃ k, keyOf h (th.iter it).curr = .fin k

def TInv (h : Heap) (th : Thread) : Prop :=
  BufOK h th.preds th.succs ∧ ItersOK h th.iters ∧ PCInv h th th.pc

section
variable {h : Heap} {th : Thread}
theorem TInv.buf (b : TInv h th) : BufOK h th.preds th.succs := b.1
theorem TInv.iters (b : TInv h th) : ItersOK h th.iters := b.2.1
theorem TInv.pc (b : TInv h th) : PCInv h th th.pc := b.2.2
end

theorem ItersOK.setIter {h : Heap} {l : List (Nat × Iter)} (b : ItersOK h l) (it : Nat) (v : Iter)
    (hv : v.prev < h.length ∧ v.curr < h.length) : ItersOK h (SkipConc.setIter l it v) := by
  induction l with
  | nil => intro p hp; simp [SkipConc.setIter] at hp; subst hp; exact hv
  | cons a r ih =>
    intro p hp
    unfold SkipConc.setIter at hp
    split at hp
    · simp at hp
      rcases hp with rfl | hp
      · exact hv
      · exact b p (by simp [hp])
    · simp at hp
      rcases hp with rfl | hp
      · exact b _ (by simp)
      · exact ih (fun q hq => b q (by simp [hq])) p hp

theorem ItersOK.iter {h : Heap} {th : Thread} (b : ItersOK h th.iters) (hl : 2 ≤ h.length) (it : Nat) :
    (th.iter it).prev < h.length ∧ (th.iter it).curr < h.length := by
  unfold Thread.iter Thread.iter?
  cases hf : th.iters.find? (fun p => p.1 == it) with
  | none => simp; omega
  | some p => simp; exact b p (List.mem_of_find?_eq_some hf)

theorem TInv.curr_lt {h : Heap} {th : Thread} (hT : TInv h th) (H : HInv h) (it : Nat) :
    (th.iter it).curr < h.length :=
  (hT.iters.iter H.len it).2

theorem ItersOK.moveIter {h : Heap} {th : Thread} (b : ItersOK h th.iters) (it : Nat) {p c : Nat}
    (hp : p < h.length) (hc : c < h.length) : ItersOK h (th.moveIter it p c).iters :=
  b.setIter _ _ ⟨hp, hc⟩

theorem BufOK.ext {h h' : Heap} {p s : List Nat} (e : Ext h h') (b : BufOK h p s) : BufOK h' p s :=
  ⟨b.preds_pos, b.succs_pos, fun i => Nat.lt_of_lt_of_le (b.pred_lt i) e.len,
   fun i => Nat.lt_of_lt_of_le (b.succ_lt i) e.len,
   fun j hj => (b.succ_lv j hj).imp id fun h1 => by rw [e.dom _ _ (b.succ_lt j)]; exact h1⟩

theorem ItersOK.ext {h h' : Heap} {l : List (Nat × Iter)} (e : Ext h h') (b : ItersOK h l) : ItersOK h' l :=
  fun p hp => ⟨Nat.lt_of_lt_of_le (b p hp).1 e.len, Nat.lt_of_lt_of_le (b p hp).2 e.len⟩

/-- Insert4's record of its published node `x` while it links level `i` -/
def UpInv (h : Heap) (item x lvl i : Nat) : Prop :=
  x < h.length ∧ keyOf h x = .fin item ∧ 1 ≤ i ∧ i ≤ lvl ∧ lvl ≤ Gen.maxLevel ∧ heightOf h x = lvl

theorem UpInv.ext {h h' : Heap} (e : Ext h h') {item x lvl i : Nat} (b : UpInv h item x lvl i) : UpInv h' item x lvl i :=
  ⟨Nat.lt_of_lt_of_le b.1 e.len, (e.key _ b.1).trans b.2.1, b.2.2.1, b.2.2.2.1, b.2.2.2.2.1,
    (e.height _ b.1).trans b.2.2.2.2.2⟩

theorem UpInv.of_link {h : Heap} {th : Thread} {item x lvl i next : Nat}
    (b : PCInv h th (.insUpLink item x lvl i next)) : UpInv h item x lvl i :=
  ⟨b.1, b.2.1, b.2.2.1, b.2.2.2.2⟩

theorem UpInv.link {h : Heap} {th : Thread} {item x lvl i next : Nat} (b : UpInv h item x lvl i)
    (hn : next < h.length) : PCInv h th (.insUpLink item x lvl i next) :=
  ⟨b.1, b.2.1, b.2.2.1, hn, b.2.2.2⟩

theorem ContInv.ext {h h' : Heap} {th : Thread} {item : Nat} {c : Cont} (e : Ext h h') (b : ContInv h th item c) :
    ContInv h' th item c := by
  cases c with
  | insRelink | insSuccDeleted => exact UpInv.ext e b
  | insUnlink => exact ⟨Nat.lt_of_lt_of_le b.1 e.len, (e.key _ b.1).trans b.2⟩
  | iterNext | iterRefresh => exact (e.key _ (lt_of_keyOf_fin b)).trans b
  | _ => exact b

theorem FPInv.ext {h h' : Heap} {th : Thread} {fp : FP} (e : Ext h h') (b : FPInv h th fp) : FPInv h' th fp :=
  ⟨Nat.lt_of_lt_of_le b.prev_lt e.len, Nat.lt_of_lt_of_le b.curr_lt e.len, by rw [e.key _ b.prev_lt]; exact b.key,
   b.cont.ext e, b.lvl⟩

theorem CurrLv.ext {h h' : Heap} {fp : FP} (e : Ext h h') (hc : fp.curr < h.length) (b : CurrLv h fp) :
    CurrLv h' fp := by
  rcases b with b | b
  · exact .inl b
  · exact .inr (by rw [e.dom _ _ hc]; exact b)

theorem TInv.ext {h h' : Heap} {th : Thread} (e : Ext h h') (b : TInv h th) : TInv h' th := by
  obtain ⟨hb, hi, hp⟩ := b
  refine ⟨hb.ext e, hi.ext e, ?_⟩
  have key : ∀ {c k : Nat}, keyOf h c = .fin k → keyOf h' c = .fin k :=
    fun hk => (e.key _ (lt_of_keyOf_fin hk)).trans hk
  generalize th.pc = pc at hp ⊢
  cases pc with
  | idle | delSearch => trivial
  | newLevel => exact hp
  | findLevel => exact hp.ext e
  | findNext => exact ⟨hp.1.ext e, hp.2.ext e hp.1.curr_lt⟩
  | helpDelete => exact ⟨hp.1.ext e, e.marked _ _ _ hp.2⟩
  | insPublish =>
    exact ⟨(e.key _ (hb.pred_lt 0)).symm ▸ hp.1, (e.key _ (hb.succ_lt 0)).symm ▸ hp.2.1, hp.2.2⟩
  | insUpRead => exact UpInv.ext e hp
  | insUpLink => exact ((UpInv.of_link hp).ext e).link (Nat.lt_of_lt_of_le hp.2.2.2.1 e.len)
  | softMark _ n i =>
    refine ⟨Nat.lt_of_lt_of_le hp.1 e.len, Nat.lt_of_lt_of_le hp.2.1 e.len, fun l p m hl hw => ?_⟩
    -- the word existed before, marked (the invariant); marked words do not change
    obtain ⟨⟨p', m'⟩, hw'⟩ := Option.isSome_iff_exists.mp ((e.dom _ l hp.1).mp (by rw [hw]; rfl))
    have hm : m' = true := hp.2.2 l p' m' hl hw'
    subst hm
    rw [e.marked _ _ _ hw'] at hw
    cases hw; rfl
  | iterNext | iterRefresh => exact hp.elim fun k hk => ⟨k, key hk⟩
  | iterHelp => exact ⟨e.marked _ _ _ hp.1, hp.2.elim fun k hk => ⟨k, key hk⟩⟩

/-- `h0`: the heap before the segment -/
def Good (h0 : Heap) (r : Res) : Prop :=
  HInv r.1.heap ∧ Ext h0 r.1.heap ∧ TInv r.1.heap r.2.1

theorem startFind_tinv {sh : Shared} {th : Thread} (item : Nat) (cont : Cont) (H : HInv sh.heap)
    (hlv : sh.level ≤ Gen.maxLevel) (hb : BufOK sh.heap th.preds th.succs) (hi : ItersOK sh.heap th.iters)
    (hc : ContInv sh.heap th item cont) : TInv sh.heap (startFind sh th item cont).2.1 := by
  refine ⟨hb, hi, ?_⟩
  simp only [startFind, PCInv, FPInv, headId]
  have h0 := Nat.lt_of_lt_of_le Nat.zero_lt_two H.len
  refine ⟨h0, h0, ?_, hc, hlv⟩
  rw [H.headKey]; exact Key.neg_lt_fin _

theorem enterSoft_tinv {sh : Shared} {th : Thread} (item n i : Nat) (marked : Bool) (H : HInv sh.heap)
    (hb : BufOK sh.heap th.preds th.succs) (hi : ItersOK sh.heap th.iters) (hn : n < sh.heap.length)
    (hup : ∀ l p m, i < l → word? sh.heap n l = some (p, m) → m = true) :
    TInv sh.heap (enterSoft sh th item n i marked).2.1 := by
  unfold enterSoft
  split
  · rename_i j next hs
    obtain ⟨h1, h2, h3⟩ := softScan_spec _ _ _ _ _ hs
    refine ⟨hb, hi, ?_⟩
    simp only [PCInv]
    refine ⟨hn, by rw [h2]; exact H.getNext_lt _ _, fun l p m hl hw => ?_⟩
    by_cases hli : l ≤ i
    · have := word?_of_getNext_marked (h3 l hl hli)
      rw [this] at hw; simp at hw; exact hw.2
    · exact hup l p m (by omega) hw
  · split
    · exact ⟨hb, hi, trivial⟩
    · exact ⟨hb, hi, trivial⟩

theorem afterNext_tinv {sh : Shared} {th : Thread} (it : Nat) (H : HInv sh.heap)
    (hb : BufOK sh.heap th.preds th.succs) (hi : ItersOK sh.heap th.iters) :
    TInv sh.heap (afterNext sh th it).2.1 := by
  have hI := hi.iter H.len it
  obtain ⟨v, hv1, hv2, h | ⟨⟨k, hk⟩, h⟩⟩ := afterNext_cases sh th it <;> rw [h]
  · exact ⟨hb, hi.setIter _ _ (hv1 ▸ hv2 ▸ hI), trivial⟩
  · refine ⟨hb, hi.setIter _ _ (hv1 ▸ hv2 ▸ hI), k, ?_⟩
    show keyOf sh.heap ((th.setIter it v).iter it).curr = .fin k
    rw [iter_setIter_self, hv2]; exact hk

theorem finishFind_tinv {sh : Shared} {th : Thread} (item : Nat) (found : Bool) (cont : Cont) (H : HInv sh.heap)
    (hb : BufOK sh.heap th.preds th.succs) (hi : ItersOK sh.heap th.iters) (hc : ContInv sh.heap th item cont)
    (hk : found = false → Key.lt (keyOf sh.heap (th.pred 0)) (.fin item) ∧
                          Key.lt (.fin item) (keyOf sh.heap (th.succ 0)))
    (hfk : found = true → keyOf sh.heap (th.succ 0) = .fin item) :
    TInv sh.heap (finishFind sh th item found cont).2.1 := by
  have hp0 : th.pred 0 < sh.heap.length := hb.pred_lt 0
  have hs0 : th.succ 0 < sh.heap.length := hb.succ_lt 0
  have s := finishFind_cases sh th item found cont
  generalize finishFind sh th item found cont = r at s ⊢
  cases s with
  | insFirstMiss | insRetryMiss => exact ⟨hb, hi, (hk rfl).1, (hk rfl).2, hc⟩
  | insRelink | insSuccDeleted => exact ⟨hb, hi, hc⟩
  | delHit =>
    exact enterSoft_tinv _ _ _ _ H hb hi hs0 (fun l p m hl hw => absurd (H.wordLevel _ _ _ hw) (Nat.not_le_of_lt hl))
  | @iterAgain it _ =>
    refine ⟨hb, hi.moveIter it hp0 hs0, item, ?_⟩
    show keyOf sh.heap ((th.moveIter it (th.pred 0) (th.succ 0)).iter it).curr = .fin item
    rw [moveIter_iter]
    exact hfk rfl
  | @iterDone _ it => exact afterNext_tinv (th := th.moveIter it (th.pred 0) (th.succ 0)) it H hb (hi.moveIter it hp0 hs0)
  | iterSeek | iterRefresh => exact ⟨hb, hi.moveIter _ hp0 hs0, trivial⟩
  | _ => exact ⟨hb, hi, trivial⟩

theorem BufOK.record {h : Heap} {preds succs : List Nat} (hb : BufOK h preds succs) {i prev curr : Nat}
    (hp : prev < h.length) (hc : curr < h.length) (hlv : curr = 1 ∨ (word? h curr i).isSome) :
    BufOK h (preds.set i prev) (succs.set i curr) := by
  refine ⟨by simpa using hb.preds_pos, by simpa using hb.succs_pos, getD_set_lt_bound hp hb.pred_lt, getD_set_lt_bound hc hb.succ_lt, ?_⟩
  intro j hj
  by_cases hij : i = j
  · subst hij
    by_cases hil : i < succs.length
    · rw [getD_set_same hil]; exact hlv
    · rw [List.set_eq_of_length_le (by omega)]; exact hb.succ_lv i hj
  · rw [getD_set_ne hij]; exact hb.succ_lv j hj

theorem publish_HInv {h : Heap} (H : HInv h) (th : Thread) (item lvl : Nat)
    (hb : BufOK h th.preds th.succs) (hlvl : lvl ≤ Gen.maxLevel)
    (hk1 : Key.lt (keyOf h (th.pred 0)) (.fin item)) (hk2 : Key.lt (.fin item) (keyOf h (th.succ 0)))
    (hw : word? h (th.pred 0) 0 = some (th.succ 0, false)) :
    HInv (setWord h (th.pred 0) 0 (h.length, false) ++ [newNode th item lvl]) := by
  have hp : th.pred 0 < h.length := hb.pred_lt 0
  rw [setWord_append h _ hp]
  have HA : HInv (h ++ [newNode th item lvl]) := by
    refine H.append _ item rfl ?_ ?_ ?_ (by simp [newNode]) ?_ ?_
    · intro l w hw'; exact (newNode_getElem? _ _ _ _ hw').1
    · intro l p m hw'
      have := (newNode_getElem? _ _ _ _ hw').2
      simp at this
      exact ⟨by rw [this.1]; exact hb.succ_lt l, this.2⟩
    · intro p m hw'
      have := (newNode_getElem? _ _ _ _ hw').2
      simp at this
      rw [this.1]; exact hk2
    · intro l hl; exact newNode_isSome _ _ _ _ hl
    · intro l p m hw'
      have h1 := newNode_getElem? _ _ _ _ hw'
      have := h1.2
      simp at this
      rw [this.1]; exact hb.succ_lv l (by omega)
  refine HA.setUnmarked (e := th.succ 0) ?_ ?_ ?_
  · rw [word?_append_lt h _ hp]; exact hw
  · intro _
    rw [keyOf_append_lt h _ hp, keyOf_append_new]
    exact hk1
  · exact .inr (by rw [word?_append_new]; simp [newNode])

theorem publish_newNode (h : Heap) (th : Thread) (item lvl : Nat) :
    h.length < (setWord h (th.pred 0) 0 (h.length, false) ++ [newNode th item lvl]).length ∧
    keyOf (setWord h (th.pred 0) 0 (h.length, false) ++ [newNode th item lvl]) h.length = .fin item ∧
    heightOf (setWord h (th.pred 0) 0 (h.length, false) ++ [newNode th item lvl]) h.length = lvl := by
  refine ⟨?_, ?_, heightOf_publish ..⟩
  · rw [List.length_append, length_setWord]; exact Nat.lt_succ_self _
  · have := keyOf_append_new (setWord h (th.pred 0) 0 (h.length, false)) (newNode th item lvl)
    rw [length_setWord] at this; exact this

theorem insCheckSucc_tinv {sh : Shared} {th : Thread} (item x lvl i next : Nat) (H : HInv sh.heap)
    (hlv : sh.level ≤ Gen.maxLevel) (hb : BufOK sh.heap th.preds th.succs) (hi : ItersOK sh.heap th.iters)
    (hp : PCInv sh.heap th (.insUpRead item x lvl i)) (hn : next < sh.heap.length) :
    TInv sh.heap (insCheckSucc sh th item x lvl i next).2.1 := by
  rcases insCheckSucc_cases sh th item x lvl i next with h | h <;> rw [h]
  · exact startFind_tinv _ _ H hlv hb hi hp
  · exact ⟨hb, hi, UpInv.link hp hn⟩

theorem read_ok {h : Heap} {th : Thread} {fp : FP} (H : HInv h) (hf : FPInv h th fp) (hcl : CurrLv h fp) {rr : Bool}
    {c : Nat} (hc : c = readNode h fp rr) :
    c < h.length ∧ (c = 1 ∨ (word? h c fp.i).isSome) := by
  rw [hc]
  cases rr with
  | true => exact ⟨H.getNext_lt _ _, H.getNext_lv _ _ hf.lvl⟩
  | false => exact ⟨hf.curr_lt, hcl⟩

theorem Wr.good {h h' : Heap} {th : Thread} {pc : PC} (w : Wr h th pc h') (H : HInv h)
    (hb : BufOK h th.preds th.succs) (hp : PCInv h th pc) : HInv h' ∧ Ext h h' := by
  cases w with
  | none => exact ⟨H, Ext.refl _⟩
  | unlink hw => exact ⟨H.unlink hw hp.2, Ext.setWord hw _⟩
  | iterUnlink hw => exact ⟨H.unlink hw hp.1, Ext.setWord hw _⟩
  | publish hw =>
    exact ⟨publish_HInv H th _ _ hb hp.2.2 hp.1 hp.2.1 hw, (Ext.setWord hw _).trans (Ext.append _ _)⟩
  | @own item x lvl i e hw =>
    obtain ⟨_, _, h1, hil, hlvl, _⟩ := hp
    exact ⟨H.setUnmarked hw (fun h0 => by rw [h0] at h1; cases h1)
      (hb.succ_lv i (Nat.le_trans hil hlvl)), Ext.setWord hw _⟩
  | @link item x lvl i next hw =>
    obtain ⟨hx, hkx, h1, hil, _, hhx⟩ := UpInv.of_link hp
    have hx1 : x ≠ 1 := fun c => by rw [c, H.tailKey] at hkx; cases hkx
    exact ⟨H.setUnmarked hw (fun h0 => by rw [h0] at h1; cases h1)
      (.inr (H.full x i hx hx1 (by rw [hhx]; exact hil))), Ext.setWord hw _⟩
  | mark hw => exact ⟨H.setMark hw hp.2.2, Ext.setWord hw _⟩

theorem Seg.tinv {sh : Shared} {th : Thread} {pc : PC} {r : Res} (s : Seg sh th pc r) (H : HInv sh.heap)
    (hlv : sh.level ≤ Gen.maxLevel) (hT : TInv sh.heap th) (hpc : th.pc = pc) (H' : HInv r.1.heap)
    (e : Ext sh.heap r.1.heap) : TInv r.1.heap r.2.1 := by
  have h2 := H.len
  -- what the thread knew: in the old heap (`hb`, `hi`, `hp`) for the segments that only read, and moved to the new
  -- heap once (`hb'`, `hi'`, `hp'`) for those that write
  obtain ⟨hb', hi', hp'⟩ := hT.ext e
  obtain ⟨hb, hi, hp⟩ := hT
  rw [hpc] at hp hp'
  induction s with
  | idle h => exact ⟨hb, hi, by rw [h]; trivial⟩
  | newLevelBump hl =>
    exact startFind_tinv (sh := { sh with level := _ }) _ _ H (Nat.le_trans hp.1 hp.2) hb hi (Nat.le_trans hp.1 hp.2)
  | newLevelKeep hl => exact startFind_tinv _ _ H hlv hb hi (Nat.le_trans (Nat.le_of_lt hp.1) hp.2)
  | findLevel =>
    exact ⟨hb, hi, ⟨hp.prev_lt, H.getNext_lt _ _, hp.key, hp.cont, hp.lvl⟩, H.getNext_lv _ _ hp.lvl⟩
  | readMarked hc hm =>
    exact ⟨hb, hi, ⟨hp.1.prev_lt, (read_ok H hp.1 hp.2 hc).1, hp.1.key, hp.1.cont, hp.1.lvl⟩,
      word?_of_getNext_marked hm⟩
  | readAdvance hc hm ha =>
    exact ⟨hb, hi,
      ⟨(read_ok H hp.1 hp.2 hc).1, H.getNext_lt _ _, (compare_neg_iff _ _).mp ((Gen.findAdvance_iff _).mp ha),
        hp.1.cont, hp.1.lvl⟩,
      H.getNext_lv _ _ hp.1.lvl⟩
  | readDown hc hm ha hi0 =>
    obtain ⟨c1, c2⟩ := read_ok H hp.1 hp.2 hc
    have f5 := hp.1.lvl
    rw [hi0] at c2 f5
    exact ⟨hb.record hp.1.prev_lt c1 c2, hi, hp.1.prev_lt, c1, hp.1.key, hp.1.cont, Nat.le_of_succ_le f5⟩
  | @readEnd fp rr c hc hm ha hi0 =>
    obtain ⟨c1, c2⟩ := read_ok H hp.1 hp.2 hc
    rw [hi0] at c2
    rw [(finishFind_shared ..).1]
    -- `preds[0]`, `succs[0]` are `prev`, `c`; the last comparison decides between hit and bracket
    refine finishFind_tinv _ _ _ H (hb.record hp.1.prev_lt c1 c2) hi hp.1.cont (fun hnf => ?_) (fun hfd => ?_)
    · simp only [Thread.pred, Thread.succ]
      rw [getD_set_same hb.preds_pos, getD_set_same hb.succs_pos]
      refine ⟨hp.1.key, (compare_pos_iff _ _).mp ?_⟩
      have h1 : ¬ compare (keyOf sh.heap c) (.fin fp.item) < 0 := fun x => ha ((Gen.findAdvance_iff _).mpr x)
      have h0 : ¬ compare (keyOf sh.heap c) (.fin fp.item) = 0 := fun x => by
        rw [(Gen.findFound_iff _).mpr x] at hnf; cases hnf
      omega
    · simp only [Thread.succ]
      rw [getD_set_same hb.succs_pos]
      exact (compare_zero_iff _ _).mp ((Gen.findFound_iff _).mp hfd)
  | helpOk hw =>
    rw [helpStats_heap] at hb' hi' hp' ⊢
    exact ⟨hb', hi', hp'.1, .inr (by rw [hp'.2]; rfl)⟩
  | helpFail hw =>
    exact ⟨hb, hi, Nat.lt_of_lt_of_le Nat.zero_lt_two h2, hp.1.curr_lt,
      by show Key.lt (keyOf sh.heap 0) _; rw [H.headKey]; exact Key.neg_lt_fin _, hp.1.cont, hlv⟩
  | publishUp hw hl =>
    obtain ⟨hx, hkx, hhx⟩ := publish_newNode sh.heap th _ _
    exact ⟨hb', hi', hx, hkx, Nat.le_refl _, hl, hp.2.2, hhx⟩
  | publishDone hw hl => exact ⟨hb', hi', trivial⟩
  | publishFail hw => exact startFind_tinv (sh := { sh with stats := _ }) _ _ H hlv hb hi hp.2.2
  | upReadMarked hm | upReadLost hm _ _ => exact ⟨hb, hi, trivial⟩
  | @upReadOwn item x lvl i hm hn hw =>
    rw [insCheckSucc_sh] at H' hb' hi' hp' ⊢
    exact insCheckSucc_tinv (sh := { sh with heap := _ }) _ _ _ _ _ H' hlv hb' hi' hp' (hb'.succ_lt i)
  | @upReadSame item x lvl i hm hn =>
    rw [insCheckSucc_sh]; exact insCheckSucc_tinv _ _ _ _ _ H hlv hb hi hp (hb.succ_lt i)
  | upLinkMarked hw hm =>
    exact startFind_tinv (sh := { sh with heap := _ }) _ _ H' hlv hb' hi' ⟨hp'.1, hp'.2.1⟩
  | upLinkNext hw hm hl =>
    obtain ⟨hx, hkx, h1, _, hlvl, hhx⟩ := UpInv.of_link hp'
    exact ⟨hb', hi', hx, hkx, Nat.le_succ_of_le h1, hl, hlvl, hhx⟩
  | upLinkDone hw hm hl => exact ⟨hb', hi', trivial⟩
  | upLinkFail hw =>
    exact startFind_tinv _ _ H hlv hb hi (UpInv.of_link hp)
  | softWin hw =>
    rw [enterSoft_sh] at H' hb' hi' hp' ⊢
    exact enterSoft_tinv (sh := { sh with heap := _, stats := _ }) _ _ _ _ H' hb' hi' hp'.1 hp'.2.2
  | softUp hw =>
    rw [enterSoft_sh] at H' hb' hi' hp' ⊢
    exact enterSoft_tinv (sh := { sh with heap := _ }) _ _ _ _ H' hb' hi' hp'.1 hp'.2.2
  | softLost hw => rw [enterSoft_sh]; exact enterSoft_tinv _ _ _ _ H hb hi hp.1 hp.2.2
  | delSearch => exact startFind_tinv _ _ H hlv hb hi trivial
  | iterNextMarked hm => exact ⟨hb, hi, word?_of_getNext_marked hm, hp⟩
  | @iterNextMove it hm =>
    rw [afterNext_sh]
    exact afterNext_tinv (th := th.moveIter it _ _) it H hb (hi.moveIter it (hi.iter h2 it).2 (H.getNext_lt _ _))
  | @iterHelpOk it next hw =>
    rw [afterNext_sh] at H' hb' hi' e ⊢
    exact afterNext_tinv (th := th.moveIter it _ _) it H' hb'
      (hi'.moveIter it (hi'.iter H'.len it).1 (Nat.lt_of_lt_of_le (H.lt_of_word hp.1) e.len))
  | iterHelpFail hw =>
    obtain ⟨_, k, hk⟩ := hp
    exact startFind_tinv (sh := bumpReadConflicts sh) _ _ H hlv hb hi (by show keyOf sh.heap _ = _; rw [hk]; rfl)
  | iterRefresh =>
    obtain ⟨k, hk⟩ := hp
    exact startFind_tinv _ _ H hlv hb hi (by show keyOf sh.heap _ = _; rw [hk]; rfl)

theorem stepThread_good {sh : Shared} {th : Thread} (H : HInv sh.heap) (hlv : sh.level ≤ Gen.maxLevel)
    (hT : TInv sh.heap th) : Good sh.heap (stepThread sh th) := by
  have s := stepThread_seg sh th
  obtain ⟨H', e⟩ := s.wr.good H hT.buf hT.pc
  exact ⟨H', e, s.tinv H hlv hT rfl H' e⟩

/-- `s.level` never exceeds MaxLevel (NewLevel bumps it only below the clamped request) and never decreases -/
theorem stepThread_level {sh : Shared} {th : Thread} (hlv : sh.level ≤ Gen.maxLevel) (hT : TInv sh.heap th) :
    (stepThread sh th).1.level ≤ Gen.maxLevel ∧ sh.level ≤ (stepThread sh th).1.level := by
  rcases (stepThread_seg sh th).config.2 with h | ⟨item, req, hpc, h⟩
  · rw [h]; exact ⟨hlv, Nat.le_refl _⟩
  · have hp := hT.pc
    rw [hpc] at hp
    rw [h]; exact ⟨Nat.le_trans hp.1 hp.2, Nat.le_succ _⟩

theorem startOp_good {sh : Shared} {th : Thread} (op : Op) (H : HInv sh.heap) (hlv : sh.level ≤ Gen.maxLevel)
    (hT : TInv sh.heap th) (hidle : th.pc = .idle) : Good sh.heap (startOp sh th op) := by
  obtain ⟨hb, hi, _⟩ := hT
  have s := startOp_cases sh th op
  generalize startOp sh th op = r at s ⊢
  have idle : ∀ {th' : Thread}, th'.pc = th.pc → PCInv sh.heap th' th'.pc := fun h => by rw [h, hidle]; trivial
  cases s with
  | insLevel hbump => exact ⟨H, Ext.refl _, hb, hi, (Gen.newLevelBump_iff _ _).mp hbump, Gen.newLevelClamp_le _⟩
  | insFind => exact ⟨H, Ext.refl _, startFind_tinv _ _ H hlv hb hi (Gen.newLevelClamp_le _)⟩
  | del | look | itSeek => exact ⟨H, Ext.refl _, startFind_tinv _ _ H hlv hb hi trivial⟩
  | itFirst =>
    exact ⟨H, Ext.refl _, hb, hi.moveIter _ (Nat.lt_of_lt_of_le Nat.zero_lt_two H.len) (H.getNext_lt _ _), idle rfl⟩
  | @itNext it k I hI hk | @itRefresh it k I hI hk =>
    refine ⟨H, Ext.refl _, hb, hi, k, ?_⟩
    show keyOf sh.heap ((th.iter? it).getD _).curr = _
    rw [hI]; exact hk
  | itClose => exact ⟨H, Ext.refl _, hb, fun p hp => hi p (List.mem_filter.mp hp).1, idle rfl⟩
  | itInterval hI => exact ⟨H, Ext.refl _, hb, hi.setIter _ _ (hi _ (mem_of_iter? hI)), idle rfl⟩
  | nextRefused | closeRefused | intervalRefused | refreshRefused => exact ⟨H, Ext.refl _, hb, hi, idle rfl⟩

end NitroVerif.SkipConc
