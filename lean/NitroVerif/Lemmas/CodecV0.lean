import NitroVerif.Lemmas.Codec
/-!
  A version-0 reader over a file written with 4-byte lengths (nitro.json removed or altered, C11): it
  takes the high half of the first length field for a 2-byte length, so it sees an empty shard when
  the first item is shorter than 2^16 bytes, and never the written items of a non-empty shard.
-/
namespace NitroVerif.Codec

theorem readFile_v0_zero_head (h : Bytes → Nat) (tail : Bytes) :
    readFile h 0 (beBytes 2 0 ++ tail) = .ok [] 0 tail := by
  unfold readFile
  simp only [List.length_append, length_beBytes]
  unfold readLoop
  rw [decodeItem_header lenWidth_zero 0 (Nat.pow_pos (by decide)), if_pos rfl]
  rfl

theorem writeFile_v0_head (part : List Bytes) (rest : Bytes) :
    ∃ tail, writeFile part ++ rest = beBytes 2 ((part.head?.getD []).length / 65536) ++ tail := by
  rw [writeFile_eq_frames]
  cases part with
  | nil => exact ⟨beBytes 2 0 ++ rest, by simp [frame, beBytes_add 2 2]⟩
  | cons d ds =>
    exact ⟨beBytes 2 d.length ++ d ++ (ds.flatMap (frame 4) ++ frame 4 [] ++ rest),
      by simp [frame, beBytes_add 2 2, List.append_assoc]⟩

theorem readFile_v0_small (h : Bytes → Nat) (part : List Bytes) (rest : Bytes)
    (hsmall : ∀ d ∈ part.head?, d.length < 2 ^ 16) :
    ∃ tail, readFile h 0 (writeFile part ++ rest) = .ok [] 0 tail := by
  obtain ⟨tail, ht⟩ := writeFile_v0_head part rest
  have h0 : (part.head?.getD []).length / 65536 = 0 := by
    cases hd : part.head? with
    | none => rfl
    | some d => exact Nat.div_eq_of_lt (hsmall d hd)
  exact ⟨tail, by rw [ht, h0, readFile_v0_zero_head]⟩

/-- only the first item's length is looked at: the reader fails, or sees an empty shard, or its
    first item is shorter than the first item written -/
theorem readFile_v0_ne (h : Bytes → Nat) (part : List Bytes)
    (hp : ∀ d ∈ part.head?, 0 < d.length ∧ d.length < 2 ^ 32) (hne : part ≠ [])
    (rest : Bytes) (items : List Bytes) (sum : Nat) (r : Bytes)
    (hr : readFile h 0 (writeFile part ++ rest) = .ok items sum r) : items ≠ part := by
  cases part with
  | nil => exact absurd rfl hne
  | cons d ds =>
    have hd := hp d rfl
    obtain ⟨tail, ht⟩ := writeFile_v0_head (d :: ds) rest
    -- the first two bytes announce `d.length / 65536 < d.length` bytes
    have hhi : d.length / 65536 < 256 ^ 2 := Nat.div_lt_of_lt_mul hd.2
    have hlt : d.length / 65536 < d.length := Nat.div_lt_self hd.1 (by decide)
    rw [ht, readFile, readLoop, List.head?_cons, Option.getD_some,
      decodeItem_header lenWidth_zero _ hhi] at hr
    intro he
    subst he
    by_cases h0 : d.length / 65536 = 0
    · rw [if_pos h0] at hr
      cases hr
    · rw [if_neg h0] at hr
      by_cases hs : tail.length < d.length / 65536
      · rw [if_pos hs] at hr
        cases hr
      · rw [if_neg hs] at hr
        obtain ⟨t, ht'⟩ : [tail.take (d.length / 65536)].reverse <+: (ReadResult.ok (d :: ds) sum r).items :=
          hr ▸ readLoop_acc_prefix h 0 _ _ _ _
        have := congrArg List.length (List.cons.inj ht').1
        rw [List.length_take] at this
        omega

end NitroVerif.Codec
