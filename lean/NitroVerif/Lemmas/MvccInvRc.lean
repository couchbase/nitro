/-
  Reference-count updates of one snapshot (`Open`, `Close`, iterator creation and destruction): everything of
  the invariant except the "frontier snapshot is live" clause is preserved, and that clause too while the snapshot
  stays live.
-/
import NitroVerif.Lemmas.MvccInv

namespace NitroVerif.Mvcc
open SetSpec

structure PreGC (σ : State) : Prop where
  sorted : Sorted σ.store
  chains : Chains σ.currSn σ.store
  count : CountInv σ.store σ.writers σ.itemsCount
  lt : ∀ s ∈ σ.snaps, 0 < s.sn ∧ s.sn < σ.currSn
  all : ∀ n, 0 < n → n < σ.currSn → ∃ s ∈ σ.snaps, s.sn = n
  inc : σ.snaps.Pairwise (fun a b => a.sn < b.sn)
  rc : ∀ s ∈ σ.snaps, 0 ≤ s.rc ∧ (s.st = .live ↔ 0 < s.rc)
  gclt : σ.lastGCSn < σ.currSn
  coll : ∀ s ∈ σ.snaps, (s.st = .collected ↔ s.sn ≤ σ.lastGCSn)
  cnt : ∀ s ∈ σ.snaps, s.count = (s.content.length : Nat)
  view : ViewInv σ.store σ.snaps
  garb : GarbInv σ.store σ.writers σ.snaps σ.currSn σ.lastGCSn
  iters : IterInv σ.iters σ.snaps
  handles : HandleInv σ.handles σ.store σ.currSn

theorem Inv.pre {σ : State} (h : Inv σ) : PreGC σ :=
  ⟨h.sorted, h.chains, h.count, h.snaps.lt, h.snaps.all, h.snaps.inc, h.snaps.rc, h.snaps.gclt,
   h.snaps.coll, h.snaps.cnt, h.view, h.garb, h.iters, h.handles⟩

theorem PreGC.inv {σ : State} (h : PreGC σ)
    (hf : ∀ s ∈ σ.snaps, s.sn = σ.lastGCSn + 1 → s.st = .live) : Inv σ :=
  ⟨h.sorted, h.chains, h.count, ⟨h.lt, h.all, h.inc, h.rc, h.gclt, h.coll, hf, h.cnt⟩, h.view, h.garb,
   h.iters, h.handles⟩

/-- `iters'` may replace the iterator table when snapshot `s` is left with `rc` references -/
structure ItersOk (σ : State) (s : Nat) (iters' : List (Nat × Iter)) (rc : Int) : Prop where
  snap : ∀ p ∈ iters', ∃ s ∈ σ.snaps, s.sn = p.2.sn ∧ ∀ v, p.2.cur = some v → v.norm ∈ s.content
  refs : itersOn s iters' ≤ rc
  other : ∀ n, n ≠ s → itersOn n iters' ≤ itersOn n σ.iters

theorem ItersOk.same {σ : State} (h : Inv σ) {s : Nat} {rc : Int} (hle : itersOn s σ.iters ≤ rc) :
    ItersOk σ s σ.iters rc :=
  ⟨h.iters.snap, hle, fun _ _ => Int.le_refl _⟩

/-- instances: `rc + d` with `st` kept (`inv_rc`); `rc - 1` with `st := .retired` (`pre_retire`) -/
theorem pre_updSnap {σ : State} (h : Inv σ) {s : Nat} {x : Snap} (hx : findSnap s σ.snaps = some x)
    (f : Snap → Snap) (iters' : List (Nat × Iter))
    (hf : ∀ y, SameSnap y (f y))
    (hrc0 : 0 ≤ (f x).rc) (hlive : (f x).st = .live ↔ 0 < (f x).rc)
    (hcoll : (f x).st = .collected ↔ x.st = .collected)
    (hview : 0 < (f x).rc → 0 < x.rc)
    (hok : ItersOk σ s iters' (f x).rc) :
    PreGC { σ with snaps := updSnap s f σ.snaps, iters := iters' } := by
  have ⟨hxm, hxs⟩ := findSnap_some hx
  have hg := h.garb
  have hs := h.snaps
  have all' := @forall_updSnap _ hs.inc _ _ hx f
  have ex' := @exists_updSnap _ hs.inc _ _ hx f (hf x)
  obtain ⟨hsn, hcount, hcontent, hgclist⟩ := hf x
  refine ⟨h.sorted, h.chains, h.count, ?_, ?_, ?_, ?_, hs.gclt, ?_, ?_, ?_, ?_, ?_, h.handles⟩
  · exact all' (fun z hz _ => hs.lt z hz) (hsn ▸ hs.lt x hxm)
  · intro n h0 hn
    obtain ⟨z, hz, hzn⟩ := hs.all n h0 hn
    obtain ⟨y, hy, hzy⟩ := ex' hz
    exact ⟨y, hy, hzy.1.trans hzn⟩
  · exact updSnap_pairwise hs.inc s f fun y => (hf y).1
  · exact all' (fun z hz _ => hs.rc z hz) ⟨hrc0, hlive⟩
  · exact all' (fun z hz _ => hs.coll z hz) (hsn ▸ hcoll.trans (hs.coll x hxm))
  · exact all' (fun z hz _ => hs.cnt z hz) (hcount ▸ hcontent ▸ hs.cnt x hxm)
  · exact all' (fun z hz _ => h.view z hz) fun hrc => hsn ▸ hcontent ▸ h.view x hxm (hview hrc)
  · refine ⟨hg.wgc, ?_, hg.wsound, ?_, hg.exact, hg.wpres, ?_⟩
    · intro v hv hd hlt
      obtain ⟨z, hz, hzs, g, hgm, hgs⟩ := hg.sgc v hv hd hlt
      obtain ⟨y, hy, hzy⟩ := ex' hz
      exact ⟨y, hy, hzy.1.trans hzs, g, hzy.2.2.2 ▸ hgm, hgs⟩
    · exact all' (fun z hz _ => hg.ssound z hz)
        fun hst => hsn ▸ hgclist ▸ hg.ssound x hxm fun hc => hst (hcoll.mpr hc)
    · exact all' (fun z hz _ => hg.spres z hz)
        fun hst => hgclist ▸ hg.spres x hxm fun hc => hst (hcoll.mpr hc)
  · refine ⟨fun p hp => ?_, ?_⟩
    · obtain ⟨z, hz, hzs, hc⟩ := hok.snap p hp
      obtain ⟨y, hy, hzy⟩ := ex' hz
      exact ⟨y, hy, hzy.1.trans hzs, hzy.2.2.1 ▸ hc⟩
    · exact all' (fun z hz hne => Int.le_trans (hok.other z.sn hne) (h.iters.refs z hz))
        (hsn ▸ hxs ▸ hok.refs)

theorem inv_rc {σ : State} (h : Inv σ) {s : Nat} {x : Snap} (hx : findSnap s σ.snaps = some x) (d : Int)
    (hpos : 0 < x.rc) (hpos' : 0 < x.rc + d) (iters' : List (Nat × Iter))
    (hok : ItersOk σ s iters' (x.rc + d)) :
    Inv { σ with snaps := updSnap s (fun y => { y with rc := y.rc + d }) σ.snaps, iters := iters' } := by
  have hlive := (h.snaps.rc x (findSnap_some hx).1).2.mpr hpos
  have hp := pre_updSnap h hx (fun y => { y with rc := y.rc + d }) iters' (fun _ => ⟨rfl, rfl, rfl, rfl⟩)
    (Int.le_of_lt hpos') ⟨fun _ => hpos', fun _ => hlive⟩ Iff.rfl (fun _ => hpos) hok
  exact hp.inv (forall_updSnap h.snaps.inc hx _ (fun z hz _ => h.snaps.front z hz)
    (h.snaps.front x (findSnap_some hx).1))

theorem inv_open {σ : State} (h : Inv σ) {s : Nat} {x : Snap} (hx : findSnap s σ.snaps = some x)
    (hrc : x.rc ≠ 0) (iters' : List (Nat × Iter))
    (hok : ItersOk σ s iters' (x.rc + 1)) :
    Inv { (openSnap σ s) with iters := iters' } := by
  have hx0 := (h.snaps.rc x (findSnap_some hx).1).1
  exact inv_rc h hx 1 (Int.lt_iff_le_and_ne.mpr ⟨hx0, Ne.symm hrc⟩) (Int.lt_add_one_of_le hx0) iters' hok

theorem pre_retire {σ : State} (h : Inv σ) {s : Nat} {x : Snap} (hx : findSnap s σ.snaps = some x)
    (iters' : List (Nat × Iter))
    (hok : ItersOk σ s iters' (x.rc - 1)) (hz : x.rc - 1 = 0) :
    PreGC { σ with snaps := updSnap s (fun y => { y with rc := y.rc - 1, st := .retired }) σ.snaps,
                   iters := iters' } := by
  have hpos : 0 < x.rc := Int.lt_of_le_sub_one (Int.le_of_eq hz.symm)
  have hlive := (h.snaps.rc x (findSnap_some hx).1).2.mpr hpos
  refine pre_updSnap h hx (fun y => { y with rc := y.rc - 1, st := .retired }) iters' (fun _ => ⟨rfl, rfl, rfl, rfl⟩)
    (Int.le_of_eq hz.symm) ⟨nofun, fun h0 => ?_⟩ ⟨nofun, fun hc => ?_⟩ (fun _ => hpos) hok
  · exact absurd (hz ▸ h0 : (0 : Int) < 0) (Int.lt_irrefl 0)
  · rw [hlive] at hc; cases hc

theorem close_iter {σ : State} (h : Inv σ) {i : Nat} {it : Iter} (hi : alookup i σ.iters = some it)
    {x : Snap} (hx : findSnap it.sn σ.snaps = some x) : ItersOk σ it.sn (aerase i σ.iters) (x.rc - 1) := by
  have ⟨hxm, hxs⟩ := findSnap_some hx
  refine ⟨fun p hp => h.iters.snap p (mem_aerase.mp hp).1, ?_, fun n _ => itersOn_aerase_le n i σ.iters⟩
  have h1 := itersOn_aerase_lt (alookup_mem hi) hxs.symm
  have h2 := h.iters.refs x hxm
  rw [hxs] at h2 h1
  exact Int.le_sub_one_of_lt (Int.lt_of_lt_of_le h1 h2)

end NitroVerif.Mvcc
