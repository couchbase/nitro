import NitroVerif.Lemmas.Codec
/-!
  Truncated files.  The reader never looks at bytes it has not asked for: a decode step that found
  its bytes gives the same answer, with `t` more left over, when `t` is appended (`decodeItem_append`),
  so an accepted input stays accepted and the items decoded before a failure are decoded again
  (`readLoop_mono`) — for every version, whatever the writer.  Truncation is the round trip read
  backwards (`readFile_proper_prefix`): a prefix read as `.ok` would leave the cut-off bytes over.
-/
namespace NitroVerif.Codec

/-- `d'` is what the decode step `d` becomes when `t` is appended to its input: a step that ran out
    of bytes may become anything -/
def Decoded.ExtendsTo (t : Bytes) (d d' : Decoded) : Prop :=
  match d with
  | .short => True
  | .terminator r => d' = .terminator (r ++ t)
  | .item lb x r => d' = .item lb x (r ++ t)

theorem decodeItem_append (ver : Nat) (p t : Bytes) :
    (decodeItem ver p).ExtendsTo t (decodeItem ver (p ++ t)) := by
  by_cases hw : p.length < lenWidth ver
  · rw [decodeItem_short_header hw]
    trivial
  · -- the header is complete: the same header, hence the same announced length
    have hle : lenWidth ver ≤ p.length := Nat.le_of_not_lt hw
    have hw' := Nat.not_lt.2 (Nat.le_trans hle (List.prefix_append p t).length_le)
    unfold decodeItem
    dsimp only
    rw [if_neg hw, if_neg hw', List.take_append_of_le_length hle, List.drop_append_of_le_length hle]
    generalize p.take (lenWidth ver) = lb
    generalize p.drop (lenWidth ver) = body
    generalize lenDec Gen.decodeBigEndian lb = L
    cases Gen.decodeHasItem L with
    | false => exact rfl
    | true =>
      rw [if_pos rfl, if_pos rfl]
      by_cases hb : body.length < L
      · rw [if_pos hb]
        trivial
      · have hble := Nat.le_of_not_lt hb
        have hb' := Nat.not_lt.2 (Nat.le_trans hble (List.prefix_append body t).length_le)
        rw [if_neg hb, if_neg hb', List.take_append_of_le_length hble,
          List.drop_append_of_le_length hble]
        exact rfl

/-- `r'` is what the result `r` becomes when `t` is appended to the input -/
def ReadResult.ExtendsTo (t : Bytes) (r r' : ReadResult) : Prop :=
  match r with
  | .ok items sum rest => r' = .ok items sum (rest ++ t)
  | .err before => before <+: r'.items

theorem readLoop_mono (h : Bytes → Nat) (ver : Nat) (t : Bytes) (f : Nat) (p : Bytes)
    (acc : List Bytes) (s : Nat) (f' : Nat) (hf : f ≤ f') :
    (readLoop h ver f p acc s).ExtendsTo t (readLoop h ver f' (p ++ t) acc s) := by
  induction f generalizing p acc s f' with
  | zero => exact readLoop_acc_prefix h ver f' (p ++ t) acc s
  | succ f ih =>
    cases f' with
    | zero => exact absurd hf (Nat.not_succ_le_zero f)
    | succ f' =>
      have hstep := decodeItem_append ver p t
      rw [readLoop, readLoop]
      cases hd : decodeItem ver p with
      | short =>
        -- the right-hand side is `readLoop h ver (f' + 1) (p ++ t) acc s`, one step unfolded
        exact readLoop_acc_prefix h ver (f' + 1) (p ++ t) acc s
      | terminator r =>
        rw [hd] at hstep
        rw [hstep]
        exact rfl
      | item lb d r =>
        rw [hd] at hstep
        rw [hstep]
        exact ih r _ _ f' (Nat.le_of_succ_le_succ hf)

theorem readFile_mono (h : Bytes → Nat) (ver : Nat) (p t : Bytes) :
    (readFile h ver p).ExtendsTo t (readFile h ver (p ++ t)) := by
  unfold readFile
  apply readLoop_mono
  rw [List.length_append]
  exact Nat.succ_le_succ (Nat.le_add_right _ _)

theorem readFile_append (h : Bytes → Nat) (ver : Nat) {p : Bytes} (t : Bytes) {items : List Bytes}
    {sum : Nat} {rest : Bytes} (hr : readFile h ver p = .ok items sum rest) :
    readFile h ver (p ++ t) = .ok items sum (rest ++ t) := by
  have hmono := readFile_mono h ver p t
  rw [hr] at hmono
  exact hmono

/-- a file that reads as `.ok` with nothing left over: every PROPER prefix of it is rejected -/
theorem readFile_proper_prefix (h : Bytes → Nat) (ver : Nat) {full p : Bytes} {items : List Bytes}
    {sum : Nat} (hfull : readFile h ver full = .ok items sum []) (hp : p <+: full) (hne : p ≠ full) :
    ∃ before, readFile h ver p = .err before ∧ before <+: items := by
  obtain ⟨t, rfl⟩ := hp
  cases hr : readFile h ver p with
  | ok items' sum' rest' =>
    -- then `rest' ++ t` would be left over
    rw [readFile_append h ver t hr] at hfull
    simp only [ReadResult.ok.injEq] at hfull
    have ht : t = [] := (List.append_eq_nil_iff.1 hfull.2.2).2
    rw [ht, List.append_nil] at hne
    exact absurd rfl hne
  | err before =>
    have hmono := readFile_mono h ver p t
    rw [hr, hfull] at hmono
    exact ⟨before, rfl, hmono⟩

theorem readFile_written_proper_prefix (h : Bytes → Nat) {ver : Nat} (hv : ver ≠ 0) (items : List Bytes)
    (hit : ∀ d ∈ items, 0 < d.length ∧ d.length < 2 ^ 32)
    (p : Bytes) (hp : p <+: writeFile items) (hne : p ≠ writeFile items) :
    ∃ before, readFile h ver p = .err before ∧ before <+: items := by
  have hfull := readFile_written h hv items hit []
  rw [List.append_nil] at hfull
  exact readFile_proper_prefix h ver hfull hp hne

theorem readFile_prefix_written (h : Bytes → Nat) {ver : Nat} (hv : ver ≠ 0) {part : List Bytes}
    (hp : ∀ d ∈ part, 0 < d.length ∧ d.length < 2 ^ 32) {c : Bytes} (hc : c <+: writeFile part)
    {items : List Bytes} {sum : Nat} {rest : Bytes} (hr : readFile h ver c = .ok items sum rest) :
    c = writeFile part ∧ items = part := by
  by_cases he : c = writeFile part
  · exact ⟨he, (readFile_written_eq h hv hp (he ▸ hr)).1⟩
  · obtain ⟨before, hb, _⟩ := readFile_written_proper_prefix h hv part hp c hc he
    rw [hb] at hr
    cases hr

theorem decode_proper_prefix_errors (h : Bytes → Nat) (items : List Bytes)
    (hit : ∀ d ∈ items, 0 < d.length ∧ d.length < 2 ^ 32)
    (p : Bytes) (hp : p <+: writeFile items) (hne : p ≠ writeFile items) :
    ∃ before, readFile h 1 p = .err before :=
  (readFile_written_proper_prefix h (by decide) items hit p hp hne).imp fun _ hr => hr.1

/-- the older 2-byte framing (`2 ^ 16` is passed for the bound `256 ^ 2` of the round trip; the
    literals are identified by evaluation) -/
theorem decode_proper_prefix_errors_v0 (h : Bytes → Nat) (items : List Bytes)
    (hit : ∀ d ∈ items, 0 < d.length ∧ d.length < 2 ^ 16)
    (p : Bytes) (hp : p <+: writeFileV0 items) (hne : p ≠ writeFileV0 items) :
    ∃ before, before <+: items ∧ readFile h 0 p = .err before := by
  have hfull := readFile_framed h lenWidth_zero items hit []
  rw [List.append_nil, ← writeFileV0_eq_frames] at hfull
  obtain ⟨before, hr, hpre⟩ := readFile_proper_prefix h 0 hfull hp hne
  exact ⟨before, hpre, hr⟩

end NitroVerif.Codec
