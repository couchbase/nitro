import NitroVerif.Lemmas.SkipSeqSegAdd
/-!
  Filling segments: any interleaving of `NewSegment` and `Segment.Add` calls keeps the build state
  consistent.  `bstep` is the executable machine (segments addressed by index), `gstep` the same
  machine with each segment's node list as ghost annotation.
-/
namespace NitroVerif.SkipSeq

inductive BOp where
  | new
  | add (i : Nat) (k : Int) (lvl : Nat)
deriving Repr, DecidableEq

/-- the builder's store and its segments -/
def bstep (st : SL × List Segment) : BOp → SL × List Segment
  | .new => (st.1, st.2 ++ [Segment.new])
  | .add i k lvl =>
    match st.2[i]? with
    | some seg => ((segAdd st.1 seg (.item k) lvl).1, st.2.set i (segAdd st.1 seg (.item k) lvl).2)
    | none => st

def brun : SL × List Segment → List BOp → SL × List Segment
  | st, [] => st
  | st, op :: ops => brun (bstep st op) ops

/-- the same with ghost node lists -/
def gstep (st : SL × List (Segment × List Nat)) : BOp → SL × List (Segment × List Nat)
  | .new => (st.1, st.2 ++ [(Segment.new, [])])
  | .add i k lvl =>
    match st.2[i]? with
    | some e => ((segAdd st.1 e.1 (.item k) lvl).1,
                 st.2.set i ((segAdd st.1 e.1 (.item k) lvl).2, e.2 ++ [st.1.nodes.length]))
    | none => st

def grun : SL × List (Segment × List Nat) → List BOp → SL × List (Segment × List Nat)
  | st, [] => st
  | st, op :: ops => grun (gstep st op) ops

/-- the keys a script adds to segment `i`, in order (`n` = number of segments existing so far) -/
def addedKeys (i : Nat) : Nat → List BOp → List Int
  | _, [] => []
  | n, .new :: ops => addedKeys i (n + 1) ops
  | n, .add j k _ :: ops => if j = i ∧ j < n then k :: addedKeys i n ops else addedKeys i n ops

theorem gstep_erase (st : SL × List (Segment × List Nat)) (op : BOp) :
    ((gstep st op).1, (gstep st op).2.map (·.1)) = bstep (st.1, st.2.map (·.1)) op := by
  cases op with
  | new => simp [gstep, bstep]
  | add i k lvl =>
    simp only [gstep, bstep, List.getElem?_map]
    cases h : st.2[i]? with
    | none => simp
    | some e => simp [List.map_set]

theorem grun_erase : ∀ (ops : List BOp) (st : SL × List (Segment × List Nat)),
    ((grun st ops).1, (grun st ops).2.map (·.1)) = brun (st.1, st.2.map (·.1)) ops := by
  intro ops
  induction ops with
  | nil => intro st; rfl
  | cons op r ih =>
    intro st
    simp only [grun, brun]
    rw [ih, gstep_erase]

theorem segNew_ok {s : SL} {segs : List (Segment × List Nat)} (b : BuildOK s segs) :
    BuildOK s (segs ++ [(Segment.new, [])]) := by
  have hall : allNodes (segs ++ [(Segment.new, [])]) = allNodes segs := by simp [allNodes]
  refine BuildOK.of_nodeOK b.rep ?_ (hall ▸ b.nodup) (hall ▸ fun x hx => b.nodeOK hx) (hall ▸ b.size) ?_
  · intro e he
    rcases List.mem_append.mp he with h1 | h1
    · exact b.segok e h1
    · simp at h1; subst h1
      refine ⟨by simp [Segment.new], by simp [Segment.new], ?_, ?_⟩
      · intro l _
        simp only [Segment.new, LL, List.filter_nil, List.head?_nil, List.getLast?_nil, Option.getD_none,
          getD_replicate_nil, and_self]
      · intro l _; simp [LL]
  · intro e he
    rcases List.mem_append.mp he with h1 | h1
    · exact b.stats e h1
    · simp at h1; subst h1
      refine ⟨by simp [Segment.new, Stats.zero], ?_, by simp [Segment.new, Stats.zero],
        by simp [Segment.new, Stats.zero], by simp [Segment.new, Stats.zero]⟩
      intro g hg
      have : g < Gen.maxLevel + 1 := Nat.lt_succ_of_le hg
      simp [Segment.new, Stats.zero, cntLevel, List.getD_eq_getElem?_getD, this]

/-- keys of the node lists, per segment index -/
def segKeys (st : SL × List (Segment × List Nat)) (i : Nat) : List Int :=
  ((st.2[i]?).map fun e => e.2.map (ikey st.1.nodes)).getD []

theorem gstep_ok {st : SL × List (Segment × List Nat)} (b : BuildOK st.1 st.2) (op : BOp) :
    BuildOK (gstep st op).1 (gstep st op).2 ∧
    (∀ i, segKeys (gstep st op) i = segKeys st i ++ addedKeys i st.2.length [op]) ∧
    (gstep st op).2.length = st.2.length + (if op = .new then 1 else 0) := by
  cases op with
  | new =>
    refine ⟨segNew_ok b, fun i => ?_, by simp [gstep]⟩
    simp only [segKeys, gstep, addedKeys, List.append_nil, List.getElem?_append]
    split
    · rfl
    · rename_i h
      rw [List.getElem?_eq_none (Nat.not_lt.mp h)]
      cases i - st.2.length <;> rfl
  | add j k lvl =>
    simp only [gstep]
    cases h : st.2[j]? with
    | none =>
      have hj : ¬ j < st.2.length := fun hl => by rw [List.getElem?_eq_getElem hl] at h; cases h
      refine ⟨b, fun i => ?_, by simp⟩
      simp [addedKeys, hj]
    | some e =>
      rcases set_split h with ⟨hsp, hset⟩
      have hj : j < st.2.length := (List.getElem?_eq_some_iff.mp h).1
      have b' : BuildOK st.1 (st.2.take j ++ (e.1, e.2) :: st.2.drop (j + 1)) := hsp ▸ b
      rcases segAdd_ok b' k lvl with ⟨bn, hkx, hkold⟩
      refine ⟨by simp only; rw [hset]; exact bn, fun i => ?_, by simp⟩
      have hold : ∀ e' ∈ st.2, e'.2.map (ikey (segAdd st.1 e.1 (.item k) lvl).1.nodes)
          = e'.2.map (ikey st.1.nodes) := fun e' he' =>
        List.map_congr_left fun y hy => hkold y (b.hi y (mem_allNodes.mpr ⟨e', he', hy⟩))
      simp only [segKeys, addedKeys, List.getElem?_set]
      by_cases hij : j = i
      · subst hij
        simp only [if_true, hj, and_self, h, Option.map_some, Option.getD_some, List.map_append,
          List.map_cons, List.map_nil, hkx, hold e (List.mem_of_getElem? h)]
      · simp only [hij, if_false, false_and, List.append_nil]
        cases hi : st.2[i]? with
        | none => rfl
        | some e' => exact hold e' (List.mem_of_getElem? hi)

theorem addedKeys_cons (i n : Nat) (op : BOp) (ops : List BOp) :
    addedKeys i n (op :: ops)
      = addedKeys i n [op] ++ addedKeys i (n + (if op = .new then 1 else 0)) ops := by
  cases op with
  | new => simp [addedKeys]
  | add j k lvl =>
    simp only [addedKeys]
    by_cases h : j = i ∧ j < n
    · rcases h with ⟨rfl, h2⟩; simp [h2]
    · simp [h]

theorem buildOK_init : BuildOK SL.init [] :=
  BuildOK.of_nodeOK rep_init (by simp) (by simp [allNodes]) (by simp [allNodes]) (by simp [allNodes, SL.init]) (by simp)

theorem grun_ok : ∀ (ops : List BOp) (st : SL × List (Segment × List Nat)), BuildOK st.1 st.2 →
    BuildOK (grun st ops).1 (grun st ops).2 ∧
    ∀ i, segKeys (grun st ops) i = segKeys st i ++ addedKeys i st.2.length ops := by
  intro ops
  induction ops with
  | nil => intro st b; exact ⟨b, fun i => by simp [grun, addedKeys]⟩
  | cons op r ih =>
    intro st b
    rcases gstep_ok b op with ⟨b1, hk1, hl1⟩
    rcases ih _ b1 with ⟨b2, hk2⟩
    refine ⟨b2, ?_⟩
    intro i
    simp only [grun]
    rw [hk2 i, hk1 i, hl1, List.append_assoc, addedKeys_cons i st.2.length op r]

theorem grun_append : ∀ (a b : List BOp) (st : SL × List (Segment × List Nat)),
    grun st (a ++ b) = grun (grun st a) b := by
  intro a
  induction a with
  | nil => intro b st; rfl
  | cons op a ih => intro b st; simp only [List.cons_append, grun]; exact ih b _

theorem gstep_add_length (st : SL × List (Segment × List Nat)) (i : Nat) (k : Int) (l : Nat) :
    (gstep st (BOp.add i k l)).2.length = st.2.length := by
  simp only [gstep]
  cases st.2[i]? <;> simp

theorem bstep_add_other (st : SL × List Segment) (i j : Nat) (k : Int) (l : Nat) (hij : i ≠ j) :
    (bstep st (BOp.add i k l)).2[j]? = st.2[j]? := by
  simp only [bstep]
  cases h : st.2[i]? with
  | none => rfl
  | some seg => simp [List.getElem?_set_ne hij]

theorem gstep_stats (st : SL × List (Segment × List Nat)) (op : BOp) : (gstep st op).1.stats = st.1.stats := by
  cases op with
  | new => rfl
  | add i k l =>
    simp only [gstep]
    cases st.2[i]? with
    | none => rfl
    | some e => exact segAdd_stats _ _ _ _

theorem grun_stats : ∀ (ops : List BOp) (st : SL × List (Segment × List Nat)),
    (grun st ops).1.stats = st.1.stats := by
  intro ops
  induction ops with
  | nil => intro st; rfl
  | cons op r ih => intro st; rw [grun, ih, gstep_stats]

theorem BuildOK.select {s : SL} {segs sel : List (Segment × List Nat)} (b : BuildOK s segs)
    (hsel : ∃ sub, sub.Sublist segs ∧ sel.Perm sub) : BuildOK s sel := by
  rcases hsel with ⟨sub, hsub, hperm⟩
  have hs1 := allNodes_sublist hsub
  have hp1 := allNodes_perm hperm
  have hmem : ∀ y, y ∈ allNodes sel → y ∈ allNodes segs := fun y hy => hs1.subset (hp1.mem_iff.mp hy)
  have hemem : ∀ e, e ∈ sel → e ∈ segs := fun e he => hsub.subset (hperm.mem_iff.mp he)
  refine BuildOK.of_nodeOK b.rep (fun e he => b.segok e (hemem e he)) ?_ (fun y hy => b.nodeOK (hmem y hy)) ?_
    (fun e he => b.stats e (hemem e he))
  · exact hp1.nodup_iff.mpr (List.Nodup.sublist hs1 b.nodup)
  · have := hs1.length_le
    have := hp1.length_eq
    have := b.size
    omega

end NitroVerif.SkipSeq
