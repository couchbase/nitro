import NitroVerif.Lemmas.SkipSeqSearch
import NitroVerif.Lemmas.SkipSeqInsert
import NitroVerif.Lemmas.SkipSeqHalf
/-!
  `Insert4` after a miss: the new node is linked on the levels `0..itemLevel`, one CAS per level
  (`Half.up`); `Insert2` as a whole.
-/
namespace NitroVerif.SkipSeq

theorem linkUpper_spec {s4 : SL} {A B : List Nat} {x ht : Nat} (k : Key) (c : Site s4 A x B)
    (hxl : levelOf s4.nodes x = ht) (hb : BufOK s4 s4.nodes A B s4.level) :
    ∀ (n j : Nat) (s : SL) (f : Nat), j + n = ht + 1 → Half s4 nomk A x B j s.nodes →
      Kept s4 s → n < f →
      Half s4 nomk A x B (ht + 1) (linkUpper k x ht f s j).nodes ∧
      Kept s4 (linkUpper k x ht f s j) ∧ (linkUpper k x ht f s j).stats = s.stats := by
  intro n
  induction n with
  | zero =>
    intro j s f hj hinv hk hf
    obtain ⟨f', rfl⟩ := Nat.exists_eq_add_of_le' (Nat.succ_le_of_lt hf)
    obtain rfl : j = ht + 1 := hj
    rw [linkUpper, if_pos (Nat.lt_succ_self ht)]
    exact ⟨hinv, hk, rfl⟩
  | succ n ih =>
    intro j s f hj hinv hk hf
    obtain ⟨f', rfl⟩ := Nat.exists_eq_add_of_le' (Nat.succ_le_of_lt (Nat.lt_of_le_of_lt (Nat.zero_le _) hf))
    have hjle : j ≤ ht := by omega
    have hjl : j ≤ s4.level := Nat.le_trans hjle (hxl ▸ (c.nodes x (by simp)).lvl)
    have hmax : j ≤ Gen.maxLevel := Nat.le_trans hjl c.lvl
    have hnn : getNext s.nodes x j = (succAt s4.nodes B j, false) := hinv.zlink j (hxl ▸ hjle)
    have hnext : s.buf.succs.getD j 0 = succAt s4.nodes B j := by rw [hk.buf]; exact (hb j hjl).2
    have hpred : s.buf.preds.getD j 0 = predAt s4.nodes A j := by rw [hk.buf]; exact (hb j hjl).1
    have hcas := hinv.pred_off c hmax (Or.inl (Nat.lt_irrefl j))
    have hx2 : getNext (setNext s.nodes (predAt s4.nodes A j) j (x, false)) x j
        = (succAt s4.nodes B j, false) := by
      rw [getNext_setNext_ne (Or.inl (c.pred_ne_z j))]; exact hnn
    rw [linkUpper]
    simp only [Nat.not_lt.mpr hjle, if_false, hnn, hnext, hpred, bne_self_eq_false, Bool.false_eq_true,
      Bool.not_true, dcasNext_ok hcas, if_true, hx2]
    exact ih (j + 1) { s with nodes := setNext s.nodes (predAt s4.nodes A j) j (x, false) } f'
      (loop_step hj).2 (hinv.up c hmax (hxl ▸ hjle)) ⟨hk.level, hk.buf, hk.stuck⟩ (Nat.lt_of_succ_lt_succ hf)

theorem insert4_hit {s : SL} {L0 : List Nat} {k : Int} (hr : Rep s L0) (hk : k ∈ L0.map (ikey s.nodes))
    (x ht f : Nat) :
    ∃ s' d, insert4 (.item k) x ht (f + 1) s = (s', d, false) ∧ SameBut s s' := by
  rcases hr.find k with ⟨A, B, s3, rfl, hA, hB, he, hsb, _⟩
  have hc := (hr.hit_iff hA hB).mpr hk
  have hne := hr.succ_ne_nil hc
  rw [if_pos hc] at he
  refine ⟨s3, succAt s.nodes B 0, ?_, hsb⟩
  rw [insert4, he]
  simp [hne]

/-- `Insert4` of a new node `x` (already allocated, key `k`, height `ht`) when the key is absent:
    `x.setNext(i, succs[i])` presets the links, the CAS on `preds[0]` links level 0 and `linkUpper` the
    levels `1..ht`, each CAS succeeding at the first attempt (`Half` from `0` to `ht + 1`).  The fuel of
    `linkUpper`, `ht + 1 + length`, covers one iteration per level; the rest is slack for the retry
    branches, which one goroutine never takes.  `hsize`: the cell of `x` is in the heap already, beside
    the three reserved cells and those of `A ++ B`. -/
theorem insert4_miss {s : SL} {A B : List Nat} {k : Int} {x ht : Nat} (hr : Rep s (A ++ B))
    (hA : ∀ a ∈ A, ikey s.nodes a < k) (hB : ∀ b ∈ B, k ≤ ikey s.nodes b)
    (hk : k ∉ (A ++ B).map (ikey s.nodes))
    (hxok : NodeOK s x) (hxk : ikey s.nodes x = k) (hxlvl : levelOf s.nodes x = ht)
    (hsize : (A ++ B).length + 4 ≤ s.nodes.length) (f : Nat) :
    ∃ s', insert4 (.item k) x ht (f + 1) s = (s', x, true) ∧ Rep s' (A ++ x :: B) ∧
      SameShape s.nodes s'.nodes ∧
      (∀ m, m ∉ A ++ B → m ≠ headId → m ≠ x → ∀ l, getNext s'.nodes m l = getNext s.nodes m l) ∧
      s'.stats.nodeAllocs = s.stats.nodeAllocs + 1 := by
  have hxnot : x ∉ A ++ B := fun hm => hk (List.mem_map.mpr ⟨x, hm, hxk⟩)
  rcases findPath_quiescent hr hA hB with ⟨s3, he, hsb, hbuf⟩
  have hc : ¬ Hit s B k := fun h => hk ((hr.hit_iff hA hB).mp h)
  have hBgt := hr.miss_gt hB hc
  rw [if_neg hc] at he
  have hht : ht ≤ s.level := hxlvl ▸ hxok.lvl
  -- x.setNext(i, succs[i]) for i ≤ ht
  have hsn := setNexts_spec x (ht + 1) 0 s3 (fun j _ h2 => by
    rw [hsb.nodes, hxok.len, hxlvl]; rwa [Nat.zero_add] at h2)
  generalize hs4 : setNexts x (ht + 1) 0 s3 = s4 at hsn
  rcases hsn with ⟨k4, st4, sh4, lk4⟩
  rw [hsb.nodes] at sh4 lk4
  have hlv4 : s4.level = s.level := k4.level.trans hsb.level
  have hother : ∀ m, m ≠ x → ∀ l, getNext s4.nodes m l = getNext s.nodes m l :=
    fun m hm l => by rw [lk4, if_neg (fun h => hm h.1)]
  have hxl4 : levelOf s4.nodes x = ht := (sh4.lvl x).trans hxlvl
  have hs := List.pairwise_append.mp hr.sorted
  have c0 : Site s A x B :=
    ⟨hr.base, hr.lvl, fun n hn => (mem_append_cons_iff.mp hn).elim (fun e => e ▸ hxok) (hr.nodes n),
      List.pairwise_append.mpr ⟨hs.1,
        List.pairwise_cons.mpr ⟨fun b hb => by rw [hxk]; exact hBgt b hb, hs.2.1⟩,
        fun a ha b hb => (List.mem_cons.mp hb).elim (fun e => by rw [e, hxk]; exact hA a ha) (hs.2.2 a ha b)⟩⟩
  have c : Site s4 A x B := c0.of_shape sh4 (fun l => by
    rw [hother _ (fun e => absurd (e ▸ hxok.lo) (by decide))]; exact hr.base.tailFlag l) hlv4
  have hbuf4 : BufOK s4 s4.nodes A B s4.level := fun j hj => by
    rw [k4.buf, sh4.predAt_eq, sh4.succAt_eq]; exact hbuf j (hlv4 ▸ hj)
  have half0 : Half s4 nomk A x B 0 s4.nodes := by
    refine ⟨SameShape.refl _, fun _ _ => rfl, fun l hl => ?_, fun l hl => ?_, fun _ _ _ => rfl⟩
    · rw [if_neg (Nat.not_lt_zero l), sh4.LL_eq]
      exact (path_congr _ (fun a ha => ⟨hother a (fun e => hxnot ((mem_level hxok.lo).mp (e ▸ ha)).1) l, rfl⟩)).mpr
        (hr.paths l hl)
    · rw [hxl4] at hl
      rw [lk4 x l, if_pos ⟨rfl, Nat.zero_le _, by rw [Nat.zero_add]; exact Nat.lt_succ_of_le hl⟩, sh4.succAt_eq,
        (hbuf l (Nat.le_trans hl hht)).2]; rfl
  have hmax0 : 0 ≤ Gen.maxLevel := Nat.zero_le _
  have hcas := half0.pred_off c hmax0 (Or.inl (Nat.lt_irrefl 0))
  have hp0 : s4.buf.preds.getD 0 0 = predAt s4.nodes A 0 := (hbuf4 0 (Nat.zero_le _)).1
  have hs0 : s4.buf.succs.getD 0 0 = succAt s4.nodes B 0 := (hbuf4 0 (Nat.zero_le _)).2
  have hlu := linkUpper_spec (.item k) c hxl4 hbuf4 ht 1
    { s4 with nodes := setNext s4.nodes (predAt s4.nodes A 0) 0 (x, false) }
    (ht + 1 + s4.nodes.length) (Nat.add_comm 1 ht) (half0.up c hmax0 (Nat.zero_le _)) ⟨rfl, rfl, rfl⟩
    (Nat.lt_of_lt_of_le (Nat.lt_succ_self ht) (Nat.le_add_right _ _))
  generalize hs5 : linkUpper (.item k) x ht (ht + 1 + s4.nodes.length)
    { s4 with nodes := setNext s4.nodes (predAt s4.nodes A 0) 0 (x, false) } 1 = s5 at hlu
  rcases hlu with ⟨l1, k5, st5⟩
  have hk : Kept s3 s5 := k4.trans k5
  have hst : s5.stats = s.stats := st5.trans (st4.trans hsb.stats)
  have hfin : insert4 (.item k) x ht (f + 1) s =
      ({ s5 with stats := { s5.stats with nodeAllocs := s5.stats.nodeAllocs + 1,
                                          levelNodesCount := addAt s5.stats.levelNodesCount ht 1 } }, x, true) := by
    rw [insert4, he]
    simp only [bne_self_eq_false, Bool.false_eq_true, if_false, hs4, hp0, hs0, dcasNext_ok hcas,
      Bool.not_true, hs5]
  have hmax : ht ≤ Gen.maxLevel := Nat.le_trans hht hr.lvl
  refine ⟨_, hfin, ?_, sh4.trans l1.shape, ?_, by simp only; rw [hst]⟩
  · refine Half.rep_in c (Nat.lt_succ_of_le (Nat.le_of_eq hxl4)) l1 k5.level ?_
      (by simp only [List.length_append, List.length_cons] at hsize ⊢; rw [sh4.len]; omega)
      (by rw [hk.buf, hsb.bufP]; exact hr.bufP) (by rw [hk.buf, hsb.bufS]; exact hr.bufS)
      (by rw [hk.stuck, hsb.stuck]; exact hr.live)
    refine hr.stats.move (t := ht) (v := 1) hmax (by simp only; rw [hst])
      (by simp only; rw [hst]; exact hr.stats.soft) (by simp only; rw [hst]; exact hr.stats.frees) (fun g => ?_)
    rw [(sh4.trans l1.shape).cntLevel_eq, cntLevel_mid, hxlvl]
  · intro m hm1 hm2 hm3 l
    exact (l1.frame m (fun h => (List.mem_cons.mp h).elim hm2 (fun e => hm1 (List.mem_append_left _ e))) l).trans
      (hother m hm3 l)

theorem insert2_spec {s : SL} {L0 : List Nat} (hr : Rep s L0) (k : Int) (req : Nat) :
    ∃ s' d ok, insert2 s (.item k) req = (s', d, ok) ∧ Ext s s' L0 ∧
      (k ∈ L0.map (ikey s.nodes) → ok = false ∧ Rep s' L0 ∧ s'.stats.nodeAllocs = s.stats.nodeAllocs) ∧
      (k ∉ L0.map (ikey s.nodes) → ok = true ∧ d = s.nodes.length ∧ keyOf s'.nodes d = .item k ∧
        s'.stats.nodeAllocs = s.stats.nodeAllocs + 1 ∧
        ∃ A B, L0 = A ++ B ∧ (∀ a ∈ A, ikey s.nodes a < k) ∧ (∀ b ∈ B, k < ikey s.nodes b) ∧
          Rep s' (A ++ d :: B)) := by
  have hnl := newLevel_spec s req hr.lvl
  have hr1 := hr.newLevel req
  rcases hs1 : newLevel s req with ⟨s1, ht⟩
  rw [hs1] at hnl hr1
  simp only at hnl hr1
  rcases hnl with ⟨nd1, st1, _, _, _, _, ht1⟩
  have hr2 := hr1.newNode (.item k) ht
  have e : insert2 s (.item k) req
      = insert4 (.item k) (newNode s1 (.item k) ht).2 ht ((newNode s1 (.item k) ht).1.nodes.length + 1)
          (newNode s1 (.item k) ht).1 := by
    unfold insert2; rw [hs1]
  obtain ⟨s2, hs2⟩ : ∃ s2 : SL, s2 = (newNode s1 (.item k) ht).1 := ⟨_, rfl⟩
  obtain ⟨x, hx0⟩ : ∃ x : Nat, x = (newNode s1 (.item k) ht).2 := ⟨_, rfl⟩
  rw [← hs2] at hr2 e
  rw [← hx0] at e
  have hx : x = s.nodes.length := hx0.trans (congrArg List.length nd1)
  have hn2 : s2.nodes = s.nodes ++ [{ key := .item k, level := ht, next := List.replicate (ht + 1) (nilId, false) }] := by
    rw [hs2, ← nd1]; rfl
  have hl2 : s2.level = s1.level := by rw [hs2]; rfl
  have hst2 : s2.stats = s.stats := by rw [hs2, ← st1]; rfl
  have hlen2 : s2.nodes.length = s.nodes.length + 1 := by rw [hn2]; simp
  have hkeyold : ∀ n, n < s.nodes.length → keyOf s2.nodes n = keyOf s.nodes n :=
    fun n hn => by rw [hn2]; exact keyOf_append_old hn
  have hlvlold : ∀ n, n < s.nodes.length → levelOf s2.nodes n = levelOf s.nodes n :=
    fun n hn => by rw [hn2]; exact levelOf_append_old hn
  have hnextold : ∀ n, n < s.nodes.length → ∀ l, getNext s2.nodes n l = getNext s.nodes n l :=
    fun n hn l => by rw [hn2]; exact getNext_append_old hn l
  have hik : ∀ n ∈ L0, ikey s2.nodes n = ikey s.nodes n :=
    fun n hn => ikey_congr (hkeyold n (hr.nodes n hn).hi)
  have hmap : L0.map (ikey s2.nodes) = L0.map (ikey s.nodes) := List.map_congr_left hik
  have hext2 : Ext s s2 L0 := ⟨by rw [hlen2]; exact Nat.le_succ _, hkeyold, hlvlold, fun n hn _ _ => hnextold n hn⟩
  rw [e]
  by_cases hk : k ∈ L0.map (ikey s.nodes)
  · rcases insert4_hit hr2 (by rw [hmap]; exact hk) x ht s2.nodes.length with ⟨s3, d, he, hsb⟩
    refine ⟨s3, d, false, he, ?_, ?_, fun h => absurd hk h⟩
    · exact hext2.trans (Ext.of_sameBut _ hsb)
    · intro _
      exact ⟨rfl, hr2.of_sameBut hsb, by rw [hsb.stats, hst2]⟩
  · rcases hr2.split k with ⟨A, B, hAB, hA, hB⟩
    subst hAB
    have hxkey : keyOf s2.nodes x = .item k := by rw [hn2, hx]; exact keyOf_append_new _ _
    have hxlvl : levelOf s2.nodes x = ht := by rw [hn2, hx]; exact levelOf_append_new _ _
    have hxok : NodeOK s2 x :=
      ⟨hx ▸ hr.base.len, by rw [hlen2, hx]; exact Nat.lt_succ_self _, by rw [hxkey, ikey_of_keyOf hxkey],
       by rw [hxlvl, hl2]; exact ht1, by rw [hxlvl, hn2, hx, nextLen_append_new, List.length_replicate]⟩
    rcases insert4_miss (x := x) (ht := ht) hr2 hA hB (by rw [hmap]; exact hk) hxok (ikey_of_keyOf hxkey)
      hxlvl (by have := hr.size; omega) s2.nodes.length
      with ⟨s', he, hrep, hsh, hfr, hal⟩
    have hBgt := hr2.miss_gt hB (fun h => hk (hmap ▸ (hr2.hit_iff hA hB).mp h))
    refine ⟨s', x, true, he, ?_, fun h => absurd h hk, fun _ => ?_⟩
    · refine ⟨by rw [hsh.len]; exact hext2.len, fun n hn => by rw [hsh.key]; exact hkeyold n hn,
        fun n hn => by rw [hsh.lvl]; exact hlvlold n hn, ?_⟩
      intro n hn hnot hh l
      rw [hfr n hnot hh (Nat.ne_of_lt (hx ▸ hn)) l]; exact hnextold n hn l
    · refine ⟨rfl, hx, by rw [hsh.key]; exact hxkey, by rw [hal, hst2], A, B, rfl, ?_, ?_, hrep⟩
      · intro a ha; rw [← hik a (List.mem_append_left _ ha)]; exact hA a ha
      · intro b hb; rw [← hik b (List.mem_append_right _ hb)]; exact hBgt b hb

end NitroVerif.SkipSeq
