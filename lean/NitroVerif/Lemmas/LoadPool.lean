import NitroVerif.Model.LoadPool
import NitroVerif.Lemmas.ListFacts
/-!
  The loader's worker pool.  Every step lowers `measure`, so every schedule is finite; in the fixed
  code no worker returns before the channel is closed (`Inv`), so a state that is not final has an
  enabled action.  In the original code a state with every worker gone and a shard left is stuck.
-/
namespace NitroVerif.LoadPool

inductive Step (e : Bool) (fails : Nat → Bool) (n : Nat) (st : State) : Action → State → Prop
  | handoff (w : Nat) (hlt : st.next < n) (hw : st.workers[w]? = some .idle) :
      Step e fails n st (.handoff w)
        { st with next := st.next + 1, workers := st.workers.set w (.busy st.next) }
  | finish (w s : Nat) (hw : st.workers[w]? = some (.busy s)) :
      Step e fails n st (.finish w)
        { st with workers := st.workers.set w (if e && fails s then .done else .idle) }
  | close (hn : st.next = n) (hc : st.closed = false) : Step e fails n st .close { st with closed := true }
  | exit (w : Nat) (hc : st.closed = true) (hw : st.workers[w]? = some .idle) :
      Step e fails n st (.exit w) { st with workers := st.workers.set w .done }

theorem step_iff {e : Bool} {fails : Nat → Bool} {n : Nat} {st st' : State} {a : Action} :
    step e fails n st a = some st' ↔ Step e fails n st a st' := by
  constructor
  · intro h
    cases a with
    | handoff w =>
      by_cases hc : st.next < n ∧ st.workers[w]? = some .idle
      · rw [step, if_pos hc] at h
        cases h
        exact .handoff w hc.1 hc.2
      · rw [step, if_neg hc] at h
        cases h
    | finish w =>
      rw [step] at h
      cases hw : st.workers[w]? with
      | none => rw [hw] at h; cases h
      | some x =>
        rw [hw] at h
        cases x with
        | busy s => cases h; exact .finish w s hw
        | idle => cases h
        | done => cases h
    | close =>
      by_cases hc : st.next = n ∧ st.closed = false
      · rw [step, if_pos hc] at h
        cases h
        exact .close hc.1 hc.2
      · rw [step, if_neg hc] at h
        cases h
    | exit w =>
      by_cases hc : st.closed = true ∧ st.workers[w]? = some .idle
      · rw [step, if_pos hc] at h
        cases h
        exact .exit w hc.1 hc.2
      · rw [step, if_neg hc] at h
        cases h
  · intro h
    cases h with
    | handoff w h1 h2 => exact if_pos ⟨h1, h2⟩
    | finish w s hw => simp only [step, hw]
    | close h1 h2 => exact if_pos ⟨h1, h2⟩
    | exit w h1 h2 => exact if_pos ⟨h1, h2⟩

theorem Step.enabled {e : Bool} {fails : Nat → Bool} {n : Nat} {st st' : State} {a : Action}
    (h : Step e fails n st a st') : ∃ a st', step e fails n st a = some st' :=
  ⟨a, st', step_iff.mpr h⟩

/-- the hang of the original code: every worker has returned and the dispatcher still has a shard
    to send -/
theorem stuck_of_all_done {e : Bool} {fails : Nat → Bool} {n : Nat} {st : State}
    (hall : ∀ x ∈ st.workers, x = .done) (hn : st.next ≠ n) (a : Action) :
    step e fails n st a = none := by
  cases h : step e fails n st a with
  | none => rfl
  | some st' =>
    have hw : ∀ (w : Nat) (x : WState), st.workers[w]? = some x → x = .done :=
      fun w x hx => hall x (List.mem_of_getElem? hx)
    cases step_iff.mp h with
    | handoff w _ hi => cases hw w _ hi
    | finish w s hb => cases hw w _ hb
    | close hn' _ => exact absurd hn' hn
    | exit w _ hi => cases hw w _ hi

/-- a handoff: one shard less to send (−3), one worker busy instead of idle (+1).  This is where the
    factor 3 of `measure` comes from: the shard's weight must pay for idle → busy (+1) and leave a
    strict decrease; any factor ≥ 2 would do. -/
theorem measure_handoff {n k a b c : Nat} (hlt : k < n) (h : a + 1 = b + 2) :
    3 * (n - (k + 1)) + c + a < 3 * (n - k) + c + b := by omega

theorem step_measure {e : Bool} {fails : Nat → Bool} {n : Nat} {st st' : State} {a : Action}
    (h : step e fails n st a = some st') : measure n st' < measure n st := by
  cases step_iff.mp h with
  | handoff w hlt hw => exact measure_handoff hlt (sum_map_set weight st.workers w (.busy st.next) .idle hw)
  | finish w s hw =>
    refine Nat.add_lt_add_left (sum_map_set_lt weight hw ?_) _
    cases e && fails s <;> simp [weight]
  | close _ hc =>
    simp only [measure, hc]
    simp
  | exit w _ hw =>
    exact Nat.add_lt_add_left (sum_map_set_lt weight hw (by decide)) _

theorem run_ind {e : Bool} {fails : Nat → Bool} {n : Nat} {P : State → Prop}
    (hstep : ∀ st a st', P st → step e fails n st a = some st' → P st')
    (sched : List Action) (st st' : State) (hp : P st) (h : run e fails n st sched = some st') :
    P st' := by
  induction sched generalizing st with
  | nil => cases h; exact hp
  | cons a r ih =>
    rw [run] at h
    split at h
    · cases h
    · rename_i s1 hs; exact ih s1 (hstep st a s1 hp hs) h

theorem run_length {e : Bool} {fails : Nat → Bool} {n : Nat} (sched : List Action) (st st' : State)
    (h : run e fails n st sched = some st') : sched.length + measure n st' ≤ measure n st := by
  induction sched generalizing st with
  | nil => cases h; exact Nat.le_of_eq (Nat.zero_add _)
  | cons a r ih =>
    rw [run] at h
    split at h
    · cases h
    · rename_i s1 hs
      have := ih s1 h
      have := step_measure hs
      rw [List.length_cons]
      omega

/-- invariant of the fixed code: the dispatcher never overruns, the channel is closed only after the
    last send, and no worker returns before the channel is closed -/
def Inv (n c : Nat) (st : State) : Prop :=
  st.next ≤ n ∧ (st.closed = true → st.next = n) ∧
  (st.closed = false → ∀ w ∈ st.workers, w ≠ .done) ∧ st.workers.length = c

theorem inv_init (n c : Nat) : Inv n c (init c) := by
  refine ⟨Nat.zero_le _, by simp [init], ?_, by simp [init]⟩
  intro _ w hw
  simp only [init, List.mem_replicate] at hw
  rw [hw.2]; simp

theorem inv_step {fails : Nat → Bool} {n c : Nat} {st st' : State} {a : Action}
    (hi : Inv n c st) (h : step false fails n st a = some st') : Inv n c st' := by
  obtain ⟨i1, i2, i3, i4⟩ := hi
  have hset : ∀ w x, x ≠ .done → st.closed = false → ∀ y ∈ st.workers.set w x, y ≠ .done := by
    intro w x hx hcl y hy
    rcases List.mem_or_eq_of_mem_set hy with hy | rfl
    · exact i3 hcl y hy
    · exact hx
  cases step_iff.mp h with
  | handoff w hlt _ =>
    exact ⟨hlt, fun hcl => absurd (i2 hcl) (Nat.ne_of_lt hlt), hset w _ (by simp),
      (List.length_set ..).trans i4⟩
  | finish w s _ => exact ⟨i1, i2, hset w _ (by simp), (List.length_set ..).trans i4⟩
  | close hn _ => exact ⟨i1, fun _ => hn, fun hcl => (by cases hcl), i4⟩
  | exit w hcl _ =>
    exact ⟨i1, i2, fun hcl' => (by rw [hcl] at hcl'; cases hcl'), (List.length_set ..).trans i4⟩

theorem progress {fails : Nat → Bool} {n c : Nat} (hc : 0 < c) {st : State} (hi : Inv n c st) :
    final n st ∨ ∃ a st', step false fails n st a = some st' := by
  obtain ⟨i1, i2, i3, i4⟩ := hi
  cases hcl : st.closed with
  | false =>
    by_cases hn : st.next = n
    · exact Or.inr (Step.close hn hcl).enabled
    · by_cases hidle : WState.idle ∈ st.workers
      · obtain ⟨w, hw, hget⟩ := List.getElem_of_mem hidle
        exact Or.inr (Step.handoff w (Nat.lt_of_le_of_ne i1 hn)
          ((List.getElem?_eq_getElem hw).trans (congrArg some hget))).enabled
      · -- no worker is idle and none has returned: worker 0 is busy
        have h0 : 0 < st.workers.length := i4 ▸ hc
        have hmem := List.getElem_mem h0
        cases hw : st.workers[0] with
        | idle => rw [hw] at hmem; exact absurd hmem hidle
        | done => rw [hw] at hmem; exact absurd rfl (i3 hcl _ hmem)
        | busy s =>
          exact Or.inr (Step.finish 0 s ((List.getElem?_eq_getElem h0).trans (congrArg some hw))).enabled
  | true =>
    by_cases hall : ∀ w ∈ st.workers, w = .done
    · exact Or.inl ⟨i2 hcl, hcl, hall⟩
    · obtain ⟨x, hx, hxd⟩ := exists_not_of_not_forall hall
      obtain ⟨w, hw, hget⟩ := List.getElem_of_mem hx
      have hget' : st.workers[w]? = some x := (List.getElem?_eq_getElem hw).trans (congrArg some hget)
      cases x with
      | done => exact absurd rfl hxd
      | idle => exact Or.inr (Step.exit w hcl hget').enabled
      | busy s => exact Or.inr (Step.finish w s hget').enabled

/-- Fixed code, `exitsOnError = false` (a failing shard then changes nothing in `step`; the
    quantification over `fails` only says so): whatever the number of shards, the number `c ≥ 1` of
    workers and the set of failing shards, every executable schedule is at most `measure` steps long
    and reaches a state that is final or has an enabled action (so a schedule that cannot go on
    has ended in the final state, `pool_maximal_final`). -/
theorem pool_no_deadlock (n c : Nat) (fails : Nat → Bool) (hc : 0 < c) (sched : List Action) (st : State)
    (hrun : run false fails n (init c) sched = some st) :
    sched.length ≤ measure n (init c) ∧
    (final n st ∨ ∃ a st', step false fails n st a = some st') := by
  refine ⟨?_, progress hc (run_ind (fun _ _ _ => inv_step) sched _ _ (inv_init n c) hrun)⟩
  have := run_length sched _ _ hrun
  omega

theorem pool_maximal_final (n c : Nat) (fails : Nat → Bool) (hc : 0 < c) (sched : List Action) (st : State)
    (hrun : run false fails n (init c) sched = some st)
    (hmax : ∀ a, step false fails n st a = none) : final n st := by
  rcases (pool_no_deadlock n c fails hc sched st hrun).2 with hf | ⟨a, st', hs⟩
  · exact hf
  · rw [hmax a] at hs; cases hs

theorem measure_init (n c : Nat) : measure n (init c) = 3 * n + 1 + c := by
  simp only [measure, init, Nat.sub_zero, sum_map_replicate, weight, Nat.mul_one]
  simp

end NitroVerif.LoadPool
