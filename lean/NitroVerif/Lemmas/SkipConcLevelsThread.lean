import NitroVerif.Lemmas.SkipConcLevelsKeep
import NitroVerif.Lemmas.SkipConcStep
/-!
  The thread-local invariant `TL` of the index levels.  Every recorded predecessor / successor of level `j` is linked
  up to level `j` (`BufL`), those of the levels findPath has finished bracket the item (`KeysOK`; the successor side
  is `¬ lt`: an equal key is possible at an upper level, the case `insCheckSucc_tl` excludes), and the published node
  an Insert4 is working on at level `i` is not pointed to at level `i` or above while it is unmarked there and is
  already linked up to level `i - 1`, which the link at level `i` asks for (`InsNode`).  `PCL`'s `≤ lv` clauses are
  for `InvQ.heights`, `Seg.resp` and the `RespPC` of `Seg.goodL` at `upLinkMarked`, its SOFT_MARK clause for the level-0 mark of `EvOK` and for `StatRel`.  `TL` is
  stable under every write that is not an inserter's write for this thread's own node (`TL.keep`).
-/
namespace NitroVerif.SkipConc

def KeysOK (h : Heap) (preds succs : List Nat) (item lo hi : Nat) : Prop :=
  ∀ j, lo < j → j ≤ hi →
    Key.lt (keyOf h (preds.getD j 0)) (.fin item) ∧ ¬ Key.lt (keyOf h (succs.getD j 0)) (.fin item)

def BufL (h : Heap) (preds succs : List Nat) : Prop :=
  preds.length = Gen.maxLevel + 1 ∧ succs.length = Gen.maxLevel + 1 ∧
  ∀ j, Lk h (preds.getD j 0) j ∧ Lk h (succs.getD j 0) j

theorem BufL.pred_lk {h : Heap} {ps ss : List Nat} (b : BufL h ps ss) (j : Nat) : Lk h (ps.getD j 0) j := (b.2.2 j).1

theorem BufL.succ_lk {h : Heap} {ps ss : List Nat} (b : BufL h ps ss) (j : Nat) : Lk h (ss.getD j 0) j := (b.2.2 j).2

def InsNode (h : Heap) (x i : Nat) : Prop := UnlIf h x i ∧ Lk h x (i - 1)

/-- what the caller of findPath knows, `i` = the level findPath is working on -/
def ContL (h : Heap) (lv : Nat) (preds succs : List Nat) (item i : Nat) : Cont → Prop
  | .insFirst lvl => lvl ≤ lv ∧ KeysOK h preds succs item i lvl
  | .insRetry lvl => lvl ≤ lv ∧ KeysOK h preds succs item i lvl
  | .insRelink x lvl i' => lvl ≤ lv ∧ KeysOK h preds succs item i lvl ∧ InsNode h x i'
  | .insSuccDeleted x lvl i' => lvl ≤ lv ∧ KeysOK h preds succs item i lvl ∧ InsNode h x i'
  | _ => True

def PCL (h : Heap) (lv : Nat) (preds succs : List Nat) : PC → Prop
  | .newLevel _ _ level => level ≤ lv
  | .findLevel fp => fp.i ≤ lv ∧ Lk h fp.prev fp.i ∧ ContL h lv preds succs fp.item fp.i fp.cont
  | .findNext fp rr => fp.i ≤ lv ∧ Lk h fp.prev fp.i ∧ (rr = false → Lk h fp.curr fp.i) ∧
      ContL h lv preds succs fp.item fp.i fp.cont
  | .helpDelete fp _ => fp.i ≤ lv ∧ Lk h fp.prev fp.i ∧ ContL h lv preds succs fp.item fp.i fp.cont
  /- the node a Delete is marking carries the item of the Delete -/
  | .softMark item n _ _ _ => keyOf h n = .fin item
  | .insPublish item lvl => lvl ≤ lv ∧ KeysOK h preds succs item 0 lvl
  | .insUpRead item x lvl i => lvl ≤ lv ∧ KeysOK h preds succs item 0 lvl ∧ InsNode h x i
  | .insUpLink item x lvl i next => lvl ≤ lv ∧ KeysOK h preds succs item 0 lvl ∧ InsNode h x i ∧
      (∃ m, word? h x i = some (next, m)) ∧ Key.lt (.fin item) (keyOf h next)
  | _ => True

/-- the thread-local invariant of the index levels (`lv` = the current `s.level`) -/
def TL (h : Heap) (lv : Nat) (th : Thread) : Prop := BufL h th.preds th.succs ∧ PCL h lv th.preds th.succs th.pc

theorem TL.buf {h : Heap} {lv : Nat} {th : Thread} (b : TL h lv th) : BufL h th.preds th.succs := b.1

theorem TL.pcl {h : Heap} {lv : Nat} {th : Thread} (b : TL h lv th) : PCL h lv th.preds th.succs th.pc := b.2

theorem PCL.read_lk {h : Heap} {lv : Nat} {ps ss : List Nat} {fp : FP} {rr : Bool}
    (bp : PCL h lv ps ss (.findNext fp rr)) (L : LvInv h) : Lk h (readNode h fp rr) fp.i := by
  cases rr with
  | false => exact bp.2.2.1 rfl
  | true => exact L.getNext_Lk _ _

/-- the published node a thread is still linking into the index levels -/
def contNode : Cont → Option Nat
  | .insRelink x _ _ => some x
  | .insSuccDeleted x _ _ => some x
  | _ => none

def insNode : PC → Option Nat
  | .findLevel fp => contNode fp.cont
  | .findNext fp _ => contNode fp.cont
  | .helpDelete fp _ => contNode fp.cont
  | .insUpRead _ x _ _ => some x
  | .insUpLink _ x _ _ _ => some x
  | _ => none

/-- `contNode` / `insNode` with the level the Insert4 is working on -/
def contAt : Cont → Option (Nat × Nat)
  | .insRelink x _ i => some (x, i)
  | .insSuccDeleted x _ i => some (x, i)
  | _ => none

def insAt : PC → Option (Nat × Nat)
  | .findLevel fp => contAt fp.cont
  | .findNext fp _ => contAt fp.cont
  | .helpDelete fp _ => contAt fp.cont
  | .insUpRead _ x _ i => some (x, i)
  | .insUpLink _ x _ i _ => some (x, i)
  | _ => none

theorem insNode_eq_insAt (pc : PC) : insNode pc = (insAt pc).map (·.1) := by
  have key : ∀ c, contNode c = (contAt c).map (·.1) := fun c => by cases c <;> rfl
  cases pc with
  | findLevel fp | findNext fp _ | helpDelete fp _ => exact key fp.cont
  | _ => rfl

theorem insNode_key {h : Heap} {th : Thread} {x : Nat} (hT : TInv h th) (hx : insNode th.pc = some x) :
    ∃ k, keyOf h x = .fin k := by
  have key : ∀ (item : Nat) (c : Cont), ContInv h th item c → contNode c = some x → ∃ k, keyOf h x = .fin k := by
    intro item c hc hx
    cases c <;> cases hx
    · exact ⟨_, hc.2.1⟩
    · exact ⟨_, hc.2.1⟩
  have hp := hT.pc
  generalize th.pc = pc at hp hx
  cases pc with
  | findLevel fp => exact key _ _ hp.cont hx
  | findNext fp _ => exact key _ _ hp.1.cont hx
  | helpDelete fp _ => exact key _ _ hp.1.cont hx
  | insUpRead _ _ _ _ => cases hx; exact ⟨_, hp.2.1⟩
  | insUpLink _ _ _ _ _ => cases hx; exact ⟨_, hp.2.1⟩
  | _ => cases hx

theorem BufL.keep {h h' : Heap} {ev : LEv} {ps ss : List Nat} (H : HInv h) (s : LStep h ev h')
    (hb : BufOK h ps ss) (b : BufL h ps ss) : BufL h' ps ss :=
  ⟨b.1, b.2.1, fun j => ⟨(b.pred_lk j).keep H s (hb.pred_lt j), (b.succ_lk j).keep H s (hb.succ_lt j)⟩⟩

theorem KeysOK.ext {h h' : Heap} {ps ss : List Nat} {item lo hi : Nat} (e : Ext h h')
    (hb : BufOK h ps ss) (k : KeysOK h ps ss item lo hi) : KeysOK h' ps ss item lo hi := by
  intro j h1 h2
  have := k j h1 h2
  rw [e.key _ (hb.pred_lt j), e.key _ (hb.succ_lt j)]
  exact this

theorem InsNode.keep {h h' : Heap} {ev : LEv} (H : HInv h) (s : LStep h ev h') {x i : Nat}
    (hx : x < h.length) (hx0 : x ≠ 0) (hi : 1 ≤ i) (hev : ∀ l, ev ≠ .link x l) (b : InsNode h x i) :
    InsNode h' x i :=
  ⟨b.1.keep s hx hx0 hi hev, b.2.keep H s hx⟩

theorem ContL.keep {h h' : Heap} {ev : LEv} {lv lv' : Nat} {th : Thread} {item i : Nat} {c : Cont} (H : HInv h)
    (s : LStep h ev h') (hlv : lv ≤ lv') (hb : BufOK h th.preds th.succs)
    (hc : ContInv h th item c) (hev : ∀ x l, ev = .link x l → contNode c ≠ some x)
    (b : ContL h lv th.preds th.succs item i c) : ContL h' lv' th.preds th.succs item i c := by
  cases c with
  | insFirst lvl | insRetry lvl => exact ⟨Nat.le_trans b.1 hlv, b.2.ext s.ext hb⟩
  | insRelink x lvl j | insSuccDeleted x lvl j =>
    exact ⟨Nat.le_trans b.1 hlv, b.2.1.ext s.ext hb,
      b.2.2.keep H s hc.1 (ne_head_of_fin H hc.2.1) hc.2.2.1 (fun l c => hev _ l c rfl)⟩
  | _ => trivial

theorem TL.keep {h h' : Heap} {ev : LEv} {lv lv' : Nat} {th : Thread} (H : HInv h)
    (s : LStep h ev h') (hlv : lv ≤ lv') (hT : TInv h th)
    (hev : ∀ x, (ev = .own x ∨ ∃ l, ev = .link x l) → insNode th.pc ≠ some x)
    (b : TL h lv th) : TL h' lv' th := by
  obtain ⟨hb, _, hp⟩ := hT
  obtain ⟨bb, bp⟩ := b
  refine ⟨bb.keep H s hb, ?_⟩
  have hlink : ∀ {c : Cont}, (∀ x, (ev = .own x ∨ ∃ l, ev = .link x l) → contNode c ≠ some x) →
      ∀ x l, ev = .link x l → contNode c ≠ some x := fun hev x l c => hev x (.inr ⟨l, c⟩)
  generalize th.pc = pc at hp bp hev
  cases pc with
  | newLevel _ _ level => exact Nat.le_trans bp hlv
  | findLevel fp =>
    exact ⟨Nat.le_trans bp.1 hlv, bp.2.1.keep H s hp.1, bp.2.2.keep H s hlv hb hp.cont (hlink hev)⟩
  | findNext fp rr =>
    exact ⟨Nat.le_trans bp.1 hlv, bp.2.1.keep H s hp.1.1, fun hr => (bp.2.2.1 hr).keep H s hp.1.2.1,
      bp.2.2.2.keep H s hlv hb hp.1.cont (hlink hev)⟩
  | helpDelete fp _ =>
    exact ⟨Nat.le_trans bp.1 hlv, bp.2.1.keep H s hp.1.1, bp.2.2.keep H s hlv hb hp.1.cont (hlink hev)⟩
  | insPublish item lvl => exact ⟨Nat.le_trans bp.1 hlv, bp.2.ext s.ext hb⟩
  | insUpRead item x lvl i =>
    exact ⟨Nat.le_trans bp.1 hlv, bp.2.1.ext s.ext hb,
      bp.2.2.keep H s hp.1 (ne_head_of_fin H hp.2.1) hp.2.2.1 (fun l c => hev _ (.inr ⟨l, c⟩) rfl)⟩
  | insUpLink item x lvl i next =>
    obtain ⟨hx, hkx, h1, hnx, _⟩ := hp
    obtain ⟨hl, ko, ins, ⟨m, hw⟩, hkn⟩ := bp
    have hx0 := ne_head_of_fin H hkx
    exact ⟨Nat.le_trans hl hlv, ko.ext s.ext hb, ins.keep H s hx hx0 h1 (fun l c => hev _ (.inr ⟨l, c⟩) rfl),
      wordX_keep s hx0 h1 (fun c => hev _ (.inl c) rfl) ins.1 hw, by rw [s.ext.key _ hnx]; exact hkn⟩
  | softMark item n _ _ _ => exact (s.ext.key _ hp.1).trans bp
  | _ => trivial

theorem insAt_enterSoft (sh : Shared) (th : Thread) (item n i : Nat) (m : Bool) :
    insAt (enterSoft sh th item n i m).2.1.pc = none := by
  rcases enterSoft_cases sh th item n i m with ⟨j, next, h⟩ | ⟨_, h, _⟩ | ⟨_, h, _⟩ <;> rw [h] <;> rfl

theorem enterSoft_bufs (sh : Shared) (th : Thread) (item n i : Nat) (m : Bool) :
    (enterSoft sh th item n i m).2.1.preds = th.preds ∧ (enterSoft sh th item n i m).2.1.succs = th.succs := by
  rcases enterSoft_cases sh th item n i m with ⟨j, next, h⟩ | ⟨_, h, _⟩ | ⟨_, h, _⟩ <;> rw [h] <;> exact ⟨rfl, rfl⟩

theorem afterNext_bufs (sh : Shared) (th : Thread) (it : Nat) :
    (afterNext sh th it).2.1.preds = th.preds ∧ (afterNext sh th it).2.1.succs = th.succs := by
  obtain ⟨v, _, _, h | ⟨_, h⟩⟩ := afterNext_cases sh th it <;> rw [h] <;> exact ⟨rfl, rfl⟩

theorem insAt_afterNext (sh : Shared) (th : Thread) (it : Nat) : insAt (afterNext sh th it).2.1.pc = none := by
  obtain ⟨v, _, _, h | ⟨_, h⟩⟩ := afterNext_cases sh th it <;> rw [h] <;> rfl

theorem afterNext_tl {h : Heap} {lv : Nat} (sh : Shared) (th : Thread) (it : Nat) (b : BufL h th.preds th.succs) :
    TL h lv (afterNext sh th it).2.1 := by
  obtain ⟨v, _, _, h | ⟨_, h⟩⟩ := afterNext_cases sh th it <;> rw [h] <;> exact ⟨b, trivial⟩

theorem KeysOK.vacuous (h : Heap) (ps ss : List Nat) (item : Nat) {lo hi : Nat} (hle : hi ≤ lo) :
    KeysOK h ps ss item lo hi := fun j h1 h2 => by omega

theorem KeysOK.record {h : Heap} {ps ss : List Nat} {item i hi prev curr : Nat}
    (k : KeysOK h ps ss item (i + 1) hi) (hp : i + 1 < ps.length) (hs : i + 1 < ss.length)
    (k1 : Key.lt (keyOf h prev) (.fin item)) (k2 : ¬ Key.lt (keyOf h curr) (.fin item)) :
    KeysOK h (ps.set (i + 1) prev) (ss.set (i + 1) curr) item i hi := by
  intro j h1 h2
  by_cases e : j = i + 1
  · subst e
    rw [getD_set_same hp, getD_set_same hs]; exact ⟨k1, k2⟩
  · rw [getD_set_ne (fun c => e c.symm), getD_set_ne (fun c => e c.symm)]
    exact k j (by omega) h2

theorem KeysOK.set_low {h : Heap} {ps ss : List Nat} {item lo hi : Nat} (k : KeysOK h ps ss item lo hi)
    {i : Nat} (hi' : i ≤ lo) (p c : Nat) : KeysOK h (ps.set i p) (ss.set i c) item lo hi := by
  intro j h1 h2
  rw [getD_set_ne (by omega), getD_set_ne (by omega)]
  exact k j h1 h2

theorem BufL.record {h : Heap} {ps ss : List Nat} (b : BufL h ps ss) {i prev curr : Nat}
    (kp : Lk h prev i) (kc : Lk h curr i) : BufL h (ps.set i prev) (ss.set i curr) := by
  refine ⟨by simpa using b.1, by simpa using b.2.1, fun j => ?_⟩
  by_cases e : i = j
  · subst e
    by_cases hl : i < ps.length
    · have hl' : i < ss.length := by rw [b.2.1, ← b.1]; exact hl
      rw [getD_set_same hl, getD_set_same hl']; exact ⟨kp, kc⟩
    · have hl' : ¬ i < ss.length := by rw [b.2.1, ← b.1]; exact hl
      rw [List.set_eq_of_length_le (by omega), List.set_eq_of_length_le (by omega)]
      exact b.2.2 i
  · rw [getD_set_ne e, getD_set_ne e]; exact b.2.2 j

theorem ContL.record {h : Heap} {lv : Nat} {ps ss : List Nat} {item i prev curr : Nat} {c : Cont}
    (b : ContL h lv ps ss item (i + 1) c) (hp : i + 1 < ps.length) (hs : i + 1 < ss.length)
    (k1 : Key.lt (keyOf h prev) (.fin item)) (k2 : ¬ Key.lt (keyOf h curr) (.fin item)) :
    ContL h lv (ps.set (i + 1) prev) (ss.set (i + 1) curr) item i c := by
  cases c with
  | insFirst _ | insRetry _ => exact ⟨b.1, b.2.record hp hs k1 k2⟩
  | insRelink _ _ _ | insSuccDeleted _ _ _ => exact ⟨b.1, b.2.1.record hp hs k1 k2, b.2.2⟩
  | _ => trivial

theorem ContL.set_zero {h : Heap} {lv : Nat} {ps ss : List Nat} {item : Nat} {c : Cont}
    (b : ContL h lv ps ss item 0 c) (p q : Nat) : ContL h lv (ps.set 0 p) (ss.set 0 q) item 0 c := by
  cases c with
  | insFirst _ | insRetry _ => exact ⟨b.1, b.2.set_low (Nat.le_refl _) _ _⟩
  | insRelink _ _ _ | insSuccDeleted _ _ _ => exact ⟨b.1, b.2.1.set_low (Nat.le_refl _) _ _, b.2.2⟩
  | _ => trivial

theorem ContL.restart {h : Heap} {lv : Nat} {ps ss : List Nat} {item i : Nat} {c : Cont}
    (b : ContL h lv ps ss item i c) : ContL h lv ps ss item lv c := by
  cases c with
  | insFirst _ | insRetry _ => exact ⟨b.1, KeysOK.vacuous _ _ _ _ b.1⟩
  | insRelink _ _ _ | insSuccDeleted _ _ _ => exact ⟨b.1, KeysOK.vacuous _ _ _ _ b.1, b.2.2⟩
  | _ => trivial

theorem startFind_tl (sh : Shared) (th : Thread) (item : Nat) (cont : Cont) (b : BufL sh.heap th.preds th.succs)
    (c : ContL sh.heap sh.level th.preds th.succs item sh.level cont) :
    TL sh.heap sh.level (startFind sh th item cont).2.1 := ⟨b, Nat.le_refl _, Lk_head _ _, c⟩

theorem enterSoft_tl (sh : Shared) (th : Thread) (item n i : Nat) (m : Bool) (b : BufL sh.heap th.preds th.succs)
    (hk : keyOf sh.heap n = .fin item) :
    TL (enterSoft sh th item n i m).1.heap (enterSoft sh th item n i m).1.level (enterSoft sh th item n i m).2.1 := by
  rcases enterSoft_cases sh th item n i m with ⟨j, next, h⟩ | ⟨_, h, _⟩ | ⟨_, h, _⟩ <;> rw [h]
  · exact ⟨b, hk⟩
  · exact ⟨b, trivial⟩
  · exact ⟨b, trivial⟩

theorem insFinished_tl (sh : Shared) (th : Thread) (lvl : Nat) (b : BufL sh.heap th.preds th.succs) :
    TL sh.heap sh.level (insFinished sh th lvl).2.1 := ⟨b, trivial⟩

theorem finishFind_tl (sh : Shared) (th : Thread) (item : Nat) (found : Bool) (cont : Cont)
    (b : BufL sh.heap th.preds th.succs) (c : ContL sh.heap sh.level th.preds th.succs item 0 cont)
    (hfk : found = true → keyOf sh.heap (th.succs.getD 0 0) = .fin item) :
    TL sh.heap sh.level (finishFind sh th item found cont).2.1 := by
  have s := finishFind_cases sh th item found cont
  generalize finishFind sh th item found cont = r at s ⊢
  cases s with
  | insFirstMiss | insRetryMiss | insRelink | insSuccDeleted => exact ⟨b, c⟩
  | delHit =>
    have := enterSoft_tl sh th item (th.succ 0) (heightOf sh.heap (th.succ 0)) false b (hfk rfl)
    rwa [enterSoft_sh] at this
  | iterDone => exact afterNext_tl _ _ _ b
  | _ => exact ⟨b, trivial⟩

theorem insAt_finishFind (sh : Shared) (th : Thread) (item : Nat) (found : Bool) (c : Cont) :
    insAt (finishFind sh th item found c).2.1.pc = contAt c := by
  have s := finishFind_cases sh th item found c
  generalize finishFind sh th item found c = r at s ⊢
  cases s with
  | delHit => exact insAt_enterSoft ..
  | iterDone => exact insAt_afterNext ..
  | _ => rfl

theorem insAt_insCheckSucc (sh : Shared) (th : Thread) (item x lvl i next : Nat) :
    insAt (insCheckSucc sh th item x lvl i next).2.1.pc = some (x, i) := by
  rcases insCheckSucc_cases sh th item x lvl i next with h | h <;> rw [h] <;> rfl

end NitroVerif.SkipConc
