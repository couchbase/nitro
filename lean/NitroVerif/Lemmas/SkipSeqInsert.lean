import NitroVerif.Lemmas.SkipSeqRep
import NitroVerif.Lemmas.SkipSeqGen
/-!
  The first steps of `Insert2` (and of `Segment.Add`): `NewLevel`, `newNode`, and the loop that presets
  the links of the new node.
-/
namespace NitroVerif.SkipSeq

theorem newLevel_spec (s : SL) (req : Nat) (hl : s.level ≤ Gen.maxLevel) :
    (newLevel s req).1.nodes = s.nodes ∧ (newLevel s req).1.stats = s.stats ∧
    (newLevel s req).1.buf = s.buf ∧ (newLevel s req).1.stuck = s.stuck ∧
    s.level ≤ (newLevel s req).1.level ∧
    (newLevel s req).1.level ≤ Gen.maxLevel ∧ (newLevel s req).2 ≤ (newLevel s req).1.level := by
  simp only [newLevel]
  have hc := Gen.newLevelClamp_le req
  split
  · rename_i hb
    have hlt := (Gen.newLevelBump_iff _ _).mp hb
    exact ⟨rfl, rfl, rfl, rfl, Nat.le_succ _, Nat.lt_of_lt_of_le hlt hc, Nat.le_refl _⟩
  · rename_i hb
    exact ⟨rfl, rfl, rfl, rfl, Nat.le_refl _, hl,
      Nat.not_lt.mp (fun h => hb ((Gen.newLevelBump_iff _ _).mpr h))⟩

theorem Rep.newLevel {s : SL} {L0 : List Nat} (hr : Rep s L0) (req : Nat) :
    Rep (newLevel s req).1 L0 := by
  rcases newLevel_spec s req hr.lvl with ⟨hnodes, hstats, hbuf, hstuck, hge, hmax, _⟩
  exact hr.congr (by rw [hnodes]; exact Nat.le_refl _) (fun n _ => by rw [hnodes]; simp) hge hmax hstats
    (by rw [hbuf]) (by rw [hbuf]) hstuck

theorem Rep.newNode {s : SL} {L0 : List Nat} (hr : Rep s L0) (k : Key) (lv : Nat) :
    Rep (newNode s k lv).1 L0 := by
  apply hr.congr
  · simp [SkipSeq.newNode]
  · intro n hn
    have hlt := hr.lt_length hn
    simp only [SkipSeq.newNode]
    exact ⟨keyOf_append_old hlt, levelOf_append_old hlt, nextLen_append_old hlt,
      fun l => getNext_append_old hlt l⟩
  · exact Nat.le_refl _
  · exact hr.lvl
  · rfl
  · rfl
  · rfl
  · rfl

theorem setNexts_spec (x : Nat) : ∀ (n i : Nat) (s : SL),
    (∀ j, i ≤ j → j < i + n → j < nextLen s.nodes x) →
    Kept s (setNexts x n i s) ∧ (setNexts x n i s).stats = s.stats ∧
    SameShape s.nodes (setNexts x n i s).nodes ∧
    (∀ m l, getNext (setNexts x n i s).nodes m l
        = if m = x ∧ i ≤ l ∧ l < i + n then (s.buf.succs.getD l 0, false) else getNext s.nodes m l) := by
  intro n
  induction n with
  | zero =>
    intro i s _
    refine ⟨Kept.refl s, rfl, SameShape.refl _, fun m l => ?_⟩
    rw [if_neg (fun h => Nat.lt_irrefl _ (Nat.lt_of_le_of_lt h.2.1 h.2.2))]
    rfl
  | succ n ih =>
    intro i s hs
    have hslot : i < nextLen s.nodes x := hs i (Nat.le_refl _) (Nat.lt_add_of_pos_right (Nat.succ_pos n))
    rcases ih (i + 1) { s with nodes := setNext s.nodes x i (s.buf.succs.getD i 0, false) }
      (fun j h1 h2 => by
        rw [nextLen_setNext]; exact hs j (Nat.le_of_succ_le h1) (by rw [Nat.add_right_comm] at h2; exact h2))
      with ⟨hk, hst, hsh, hl⟩
    refine ⟨⟨hk.level, hk.buf, hk.stuck⟩, hst, ((SameShape.refl _).setNext _ _ _).trans hsh, fun m l => ?_⟩
    show getNext (setNexts x n (i + 1) _).nodes m l = _
    rw [hl m l, getNext_setNext hslot]
    by_cases hm : m = x
    · subst hm
      by_cases hil : i = l
      · subst hil
        simp only [true_and, Nat.le_refl, Nat.lt_add_of_pos_right (Nat.succ_pos n), and_self, if_true,
          Nat.not_succ_le_self, false_and, if_false]
      · have e : (i + 1 ≤ l ∧ l < i + 1 + n) ↔ (i ≤ l ∧ l < i + (n + 1)) := by omega
        simp only [true_and, hil, and_false, if_false, e]
    · simp only [hm, false_and, if_false, Ne.symm hm]

end NitroVerif.SkipSeq
