/-
  C01 along concurrent histories: reference counts.  Every snapshot's reference count covers the creation
  reference still held by the script and every iterator opened on it that has not begun its `Close`.
-/
import NitroVerif.Lemmas.MvccConcIterInv

namespace NitroVerif.MvccConc

/-- iterator record `p` holds a reference to snapshot `sn`: it is open on it and has not begun its `Close` -/
def refP (threads : List Pc) (sn : Nat) (p : (Nat × Nat) × Iter) : Bool := p.2.sn == sn && !closingB threads p.1

def cntRef (threads : List Pc) (iters : List ((Nat × Nat) × Iter)) (sn : Nat) : Nat :=
  iters.countP (refP threads sn)

def RefC (threads : List Pc) (iters : List ((Nat × Nat) × Iter)) (snaps : List Snap) : Prop :=
  ∀ s ∈ snaps, (((if s.held then 1 else 0 : Nat) : Int) + (cntRef threads iters s.sn : Nat)) ≤ s.rc

def RefInv (σ : State) : Prop := RefC σ.threads σ.iters σ.snaps

theorem refP_iff {threads : List Pc} {sn : Nat} {p : (Nat × Nat) × Iter} :
    refP threads sn p = true ↔ p.2.sn = sn ∧ closingB threads p.1 = false := by
  unfold refP; simp

theorem refP_congr {threads threads' : List Pc} {sn : Nat} {p : (Nat × Nat) × Iter}
    (h : closingB threads' p.1 = closingB threads p.1) : refP threads' sn p = refP threads sn p := by
  unfold refP; rw [h]

theorem cntRef_pos {threads : List Pc} {iters : List ((Nat × Nat) × Iter)} {sn : Nat} {p : (Nat × Nat) × Iter}
    (hm : p ∈ iters) (hP : refP threads sn p = true) : 0 < cntRef threads iters sn :=
  List.countP_pos_iff.mpr ⟨p, hm, hP⟩

theorem cntRef_eq_zero {threads : List Pc} {iters : List ((Nat × Nat) × Iter)} {sn : Nat}
    (h : ∀ p ∈ iters, p.2.sn ≠ sn) : cntRef threads iters sn = 0 :=
  List.countP_eq_zero.mpr (fun p hp hP => h p hp (refP_iff.mp hP).1)

theorem cntRef_set_same {threads : List Pc} {t : Nat} {pc0 pc' : Pc} (ht : threads[t]? = some pc0)
    (hc : pc'.closes = pc0.closes) (iters : List ((Nat × Nat) × Iter)) (sn : Nat) :
    cntRef (threads.set t pc') iters sn = cntRef threads iters sn := by
  exact List.countP_congr (fun p _ => by rw [refP_congr (closingB_set_same ht hc p.1)])

theorem RefC.threads {threads : List Pc} {iters : List ((Nat × Nat) × Iter)} {snaps : List Snap} {t : Nat}
    {pc0 pc' : Pc} (h : RefC threads iters snaps) (ht : threads[t]? = some pc0) (hc : pc'.closes = pc0.closes) :
    RefC (threads.set t pc') iters snaps := by
  intro s hs
  rw [cntRef_set_same ht hc]
  exact h s hs

theorem ThrQuiet.ref {threads threads' : List Pc} (h : ThrQuiet threads threads')
    {iters : List ((Nat × Nat) × Iter)} {snaps : List Snap} (hr : RefC threads iters snaps) :
    RefC threads' iters snaps := by
  rcases h with h | ⟨t, pc0, pc', hg, h0, hp, h⟩
  · rw [h]; exact hr
  · rw [h]
    exact hr.threads hg (by rw [closes_of_not_coll h0, closes_of_not_coll hp])

theorem cntRef_setIter_same {threads : List Pc} {iters : List ((Nat × Nat) × Iter)} {k : Nat × Nat} {it it' : Iter}
    (hm : (k, it) ∈ iters) (hsn : it'.sn = it.sn) (sn : Nat) :
    cntRef threads (setIter k it' iters) sn ≤ cntRef threads iters sn := by
  unfold cntRef setIter eraseIter
  rw [List.countP_append]
  have hP : refP threads sn (k, it') = refP threads sn (k, it) := by unfold refP; simp [hsn]
  simp only [List.countP_cons, List.countP_nil, Nat.zero_add]
  cases hk : refP threads sn (k, it)
  · rw [hP, hk]
    simp only [Bool.false_eq_true, if_false, Nat.add_zero]
    exact countP_filter_le _ _ _ iters (fun _ _ _ h => h)
  · rw [hP, hk]
    simp only [if_true]
    exact countP_filter_lt _ _ _ (k, it) iters (fun _ _ _ h => h) hm hk (Or.inl (by simp))

theorem cntRef_setIter_new (threads : List Pc) (iters : List ((Nat × Nat) × Iter)) (k : Nat × Nat) (it' : Iter)
    (sn : Nat) :
    cntRef threads (setIter k it' iters) sn ≤ cntRef threads iters sn + (if it'.sn = sn then 1 else 0) := by
  unfold cntRef setIter eraseIter
  rw [List.countP_append]
  have h1 := countP_filter_le (refP threads sn) (refP threads sn) (fun p => p.1 != k) iters (fun _ _ _ h => h)
  simp only [List.countP_cons, List.countP_nil, Nat.zero_add]
  by_cases hs : it'.sn = sn
  · simp only [hs, if_true]
    split <;> omega
  · have : refP threads sn (k, it') = false := by unfold refP; simp [hs]
    simp only [this, hs, if_false, Bool.false_eq_true]
    omega

theorem TailThr.cntRef_le {σ σ' : State} {t : Nat} {after : Option Nat} {pc0 : Pc} (h : TailThr σ σ' t after)
    (ht : σ.threads[t]? = some pc0) (hc : pc0.closes = none ∨ pc0.closes = after) (sn : Nat) :
    cntRef σ'.threads σ'.iters sn ≤ cntRef σ.threads σ.iters sn := by
  rcases h with ⟨h1, h2⟩ | ⟨s, h1, h2⟩
  · rw [h1, h2]
    cases after with
    | none =>
      refine List.countP_mono_left (fun p _ hP => ?_)
      rwa [refP_congr (closing_other (after := none) ht hc (Or.inl rfl) (fun _ h => nomatch h))] at hP
    | some i =>
      refine countP_filter_le _ _ _ _ (fun p _ hq hP => ?_)
      have hne : p.1 ≠ (t, i) := by simpa using hq
      rwa [refP_congr (closing_other (after := some i) ht hc (Or.inl rfl) (fun _ h => by cases h; exact hne))] at hP
  · rw [h1, h2]
    refine List.countP_mono_left (fun p _ hP => ?_)
    by_cases hk : ∃ i, after = some i ∧ p.1 = (t, i)
    · -- the iterator being closed: the collector's program counter says it has begun its Close
      obtain ⟨i, rfl, hp⟩ := hk
      have := (refP_iff.mp hP).2
      rw [closingB_set_self ht (congrArg Prod.fst hp), hp, closes_collectSend] at this
      simp at this
    · rwa [refP_congr (closing_other (pc' := .collectSend s after) ht hc (Or.inr (closes_collectSend ..))
        (fun i h e => hk ⟨i, h, e⟩))] at hP

theorem TailThr.cntRef_lt {σ σ' : State} {t i : Nat} {it : Iter} {pc0 : Pc} (h : TailThr σ σ' t (some i))
    (ht : σ.threads[t]? = some pc0) (hc : pc0.closes = none) (hm : ((t, i), it) ∈ σ.iters) :
    cntRef σ'.threads σ'.iters it.sn + 1 ≤ cntRef σ.threads σ.iters it.sn := by
  have hcount : refP σ.threads it.sn ((t, i), it) = true :=
    refP_iff.mpr ⟨rfl, by rw [closingB_eq (k := (t, i)) ht, hc]; rfl⟩
  rcases h with ⟨h1, h2⟩ | ⟨s, h1, h2⟩
  · rw [h1, h2]
    refine countP_filter_lt _ _ _ _ _ (fun p _ hq hP => ?_) hm hcount (Or.inl (by simp))
    have hne : p.1 ≠ (t, i) := by simpa using hq
    rwa [refP_congr (closing_other (after := some i) ht (Or.inl hc) (Or.inl rfl) (fun _ h => by cases h; exact hne))] at hP
  · rw [h1, h2]
    refine countP_lt_imp _ _ _ _ (fun p _ hP => ?_) hm hcount ?_
    · rw [refP_iff] at hP ⊢
      refine ⟨hP.1, ?_⟩
      by_cases hk : p.1.1 = t
      · rw [closingB_eq (by rw [hk]; exact ht), hc]; rfl
      · rw [closingB_set_other hk] at hP; exact hP.2
    · unfold refP
      rw [closingB_set_self ht (k := (t, i)) rfl, closes_collectSend]
      simp

theorem ref_qstep {σ σ' : State} (hv : RefInv σ) (hq : QStep σ σ') : RefInv σ' := by
  unfold RefInv
  rw [hq.snaps, hq.iters]
  exact hq.thr.ref hv

theorem ref_snap {σ : State} (hi : Inv σ) (hk : IterInv σ) (hv : RefInv σ) : RefInv (snap σ).1 := by
  show RefC σ.threads σ.iters (σ.snaps ++ [_])
  intro s hs
  rcases List.mem_append.mp hs with hs | hs
  · exact hv s hs
  · simp at hs; subst hs
    simp only
    rw [cntRef_eq_zero (fun p hp => Nat.ne_of_lt (hk.sn_lt hi hp))]; simp

theorem RefC.updSnap {threads threads' : List Pc} {iters iters' : List ((Nat × Nat) × Iter)} {snaps : List Snap}
    {s : Nat} {f : Snap → Snap} (h : RefC threads iters snaps)
    (hother : ∀ x ∈ snaps, x.sn ≠ s → cntRef threads' iters' x.sn ≤ cntRef threads iters x.sn)
    (hs : ∀ x ∈ snaps, x.sn = s →
      (((if (f x).held then 1 else 0 : Nat) : Int) + (cntRef threads' iters' (f x).sn : Nat)) ≤ (f x).rc) :
    RefC threads' iters' (updSnap s f snaps) := by
  intro y hy
  obtain ⟨x, hx, rfl⟩ := mem_updSnap hy
  by_cases hxs : x.sn = s
  · rw [if_pos hxs]; exact hs x hx hxs
  · rw [if_neg hxs]
    have h1 := h x hx
    have h2 := hother x hx hxs
    omega

theorem ref_eff {σ : State} {a : Act} {t : Nat} {p : State × Resp} (hi : Inv σ) (hv : RefInv σ)
    (h : REff σ a t p) : RefInv p.1 := by
  cases h with
  | land i it land pc' hf hk hpc he =>
    obtain ⟨pc0, ht, hc⟩ := land_thread (hk.imp (·.2.1) (·.2.1))
    rw [he]
    show RefC (σ.threads.set t pc') (setIter (t, i) _ σ.iters) σ.snaps
    refine RefC.threads ?_ ht (closes_landed hc hpc)
    intro s hs
    have h1 := hv s hs
    have h2 := cntRef_setIter_same (threads := σ.threads) (it' := { it with cur := land.map curAt })
      (findIter_some hf) rfl s.sn
    omega
  | open_ i s x _ _ _ _ he =>
    rw [he]
    show RefC σ.threads (setIter (t, i) _ σ.iters) (updSnap s _ σ.snaps)
    have hnew := cntRef_setIter_new σ.threads σ.iters (t, i) ⟨s, curTok σ, none⟩
    refine RefC.updSnap hv (fun w _ hws => ?_) (fun w hw hws => ?_)
    · have := hnew w.sn
      rwa [if_neg (fun e : s = w.sn => hws e.symm)] at this
    · have h1 := hv w hw
      have h2 := hnew w.sn
      rw [if_pos hws.symm] at h2
      dsimp only
      omega
  | close s x f after ht hs hwho hf htl =>
    have htl' : TailThr σ p.1 t after := htl.tail.2
    have ⟨hxm, hxs⟩ := findSnap_some hs
    unfold RefInv
    rw [htl.tail.1]
    refine RefC.updSnap hv (fun w _ _ => htl'.cntRef_le ht (Or.inl rfl) w.sn) (fun w hw hws => ?_)
    have h1 := hv w hw
    have h2 := htl'.cntRef_le ht (Or.inl rfl) w.sn
    rw [hf.sn w, hf.rc w]
    rcases hwho with ⟨_, rfl, hheld, hh⟩ | ⟨i, it, _, rfl, hfi, hsn, hh⟩
    · have hwx : w = x := snap_unique hi.store.snaps_inc hw hxm (hws.trans hxs.symm)
      rw [hh, hwx]
      rw [hwx, hheld] at h1
      rw [hwx] at h2
      simp only [if_true] at h1
      simp only [Bool.false_eq_true, if_false]
      omega
    · have := htl'.cntRef_lt ht rfl (findIter_some hfi)
      rw [hh, hws, ← hsn]
      rw [hws, ← hsn] at h1
      omega
  | collect sn x after _ ht _ htl =>
    have htl' : TailThr σ p.1 t after := htl.tail.2
    have hle := fun s => htl'.cntRef_le ht
      (Or.inr (closes_collectSend sn after)) s
    unfold RefInv
    rw [htl.tail.1]
    exact RefC.updSnap hv (fun w _ _ => hle w.sn)
      (fun w hw _ => by have := hv w hw; have := hle w.sn; dsimp only at *; omega)

end NitroVerif.MvccConc
