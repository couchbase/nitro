/-
  The allocator.  Freeing a list of nodes hands back its blocks, each once.  `OwnBooks` over variables (an owner
  count `c`, a predicate `r` for a parked Put): what keeps it and the three moves that involve the allocator.  Read
  at the invariant: a block is live exactly when its node has an owner (the node block: and is not a parked Put's),
  so whatever a token holder, a cursor, a parked Put or the store names is live (the references of C04).  `Books`: what
  the allocator's logs satisfy in every state, shut down or not.
-/
import NitroVerif.Lemmas.MvccConcOwn

namespace NitroVerif.MvccConc

def blocksOf (l : List Nat) : List Blk := l.flatMap (fun m => [Blk.item m, Blk.node m])

theorem mem_blocksOf {l : List Nat} {b : Blk} : b ∈ blocksOf l ↔ ∃ m ∈ l, b = .item m ∨ b = .node m := by
  unfold blocksOf; simp [List.mem_flatMap]

theorem item_mem_blocksOf {l : List Nat} {m : Nat} : Blk.item m ∈ blocksOf l ↔ m ∈ l := by
  rw [mem_blocksOf]
  constructor
  · rintro ⟨k, hk, hb | hb⟩
    · injection hb with e; exact e ▸ hk
    · cases hb
  · exact fun h => ⟨m, h, Or.inl rfl⟩

theorem node_mem_blocksOf {l : List Nat} {m : Nat} : Blk.node m ∈ blocksOf l ↔ m ∈ l := by
  rw [mem_blocksOf]
  constructor
  · rintro ⟨k, hk, hb | hb⟩
    · cases hb
    · injection hb with e; exact e ▸ hk
  · exact fun h => ⟨m, h, Or.inr rfl⟩

theorem head_not_mem_blocksOf (l : List Nat) : Blk.head ∉ blocksOf l := by
  intro h
  obtain ⟨k, _, hb | hb⟩ := mem_blocksOf.mp h <;> cases hb

theorem tail_not_mem_blocksOf (l : List Nat) : Blk.tail ∉ blocksOf l := by
  intro h
  obtain ⟨k, _, hb | hb⟩ := mem_blocksOf.mp h <;> cases hb

theorem blocksOf_nodup : ∀ (l : List Nat), l.Nodup → (blocksOf l).Nodup
  | [], _ => List.nodup_nil
  | m :: r, hn => by
    have hn' := List.nodup_cons.mp hn
    have ih := blocksOf_nodup r hn'.2
    have hi : Blk.item m ∉ blocksOf r := fun h => hn'.1 (item_mem_blocksOf.mp h)
    have hd : Blk.node m ∉ blocksOf r := fun h => hn'.1 (node_mem_blocksOf.mp h)
    show ([Blk.item m, Blk.node m] ++ blocksOf r).Nodup
    rw [List.nodup_append]
    refine ⟨by simp, ih, ?_⟩
    intro a ha b hb he
    subst he
    rcases List.mem_cons.mp ha with rfl | ha
    · exact hi hb
    · exact hd (List.mem_singleton.mp ha ▸ hb)

theorem nodup_append_blocksOf {freed : List Blk} {l : List Nat} (hf : freed.Nodup) (hn : l.Nodup)
    (hl : ∀ m ∈ l, Blk.item m ∉ freed ∧ Blk.node m ∉ freed) : (freed ++ blocksOf l).Nodup := by
  rw [List.nodup_append]
  refine ⟨hf, blocksOf_nodup l hn, ?_⟩
  intro a ha b hb he
  subst he
  obtain ⟨k, hk, hbk⟩ := mem_blocksOf.mp hb
  rcases hbk with rfl | rfl
  · exact (hl k hk).1 ha
  · exact (hl k hk).2 ha

theorem free_live {σ : State} {b : Blk} (ha : b ∈ σ.allocd) (hf : b ∉ σ.freed) :
    (free σ b).freed = σ.freed ++ [b] ∧ (free σ b).bad = σ.bad ∧ (free σ b).allocd = σ.allocd := by
  unfold free
  have : isLive σ b = true := by simp [isLive, ha, hf]
  simp [this]

theorem freeNodes_spec : ∀ (l : List Nat) (σ : State), l.Nodup →
    (∀ m ∈ l, Blk.item m ∈ σ.allocd ∧ Blk.node m ∈ σ.allocd ∧ Blk.item m ∉ σ.freed ∧ Blk.node m ∉ σ.freed) →
    (freeNodes σ l).freed = σ.freed ++ blocksOf l ∧ (freeNodes σ l).bad = σ.bad
  | [], σ, _, _ => by simp [freeNodes, blocksOf]
  | m :: r, σ, hn, hl => by
    have ⟨ha1, ha2, hf1, hf2⟩ := hl m (List.mem_cons_self)
    have hn' := List.nodup_cons.mp hn
    obtain ⟨e1, e2, e3⟩ := free_live ha1 hf1
    have hf2' : Blk.node m ∉ (free σ (.item m)).freed := by rw [e1]; simp [hf2]
    obtain ⟨g1, g2, g3⟩ := free_live (σ := free σ (.item m)) (by rw [e3]; exact ha2) hf2'
    unfold freeNodes
    have ih := freeNodes_spec r (free (free σ (.item m)) (.node m)) hn'.2 (by
      intro k hk
      have hkm : k ≠ m := fun he => hn'.1 (he ▸ hk)
      have ⟨b1, b2, b3, b4⟩ := hl k (List.mem_cons_of_mem _ hk)
      rw [g3, e3, g1, e1]
      refine ⟨b1, b2, ?_, ?_⟩
      · simp [b3, hkm]
      · simp [b4, hkm])
    rw [ih.1, ih.2, g1, g2, e1, e2]
    simp [blocksOf]

variable {c c' : Nat → Nat} {r r' : Nat → Prop} {N : Nat} {A F F' : List Blk}

theorem NodeOK.live_item {n k : Nat} {p : Prop} (h : NodeOK N A F n k p) : (Blk.item n ∈ A ∧ Blk.item n ∉ F) ↔ 0 < k := by
  rw [h.a_item, h.f_item]
  exact ⟨fun ⟨hl, hf⟩ => Nat.pos_of_ne_zero fun h0 => hf ⟨hl, h0⟩, fun hp => ⟨h.lt hp, fun hf => Nat.ne_of_gt hp hf.2⟩⟩

theorem NodeOK.live_node {n k : Nat} {p : Prop} (h : NodeOK N A F n k p) :
    (Blk.node n ∈ A ∧ Blk.node n ∉ F) ↔ (0 < k ∧ ¬ p) := by
  rw [h.a_node, h.f_node]
  exact ⟨fun ⟨⟨hl, hr⟩, hf⟩ => ⟨Nat.pos_of_ne_zero fun h0 => hf ⟨hl, h0⟩, hr⟩,
    fun ⟨hp, hr⟩ => ⟨⟨h.lt hp, hr⟩, fun hf => Nat.ne_of_gt hp hf.2⟩⟩

theorem OwnBooks.sub (h : OwnBooks c r N A F) : ∀ b ∈ F, b ∈ A := by
  intro b hb
  cases b with
  | head => exact absurd hb h.sent.2.2.1
  | tail => exact absurd hb h.sent.2.2.2
  | item n => exact ((h.node n).a_item).mpr (((h.node n).f_item).mp hb).1
  | node n =>
    have := ((h.node n).f_node).mp hb
    exact ((h.node n).a_node).mpr ⟨this.1, fun hr => Nat.ne_of_gt ((h.node n).res hr) this.2⟩

theorem OwnBooks.alloc_item (h : OwnBooks c r N A F) (hc : ∀ m, c' m = c m + [N].count m)
    (hr : ∀ m, r' m ↔ (r m ∨ m = N)) : OwnBooks c' r' (N + 1) (A ++ [.item N]) F := by
  have h0 : c N = 0 := Nat.eq_zero_of_not_pos fun hp => Nat.lt_irrefl _ ((h.node N).lt hp)
  refine ⟨fun m => ?_, ⟨List.mem_append_left _ h.sent.1, List.mem_append_left _ h.sent.2.1, h.sent.2.2⟩,
    nodup_concat h.a_nodup fun ha => Nat.lt_irrefl _ (((h.node N).a_item).mp ha), h.f_nodup⟩
  have hm := h.node m
  by_cases he : m = N
  · subst he
    have hc1 : c' m = 1 := by rw [hc, h0, List.count_singleton_self]
    refine ⟨Nat.le_of_eq hc1, fun _ => Nat.lt_succ_self _, fun _ => hc1 ▸ Nat.one_pos, by simp, ?_, ?_, ?_⟩
    · simp only [List.mem_append, hm.a_node, List.mem_singleton, reduceCtorEq, or_false, hr, or_true, not_true,
        and_false, iff_false]
      exact fun h => Nat.lt_irrefl _ h.1
    · rw [hm.f_item, hc1]; simp
    · rw [hm.f_node, hc1]; simp
  · have hc0 : c' m = c m := by rw [hc, List.count_singleton, beq_eq_false_iff_ne.mpr (Ne.symm he)]; rfl
    have hlt : m < N + 1 ↔ m < N :=
      ⟨fun h => Nat.lt_of_le_of_ne (Nat.le_of_lt_succ h) he, fun h => Nat.lt_succ_of_lt h⟩
    have hr0 : r' m ↔ r m := by rw [hr]; simp [he]
    rw [hc0]
    exact ⟨hm.le, fun hp => hlt.mpr (hm.lt hp), fun h => hm.res (hr0.mp h), by simp [hm.a_item, he, hlt],
      by simp [hm.a_node, hr0, hlt], by rw [hlt]; exact hm.f_item, by rw [hlt]; exact hm.f_node⟩

theorem OwnBooks.alloc_node (h : OwnBooks c r N A F) {n : Nat} (hn : r n) (hr : ∀ m, r' m ↔ (r m ∧ m ≠ n)) :
    OwnBooks c r' N (A ++ [.node n]) F := by
  have hnn := h.node n
  have hlt : n < N := hnn.lt (hnn.res hn)
  refine ⟨fun m => ?_, ⟨List.mem_append_left _ h.sent.1, List.mem_append_left _ h.sent.2.1, h.sent.2.2⟩,
    nodup_concat h.a_nodup fun ha => ((hnn.a_node).mp ha).2 hn, h.f_nodup⟩
  have hm := h.node m
  refine ⟨hm.le, hm.lt, fun h => hm.res ((hr m).mp h).1, by simp [hm.a_item], ?_, hm.f_item, hm.f_node⟩
  by_cases he : m = n
  · subst he; simp [hr, hlt]
  · simp [hm.a_node, hr, he]

theorem OwnBooks.freeable (h : OwnBooks c r N A F) {L : List Nat} (hc : ∀ m, c' m + L.count m = c m)
    (hr : ∀ m ∈ L, ¬ r m) :
    L.Nodup ∧ ∀ m ∈ L, Blk.item m ∈ A ∧ Blk.node m ∈ A ∧ Blk.item m ∉ F ∧ Blk.node m ∉ F := by
  refine ⟨List.nodup_iff_count.mpr fun m => Nat.le_trans (Nat.le.intro (Nat.add_comm _ _ ▸ hc m)) (h.node m).le,
    fun m hm => ?_⟩
  have hp : 0 < c m := Nat.lt_of_lt_of_le (List.count_pos_iff.mpr hm) (Nat.le.intro (Nat.add_comm _ _ ▸ hc m))
  have h1 := (h.node m).live_item.mpr hp
  have h2 := (h.node m).live_node.mpr ⟨hp, hr m hm⟩
  exact ⟨h1.1, h2.1, h1.2, h2.2⟩

theorem OwnBooks.free (h : OwnBooks c r N A F) {L : List Nat} (hc : ∀ m, c' m + L.count m = c m)
    (hr : ∀ m ∈ L, ¬ r m) (hF : ∀ b, b ∈ F' ↔ (b ∈ F ∨ b ∈ blocksOf L)) (hnd : F'.Nodup) : OwnBooks c' r N A F' := by
  refine ⟨fun m => ?_, ⟨h.sent.1, h.sent.2.1, ?_, ?_⟩, h.a_nodup, hnd⟩
  · have hm := h.node m
    have hcm := hc m
    have hle := hm.le
    have hc'le : c' m ≤ c m := Nat.le.intro hcm
    have hfree : (m < N ∧ c' m = 0) ↔ ((m < N ∧ c m = 0) ∨ m ∈ L) := by
      constructor
      · rintro ⟨hl, h0⟩
        by_cases hmL : m ∈ L
        · exact Or.inr hmL
        · exact Or.inl ⟨hl, by rw [← hcm, h0, List.count_eq_zero.mpr hmL]⟩
      · rintro (⟨hl, h0⟩ | hmL)
        · exact ⟨hl, Nat.eq_zero_of_le_zero (h0 ▸ hc'le)⟩
        · have := List.count_pos_iff.mpr hmL
          exact ⟨hm.lt (by omega), by omega⟩
    refine ⟨Nat.le_trans hc'le hle, fun hp => hm.lt (Nat.lt_of_lt_of_le hp hc'le), fun hr' => ?_, hm.a_item,
      hm.a_node, ?_, ?_⟩
    · have h0 : L.count m = 0 := List.count_eq_zero.mpr fun hmL => hr m hmL hr'
      rw [h0, Nat.add_zero] at hcm
      exact hcm ▸ hm.res hr'
    · rw [hF, hm.f_item, item_mem_blocksOf, hfree]
    · rw [hF, hm.f_node, node_mem_blocksOf, hfree]
  · rw [hF]; exact fun h' => h'.elim h.sent.2.2.1 (head_not_mem_blocksOf _)
  · rw [hF]; exact fun h' => h'.elim h.sent.2.2.2 (tail_not_mem_blocksOf _)

theorem OwnBooks.free_append (h : OwnBooks c r N A F) {L : List Nat} (hc : ∀ m, c' m + L.count m = c m)
    (hr : ∀ m ∈ L, ¬ r m) : OwnBooks c' r N A (F ++ blocksOf L) :=
  have ⟨hnd, hl⟩ := h.freeable hc hr
  h.free hc hr (fun _ => List.mem_append) (nodup_append_blocksOf h.f_nodup hnd fun m hm => (hl m hm).2.2)

theorem OwnBooks.none_left (h : OwnBooks (fun _ => 0) r N A F) (b : Blk) :
    (b ∈ F ∨ b = .head ∨ b = .tail) ↔ b ∈ A := by
  cases b with
  | head => simp [h.sent.1]
  | tail => simp [h.sent.2.1]
  | item n => simp [(h.node n).f_item, (h.node n).a_item]
  | node n =>
    have hnr : ¬ r n := fun hr => Nat.lt_irrefl 0 ((h.node n).res hr)
    simp [(h.node n).f_node, (h.node n).a_node, hnr]

theorem isLive_iff (σ : State) (b : Blk) : isLive σ b = true ↔ b ∈ σ.allocd ∧ b ∉ σ.freed := by
  unfold isLive; simp

theorem live_item_iff_own {σ : State} (h : Inv σ) (n : Nat) : isLive σ (.item n) = true ↔ 0 < own σ n :=
  (isLive_iff σ _).trans (h.own.node n).live_item

theorem live_node_iff_own {σ : State} (h : Inv σ) (n : Nat) :
    isLive σ (.node n) = true ↔ (0 < own σ n ∧ ¬ reserved σ.threads n) :=
  (isLive_iff σ _).trans (h.own.node n).live_node

theorem own_of_prot {σ : State} (h : Inv σ) {n tok : Nat} (hpr : Prot σ.threads σ.store σ.gcJobs σ.sess n tok)
    {s : Sess} (hs : σ.sess[tok]? = some s) (hne : s.holders ≠ []) :
    0 < own σ n ∧ ¬ reserved σ.threads n := by
  have hfs : σ.freeSeq ≤ tok := Nat.le_of_not_lt fun hlt => hne (h.tok.destr tok s hlt hs)
  have h1 := protC_le_ownC (store := σ.store) (threads := σ.threads) (gcJobs := σ.gcJobs) (sess := σ.sess)
    (frJobs := σ.frJobs) hfs n
  have h3 := (h.own.node n).le
  rw [reserved_iff_count]
  unfold Prot at hpr
  unfold own; omega

theorem live_of_ref {σ : State} (h : Inv σ) {t n tok : Nat} {pc : Pc} (ht : σ.threads[t]? = some pc)
    (hr : pc.ref = some (n, tok)) : isLive σ (.item n) = true ∧ isLive σ (.node n) = true := by
  obtain ⟨s, hs, hm⟩ := h.tok.thr t pc tok ht (Pc.tok_of_ref hr)
  have ⟨hp, hnr⟩ := own_of_prot h (h.prot.thr t pc n tok ht hr) hs (List.ne_nil_of_mem hm)
  exact ⟨(live_item_iff_own h _).mpr hp, (live_node_iff_own h _).mpr ⟨hp, hnr⟩⟩

theorem live_of_iter {σ : State} (h : Inv σ) {key : Nat × Nat} {it : Iter} {c : Cur} (hm : (key, it) ∈ σ.iters)
    (hc : it.cur = some c) : isLive σ (.item c.id) = true ∧ isLive σ (.node c.id) = true := by
  obtain ⟨s, hs, hmem⟩ := h.tok.it key.1 key.2 it hm
  have ⟨hp, hr⟩ := own_of_prot h (h.prot.it key it c hm hc) hs (List.ne_nil_of_mem hmem)
  exact ⟨(live_item_iff_own h _).mpr hp, (live_node_iff_own h _).mpr ⟨hp, hr⟩⟩

theorem live_of_linked {σ : State} (h : Inv σ) {x : Node} (hx : x ∈ σ.store) :
    isLive σ (.item x.id) = true ∧ isLive σ (.node x.id) = true := by
  have hc := List.count_pos_iff.mpr (mem_storeIds hx)
  have hp : 0 < own σ x.id := by unfold own ownC; omega
  exact ⟨(live_item_iff_own h _).mpr hp, (live_node_iff_own h _).mpr ⟨hp, (h.store.id_lt x hx).2⟩⟩

theorem live_of_put {σ : State} (h : Inv σ) {t n k v b : Nat} (ht : σ.threads[t]? = some (.putInsert n k v b)) :
    isLive σ (.item n) = true := by
  have hr : reserved σ.threads n := ⟨k, v, b, List.mem_of_getElem? ht⟩
  have := reserved_count hr
  exact (live_item_iff_own h _).mpr (by unfold own ownC; omega)

structure Books (σ : State) : Prop where
  bad : σ.bad = []
  f_nodup : σ.freed.Nodup
  a_nodup : σ.allocd.Nodup
  sub : ∀ b ∈ σ.freed, b ∈ σ.allocd

theorem books_of_inv {σ : State} (h : Inv σ) : Books σ :=
  ⟨h.own.bad, h.own.f_nodup, h.own.a_nodup, h.own.toOwnBooks.sub⟩

end NitroVerif.MvccConc
