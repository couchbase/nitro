/-
  The invariant is preserved by the jobs.  A collection job unlinks the nodes of its list one by one and hands
  the list to the barrier (WORKER_FLUSH: the current session takes the nodes over).  A free job hands every block
  of its list back to the allocator, each exactly once (FREE_RECV).
-/
import NitroVerif.Lemmas.MvccConcPcProt
import NitroVerif.Lemmas.MvccConcFields
import NitroVerif.Lemmas.MvccConcOutcome

namespace NitroVerif.MvccConc

variable {threads : List Pc} {store : List Node} {gcJobs : List GcJob} {sess : List Sess} {fs nextId : Nat}
  {frJobs : List FrJob} {allocd freed bad : List Blk}

theorem inv_setGc_same {σ : State} {j : Nat} {job0 job' : GcJob} (h : Inv σ) (hj : σ.gcJobs[j]? = some job0)
    (ho : gcOwn job' = gcOwn job0) (htd : job'.todo = job0.todo)
    (hjc : (job'.pc = .flush ∨ job'.pc = .done ∨ job'.pc = .finished) → job'.todo = []) :
    Inv (setGc σ j job') := by
  have hcount : ∀ n, (gcOwned (σ.gcJobs.set j job')).count n = (gcOwned σ.gcJobs).count n :=
    fun n => count_flatMap_set_same gcOwn n hj ho
  refine ⟨h.store, h.pc, ?_, ?_, h.tok, ?_⟩
  · show GarbInv σ.writers σ.snaps (σ.gcJobs.set j job') σ.store σ.currSn
    have hg : ∀ n, garbC σ.writers σ.snaps (σ.gcJobs.set j job') n = garbC σ.writers σ.snaps σ.gcJobs n := by
      intro n
      unfold garbC garbJ
      rw [count_flatMap_set_same (·.todo) n hj htd]
    refine h.garb.congr_jobs hg ?_
    intro x hx hpc
    rcases (List.mem_or_eq_of_mem_set hx).symm with rfl | hx
    · exact hjc hpc
    · exact h.garb.jobs x hx hpc
  · refine h.own.congr ?_ (fun _ => Iff.rfl)
    intro n
    show ownC σ.store σ.threads (σ.gcJobs.set j job') σ.sess σ.freeSeq σ.frJobs n = _
    unfold ownC; rw [hcount]
  · show ProtInv σ.threads σ.store (σ.gcJobs.set j job') σ.sess σ.iters
    refine h.prot.mono h.tok.toTokPre fun n tok _ => ?_
    unfold protC; rw [hcount]; exact Nat.le_refl _

theorem inv_gcNode {σ : State} {j n : Nat} {r : List Nat} {job : GcJob} {pc' : GcPc} (h : Inv σ)
    (hj : σ.gcJobs[j]? = some job) (hpc : job.pc = .node) (htd : job.todo = n :: r)
    (hpc' : (pc' = .flush ∧ r = []) ∨ pc' = .node) {x : Node} (hf : findNode σ.store n = some x)
    (hdead : x.ver.dead ≠ 0) :
    Inv (setGc { σ with store := removeNode σ.store n, unlinked := σ.unlinked ++ [x] } j ⟨job.done ++ [n], r, pc'⟩) := by
  have ⟨hx, hid⟩ := findNode_some hf
  have hgown : gcOwn job = job.done := by simp [gcOwn, hpc]
  have hgown' : gcOwn (⟨job.done ++ [n], r, pc'⟩ : GcJob) = job.done ++ [n] := by
    rcases hpc' with ⟨h1, _⟩ | h1 <;> simp [gcOwn, h1]
  have hgJ : ∀ m, garbC σ.writers σ.snaps (σ.gcJobs.set j ⟨job.done ++ [n], r, pc'⟩) m + [n].count m =
      garbC σ.writers σ.snaps σ.gcJobs m := by
    intro m
    unfold garbC garbJ
    rw [Nat.add_assoc, count_flatMap_set_shrink (·.todo) m hj (L := [n]) htd]
  have h1 := count_storeIds_removeNode h.store.ids hf
  have h2 := fun m => count_flatMap_set_grow gcOwn m hj (L := [n]) (hgown'.trans (hgown ▸ rfl))
  refine inv_iff.mpr ?_
  simp only [mvcc_fields]
  refine ⟨?_, ?_, ?_, ?_, h.tok, ?_⟩
  · refine h.store.remove hf ?_
    have := alive_removeNode h.store.sorted h.store.ids hf
    simp only [hdead, if_false, Nat.add_zero] at this
    rw [this]; exact h.store.cnt
  · refine h.pc.mono (Nat.le_refl _) ⟨fun y hy => Or.inr ⟨y, (mem_removeNode.mp hy).1, rfl, rfl, rfl⟩, ?_⟩
    intro y hy
    rcases List.mem_append.mp hy with hy | hy
    · exact Or.inl hy
    · rw [List.mem_singleton.mp hy]; exact Or.inr (Or.inl hdead)
  · refine h.garb.remove (fun m => Nat.le.intro (hgJ m)) ?_ ?_
    · have h1 := hgJ n
      have h2 := h.garb.le n
      rw [List.count_singleton_self] at h1
      omega
    · intro y hy hpcy
      rcases (List.mem_or_eq_of_mem_set hy).symm with rfl | hy
      · simp only at hpcy ⊢
        rcases hpc' with ⟨_, h2⟩ | h1
        · exact h2
        · rw [h1] at hpcy; simp at hpcy
      · exact h.garb.jobs y hy hpcy
  · refine h.own.congr (fun m => ?_) (fun _ => Iff.rfl)
    exact move_13 (h1 m) (h2 m)
  · exact h.prot.mono h.tok.toTokPre fun m tok _ =>
      Nat.le_of_eq (move_13 (h1 m) (h2 m)).symm

theorem inv_gcFlush {σ : State} {j : Nat} {job : GcJob} (h : Inv σ) (hj : σ.gcJobs[j]? = some job)
    (hpc : job.pc = .flush) : Inv (setGc (flush σ (job.done ++ job.todo)) j { job with pc := .done }) := by
  have hjm : job ∈ σ.gcJobs := List.mem_of_getElem? hj
  have htd : job.todo = [] := h.garb.jobs job hjm (Or.inl hpc)
  have hL : job.done ++ job.todo = job.done := by rw [htd, List.append_nil]
  rw [hL]
  have hpre := h.tok.toTokPre.flush job.done
  obtain ⟨c, hc, _, _, hcl⟩ := h.tok.toTokPre.last
  have h2 := fun m => count_flatMap_set_shrink gcOwn m hj (b := { job with pc := .done }) (L := job.done)
    (by simp [gcOwn, hpc])
  refine inv_iff.mpr ?_
  simp only [mvcc_fields]
  refine ⟨h.store, h.pc, ?_, ?_, hpre.cleanup, ?_⟩
  · have hg : ∀ n, garbC σ.writers σ.snaps (σ.gcJobs.set j { job with pc := .done }) n =
        garbC σ.writers σ.snaps σ.gcJobs n := by
      intro n
      unfold garbC garbJ
      rw [count_flatMap_set_same (·.todo) n hj (b := { job with pc := .done }) rfl]
    refine h.garb.congr_jobs hg ?_
    intro x hx hpcx
    rcases (List.mem_or_eq_of_mem_set hx).symm with rfl | hx
    · exact htd
    · exact h.garb.jobs x hx hpcx
  · refine h.own.congr (fun n => ?_) (fun _ => Iff.rfl)
    exact move_34 (h2 n) (sessfr_flush h.tok.toTokPre ..)
  · exact h.prot.mono h.tok.toTokPre fun m tok htok =>
      Nat.le_of_eq (move_34 (h2 m) (sessOwned_flushSess htok hc hcl ..)).symm

theorem inv_stepGc {σ : State} {j : Nat} (h : Inv σ) : Inv (stepGc σ j).1 := by
  have hc := stepGc_outcome h j
  generalize stepGc σ j = p at hc
  cases hc with
  | refuse => exact h
  | recvEmpty hj hpc htd => exact inv_setGc_same h hj (by simp [gcOwn, hpc]) rfl (fun _ => htd)
  | recvNode hj hpc => exact inv_setGc_same h hj (by simp [gcOwn, hpc]) rfl (by simp)
  | nodeLinked hj hpc htd hf hdead _ hpc' => exact inv_gcNode h hj hpc htd hpc' hf hdead
  | nodeNone hj hpc htd => exact inv_setGc_same h hj (by simp [gcOwn, hpc]) rfl (fun _ => htd)
  | flush hj hpc => exact inv_gcFlush h hj hpc
  | @done job hj hpc =>
    exact inv_setGc_same h hj (by simp [gcOwn, hpc]) rfl
      (fun _ => h.garb.jobs job (List.mem_of_getElem? hj) (Or.inr (Or.inl hpc)))

theorem frOwned_nodup_of_le {frJobs : List FrJob} {j : Nat} {job : FrJob} (hj : frJobs[j]? = some job)
    (hpc : job.pc = .recv) (hle : ∀ n, (frOwned frJobs).count n ≤ 1) : job.list.Nodup := by
  rw [List.nodup_iff_count]
  intro n
  have := count_flatMap_ge frOwn n (List.mem_of_getElem? hj)
  have h1 := hle n
  unfold frOwned at h1
  have h2 : frOwn job = job.list := by simp [frOwn, hpc]
  rw [h2] at this; omega

theorem OwnInv.free_recv
    (hown : OwnInv store threads gcJobs sess fs frJobs nextId allocd freed bad) {j : Nat} {job : FrJob}
    (hj : frJobs[j]? = some job) (hpc : job.pc = .recv) :
    job.list.Nodup ∧
    (∀ m ∈ job.list, Blk.item m ∈ allocd ∧ Blk.node m ∈ allocd ∧ Blk.item m ∉ freed ∧ Blk.node m ∉ freed) ∧
    OwnInv store threads gcJobs sess fs (frJobs.set j { job with pc := .done }) nextId allocd
      (freed ++ blocksOf job.list) bad := by
  have hc : ∀ m, ownC store threads gcJobs sess fs (frJobs.set j { job with pc := .done }) m +
      job.list.count m = ownC store threads gcJobs sess fs frJobs m := by
    intro m
    unfold ownC sessfr frOwned
    rw [Nat.add_assoc, Nat.add_assoc _ _ (job.list.count m),
      count_flatMap_set_shrink frOwn m hj (b := { job with pc := .done }) (L := job.list) (by simp [frOwn, hpc])]
  have hnr : ∀ m ∈ job.list, ¬ reserved threads m := by
    intro m hm hr
    have h1 := reserved_count hr
    have h2 := (hown.node m).le
    have h3 := count_flatMap_ge frOwn m (List.mem_of_getElem? hj)
    have h4 : 0 < job.list.count m := List.count_pos_iff.mpr hm
    simp only [frOwn, hpc] at h3
    unfold ownC sessfr frOwned at h2; omega
  obtain ⟨hnd, hl⟩ := hown.toOwnBooks.freeable hc hnr
  exact ⟨hnd, hl, hown.toOwnBooks.free_append hc hnr, hown.bad⟩

theorem inv_stepFr {σ : State} {j : Nat} (h : Inv σ) : Inv (stepFr σ j).1 := by
  unfold stepFr
  cases hj : σ.frJobs[j]? with
  | none => exact h
  | some job =>
    simp only
    split
    · rename_i hpc
      obtain ⟨hnd, hblocks, hown'⟩ := h.own.free_recv hj hpc
      obtain ⟨hfreed, hbad⟩ := freeNodes_spec job.list σ hnd hblocks
      refine inv_iff.mpr ?_
      simp only [mvcc_fields, hfreed, hbad]
      exact ⟨h.store, h.pc, h.garb, hown', h.tok, h.prot⟩
    · rename_i hpc
      refine ⟨h.store, h.pc, h.garb, ?_, h.tok, h.prot⟩
      refine h.own.congr ?_ (fun _ => Iff.rfl)
      intro m
      show ownC σ.store σ.threads σ.gcJobs σ.sess σ.freeSeq (σ.frJobs.set j { job with pc := .finished }) m = _
      unfold ownC sessfr frOwned
      rw [count_flatMap_set_same frOwn m hj (b := { job with pc := .finished }) (by simp [frOwn, hpc])]
    · exact h

end NitroVerif.MvccConc
