/-
  Phases for the linearization proof: the events of one thread, `PhaseOK` read as a relation between a
  program counter, the store and a phase, what keeps that relation, and the bystanders of a winning Delete.
-/
import NitroVerif.Lemmas.MvccConcLin

namespace NitroVerif.MvccConc
open NitroVerif.SetSpec (Op Out)

def Ev.thread : Ev → Option Nat
  | .call t _ => some t
  | .lin t _ _ => some t
  | .ret t _ => some t
  | .snap _ => none

theorem phaseStep_call (t : Nat) (op : Op) : phaseStep t .idle (.call t op) = .called op := if_pos rfl

theorem phaseStep_lin (t : Nat) (op : Op) (res : Out) : phaseStep t (.called op) (.lin t op res) = .decided op res := by
  rw [phaseStep, if_pos rfl]; exact if_pos rfl

theorem phaseStep_ret (t : Nat) (op : Op) (res : Out) : phaseStep t (.decided op res) (.ret t res) = .idle := by
  rw [phaseStep, if_pos rfl]; exact if_pos rfl

theorem phaseOf_call_lin_ret (t : Nat) (op : Op) (res : Out) :
    phaseOf t .idle [.call t op, .lin t op res, .ret t res] = .idle := by
  rw [phaseOf_cons, phaseStep_call, phaseOf_cons, phaseStep_lin, phaseOf_cons, phaseStep_ret]; rfl

theorem thread_nil (o : Option Nat) : ∀ e ∈ ([] : List Ev), e.thread = o :=
  fun _ he => absurd he List.not_mem_nil

theorem thread_cons {o : Option Nat} {e : Ev} {es : List Ev} (h : e.thread = o) (hs : ∀ e' ∈ es, e'.thread = o) :
    ∀ e' ∈ e :: es, e'.thread = o :=
  List.forall_mem_cons.mpr ⟨h, hs⟩

theorem phaseStep_other {t : Nat} {e : Ev} (h : e.thread ≠ some t) (p : Phase) : phaseStep t p e = p := by
  cases e with
  | snap r => rfl
  | call t' op => exact if_neg (fun he => h (congrArg some he))
  | lin t' op r => exact if_neg (fun he => h (congrArg some he))
  | ret t' r => exact if_neg (fun he => h (congrArg some he))

theorem phaseOf_others {t : Nat} {l : List Ev} (h : ∀ e ∈ l, e.thread ≠ some t) (p : Phase) : phaseOf t p l = p := by
  induction l with
  | nil => rfl
  | cons e es ih =>
    rw [phaseOf_cons, phaseStep_other (h e List.mem_cons_self)]
    exact ih (fun e he => h e (List.mem_cons_of_mem _ he))

theorem phaseOf_of_thread {t t' : Nat} {l : List Ev} (h : ∀ e ∈ l, e.thread = some t) (hne : t' ≠ t) (p : Phase) :
    phaseOf t' p l = p :=
  phaseOf_others (fun e he heq => hne (Option.some.inj ((h e he).symm.trans heq)).symm) p

theorem phaseOf_filterMap {f : Nat → Option Ev} (hf : ∀ i e, f i = some e → e.thread = some i) (t : Nat)
    {l : List Nat} (hn : l.Nodup) (p : Phase) :
    phaseOf t p (l.filterMap f) = if t ∈ l then (f t).elim p (phaseStep t p) else p := by
  have others : ∀ l' : List Nat, t ∉ l' → ∀ q, phaseOf t q (l'.filterMap f) = q := by
    intro l' hl' q
    refine phaseOf_others (fun e he heq => ?_) q
    obtain ⟨i, hi, hfi⟩ := List.mem_filterMap.mp he
    rw [hf i e hfi] at heq
    exact hl' (Option.some.inj heq ▸ hi)
  by_cases ht : t ∈ l
  · obtain ⟨l1, l2, rfl⟩ := List.append_of_mem ht
    have hd := List.nodup_append.mp hn
    have h1 : t ∉ l1 := fun h => hd.2.2 t h t List.mem_cons_self rfl
    have h2 : t ∉ l2 := (List.nodup_cons.mp hd.2.1).1
    rw [if_pos ht, List.filterMap_append, phaseOf_append, others l1 h1, List.filterMap_cons]
    cases f t with
    | none => exact others l2 h2 p
    | some e => exact others l2 h2 _
  · rw [if_neg ht]; exact others l ht p

theorem loserEv_some {σ : State} {t n t' : Nat} {e : Ev} (h : loserEv σ t n t' = some e) :
    t' ≠ t ∧ ∃ tok k', e = .lin t' (.del t' k') (.bool false) ∧
      (σ.threads[t']? = some (.delPhys n tok k') ∨ σ.threads[t']? = some (.delCas n tok k')) := by
  unfold loserEv at h
  split at h
  · cases h
  · rename_i hne
    refine ⟨hne, ?_⟩
    split at h
    · rename_i n' tok k' hg
      split at h
      · rename_i hn; subst hn; injection h with h; exact ⟨tok, k', h.symm, Or.inl hg⟩
      · cases h
    · rename_i n' tok k' hg
      split at h
      · rename_i hn; subst hn; injection h with h; exact ⟨tok, k', h.symm, Or.inr hg⟩
      · cases h
    · cases h

theorem loserEv_none {σ : State} {t n t' : Nat} (h : loserEv σ t n t' = none) (hne : t' ≠ t) :
    (∀ tok k, σ.threads[t']? ≠ some (.delPhys n tok k)) ∧ (∀ tok k, σ.threads[t']? ≠ some (.delCas n tok k)) := by
  unfold loserEv at h
  rw [if_neg hne] at h
  constructor
  · intro tok k hg; rw [hg] at h; simp only [if_true] at h; cases h
  · intro tok k hg; rw [hg] at h; simp only [if_true] at h; cases h

theorem mem_losers {σ : State} {t n : Nat} {e : Ev} (h : e ∈ losers σ t n) :
    ∃ t' tok k', t' ≠ t ∧ e = .lin t' (.del t' k') (.bool false) ∧
      (σ.threads[t']? = some (.delPhys n tok k') ∨ σ.threads[t']? = some (.delCas n tok k')) := by
  obtain ⟨t', _, hl⟩ := List.mem_filterMap.mp h
  obtain ⟨hne, tok, k', he, hg⟩ := loserEv_some hl
  exact ⟨t', tok, k', hne, he, hg⟩

theorem mem_losers_of_parked {σ : State} {t n t' tok k' : Nat} (hne : t' ≠ t)
    (hg : σ.threads[t']? = some (.delPhys n tok k') ∨ σ.threads[t']? = some (.delCas n tok k')) :
    Ev.lin t' (.del t' k') (.bool false) ∈ losers σ t n := by
  refine List.mem_filterMap.mpr ⟨t', List.mem_range.mpr ?_, ?_⟩
  · rcases hg with h | h <;> exact (List.getElem?_eq_some_iff.mp h).1
  · unfold loserEv
    rcases hg with h | h
    · rw [if_neg hne, h]; exact if_pos rfl
    · rw [if_neg hne, h]; exact if_pos rfl

theorem phaseOf_losers (σ : State) (t n t' : Nat) (p : Phase) :
    phaseOf t' p (losers σ t n) = (loserEv σ t n t').elim p (phaseStep t' p) := by
  have hf : ∀ i e, loserEv σ t n i = some e → e.thread = some i := by
    intro i e h
    obtain ⟨_, _, _, rfl, _⟩ := loserEv_some h
    rfl
  unfold losers
  rw [phaseOf_filterMap hf t' List.nodup_range]
  split
  · rfl
  · rename_i hlt
    cases h : loserEv σ t n t' with
    | none => rfl
    | some e =>
      obtain ⟨_, _, _, _, hg⟩ := loserEv_some h
      rcases hg with hg | hg <;> exact absurd (List.mem_range.mpr (List.getElem?_eq_some_iff.mp hg).1) hlt

/-- `PhaseOK σ t p` read as a relation between the store, the program counter of `t` and `p` (`phaseOK_iff`): one
    constructor per program counter and phase it can be in; the proofs go by cases of the program counter -/
inductive PcPhase (s : List Node) (t : Nat) : Option Pc → Phase → Prop
  | rest {o : Option Pc} : (∀ pc, o = some pc → pc.isWop = false) → PcPhase s t o .idle
  | putInsert (n k v b : Nat) : PcPhase s t (some (.putInsert n k v b)) (.called (.put t k v))
  | delPhys (n tok k : Nat) : n ∈ storeIds s → PcPhase s t (some (.delPhys n tok k)) (.called (.del t k))
  | delPhysLost (n tok k : Nat) :
      n ∉ storeIds s → PcPhase s t (some (.delPhys n tok k)) (.decided (.del t k) (.bool false))
  | delFlush (n tok k : Nat) : PcPhase s t (some (.delFlush n tok k)) (.decided (.del t k) (.bool true))
  | delCas (n tok k : Nat) : AliveIn s n → PcPhase s t (some (.delCas n tok k)) (.called (.del t k))
  | delCasLost (n tok k : Nat) :
      ¬ AliveIn s n → PcPhase s t (some (.delCas n tok k)) (.decided (.del t k) (.bool false))

theorem phaseOK_iff {σ : State} {t : Nat} {p : Phase} : PhaseOK σ t p ↔ PcPhase σ.store t σ.threads[t]? p := by
  constructor
  · intro h
    cases p with
    | idle => exact .rest h
    | called op =>
      rcases h with ⟨n, k, v, b, hg, rfl⟩ | ⟨n, tok, k, hg, rfl, hm⟩ | ⟨n, tok, k, hg, rfl, hm⟩
      · rw [hg]; exact .putInsert n k v b
      · rw [hg]; exact .delPhys n tok k hm
      · rw [hg]; exact .delCas n tok k hm
    | decided op res =>
      rcases h with ⟨n, tok, k, hg, rfl, rfl, hm⟩ | ⟨n, tok, k, hg, rfl, rfl⟩ | ⟨n, tok, k, hg, rfl, rfl, hm⟩
      · rw [hg]; exact .delPhysLost n tok k hm
      · rw [hg]; exact .delFlush n tok k
      · rw [hg]; exact .delCasLost n tok k hm
    | broken => exact h.elim
  · intro h
    generalize ho : σ.threads[t]? = o at h
    cases h with
    | rest h0 => intro pc hg; exact h0 pc (ho ▸ hg)
    | putInsert n k v b => exact Or.inl ⟨n, k, v, b, ho, rfl⟩
    | delPhys n tok k hm => exact Or.inr (Or.inl ⟨n, tok, k, ho, rfl, hm⟩)
    | delCas n tok k hm => exact Or.inr (Or.inr ⟨n, tok, k, ho, rfl, hm⟩)
    | delPhysLost n tok k hm => exact Or.inl ⟨n, tok, k, ho, rfl, rfl, hm⟩
    | delFlush n tok k => exact Or.inr (Or.inl ⟨n, tok, k, ho, rfl, rfl⟩)
    | delCasLost n tok k hm => exact Or.inr (Or.inr ⟨n, tok, k, ho, rfl, rfl, hm⟩)

theorem PcPhase.idle (s : List Node) (t : Nat) : PcPhase s t (some .idle) .idle :=
  .rest (fun _ h => by cases h; rfl)

theorem PhaseOK.pc {σ : State} {t : Nat} {pc : Pc} {p : Phase} (hp : PhaseOK σ t p) (hg : σ.threads[t]? = some pc) :
    PcPhase σ.store t (some pc) p :=
  hg ▸ phaseOK_iff.mp hp

theorem PcPhase.of_putInsert {s : List Node} {t n k v b : Nat} {p : Phase}
    (h : PcPhase s t (some (.putInsert n k v b)) p) : p = .called (.put t k v) := by
  cases h with
  | rest h0 => cases h0 _ rfl
  | putInsert => rfl

theorem PcPhase.of_delPhys {s : List Node} {t n tok k : Nat} {p : Phase} (h : PcPhase s t (some (.delPhys n tok k)) p) :
    (n ∈ storeIds s ∧ p = .called (.del t k)) ∨ (n ∉ storeIds s ∧ p = .decided (.del t k) (.bool false)) := by
  cases h with
  | rest h0 => cases h0 _ rfl
  | delPhys _ _ _ hm => exact Or.inl ⟨hm, rfl⟩
  | delPhysLost _ _ _ hm => exact Or.inr ⟨hm, rfl⟩

theorem PcPhase.of_delFlush {s : List Node} {t n tok k : Nat} {p : Phase}
    (h : PcPhase s t (some (.delFlush n tok k)) p) : p = .decided (.del t k) (.bool true) := by
  cases h with
  | rest h0 => cases h0 _ rfl
  | delFlush => rfl

theorem PcPhase.of_delCas {s : List Node} {t n tok k : Nat} {p : Phase} (h : PcPhase s t (some (.delCas n tok k)) p) :
    (AliveIn s n ∧ p = .called (.del t k)) ∨ (¬ AliveIn s n ∧ p = .decided (.del t k) (.bool false)) := by
  cases h with
  | rest h0 => cases h0 _ rfl
  | delCas _ _ _ hm => exact Or.inl ⟨hm, rfl⟩
  | delCasLost _ _ _ hm => exact Or.inr ⟨hm, rfl⟩

theorem PhaseOK.congr {σ σ' : State} {t' : Nat} {p : Phase} (hthr : σ'.threads[t']? = σ.threads[t']?)
    (hphys : ∀ n tok k, σ.threads[t']? = some (Pc.delPhys n tok k) →
      (n ∈ storeIds σ'.store ↔ n ∈ storeIds σ.store))
    (hcas : ∀ n tok k, σ.threads[t']? = some (Pc.delCas n tok k) → (AliveIn σ'.store n ↔ AliveIn σ.store n))
    (h : PhaseOK σ t' p) : PhaseOK σ' t' p := by
  rw [phaseOK_iff, hthr]
  have h := phaseOK_iff.mp h
  generalize σ.threads[t']? = o at h hphys hcas
  cases h with
  | rest h0 => exact .rest h0
  | putInsert n k v b => exact .putInsert n k v b
  | delPhys n tok k hm => exact .delPhys n tok k ((hphys n tok k rfl).mpr hm)
  | delPhysLost n tok k hm => exact .delPhysLost n tok k (fun h' => hm ((hphys n tok k rfl).mp h'))
  | delFlush n tok k => exact .delFlush n tok k
  | delCas n tok k hm => exact .delCas n tok k ((hcas n tok k rfl).mpr hm)
  | delCasLost n tok k hm => exact .delCasLost n tok k (fun h' => hm ((hcas n tok k rfl).mp h'))

theorem PhaseOK.of_store_eq {σ σ' : State} {t' : Nat} {p : Phase} (hthr : σ'.threads[t']? = σ.threads[t']?)
    (hs : σ'.store = σ.store) (h : PhaseOK σ t' p) : PhaseOK σ' t' p :=
  h.congr hthr (fun _ _ _ _ => by rw [hs]) (fun _ _ _ _ => by rw [hs])

theorem PhaseOK.idle_of_set {σ σ' : State} {t : Nat} {pc0 : Pc} (hthr : σ'.threads = σ.threads.set t .idle)
    (hg : σ.threads[t]? = some pc0) : PhaseOK σ' t .idle := by
  rw [phaseOK_iff, hthr, getElem?_set_same hg]; exact .idle _ t

theorem PhaseOK.idle_of_not_wop {σ : State} {t : Nat} {p : Phase}
    (h0 : ∀ pc, σ.threads[t]? = some pc → pc.isWop = false) (h : PhaseOK σ t p) : p = .idle := by
  have h := phaseOK_iff.mp h
  generalize σ.threads[t]? = o at h h0
  cases h with
  | rest _ => rfl
  | _ => cases h0 _ rfl

theorem PhaseOK.mild {σ σ' : State} {t t' : Nat} {p : Phase} (hm : Mild t σ σ')
    (h0 : ∀ pc, σ.threads[t]? = some pc → pc.isWop = false) (h : PhaseOK σ t' p) : PhaseOK σ' t' p := by
  have hs := hm.store
  obtain ⟨pc', hp', hthr⟩ := hm.thr
  rcases hthr with hthr | hthr
  · by_cases he : t = t'
    · subst he
      rw [h.idle_of_not_wop h0, phaseOK_idle]
      intro pc hg
      rw [hthr] at hg
      rcases getElem?_set_cases hg with ⟨_, rfl⟩ | ⟨hne, _⟩
      · exact hp'
      · exact absurd rfl hne
    · exact h.of_store_eq (by rw [hthr, List.getElem?_set_ne he]) hs
  · exact h.of_store_eq (by rw [hthr]) hs

/-- the winner's step moves every other thread parked on `n` to `decided false` and leaves the rest alone -/
theorem phase_kill {σ σ' : State} {t n : Nat}
    (hthr : ∀ t', t' ≠ t → σ'.threads[t']? = σ.threads[t']?)
    (hids : ∀ m, m ≠ n → (m ∈ storeIds σ'.store ↔ m ∈ storeIds σ.store))
    (halive : ∀ m, m ≠ n → (AliveIn σ'.store m ↔ AliveIn σ.store m))
    (hwas : AliveIn σ.store n)
    (hA : ¬ AliveIn σ'.store n)
    (hB : ∀ (t' tok k : Nat), σ.threads[t']? = some (Pc.delPhys n tok k) → n ∉ storeIds σ'.store)
    {t' : Nat} (hne : t' ≠ t) {p : Phase} (hp : PhaseOK σ t' p) :
    PhaseOK σ' t' (phaseOf t' p (losers σ t n)) := by
  rw [phaseOf_losers]
  cases hl : loserEv σ t n t' with
  | some e =>
    obtain ⟨_, tok, k', rfl, hg⟩ := loserEv_some hl
    rw [phaseOK_iff, hthr t' hne]
    rcases hg with hg | hg <;> rw [hg]
    · rcases (hp.pc hg).of_delPhys with ⟨_, rfl⟩ | ⟨hm, _⟩
      · rw [Option.elim, phaseStep_lin]; exact .delPhysLost n tok k' (hB t' tok k' hg)
      · obtain ⟨x, hx, hid, _⟩ := hwas
        exact absurd (hid ▸ mem_storeIds hx) hm
    · rcases (hp.pc hg).of_delCas with ⟨_, rfl⟩ | ⟨hm, _⟩
      · rw [Option.elim, phaseStep_lin]; exact .delCasLost n tok k' hA
      · exact absurd hwas hm
  | none =>
    have ⟨h1, h2⟩ := loserEv_none hl hne
    exact hp.congr (hthr t' hne) (fun m tok k hg => hids m (fun he => h1 tok k (he ▸ hg)))
      (fun m tok k hg => halive m (fun he => h2 tok k (he ▸ hg)))

end NitroVerif.MvccConc
