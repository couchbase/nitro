import NitroVerif.Lemmas.SkipConcSearch
import NitroVerif.Lemmas.SkipConcFindReturn
/-!
  PHASES of a call and the transition lemma `stepThread_trans`.

  Every program counter belongs to one phase of one kind of call (`phase`):
    Insert   : `insPre k` (NEW_LEVEL, the searches before the publish, INS_PUBLISH) → `insPost k` (upper levels)
    Delete   : `delFind k L` (the lookup; `L` = ghost `startLen`) → `delMark k nd marked` (SOFT_MARK on node `nd`)
               → `delClean k` (DEL_SEARCH and the cleaning search)
    Lookup   : `look k L`
    iterator : `iter`
  `stepThread_trans` says, for a segment of a thread in each phase, what happens to the level-0 marks
  (`UnmSame` / `PublishEff` / `MarkEff`), what the next phase is, and — when the call returns — which answer is
  printed together with the fact that justifies it in THIS state (hit: the item is in the abstract set; miss: every
  node with the item published before the search began is marked; lost mark race: the node is marked now).
-/
namespace NitroVerif.SkipConc

inductive Kind where
  | none
  | ins (k : Nat)
  | del (k : Nat)
  | look (k : Nat)
  | iter
deriving DecidableEq, Repr

inductive Phase where
  | idle
  | insPre (k : Nat)
  | insPost (k : Nat)
  | delFind (k L : Nat)
  | delMark (k nd : Nat) (marked : Bool)
  | delClean (k : Nat)
  | look (k L : Nat)
  | iter
deriving Repr

def contPhase (item L : Nat) : Cont → Phase
  | .insFirst _ => .insPre item
  | .insRetry _ => .insPre item
  | .insRelink _ _ _ => .insPost item
  | .insSuccDeleted _ _ _ => .insPost item
  | .insUnlink _ _ => .insPost item
  | .delSearch => .delFind item L
  | .delClean => .delClean item
  | .lookup => .look item L
  | .iterNext _ => .iter
  | .iterSeek _ => .iter
  | .iterRefresh _ => .iter

def fpPhase (fp : FP) : Phase := contPhase fp.item fp.startLen fp.cont

def phase : PC → Phase
  | .idle => .idle
  | .newLevel item _ _ => .insPre item
  | .findLevel fp => fpPhase fp
  | .findNext fp _ => fpPhase fp
  | .helpDelete fp _ => fpPhase fp
  | .insPublish item _ => .insPre item
  | .insUpRead item _ _ _ => .insPost item
  | .insUpLink item _ _ _ _ => .insPost item
  | .softMark item n _ _ marked => .delMark item n marked
  | .delSearch item => .delClean item
  | .iterNext _ => .iter
  | .iterHelp _ _ => .iter
  | .iterRefresh _ => .iter

def kindOf : Phase → Kind
  | .idle => .none
  | .insPre k => .ins k
  | .insPost k => .ins k
  | .delFind k _ => .del k
  | .delMark k _ _ => .del k
  | .delClean k => .del k
  | .look k _ => .look k
  | .iter => .iter

def opKind : Op → Kind
  | .ins k _ => .ins k
  | .del k => .del k
  | .look k => .look k
  | _ => .iter

/-- the phase a call is in right after its entry (`L` = number of published nodes at the entry) -/
def startPhase (L : Nat) : Op → Phase
  | .ins k _ => .insPre k
  | .del k => .delFind k L
  | .look k => .look k L
  | _ => .iter

theorem kindOf_startPhase (L : Nat) (op : Op) : kindOf (startPhase L op) = opKind op := by
  cases op <;> rfl

theorem contPhase_ne_idle (item L : Nat) (c : Cont) : contPhase item L c ≠ .idle := by
  cases c <;> exact Phase.noConfusion

theorem phase_idle_iff (pc : PC) : phase pc = .idle ↔ pc = .idle := by
  constructor
  · intro h
    cases pc with
    | idle => rfl
    | findLevel fp | findNext fp _ | helpDelete fp _ => exact (contPhase_ne_idle fp.item fp.startLen fp.cont h).elim
    | _ => cases h
  · rintro rfl; rfl

/-- what a segment of a thread in phase `ph` does: heap `h ↦ h'`, next program counter `pc'`, printed line `out` -/
def Trans (h h' : Heap) (pc' : PC) (out : String) : Phase → Prop
  | .idle => True
  | .insPre k =>
    (UnmSame h h' ∧ phase pc' = .insPre k) ∨
    (UnmSame h h' ∧ pc' = .idle ∧ out = "ret false" ∧ absOf h k) ∨
    (PublishEff h h' k ∧ (phase pc' = .insPost k ∨ (pc' = .idle ∧ out = "ret true")))
  | .insPost k => UnmSame h h' ∧ (phase pc' = .insPost k ∨ (pc' = .idle ∧ out = "ret true"))
  | .delFind k L => UnmSame h h' ∧
    (phase pc' = .delFind k L ∨
     (∃ nd, phase pc' = .delMark k nd false ∧ unmarked0 h nd ∧ keyOf h nd = .fin k) ∨
     (pc' = .idle ∧ out = "ret false" ∧ ∀ m, m < L → keyOf h m = .fin k → ¬ unmarked0 h m))
  | .delMark k nd m =>
    (MarkEff h h' nd ∧ (phase pc' = .delMark k nd true ∨ phase pc' = .delClean k)) ∨
    (UnmSame h h' ∧ (phase pc' = .delMark k nd m ∨ (m = true ∧ phase pc' = .delClean k) ∨
      (m = false ∧ pc' = .idle ∧ out = "ret false" ∧ marked0 h' nd)))
  | .delClean k => UnmSame h h' ∧ (phase pc' = .delClean k ∨ (pc' = .idle ∧ out = "ret true"))
  | .look k L => UnmSame h h' ∧
    (phase pc' = .look k L ∨ (pc' = .idle ∧ out = "ret true" ∧ absOf h k) ∨
     (pc' = .idle ∧ out = "ret false" ∧ ∀ m, m < L → keyOf h m = .fin k → ¬ unmarked0 h m))
  | .iter => UnmSame h h' ∧ (phase pc' = .iter ∨ pc' = .idle)

theorem Trans_same {h h' : Heap} {pc' : PC} {out : String} {ph : Phase} (u : UnmSame h h') (hp : phase pc' = ph) :
    Trans h h' pc' out ph := by
  cases ph with
  | idle => trivial
  | insPre k => exact .inl ⟨u, hp⟩
  | insPost k => exact ⟨u, .inl hp⟩
  | delFind k L => exact ⟨u, .inl hp⟩
  | delMark k nd m => exact .inr ⟨u, .inl hp⟩
  | delClean k => exact ⟨u, .inl hp⟩
  | look k L => exact ⟨u, .inl hp⟩
  | iter => exact ⟨u, .inl hp⟩

theorem afterNext_phase (sh : Shared) (th : Thread) (it : Nat) :
    phase (afterNext sh th it).2.1.pc = .iter ∨ (afterNext sh th it).2.1.pc = .idle := by
  obtain ⟨v, _, _, h | ⟨_, h⟩⟩ := afterNext_cases sh th it <;> rw [h]
  · exact .inr rfl
  · exact .inl rfl

theorem insCheckSucc_phase (sh : Shared) (th : Thread) (item x lvl i next : Nat) :
    phase (insCheckSucc sh th item x lvl i next).2.1.pc = .insPost item := by
  rcases insCheckSucc_cases sh th item x lvl i next with h | h <;> rw [h] <;> rfl

theorem finishFind_trans {sh : Shared} {th1 : Thread} {item L : Nat} {found : Bool} {cont : Cont}
    (hfound : found = true → unmarked0 sh.heap (th1.succ 0) ∧ keyOf sh.heap (th1.succ 0) = .fin item)
    (hmiss : found = false → ∀ m, m < L → keyOf sh.heap m = .fin item → ¬ unmarked0 sh.heap m) :
    Trans sh.heap sh.heap (finishFind sh th1 item found cont).2.1.pc (finishFind sh th1 item found cont).2.2
      (contPhase item L cont) := by
  have u := UnmSame.refl sh.heap
  have s := finishFind_cases sh th1 item found cont
  generalize finishFind sh th1 item found cont = r at s ⊢
  cases s with
  | insFirstHit | insRetryHit => exact .inr (.inl ⟨u, rfl, rfl, ⟨_, hfound rfl⟩⟩)
  | insFirstMiss | insRetryMiss => exact .inl ⟨u, rfl⟩
  | insRelink | insSuccDeleted => exact ⟨u, .inl rfl⟩
  | insUnlink | delClean => exact ⟨u, .inr ⟨rfl, rfl⟩⟩
  | delMiss => exact ⟨u, .inr (.inr ⟨rfl, rfl, hmiss rfl⟩)⟩
  | delHit =>
    refine ⟨u, ?_⟩
    rcases enterSoft_cases sh th1 item (th1.succ 0) (heightOf sh.heap (th1.succ 0)) false with
      ⟨j, next, h⟩ | ⟨h, _⟩ | ⟨_, _, h⟩
    · exact .inr (.inl ⟨th1.succ 0, by rw [h]; rfl, hfound rfl⟩)
    · cases h
    · obtain ⟨p, hp⟩ := (hfound rfl).1
      rw [getNext_of_word hp] at h
      cases h
  | lookup =>
    cases found with
    | true => exact ⟨u, .inr (.inl ⟨rfl, rfl, ⟨_, hfound rfl⟩⟩)⟩
    | false => exact ⟨u, .inr (.inr ⟨rfl, rfl, hmiss rfl⟩)⟩
  | iterAgain _ => exact ⟨u, .inl rfl⟩
  | iterDone => exact ⟨u, afterNext_phase ..⟩
  | iterSeek | iterRefresh => exact ⟨u, .inr rfl⟩

theorem enterSoft_trans {h : Heap} {sh1 : Shared} (th : Thread) (item n i : Nat) (marked : Bool)
    (u : UnmSame h sh1.heap) :
    Trans h (enterSoft sh1 th item n i marked).1.heap (enterSoft sh1 th item n i marked).2.1.pc
      (enterSoft sh1 th item n i marked).2.2 (.delMark item n marked) := by
  rw [enterSoft_sh]
  refine .inr ⟨u, ?_⟩
  rcases enterSoft_cases sh1 th item n i marked with ⟨j, nx, h⟩ | ⟨hm, h, _⟩ | ⟨hm, h, h3⟩
  · exact .inl (by rw [h]; rfl)
  · exact .inr (.inl ⟨hm, by rw [h]; rfl⟩)
  · exact .inr (.inr ⟨hm, by rw [h], by rw [h], ⟨_, word?_of_getNext_marked h3⟩⟩)

theorem enterSoft_won {h : Heap} {sh1 : Shared} (th : Thread) (item n : Nat) (marked : Bool)
    (me : MarkEff h sh1.heap n) :
    Trans h (enterSoft sh1 th item n 0 true).1.heap (enterSoft sh1 th item n 0 true).2.1.pc
      (enterSoft sh1 th item n 0 true).2.2 (.delMark item n marked) := by
  rw [enterSoft_sh]
  refine .inl ⟨me, ?_⟩
  rcases enterSoft_cases sh1 th item n 0 true with ⟨j, nx, h⟩ | ⟨_, h, _⟩ | ⟨h, _⟩
  · exact .inl (by rw [h]; rfl)
  · exact .inr (by rw [h]; rfl)
  · cases h

theorem startOp_phase (sh : Shared) (th : Thread) (op : Op) (hidle : th.pc = .idle) :
    (startOp sh th op).2.1.pc = .idle ∨ phase (startOp sh th op).2.1.pc = startPhase sh.heap.length op := by
  have s := startOp_cases sh th op
  generalize startOp sh th op = r at s ⊢
  cases s with
  | insLevel | insFind | del | look | itSeek | itNext | itRefresh => exact .inr rfl
  | itFirst | itClose | itInterval | nextRefused | closeRefused | intervalRefused | refreshRefused => exact .inl hidle

theorem stepThread_trans {sh : Shared} {th : Thread} (H : HInv sh.heap) (R : ReachInv sh.heap)
    (hT : TInv sh.heap th) (hS : SInv sh.heap th) :
    Trans sh.heap (stepThread sh th).1.heap (stepThread sh th).2.1.pc (stepThread sh th).2.2 (phase th.pc) := by
  have s := stepThread_seg sh th
  have hp := hT.pc
  have hS := hS.at rfl
  generalize stepThread sh th = r at s ⊢
  generalize hpc : th.pc = pc at s hp hS ⊢
  induction s with
  | idle => trivial
  | readMarked | readAdvance | readDown => exact Trans_same (UnmSame.refl _) rfl
  | @readEnd fp rr c hc hm ha hi0 =>
    -- the search ends: a hit was read from a node of the abstract set, a miss means every older node with the item is marked
    rw [(finishFind_shared ..).1]
    refine finishFind_trans (fun hf => ?_) (search_miss H hp hS hc hi0 ha)
    show unmarked0 sh.heap ((th.succs.set 0 c).getD 0 0) ∧ keyOf sh.heap ((th.succs.set 0 c).getD 0 0) = _
    rw [getD_set_same hT.buf.succs_pos]
    exact found_present H hm hf
  | newLevelBump | newLevelKeep | publishFail | findLevel | helpFail | upLinkFail | delSearch | iterNextMarked
  | iterHelpFail | iterRefresh => exact Trans_same (UnmSame.refl _) rfl
  | helpOk hw =>
    refine Trans_same ?_ rfl
    show UnmSame sh.heap (helpStats _ _ _ _ _).heap
    rw [helpStats_heap]; exact .unlink hw hp.2
  | publishUp hw hl => exact .inr (.inr ⟨((publish_hstep hp hw).publish_spec H R).2, .inl rfl⟩)
  | publishDone hw hl => exact .inr (.inr ⟨((publish_hstep hp hw).publish_spec H R).2, .inr ⟨rfl, rfl⟩⟩)
  | upReadMarked | upReadLost => exact ⟨UnmSame.refl _, .inr ⟨rfl, rfl⟩⟩
  | upReadOwn hm hn hw =>
    exact ⟨by rw [insCheckSucc_sh]; exact .upper _ hp.2.2.1 hw, .inl (insCheckSucc_phase ..)⟩
  | upReadSame => exact ⟨by rw [insCheckSucc_sh]; exact .refl _, .inl (insCheckSucc_phase ..)⟩
  | upLinkMarked hw | upLinkNext hw => exact ⟨.upper _ hp.2.2.1 hw, .inl rfl⟩
  | upLinkDone hw => exact ⟨.upper _ hp.2.2.1 hw, .inr ⟨rfl, rfl⟩⟩
  | softWin hw => exact enterSoft_won (sh1 := { sh with heap := _, stats := _ }) _ _ _ _ (HStep.mark hw).mark_spec
  | softUp hw hi => exact enterSoft_trans (sh1 := { sh with heap := _ }) _ _ _ _ _ (.upper _ (Nat.pos_of_ne_zero hi) hw)
  | softLost => exact enterSoft_trans _ _ _ _ _ (.refl _)
  | iterNextMove => exact ⟨by rw [afterNext_sh]; exact .refl _, afterNext_phase ..⟩
  | iterHelpOk hw =>
    exact ⟨by rw [afterNext_sh, helpStats_heap]; exact .unlink hw hp.1, afterNext_phase ..⟩

end NitroVerif.SkipConc
