/-
  The field equations of the primitive state transformers of `Model/MvccConc.lean`: one per transformer and
  field it leaves alone (`free`, `freeNodes`: one conjunction each; what they write is `free_live`, `freeNodes_spec`),
  and (primed, at the end) one per field it writes.  All are `simp` lemmas and make up the simp set `mvcc_fields`,
  with which a proof rewrites the fields of a composed successor state to those of `σ`.
-/
import NitroVerif.Model.MvccConc
import NitroVerif.Lemmas.MvccConcAttr

namespace NitroVerif.MvccConc

@[simp, mvcc_fields] theorem setPc_store (σ : State) (t : Nat) (pc : Pc) : (setPc σ t pc).store = σ.store := rfl
@[simp, mvcc_fields] theorem setPc_unlinked (σ : State) (t : Nat) (pc : Pc) : (setPc σ t pc).unlinked = σ.unlinked := rfl
@[simp, mvcc_fields] theorem setPc_currSn (σ : State) (t : Nat) (pc : Pc) : (setPc σ t pc).currSn = σ.currSn := rfl
@[simp, mvcc_fields] theorem setPc_lastGCSn (σ : State) (t : Nat) (pc : Pc) : (setPc σ t pc).lastGCSn = σ.lastGCSn := rfl
@[simp, mvcc_fields] theorem setPc_itemsCount (σ : State) (t : Nat) (pc : Pc) : (setPc σ t pc).itemsCount = σ.itemsCount := rfl
@[simp, mvcc_fields] theorem setPc_writers (σ : State) (t : Nat) (pc : Pc) : (setPc σ t pc).writers = σ.writers := rfl
@[simp, mvcc_fields] theorem setPc_snaps (σ : State) (t : Nat) (pc : Pc) : (setPc σ t pc).snaps = σ.snaps := rfl
@[simp, mvcc_fields] theorem setPc_gcFlag (σ : State) (t : Nat) (pc : Pc) : (setPc σ t pc).gcFlag = σ.gcFlag := rfl
@[simp, mvcc_fields] theorem setPc_sess (σ : State) (t : Nat) (pc : Pc) : (setPc σ t pc).sess = σ.sess := rfl
@[simp, mvcc_fields] theorem setPc_freeSeq (σ : State) (t : Nat) (pc : Pc) : (setPc σ t pc).freeSeq = σ.freeSeq := rfl
@[simp, mvcc_fields] theorem setPc_gcJobs (σ : State) (t : Nat) (pc : Pc) : (setPc σ t pc).gcJobs = σ.gcJobs := rfl
@[simp, mvcc_fields] theorem setPc_frJobs (σ : State) (t : Nat) (pc : Pc) : (setPc σ t pc).frJobs = σ.frJobs := rfl
@[simp, mvcc_fields] theorem setPc_iters (σ : State) (t : Nat) (pc : Pc) : (setPc σ t pc).iters = σ.iters := rfl
@[simp, mvcc_fields] theorem setPc_nextId (σ : State) (t : Nat) (pc : Pc) : (setPc σ t pc).nextId = σ.nextId := rfl
@[simp, mvcc_fields] theorem setPc_allocd (σ : State) (t : Nat) (pc : Pc) : (setPc σ t pc).allocd = σ.allocd := rfl
@[simp, mvcc_fields] theorem setPc_freed (σ : State) (t : Nat) (pc : Pc) : (setPc σ t pc).freed = σ.freed := rfl
@[simp, mvcc_fields] theorem setPc_bad (σ : State) (t : Nat) (pc : Pc) : (setPc σ t pc).bad = σ.bad := rfl
@[simp, mvcc_fields] theorem setPc_down (σ : State) (t : Nat) (pc : Pc) : (setPc σ t pc).down = σ.down := rfl
@[simp, mvcc_fields] theorem setPc_fixedIter (σ : State) (t : Nat) (pc : Pc) : (setPc σ t pc).fixedIter = σ.fixedIter := rfl

@[simp, mvcc_fields] theorem alloc_store (σ : State) (b : Blk) : (alloc σ b).store = σ.store := rfl
@[simp, mvcc_fields] theorem alloc_unlinked (σ : State) (b : Blk) : (alloc σ b).unlinked = σ.unlinked := rfl
@[simp, mvcc_fields] theorem alloc_currSn (σ : State) (b : Blk) : (alloc σ b).currSn = σ.currSn := rfl
@[simp, mvcc_fields] theorem alloc_lastGCSn (σ : State) (b : Blk) : (alloc σ b).lastGCSn = σ.lastGCSn := rfl
@[simp, mvcc_fields] theorem alloc_itemsCount (σ : State) (b : Blk) : (alloc σ b).itemsCount = σ.itemsCount := rfl
@[simp, mvcc_fields] theorem alloc_writers (σ : State) (b : Blk) : (alloc σ b).writers = σ.writers := rfl
@[simp, mvcc_fields] theorem alloc_snaps (σ : State) (b : Blk) : (alloc σ b).snaps = σ.snaps := rfl
@[simp, mvcc_fields] theorem alloc_gcFlag (σ : State) (b : Blk) : (alloc σ b).gcFlag = σ.gcFlag := rfl
@[simp, mvcc_fields] theorem alloc_sess (σ : State) (b : Blk) : (alloc σ b).sess = σ.sess := rfl
@[simp, mvcc_fields] theorem alloc_freeSeq (σ : State) (b : Blk) : (alloc σ b).freeSeq = σ.freeSeq := rfl
@[simp, mvcc_fields] theorem alloc_gcJobs (σ : State) (b : Blk) : (alloc σ b).gcJobs = σ.gcJobs := rfl
@[simp, mvcc_fields] theorem alloc_frJobs (σ : State) (b : Blk) : (alloc σ b).frJobs = σ.frJobs := rfl
@[simp, mvcc_fields] theorem alloc_threads (σ : State) (b : Blk) : (alloc σ b).threads = σ.threads := rfl
@[simp, mvcc_fields] theorem alloc_iters (σ : State) (b : Blk) : (alloc σ b).iters = σ.iters := rfl
@[simp, mvcc_fields] theorem alloc_nextId (σ : State) (b : Blk) : (alloc σ b).nextId = σ.nextId := rfl
@[simp, mvcc_fields] theorem alloc_freed (σ : State) (b : Blk) : (alloc σ b).freed = σ.freed := rfl
@[simp, mvcc_fields] theorem alloc_bad (σ : State) (b : Blk) : (alloc σ b).bad = σ.bad := rfl
@[simp, mvcc_fields] theorem alloc_down (σ : State) (b : Blk) : (alloc σ b).down = σ.down := rfl
@[simp, mvcc_fields] theorem alloc_fixedIter (σ : State) (b : Blk) : (alloc σ b).fixedIter = σ.fixedIter := rfl

@[simp, mvcc_fields] theorem free_fields (σ : State) (b : Blk) :
    (free σ b).store = σ.store ∧ (free σ b).unlinked = σ.unlinked ∧ (free σ b).currSn = σ.currSn ∧
    (free σ b).lastGCSn = σ.lastGCSn ∧ (free σ b).itemsCount = σ.itemsCount ∧ (free σ b).writers = σ.writers ∧
    (free σ b).snaps = σ.snaps ∧ (free σ b).gcFlag = σ.gcFlag ∧ (free σ b).sess = σ.sess ∧
    (free σ b).freeSeq = σ.freeSeq ∧ (free σ b).gcJobs = σ.gcJobs ∧ (free σ b).frJobs = σ.frJobs ∧
    (free σ b).threads = σ.threads ∧ (free σ b).iters = σ.iters ∧ (free σ b).nextId = σ.nextId ∧
    (free σ b).allocd = σ.allocd ∧ (free σ b).down = σ.down ∧ (free σ b).fixedIter = σ.fixedIter := by
  unfold free
  split <;> exact ⟨rfl, rfl, rfl, rfl, rfl, rfl, rfl, rfl, rfl, rfl, rfl, rfl, rfl, rfl, rfl, rfl, rfl, rfl⟩

@[simp, mvcc_fields] theorem cleanup_store (σ : State) : (cleanup σ).store = σ.store := rfl
@[simp, mvcc_fields] theorem cleanup_unlinked (σ : State) : (cleanup σ).unlinked = σ.unlinked := rfl
@[simp, mvcc_fields] theorem cleanup_currSn (σ : State) : (cleanup σ).currSn = σ.currSn := rfl
@[simp, mvcc_fields] theorem cleanup_lastGCSn (σ : State) : (cleanup σ).lastGCSn = σ.lastGCSn := rfl
@[simp, mvcc_fields] theorem cleanup_itemsCount (σ : State) : (cleanup σ).itemsCount = σ.itemsCount := rfl
@[simp, mvcc_fields] theorem cleanup_writers (σ : State) : (cleanup σ).writers = σ.writers := rfl
@[simp, mvcc_fields] theorem cleanup_snaps (σ : State) : (cleanup σ).snaps = σ.snaps := rfl
@[simp, mvcc_fields] theorem cleanup_gcFlag (σ : State) : (cleanup σ).gcFlag = σ.gcFlag := rfl
@[simp, mvcc_fields] theorem cleanup_sess (σ : State) : (cleanup σ).sess = σ.sess := rfl
@[simp, mvcc_fields] theorem cleanup_gcJobs (σ : State) : (cleanup σ).gcJobs = σ.gcJobs := rfl
@[simp, mvcc_fields] theorem cleanup_threads (σ : State) : (cleanup σ).threads = σ.threads := rfl
@[simp, mvcc_fields] theorem cleanup_iters (σ : State) : (cleanup σ).iters = σ.iters := rfl
@[simp, mvcc_fields] theorem cleanup_nextId (σ : State) : (cleanup σ).nextId = σ.nextId := rfl
@[simp, mvcc_fields] theorem cleanup_allocd (σ : State) : (cleanup σ).allocd = σ.allocd := rfl
@[simp, mvcc_fields] theorem cleanup_freed (σ : State) : (cleanup σ).freed = σ.freed := rfl
@[simp, mvcc_fields] theorem cleanup_bad (σ : State) : (cleanup σ).bad = σ.bad := rfl
@[simp, mvcc_fields] theorem cleanup_down (σ : State) : (cleanup σ).down = σ.down := rfl
@[simp, mvcc_fields] theorem cleanup_fixedIter (σ : State) : (cleanup σ).fixedIter = σ.fixedIter := rfl

@[simp, mvcc_fields] theorem acquire_store (σ : State) (h : Holder) : (acquire σ h).store = σ.store := rfl
@[simp, mvcc_fields] theorem acquire_unlinked (σ : State) (h : Holder) : (acquire σ h).unlinked = σ.unlinked := rfl
@[simp, mvcc_fields] theorem acquire_currSn (σ : State) (h : Holder) : (acquire σ h).currSn = σ.currSn := rfl
@[simp, mvcc_fields] theorem acquire_lastGCSn (σ : State) (h : Holder) : (acquire σ h).lastGCSn = σ.lastGCSn := rfl
@[simp, mvcc_fields] theorem acquire_itemsCount (σ : State) (h : Holder) : (acquire σ h).itemsCount = σ.itemsCount := rfl
@[simp, mvcc_fields] theorem acquire_writers (σ : State) (h : Holder) : (acquire σ h).writers = σ.writers := rfl
@[simp, mvcc_fields] theorem acquire_snaps (σ : State) (h : Holder) : (acquire σ h).snaps = σ.snaps := rfl
@[simp, mvcc_fields] theorem acquire_gcFlag (σ : State) (h : Holder) : (acquire σ h).gcFlag = σ.gcFlag := rfl
@[simp, mvcc_fields] theorem acquire_freeSeq (σ : State) (h : Holder) : (acquire σ h).freeSeq = σ.freeSeq := rfl
@[simp, mvcc_fields] theorem acquire_gcJobs (σ : State) (h : Holder) : (acquire σ h).gcJobs = σ.gcJobs := rfl
@[simp, mvcc_fields] theorem acquire_frJobs (σ : State) (h : Holder) : (acquire σ h).frJobs = σ.frJobs := rfl
@[simp, mvcc_fields] theorem acquire_threads (σ : State) (h : Holder) : (acquire σ h).threads = σ.threads := rfl
@[simp, mvcc_fields] theorem acquire_iters (σ : State) (h : Holder) : (acquire σ h).iters = σ.iters := rfl
@[simp, mvcc_fields] theorem acquire_nextId (σ : State) (h : Holder) : (acquire σ h).nextId = σ.nextId := rfl
@[simp, mvcc_fields] theorem acquire_allocd (σ : State) (h : Holder) : (acquire σ h).allocd = σ.allocd := rfl
@[simp, mvcc_fields] theorem acquire_freed (σ : State) (h : Holder) : (acquire σ h).freed = σ.freed := rfl
@[simp, mvcc_fields] theorem acquire_bad (σ : State) (h : Holder) : (acquire σ h).bad = σ.bad := rfl
@[simp, mvcc_fields] theorem acquire_down (σ : State) (h : Holder) : (acquire σ h).down = σ.down := rfl
@[simp, mvcc_fields] theorem acquire_fixedIter (σ : State) (h : Holder) : (acquire σ h).fixedIter = σ.fixedIter := rfl

@[simp, mvcc_fields] theorem release_store (σ : State) (tok : Nat) (h : Holder) : (release σ tok h).store = σ.store := rfl
@[simp, mvcc_fields] theorem release_unlinked (σ : State) (tok : Nat) (h : Holder) : (release σ tok h).unlinked = σ.unlinked := rfl
@[simp, mvcc_fields] theorem release_currSn (σ : State) (tok : Nat) (h : Holder) : (release σ tok h).currSn = σ.currSn := rfl
@[simp, mvcc_fields] theorem release_lastGCSn (σ : State) (tok : Nat) (h : Holder) : (release σ tok h).lastGCSn = σ.lastGCSn := rfl
@[simp, mvcc_fields] theorem release_itemsCount (σ : State) (tok : Nat) (h : Holder) : (release σ tok h).itemsCount = σ.itemsCount := rfl
@[simp, mvcc_fields] theorem release_writers (σ : State) (tok : Nat) (h : Holder) : (release σ tok h).writers = σ.writers := rfl
@[simp, mvcc_fields] theorem release_snaps (σ : State) (tok : Nat) (h : Holder) : (release σ tok h).snaps = σ.snaps := rfl
@[simp, mvcc_fields] theorem release_gcFlag (σ : State) (tok : Nat) (h : Holder) : (release σ tok h).gcFlag = σ.gcFlag := rfl
@[simp, mvcc_fields] theorem release_gcJobs (σ : State) (tok : Nat) (h : Holder) : (release σ tok h).gcJobs = σ.gcJobs := rfl
@[simp, mvcc_fields] theorem release_threads (σ : State) (tok : Nat) (h : Holder) : (release σ tok h).threads = σ.threads := rfl
@[simp, mvcc_fields] theorem release_iters (σ : State) (tok : Nat) (h : Holder) : (release σ tok h).iters = σ.iters := rfl
@[simp, mvcc_fields] theorem release_nextId (σ : State) (tok : Nat) (h : Holder) : (release σ tok h).nextId = σ.nextId := rfl
@[simp, mvcc_fields] theorem release_allocd (σ : State) (tok : Nat) (h : Holder) : (release σ tok h).allocd = σ.allocd := rfl
@[simp, mvcc_fields] theorem release_freed (σ : State) (tok : Nat) (h : Holder) : (release σ tok h).freed = σ.freed := rfl
@[simp, mvcc_fields] theorem release_bad (σ : State) (tok : Nat) (h : Holder) : (release σ tok h).bad = σ.bad := rfl
@[simp, mvcc_fields] theorem release_down (σ : State) (tok : Nat) (h : Holder) : (release σ tok h).down = σ.down := rfl
@[simp, mvcc_fields] theorem release_fixedIter (σ : State) (tok : Nat) (h : Holder) : (release σ tok h).fixedIter = σ.fixedIter := rfl

@[simp, mvcc_fields] theorem flush_store (σ : State) (l : List Nat) : (flush σ l).store = σ.store := rfl
@[simp, mvcc_fields] theorem flush_unlinked (σ : State) (l : List Nat) : (flush σ l).unlinked = σ.unlinked := rfl
@[simp, mvcc_fields] theorem flush_currSn (σ : State) (l : List Nat) : (flush σ l).currSn = σ.currSn := rfl
@[simp, mvcc_fields] theorem flush_lastGCSn (σ : State) (l : List Nat) : (flush σ l).lastGCSn = σ.lastGCSn := rfl
@[simp, mvcc_fields] theorem flush_itemsCount (σ : State) (l : List Nat) : (flush σ l).itemsCount = σ.itemsCount := rfl
@[simp, mvcc_fields] theorem flush_writers (σ : State) (l : List Nat) : (flush σ l).writers = σ.writers := rfl
@[simp, mvcc_fields] theorem flush_snaps (σ : State) (l : List Nat) : (flush σ l).snaps = σ.snaps := rfl
@[simp, mvcc_fields] theorem flush_gcFlag (σ : State) (l : List Nat) : (flush σ l).gcFlag = σ.gcFlag := rfl
@[simp, mvcc_fields] theorem flush_gcJobs (σ : State) (l : List Nat) : (flush σ l).gcJobs = σ.gcJobs := rfl
@[simp, mvcc_fields] theorem flush_threads (σ : State) (l : List Nat) : (flush σ l).threads = σ.threads := rfl
@[simp, mvcc_fields] theorem flush_iters (σ : State) (l : List Nat) : (flush σ l).iters = σ.iters := rfl
@[simp, mvcc_fields] theorem flush_nextId (σ : State) (l : List Nat) : (flush σ l).nextId = σ.nextId := rfl
@[simp, mvcc_fields] theorem flush_allocd (σ : State) (l : List Nat) : (flush σ l).allocd = σ.allocd := rfl
@[simp, mvcc_fields] theorem flush_freed (σ : State) (l : List Nat) : (flush σ l).freed = σ.freed := rfl
@[simp, mvcc_fields] theorem flush_bad (σ : State) (l : List Nat) : (flush σ l).bad = σ.bad := rfl
@[simp, mvcc_fields] theorem flush_down (σ : State) (l : List Nat) : (flush σ l).down = σ.down := rfl
@[simp, mvcc_fields] theorem flush_fixedIter (σ : State) (l : List Nat) : (flush σ l).fixedIter = σ.fixedIter := rfl

@[simp, mvcc_fields] theorem setGc_store (σ : State) (j : Nat) (job : GcJob) : (setGc σ j job).store = σ.store := rfl
@[simp, mvcc_fields] theorem setGc_unlinked (σ : State) (j : Nat) (job : GcJob) : (setGc σ j job).unlinked = σ.unlinked := rfl
@[simp, mvcc_fields] theorem setGc_currSn (σ : State) (j : Nat) (job : GcJob) : (setGc σ j job).currSn = σ.currSn := rfl
@[simp, mvcc_fields] theorem setGc_lastGCSn (σ : State) (j : Nat) (job : GcJob) : (setGc σ j job).lastGCSn = σ.lastGCSn := rfl
@[simp, mvcc_fields] theorem setGc_itemsCount (σ : State) (j : Nat) (job : GcJob) : (setGc σ j job).itemsCount = σ.itemsCount := rfl
@[simp, mvcc_fields] theorem setGc_writers (σ : State) (j : Nat) (job : GcJob) : (setGc σ j job).writers = σ.writers := rfl
@[simp, mvcc_fields] theorem setGc_snaps (σ : State) (j : Nat) (job : GcJob) : (setGc σ j job).snaps = σ.snaps := rfl
@[simp, mvcc_fields] theorem setGc_gcFlag (σ : State) (j : Nat) (job : GcJob) : (setGc σ j job).gcFlag = σ.gcFlag := rfl
@[simp, mvcc_fields] theorem setGc_sess (σ : State) (j : Nat) (job : GcJob) : (setGc σ j job).sess = σ.sess := rfl
@[simp, mvcc_fields] theorem setGc_freeSeq (σ : State) (j : Nat) (job : GcJob) : (setGc σ j job).freeSeq = σ.freeSeq := rfl
@[simp, mvcc_fields] theorem setGc_frJobs (σ : State) (j : Nat) (job : GcJob) : (setGc σ j job).frJobs = σ.frJobs := rfl
@[simp, mvcc_fields] theorem setGc_threads (σ : State) (j : Nat) (job : GcJob) : (setGc σ j job).threads = σ.threads := rfl
@[simp, mvcc_fields] theorem setGc_iters (σ : State) (j : Nat) (job : GcJob) : (setGc σ j job).iters = σ.iters := rfl
@[simp, mvcc_fields] theorem setGc_nextId (σ : State) (j : Nat) (job : GcJob) : (setGc σ j job).nextId = σ.nextId := rfl
@[simp, mvcc_fields] theorem setGc_allocd (σ : State) (j : Nat) (job : GcJob) : (setGc σ j job).allocd = σ.allocd := rfl
@[simp, mvcc_fields] theorem setGc_freed (σ : State) (j : Nat) (job : GcJob) : (setGc σ j job).freed = σ.freed := rfl
@[simp, mvcc_fields] theorem setGc_bad (σ : State) (j : Nat) (job : GcJob) : (setGc σ j job).bad = σ.bad := rfl
@[simp, mvcc_fields] theorem setGc_down (σ : State) (j : Nat) (job : GcJob) : (setGc σ j job).down = σ.down := rfl
@[simp, mvcc_fields] theorem setGc_fixedIter (σ : State) (j : Nat) (job : GcJob) : (setGc σ j job).fixedIter = σ.fixedIter := rfl

@[simp, mvcc_fields] theorem setFr_store (σ : State) (j : Nat) (job : FrJob) : (setFr σ j job).store = σ.store := rfl
@[simp, mvcc_fields] theorem setFr_unlinked (σ : State) (j : Nat) (job : FrJob) : (setFr σ j job).unlinked = σ.unlinked := rfl
@[simp, mvcc_fields] theorem setFr_currSn (σ : State) (j : Nat) (job : FrJob) : (setFr σ j job).currSn = σ.currSn := rfl
@[simp, mvcc_fields] theorem setFr_lastGCSn (σ : State) (j : Nat) (job : FrJob) : (setFr σ j job).lastGCSn = σ.lastGCSn := rfl
@[simp, mvcc_fields] theorem setFr_itemsCount (σ : State) (j : Nat) (job : FrJob) : (setFr σ j job).itemsCount = σ.itemsCount := rfl
@[simp, mvcc_fields] theorem setFr_writers (σ : State) (j : Nat) (job : FrJob) : (setFr σ j job).writers = σ.writers := rfl
@[simp, mvcc_fields] theorem setFr_snaps (σ : State) (j : Nat) (job : FrJob) : (setFr σ j job).snaps = σ.snaps := rfl
@[simp, mvcc_fields] theorem setFr_gcFlag (σ : State) (j : Nat) (job : FrJob) : (setFr σ j job).gcFlag = σ.gcFlag := rfl
@[simp, mvcc_fields] theorem setFr_sess (σ : State) (j : Nat) (job : FrJob) : (setFr σ j job).sess = σ.sess := rfl
@[simp, mvcc_fields] theorem setFr_freeSeq (σ : State) (j : Nat) (job : FrJob) : (setFr σ j job).freeSeq = σ.freeSeq := rfl
@[simp, mvcc_fields] theorem setFr_gcJobs (σ : State) (j : Nat) (job : FrJob) : (setFr σ j job).gcJobs = σ.gcJobs := rfl
@[simp, mvcc_fields] theorem setFr_threads (σ : State) (j : Nat) (job : FrJob) : (setFr σ j job).threads = σ.threads := rfl
@[simp, mvcc_fields] theorem setFr_iters (σ : State) (j : Nat) (job : FrJob) : (setFr σ j job).iters = σ.iters := rfl
@[simp, mvcc_fields] theorem setFr_nextId (σ : State) (j : Nat) (job : FrJob) : (setFr σ j job).nextId = σ.nextId := rfl
@[simp, mvcc_fields] theorem setFr_allocd (σ : State) (j : Nat) (job : FrJob) : (setFr σ j job).allocd = σ.allocd := rfl
@[simp, mvcc_fields] theorem setFr_freed (σ : State) (j : Nat) (job : FrJob) : (setFr σ j job).freed = σ.freed := rfl
@[simp, mvcc_fields] theorem setFr_bad (σ : State) (j : Nat) (job : FrJob) : (setFr σ j job).bad = σ.bad := rfl
@[simp, mvcc_fields] theorem setFr_down (σ : State) (j : Nat) (job : FrJob) : (setFr σ j job).down = σ.down := rfl
@[simp, mvcc_fields] theorem setFr_fixedIter (σ : State) (j : Nat) (job : FrJob) : (setFr σ j job).fixedIter = σ.fixedIter := rfl

@[simp, mvcc_fields] theorem freeNodes_fields : ∀ (l : List Nat) (σ : State),
    (freeNodes σ l).store = σ.store ∧ (freeNodes σ l).unlinked = σ.unlinked ∧
    (freeNodes σ l).currSn = σ.currSn ∧ (freeNodes σ l).lastGCSn = σ.lastGCSn ∧
    (freeNodes σ l).itemsCount = σ.itemsCount ∧ (freeNodes σ l).writers = σ.writers ∧
    (freeNodes σ l).snaps = σ.snaps ∧ (freeNodes σ l).gcFlag = σ.gcFlag ∧ (freeNodes σ l).sess = σ.sess ∧
    (freeNodes σ l).freeSeq = σ.freeSeq ∧ (freeNodes σ l).gcJobs = σ.gcJobs ∧
    (freeNodes σ l).frJobs = σ.frJobs ∧ (freeNodes σ l).threads = σ.threads ∧ (freeNodes σ l).iters = σ.iters ∧
    (freeNodes σ l).nextId = σ.nextId ∧ (freeNodes σ l).allocd = σ.allocd ∧ (freeNodes σ l).down = σ.down ∧
    (freeNodes σ l).fixedIter = σ.fixedIter
  | [], _ => ⟨rfl, rfl, rfl, rfl, rfl, rfl, rfl, rfl, rfl, rfl, rfl, rfl, rfl, rfl, rfl, rfl, rfl, rfl⟩
  | n :: r, σ => by
    unfold freeNodes
    simp only [freeNodes_fields r, free_fields, and_self]

@[simp, mvcc_fields] theorem setPc_threads' (σ : State) (t : Nat) (pc : Pc) : (setPc σ t pc).threads = σ.threads.set t pc := rfl
@[simp, mvcc_fields] theorem alloc_allocd' (σ : State) (b : Blk) : (alloc σ b).allocd = σ.allocd ++ [b] := rfl
@[simp, mvcc_fields] theorem setGc_gcJobs' (σ : State) (j : Nat) (job : GcJob) : (setGc σ j job).gcJobs = σ.gcJobs.set j job := rfl
@[simp, mvcc_fields] theorem setFr_frJobs' (σ : State) (j : Nat) (job : FrJob) : (setFr σ j job).frJobs = σ.frJobs.set j job := rfl
@[simp, mvcc_fields] theorem acquire_sess' (σ : State) (h : Holder) : (acquire σ h).sess = acqSess σ.sess h := rfl
@[simp, mvcc_fields] theorem cleanup_freeSeq' (σ : State) :
    (cleanup σ).freeSeq = σ.freeSeq + (readySess σ.sess σ.freeSeq).length := rfl
@[simp, mvcc_fields] theorem cleanup_frJobs' (σ : State) :
    (cleanup σ).frJobs = σ.frJobs ++ newFrJobs (readySess σ.sess σ.freeSeq) := rfl
@[simp, mvcc_fields] theorem release_sess' (σ : State) (tok : Nat) (h : Holder) : (release σ tok h).sess = relSess σ.sess tok h := rfl
@[simp, mvcc_fields] theorem release_freeSeq' (σ : State) (tok : Nat) (h : Holder) :
    (release σ tok h).freeSeq = σ.freeSeq + (readySess (relSess σ.sess tok h) σ.freeSeq).length := rfl
@[simp, mvcc_fields] theorem release_frJobs' (σ : State) (tok : Nat) (h : Holder) :
    (release σ tok h).frJobs = σ.frJobs ++ newFrJobs (readySess (relSess σ.sess tok h) σ.freeSeq) := rfl
@[simp, mvcc_fields] theorem flush_sess' (σ : State) (l : List Nat) : (flush σ l).sess = flushSess σ.sess l := rfl
@[simp, mvcc_fields] theorem flush_freeSeq' (σ : State) (l : List Nat) :
    (flush σ l).freeSeq = σ.freeSeq + (readySess (flushSess σ.sess l) σ.freeSeq).length := rfl
@[simp, mvcc_fields] theorem flush_frJobs' (σ : State) (l : List Nat) :
    (flush σ l).frJobs = σ.frJobs ++ newFrJobs (readySess (flushSess σ.sess l) σ.freeSeq) := rfl

end NitroVerif.MvccConc
