/-
  Counts over a `flatMap` after one entry of the list is replaced (`List.set`): the form in which the
  invariants of the small-step M6 model count owners and garbage.  On `ListFacts`.
-/
import NitroVerif.Lemmas.ListFacts

namespace NitroVerif.MvccConc

theorem modify_eq_self {α : Type} (f : α → α) : ∀ (l : List α) (i : Nat), l[i]? = none → l.modify i f = l :=
  fun _ _ h => List.modify_eq_self (List.getElem?_eq_none_iff.mp h)

theorem count_flatMap_set {α : Type} (g : α → List Nat) (n : Nat) : ∀ (l : List α) (i : Nat) (a b : α),
    l[i]? = some a →
    ((l.set i b).flatMap g).count n + (g a).count n = (l.flatMap g).count n + (g b).count n := by
  intro l i a b h
  rw [List.count_flatMap, List.count_flatMap]
  exact sum_map_set _ l i b a h

theorem count_flatMap_set_same {α : Type} (g : α → List Nat) (n : Nat) {l : List α} {i : Nat} {a b : α}
    (h : l[i]? = some a) (hab : g b = g a) : ((l.set i b).flatMap g).count n = (l.flatMap g).count n := by
  have := count_flatMap_set g n l i a b h
  rw [hab] at this
  exact Nat.add_right_cancel this

theorem count_flatMap_set_grow {α : Type} (g : α → List Nat) (n : Nat) {l : List α} {i : Nat} {a b : α}
    (h : l[i]? = some a) {L : List Nat} (hab : g b = g a ++ L) :
    ((l.set i b).flatMap g).count n = (l.flatMap g).count n + L.count n := by
  have := count_flatMap_set g n l i a b h
  rw [hab, List.count_append, ← Nat.add_assoc, Nat.add_right_comm] at this
  exact Nat.add_right_cancel this

theorem count_flatMap_set_shrink {α : Type} (g : α → List Nat) (n : Nat) {l : List α} {i : Nat} {a b : α}
    (h : l[i]? = some a) {L : List Nat} (hab : g a = L ++ g b) :
    ((l.set i b).flatMap g).count n + L.count n = (l.flatMap g).count n := by
  have := count_flatMap_set g n l i a b h
  rw [hab, List.count_append, ← Nat.add_assoc] at this
  exact Nat.add_right_cancel this

theorem count_flatMap_modify {α : Type} (g : α → List Nat) (n : Nat) (f : α → α) (l : List α) (i : Nat) (a : α)
    (h : l[i]? = some a) :
    ((l.modify i f).flatMap g).count n + (g a).count n = (l.flatMap g).count n + (g (f a)).count n := by
  rw [modify_eq_set f h]; exact count_flatMap_set g n l i a (f a) h

theorem count_flatMap_ge {α : Type} (g : α → List Nat) (n : Nat) {l : List α} {a : α} (h : a ∈ l) :
    (g a).count n ≤ (l.flatMap g).count n := by
  rw [List.count_flatMap]
  exact le_sum_map (List.count n ∘ g) h

theorem count_flatMap_reverse {α : Type} (g : α → List Nat) (n : Nat) (l : List α) :
    (l.reverse.flatMap g).count n = (l.flatMap g).count n := by
  induction l with
  | nil => rfl
  | cons x xs ih =>
    simp only [List.reverse_cons, List.flatMap_append, List.flatMap_cons, List.flatMap_nil, List.count_append,
      List.append_nil, ih]
    omega

theorem getElem?_mem_of {α : Type} {l : List α} {i : Nat} {a : α} (h : l[i]? = some a) : a ∈ l :=
  List.mem_of_getElem? h

theorem length_set' {α : Type} (l : List α) (t : Nat) (a : α) : (l.set t a).length = l.length := List.length_set

end NitroVerif.MvccConc
