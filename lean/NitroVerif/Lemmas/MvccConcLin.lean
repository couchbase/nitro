/-
  Linearization of the writers' operations of the small-step M6 model against `Spec/SetSpec.lean`.

  A schedule is turned into a trace of events: `call` (an accepted `start t put|del|get`), `ret` (the
  answer `ret true|false|<v>|none` of that operation, taken from the response of the machine), `lin` (the
  linearization point, with the result the specification must give there) and `snap` (NewSnapshot,
  atomic).  Linearization points (`lins`): Put — its PUT_INSERT step; a Delete that finds no item, GetNode — the
  lookup; the winning Delete — its DEL_NODE_PHYS (same epoch) / DEL_NODE_CAS (older epoch) step; a losing Delete —
  right after the winner's step that took its node away, in the winner's action (its own step comes later and
  answers `false`; NOT there: by then another Put may have made the key alive again).
  Events of one action are ordered `call`s, `lin`s, `ret`s.
  Also here: `SetSpec.step` by operation (`setSpec_*`) and `SetSpec.findKey` under `ins`/`removeKey` (`section FindKey`);
  `Abs`; the phase of a thread (`phaseOf`, `PhaseOK`; lemmas in `MvccConcLinPhase`); the frame `Mild`.
-/
import NitroVerif.Lemmas.MvccConcStore
import NitroVerif.Lemmas.MvccAbs
import NitroVerif.Lemmas.MvccConcFields
import NitroVerif.Lemmas.MvccConcStep

namespace NitroVerif.MvccConc
open NitroVerif.SetSpec (Op Out)

inductive Ev where
  | call (t : Nat) (op : Op)
  | lin (t : Nat) (op : Op) (res : Out)
  | ret (t : Nat) (res : Out)
  | snap (res : Out)
deriving Repr, DecidableEq

def accepted (σ : State) (t : Nat) : Bool := !σ.down && isWriter σ t && isIdle σ t

def retOut : Resp → Option Out
  | .ret (.bool b) => some (.bool b)
  | .ret (.val v) => some (.val v)
  | _ => none

def Pc.isWop : Pc → Bool
  | .putInsert _ _ _ _ => true
  | .delPhys _ _ _ => true
  | .delFlush _ _ _ => true
  | .delCas _ _ _ => true
  | _ => false

def calls (σ : State) : Act → List Ev
  | .put t k v => if accepted σ t then [.call t (.put t k v)] else []
  | .del t k => if accepted σ t then [.call t (.del t k)] else []
  | .get t k => if accepted σ t then [.call t (.get t k)] else []
  | _ => []

def rets (σ : State) (a : Act) : List Ev :=
  match a with
  | .put t _ _ => if accepted σ t then ((retOut (step σ a).2).map (Ev.ret t)).toList else []
  | .del t _ => if accepted σ t then ((retOut (step σ a).2).map (Ev.ret t)).toList else []
  | .get t _ => if accepted σ t then ((retOut (step σ a).2).map (Ev.ret t)).toList else []
  | .step t =>
    match σ.threads[t]? with
    | some pc => if pc.isWop && !σ.down then ((retOut (step σ a).2).map (Ev.ret t)).toList else []
    | none => []
  | _ => []

/-- the Delete of thread `t'` lost node `n` to thread `t` -/
def loserEv (σ : State) (t n t' : Nat) : Option Ev :=
  if t' = t then none else
  match σ.threads[t']? with
  | some (.delPhys n' _ k') => if n' = n then some (.lin t' (.del t' k') (.bool false)) else none
  | some (.delCas n' _ k') => if n' = n then some (.lin t' (.del t' k') (.bool false)) else none
  | _ => none

def losers (σ : State) (t n : Nat) : List Ev := (List.range σ.threads.length).filterMap (loserEv σ t n)

def lins (σ : State) : Act → List Ev
  | .snap =>
    if !σ.down && writersIdle σ then [.snap (.snap σ.currSn (σ.itemsCount + (σ.writers.map (·.count)).sum))] else []
  | .get t k =>
    if accepted σ t then [.lin t (.get t k) (.val ((lookupN σ.store (probe σ k 0)).map (·.ver.val)))] else []
  | .del t k =>
    if accepted σ t && (lookupN σ.store (probe σ k 0)).isNone then [.lin t (.del t k) (.bool false)] else []
  | .step t =>
    if σ.down then [] else
    match σ.threads[t]? with
    | some (.putInsert _ k v b) => [.lin t (.put t k v) (.bool (lookupN σ.store ⟨k, v, b, 0⟩).isNone)]
    | some (.delPhys n _ k) =>
      match findNode σ.store n with
      | some _ => .lin t (.del t k) (.bool true) :: losers σ t n
      | none => []
    | some (.delCas n _ k) =>
      match findNode σ.store n with
      | some x => if x.ver.dead = 0 then .lin t (.del t k) (.bool true) :: losers σ t n else []
      | none => []
    | _ => []
  | _ => []

def events (σ : State) (a : Act) : List Ev := calls σ a ++ lins σ a ++ rets σ a

theorem lins_putInsert {σ : State} {t n k v b : Nat} (hd : σ.down = false)
    (hg : σ.threads[t]? = some (.putInsert n k v b)) :
    lins σ (.step t) = [.lin t (.put t k v) (.bool (lookupN σ.store ⟨k, v, b, 0⟩).isNone)] := by
  simp only [lins, hd, hg, Bool.false_eq_true, if_false]

theorem lins_delPhys {σ : State} {t n tok k : Nat} (hd : σ.down = false)
    (hg : σ.threads[t]? = some (.delPhys n tok k)) :
    lins σ (.step t) =
      match findNode σ.store n with
      | some _ => .lin t (.del t k) (.bool true) :: losers σ t n
      | none => [] := by
  simp only [lins, hd, hg, Bool.false_eq_true, if_false]

theorem lins_delFlush {σ : State} {t n tok k : Nat} (hd : σ.down = false)
    (hg : σ.threads[t]? = some (.delFlush n tok k)) : lins σ (.step t) = [] := by
  simp only [lins, hd, hg, Bool.false_eq_true, if_false]

theorem lins_delCas {σ : State} {t n tok k : Nat} (hd : σ.down = false)
    (hg : σ.threads[t]? = some (.delCas n tok k)) :
    lins σ (.step t) =
      match findNode σ.store n with
      | some x => if x.ver.dead = 0 then .lin t (.del t k) (.bool true) :: losers σ t n else []
      | none => [] := by
  simp only [lins, hd, hg, Bool.false_eq_true, if_false]

theorem step_wop {σ : State} (hd : σ.down = false) {t : Nat} {pc : Pc} (hg : σ.threads[t]? = some pc)
    (hw : pc.isWop = true) {r : State × Resp} (hr : step σ (.step t) = r) :
    (step σ (.step t)).1 = r.1 ∧
      events σ (.step t) = lins σ (.step t) ++ ((retOut r.2).map (Ev.ret t)).toList := by
  simp only [events, calls, rets, hg, hw, hd, hr, Bool.not_false, Bool.and_self, if_true, List.nil_append, and_self]

theorem events_step_not_wop {σ : State} {t : Nat} {pc : Pc} (hg : σ.threads[t]? = some pc) (hw : pc.isWop = false) :
    events σ (.step t) = [] := by
  cases pc with
  | putInsert | delPhys | delFlush | delCas => cases hw
  | idle | collectSend | iterNext =>
    simp only [events, calls, lins, rets, hg, Pc.isWop, Bool.false_eq_true, if_false, Bool.false_and, ite_self,
      List.append_nil]

theorem events_refused {σ : State} {a : Act} (h : σ.down = true ∨ Refused σ a) : events σ a = [] := by
  have hacc : ∀ {t : Nat}, (σ.down = true ∨ (isWriter σ t && isIdle σ t) = false) → accepted σ t = false := by
    intro t h
    unfold accepted
    rcases h with hd | hr
    · rw [hd]; rfl
    · rw [Bool.and_assoc, hr, Bool.and_false]
  cases a with
  | snap =>
    have : (!σ.down && writersIdle σ) = false := by
      rcases h with hd | hr
      · rw [hd]; rfl
      · rw [show writersIdle σ = false from hr, Bool.and_false]
    simp only [events, calls, lins, rets, this, Bool.false_eq_true, if_false, List.append_nil]
  | put t k v | del t k | get t k =>
    simp only [events, calls, lins, rets, hacc h, Bool.false_and, Bool.false_eq_true, if_false, List.append_nil]
  | step t =>
    rcases h with hd | hr | hr
    · simp only [events, calls, lins, rets, hd, Bool.not_true, Bool.and_false, Bool.false_eq_true, if_false, if_true,
        List.nil_append]
      cases σ.threads[t]? <;> rfl
    · simp only [events, calls, lins, rets, hr, ite_self, List.append_nil]
    · simp only [events, calls, lins, rets, hr, Pc.isWop, Bool.false_and, Bool.false_eq_true, if_false, ite_self,
        List.append_nil]
  | _ => rfl

def trace (σ : State) : List Act → List Ev
  | [] => []
  | a :: as => events σ a ++ trace (step σ a).1 as

def linOp : Op → Bool
  | .put _ _ _ => true
  | .del _ _ => true
  | .get _ _ => true
  | _ => false

def specStep (sp : SetSpec.State) : Ev → Option SetSpec.State
  | .lin _ op res => if linOp op = true ∧ (SetSpec.step sp op).2 = res then some (SetSpec.step sp op).1 else none
  | .snap res => if (SetSpec.step sp .snap).2 = res then some (SetSpec.step sp .snap).1 else none
  | _ => some sp

def replay (sp : SetSpec.State) : List Ev → Option SetSpec.State
  | [] => some sp
  | e :: es =>
    match specStep sp e with
    | some sp' => replay sp' es
    | none => none

theorem replay_append (sp : SetSpec.State) (l1 l2 : List Ev) :
    replay sp (l1 ++ l2) = (replay sp l1).bind (fun sp' => replay sp' l2) := by
  induction l1 generalizing sp with
  | nil => rfl
  | cons e es ih =>
    simp only [List.cons_append, replay]
    cases specStep sp e with
    | none => rfl
    | some sp' => exact ih sp'

theorem replay_append_some {sp sp1 : SetSpec.State} {l1 l2 : List Ev} (h : replay sp l1 = some sp1) :
    replay sp (l1 ++ l2) = replay sp1 l2 := by
  rw [replay_append, h]; rfl

theorem replay_cons_some {sp sp' : SetSpec.State} {e : Ev} (es : List Ev) (h : specStep sp e = some sp') :
    replay sp (e :: es) = replay sp' es := by
  simp only [replay, h]

theorem specStep_lin {sp sp' : SetSpec.State} {op : Op} {res : Out} (t : Nat) (hop : linOp op = true)
    (h : SetSpec.step sp op = (sp', res)) : specStep sp (.lin t op res) = some sp' := by
  simp only [specStep, hop, h, and_self, if_true]

theorem replay_lin_ret {sp sp' : SetSpec.State} {op : Op} {res : Out} (t : Nat) (hop : linOp op = true)
    (h : SetSpec.step sp op = (sp', res)) : replay sp [.lin t op res, .ret t res] = some sp' := by
  rw [replay_cons_some _ (specStep_lin t hop h), replay_cons_some _ rfl]; rfl

theorem replay_call_lin_ret {sp sp' : SetSpec.State} {op : Op} {res : Out} (t : Nat) (hop : linOp op = true)
    (h : SetSpec.step sp op = (sp', res)) : replay sp [.call t op, .lin t op res, .ret t res] = some sp' := by
  rw [replay_cons_some _ rfl]; exact replay_lin_ret t hop h

theorem setSpec_put (sp : SetSpec.State) (w k v : Nat) :
    SetSpec.step sp (.put w k v) =
      if w < sp.nwriters then
        match SetSpec.findKey k sp.alive with
        | some _ => (sp, .bool false)
        | none => ({ sp with alive := SetSpec.ins ⟨k, v, sp.epoch⟩ sp.alive }, .bool true)
      else (sp, .bad) := rfl

theorem setSpec_del (sp : SetSpec.State) (w k : Nat) :
    SetSpec.step sp (.del w k) =
      if w < sp.nwriters then
        match SetSpec.findKey k sp.alive with
        | some e => (SetSpec.delEntry sp e, .bool true)
        | none => (sp, .bool false)
      else (sp, .bad) := rfl

theorem setSpec_get (sp : SetSpec.State) (w k : Nat) :
    SetSpec.step sp (.get w k) =
      if w < sp.nwriters then (sp, .val ((SetSpec.findKey k sp.alive).map (·.val))) else (sp, .bad) := rfl

section FindKey
open NitroVerif.SetSpec (Entry findKey ins removeKey)

theorem findKey_cons_ne {x : Entry} {k : Nat} (h : x.key ≠ k) (l : List Entry) : findKey k (x :: l) = findKey k l :=
  List.find?_cons_of_neg (by simpa using h)

theorem findKey_cons_self (x : Entry) (l : List Entry) : findKey x.key (x :: l) = some x :=
  List.find?_cons_of_pos (by simp)

theorem findKey_ins_self {k v e : Nat} {l : List Entry} (h : findKey k l = none) :
    (findKey k (ins ⟨k, v, e⟩ l)).isSome = true := by
  induction l with
  | nil => exact congrArg Option.isSome (findKey_cons_self ⟨k, v, e⟩ [])
  | cons x xs ih =>
    have hx : x.key ≠ k := by
      intro he; subst he
      rw [findKey_cons_self] at h; cases h
    rw [findKey_cons_ne hx] at h
    unfold ins
    split
    · rw [findKey_cons_ne hx]; exact ih h
    · exact congrArg Option.isSome (findKey_cons_self ⟨k, v, e⟩ _)

theorem findKey_ins_other {k k' v e : Nat} (hne : k' ≠ k) (l : List Entry) :
    findKey k' (ins ⟨k, v, e⟩ l) = findKey k' l := by
  induction l with
  | nil => exact findKey_cons_ne (x := ⟨k, v, e⟩) (fun h => hne h.symm) []
  | cons x xs ih =>
    unfold ins
    split
    · unfold findKey at ih ⊢
      rw [List.find?_cons, List.find?_cons, ih]
    · exact findKey_cons_ne (x := ⟨k, v, e⟩) (fun h => hne h.symm) _

theorem findKey_key {k : Nat} {l : List Entry} {e : Entry} (h : findKey k l = some e) : e.key = k :=
  (find?_key_some h).2

theorem findKey_removeKey (k : Nat) (l : List Entry) : findKey k (removeKey k l) = none :=
  (find?_key_filter_ne (key := Entry.key) l k k).trans (if_pos rfl)

theorem findKey_removeKey_other {k k' : Nat} (hne : k' ≠ k) (l : List Entry) :
    findKey k' (removeKey k l) = findKey k' l :=
  (find?_key_filter_ne (key := Entry.key) l k' k).trans (if_neg fun e => hne e.symm)

end FindKey

structure Abs (σ : State) (sp : SetSpec.State) : Prop where
  nw : sp.nwriters = σ.writers.length
  alive : sp.alive = Mvcc.absAlive (vers σ.store)
  epoch : sp.epoch = σ.currSn

inductive Phase where
  | idle
  | called (op : Op)
  | decided (op : Op) (res : Out)
  | broken
deriving Repr, DecidableEq

def phaseStep (t : Nat) : Phase → Ev → Phase
  | p, .snap _ => p
  | p, .call t' op =>
    if t' = t then (match p with | .idle => .called op | _ => .broken) else p
  | p, .lin t' op res =>
    if t' = t then (match p with | .called op' => if op' = op then .decided op res else .broken | _ => .broken) else p
  | p, .ret t' res =>
    if t' = t then (match p with | .decided _ res' => if res' = res then .idle else .broken | _ => .broken) else p

def phaseOf (t : Nat) (p : Phase) (evs : List Ev) : Phase := evs.foldl (phaseStep t) p

theorem phaseOf_append (t : Nat) (p : Phase) (l1 l2 : List Ev) :
    phaseOf t p (l1 ++ l2) = phaseOf t (phaseOf t p l1) l2 := by
  unfold phaseOf; rw [List.foldl_append]

theorem phaseOf_cons (t : Nat) (p : Phase) (e : Ev) (l : List Ev) :
    phaseOf t p (e :: l) = phaseOf t (phaseStep t p e) l := rfl

/-- how the phase of thread `t` (computed from the trace) relates to its program counter -/
def PhaseOK (σ : State) (t : Nat) : Phase → Prop
  | .idle => ∀ pc, σ.threads[t]? = some pc → pc.isWop = false
  | .called op =>
    (∃ n k v b, σ.threads[t]? = some (.putInsert n k v b) ∧ op = .put t k v) ∨
    (∃ n tok k, σ.threads[t]? = some (.delPhys n tok k) ∧ op = .del t k ∧ n ∈ storeIds σ.store) ∨
    (∃ n tok k, σ.threads[t]? = some (.delCas n tok k) ∧ op = .del t k ∧ AliveIn σ.store n)
  | .decided op res =>
    (∃ n tok k, σ.threads[t]? = some (.delPhys n tok k) ∧ op = .del t k ∧ res = .bool false ∧
        n ∉ storeIds σ.store) ∨
    (∃ n tok k, σ.threads[t]? = some (.delFlush n tok k) ∧ op = .del t k ∧ res = .bool true) ∨
    (∃ n tok k, σ.threads[t]? = some (.delCas n tok k) ∧ op = .del t k ∧ res = .bool false ∧
        ¬ AliveIn σ.store n)
  | .broken => False

theorem phaseOK_idle {σ : State} {t : Nat} :
    PhaseOK σ t .idle ↔ ∀ pc, σ.threads[t]? = some pc → pc.isWop = false := Iff.rfl

theorem phaseOK_broken {σ : State} {t : Nat} : ¬ PhaseOK σ t .broken := id

/-- `σ'` differs from `σ` in nothing a writer operation sees, except that thread `t` may have moved to a program
    counter that belongs to no writer operation.  `unlinked` and `fixedIter` are there for the readers' invariants
    (`IterInv`, the comparator choice), which use the same frame for the actions that leave the store alone -/
structure Mild (t : Nat) (σ σ' : State) : Prop where
  store : σ'.store = σ.store
  currSn : σ'.currSn = σ.currSn
  writers : σ'.writers = σ.writers
  unlinked : σ'.unlinked = σ.unlinked
  fixedIter : σ'.fixedIter = σ.fixedIter
  thr : ∃ pc' : Pc, pc'.isWop = false ∧ (σ'.threads = σ.threads.set t pc' ∨ σ'.threads = σ.threads)

theorem Mild.of_eq {t : Nat} {σ σ' : State} (h1 : σ'.store = σ.store) (h2 : σ'.currSn = σ.currSn)
    (h3 : σ'.writers = σ.writers) (h4 : σ'.unlinked = σ.unlinked) (h5 : σ'.fixedIter = σ.fixedIter)
    (h6 : σ'.threads = σ.threads) : Mild t σ σ' :=
  ⟨h1, h2, h3, h4, h5, .idle, rfl, Or.inr h6⟩

theorem Mild.refl (t : Nat) (σ : State) : Mild t σ σ := .of_eq rfl rfl rfl rfl rfl rfl

theorem Mild.trans {t : Nat} {σ σ1 σ2 : State} (h1 : Mild t σ σ1) (h2 : Mild t σ1 σ2) : Mild t σ σ2 := by
  refine ⟨h2.store.trans h1.store, h2.currSn.trans h1.currSn, h2.writers.trans h1.writers,
    h2.unlinked.trans h1.unlinked, h2.fixedIter.trans h1.fixedIter, ?_⟩
  obtain ⟨pc1, hp1, ht1⟩ := h1.thr
  obtain ⟨pc2, hp2, ht2⟩ := h2.thr
  rcases ht2 with ht2 | ht2
  · rcases ht1 with ht1 | ht1
    · exact ⟨pc2, hp2, Or.inl (by rw [ht2, ht1, List.set_set])⟩
    · exact ⟨pc2, hp2, Or.inl (by rw [ht2, ht1])⟩
  · rcases ht1 with ht1 | ht1
    · exact ⟨pc1, hp1, Or.inl (by rw [ht2, ht1])⟩
    · exact ⟨pc1, hp1, Or.inr (by rw [ht2, ht1])⟩

theorem mild_setPc (σ : State) (t : Nat) {pc' : Pc} (hp : pc'.isWop = false) : Mild t σ (setPc σ t pc') :=
  ⟨rfl, rfl, rfl, rfl, rfl, pc', hp, Or.inl rfl⟩

theorem mild_gcFlag (σ : State) (t : Nat) (b : Bool) : Mild t σ { σ with gcFlag := b } :=
  .of_eq rfl rfl rfl rfl rfl rfl

theorem CloseTail.mild {σ : State} {t : Nat} {after : Option Nat} {p : State × Resp} (h : CloseTail σ t after p) :
    Mild t σ p.1 := by
  cases h with
  | idle g => exact (mild_gcFlag σ t g).trans (mild_setPc _ t (pc' := .idle) rfl)
  | @iter g i it =>
    exact (Mild.of_eq (σ := σ) (σ' := { σ with gcFlag := g, iters := eraseIter (t, i) σ.iters }) rfl rfl rfl rfl rfl rfl).trans
      ((Mild.of_eq (release_store ..) (release_currSn ..) (release_writers ..) (release_unlinked ..) (release_fixedIter ..)
        (release_threads ..)).trans (mild_setPc _ t (pc' := .idle) rfl))
  | @send s => exact (mild_gcFlag σ t true).trans (mild_setPc _ t (pc' := .collectSend s.sn after) rfl)

theorem mild_itNext (σ : State) (t i : Nat) : Mild t σ (itNext σ t i).1 := by
  rcases itNext_cases σ t i with h | h
  · rw [h]; exact Mild.refl t σ
  · rw [h]; exact mild_setPc σ t (pc' := .iterNext i) rfl

theorem mild_stepFr (σ : State) (j t : Nat) : Mild t σ (stepFr σ j).1 := by
  unfold stepFr
  split
  · split
    · refine .of_eq ?_ ?_ ?_ ?_ ?_ ?_ <;> simp only [mvcc_fields]
    · exact .of_eq rfl rfl rfl rfl rfl rfl
    · exact Mild.refl t σ
  · exact Mild.refl t σ

theorem Abs.of_eq {σ σ' : State} {sp : SetSpec.State} (h : Abs σ sp) (hw : σ'.writers.length = σ.writers.length)
    (hs : σ'.store = σ.store) (hc : σ'.currSn = σ.currSn) : Abs σ' sp :=
  ⟨hw ▸ h.nw, hs ▸ h.alive, hc ▸ h.epoch⟩

theorem Abs.mild {σ σ' : State} {t : Nat} {sp : SetSpec.State} (hm : Mild t σ σ') (h : Abs σ sp) : Abs σ' sp :=
  h.of_eq (by rw [hm.writers]) hm.store hm.currSn

end NitroVerif.MvccConc
