import NitroVerif.Lemmas.SkipSeqRep
import NitroVerif.Lemmas.SkipSeqGen
/-!
  `findPath`.  On a quiescent skiplist it changes nothing but the action buffer, and fills `preds[j]` / `succs[j]`
  with the bracket of the search key on every level `j ≤ level`; the search that unlinks a marked node
  is in `SkipSeqDelete`.
-/
namespace NitroVerif.SkipSeq

theorem findLoop_step {k : Key} {s : SL} {i prev curr f : Nat}
    (hun : (getNext s.nodes curr i).2 = false) (hlt : compare (keyOf s.nodes curr) k < 0) :
    findLoop k (f + 1) s i prev curr = findLoop k f s i curr (getNext s.nodes curr i).1 := by
  rw [findLoop]
  simp [hun, (Gen.findAdvance_iff _).mpr hlt]

theorem le_findFuel {s : SL} {n : Nat} (h : n ≤ s.nodes.length + 3) : (s.level + 1) * n ≤ findFuel s :=
  Nat.mul_le_mul_left _ h

theorem findAdvance_false {c : Int} (h : ¬ c < 0) : Gen.findAdvance c = false :=
  Bool.eq_false_iff.mpr fun h1 => h ((Gen.findAdvance_iff c).mp h1)

theorem findLoop_stop_zero {k : Key} {s : SL} {prev curr f : Nat}
    (hun : (getNext s.nodes curr 0).2 = false) (hge : ¬ compare (keyOf s.nodes curr) k < 0) :
    findLoop k (f + 1) s 0 prev curr = (s.setBuf 0 prev curr, compare (keyOf s.nodes curr) k) := by
  rw [findLoop]
  have := findAdvance_false hge
  simp [hun, this]

theorem findLoop_stop_succ {k : Key} {s : SL} {j prev curr f : Nat}
    (hun : (getNext s.nodes curr (j + 1)).2 = false) (hge : ¬ compare (keyOf s.nodes curr) k < 0) :
    findLoop k (f + 1) s (j + 1) prev curr
      = findLoop k f (s.setBuf (j + 1) prev curr) j prev (getNext s.nodes prev j).1 := by
  rw [findLoop]
  have := findAdvance_false hge
  simp [hun, this, SL.setBuf]

theorem findLoop_advance {k : Key} {s : SL} {mk : Nat → Bool} {i c : Nat} :
    ∀ (P : List Nat) (prev f : Nat),
      Path s.nodes mk i (prev :: P ++ [c]) →
      (∀ p ∈ P, mk p = false ∧ compare (keyOf s.nodes p) k < 0) →
      findLoop k (f + P.length) s i prev ((P.head?).getD c)
        = findLoop k f s i ((P.getLast?).getD prev) c := by
  intro P
  induction P with
  | nil => intro prev f _ _; simp
  | cons p P ih =>
    intro prev f hp hP
    have hp' : Path s.nodes mk i (p :: P ++ [c]) := path_tail hp
    have hlink := path_head_link hp'
    have hpp := hP p (by simp)
    have hun : (getNext s.nodes p i).2 = false := by rw [hlink]; exact hpp.1
    have e1 : f + (p :: P).length = (f + P.length) + 1 := rfl
    rw [e1]
    simp only [List.head?_cons, Option.getD_some]
    rw [findLoop_step hun hpp.2, hlink]
    simp only
    rw [ih p f hp' (fun q hq => hP q (List.mem_cons_of_mem _ hq))]
    rw [getLast?_cons_getD]

/-- The level structure of `findPath`, for any search that stops on level `j` at a bracket
    `(pred j, succ j)`.  `step`: started at the predecessor of the level above, the loop reaches the
    bracket of level `j` with at most `n` units of fuel, taking the invariant from `J (j+1)` to `J j`
    (it may store into the heap on the way: `helpDelete`).  Then the search from level `i` ends on
    level 0 in `J 0` and has written the brackets of the levels `≤ i` into the buffer and nothing else.
    `step` is asked for the levels `≤ top` only. -/
theorem findLoop_levels {k : Key} {pred succ : Nat → Nat} {J : Nat → SL → Prop} {n top : Nat}
    (hJbuf : ∀ j s l p c, J j s → J j (s.setBuf l p c))
    (step : ∀ j s f, J (j + 1) s → j ≤ top → n ≤ f →
      ∃ s' f', f ≤ f' + n ∧ J j s' ∧ s'.buf = s.buf ∧
        findLoop k f s j (pred (j + 1)) (getNext s.nodes (pred (j + 1)) j).1
          = findLoop k f' s' j (pred j) (succ j) ∧
        (getNext s'.nodes (succ j) j).2 = false ∧ ¬ compare (keyOf s'.nodes (succ j)) k < 0) :
    ∀ i s f, J (i + 1) s → i ≤ top → (i + 1) * (n + 1) ≤ f →
      ∃ s', findLoop k f s i (pred (i + 1)) (getNext s.nodes (pred (i + 1)) i).1
              = (s', compare (keyOf s'.nodes (succ 0)) k) ∧ J 0 s' ∧
        s'.buf.preds.length = s.buf.preds.length ∧ s'.buf.succs.length = s.buf.succs.length ∧
        (∀ j, j ≤ i → j < s.buf.preds.length → j < s.buf.succs.length →
          s'.buf.preds.getD j 0 = pred j ∧ s'.buf.succs.getD j 0 = succ j) ∧
        (∀ j, i < j → s'.buf.preds.getD j 0 = s.buf.preds.getD j 0 ∧
                      s'.buf.succs.getD j 0 = s.buf.succs.getD j 0) := by
  intro i
  induction i with
  | zero =>
    intro s f hJ hi hf
    rw [Nat.zero_add, Nat.one_mul] at hf
    rcases step 0 s f hJ hi (Nat.le_of_succ_le hf) with ⟨s2, f', hf', hJ2, hb, he, hun, hge⟩
    obtain ⟨f', rfl⟩ : ∃ g, f' = g + 1 := ⟨f' - 1, by omega⟩
    rw [findLoop_stop_zero hun hge] at he
    refine ⟨_, he, hJbuf _ _ _ _ _ hJ2, by simp [SL.setBuf, hb], by simp [SL.setBuf, hb], ?_, ?_⟩
    · intro j hj h1 h2
      obtain rfl : j = 0 := Nat.le_zero.mp hj
      exact ⟨getD_set_same (hb ▸ h1), getD_set_same (hb ▸ h2)⟩
    · intro j hj
      simp only [SL.setBuf, hb]
      exact ⟨getD_set_ne (Nat.ne_of_lt hj), getD_set_ne (Nat.ne_of_lt hj)⟩
  | succ i ih =>
    intro s f hJ hi hf
    rw [Nat.succ_mul] at hf
    rcases step (i + 1) s f hJ hi (by omega) with ⟨s2, f', hf', hJ2, hb, he, hun, hge⟩
    obtain ⟨f', rfl⟩ : ∃ g, f' = g + 1 := ⟨f' - 1, by omega⟩
    rw [findLoop_stop_succ hun hge] at he
    rcases ih (s2.setBuf (i + 1) (pred (i + 1)) (succ (i + 1))) f' (hJbuf _ _ _ _ _ hJ2)
      (Nat.le_of_succ_le hi) (by omega) with ⟨s', he', hJ', hl1, hl2, hbuf, hrest⟩
    have hp : (s2.setBuf (i + 1) (pred (i + 1)) (succ (i + 1))).buf.preds = s.buf.preds.set (i + 1) (pred (i + 1)) := by
      simp [SL.setBuf, hb]
    have hs : (s2.setBuf (i + 1) (pred (i + 1)) (succ (i + 1))).buf.succs = s.buf.succs.set (i + 1) (succ (i + 1)) := by
      simp [SL.setBuf, hb]
    rw [hp] at hl1 hbuf hrest
    rw [hs] at hl2 hbuf hrest
    rw [List.length_set] at hl1 hl2
    refine ⟨s', he.trans he', hJ', hl1, hl2, ?_, ?_⟩
    · intro j hj h1 h2
      by_cases hji : j ≤ i
      · exact hbuf j hji (by rwa [List.length_set]) (by rwa [List.length_set])
      · obtain rfl : j = i + 1 := Nat.le_antisymm hj (Nat.not_le.mp hji)
        have := hrest (i + 1) (Nat.lt_succ_self i)
        rw [this.1, this.2]
        exact ⟨getD_set_same h1, getD_set_same h2⟩
    · intro j hj
      have := hrest j (Nat.lt_of_succ_lt hj)
      rw [this.1, this.2]
      exact ⟨getD_set_ne (Nat.ne_of_lt hj), getD_set_ne (Nat.ne_of_lt hj)⟩

/-- what `findPath` leaves in the buffer for the levels `≤ i` -/
def BufOK (s' : SL) (h : Heap) (A B : List Nat) (i : Nat) : Prop :=
  ∀ j, j ≤ i → s'.buf.preds.getD j 0 = predAt h A j ∧ s'.buf.succs.getD j 0 = succAt h B j

theorem level_walk {k : Key} {s : SL} {mk : Nat → Bool} {A R : List Nat} {i c f : Nat}
    (hp : Path s.nodes mk i (headId :: LL s.nodes A i ++ c :: R))
    (hA : ∀ a ∈ A, mk a = false ∧ compare (keyOf s.nodes a) k < 0) (hf : A.length ≤ f) :
    ∃ f', f ≤ f' + A.length ∧
      findLoop k f s i (predAt s.nodes A (i + 1)) (getNext s.nodes (predAt s.nodes A (i + 1)) i).1
        = findLoop k f' s i (predAt s.nodes A i) c := by
  rcases pred_descend A R hp with ⟨P, hP1, hP2, hP3, hP4⟩
  obtain ⟨f', rfl⟩ := Nat.exists_eq_add_of_le' (Nat.le_trans hP4 hf)
  refine ⟨f', Nat.add_le_add_left hP4 f', ?_⟩
  rw [path_head_link hP1, findLoop_advance P _ _ hP1 (fun p hp' => hA p (hP2 p hp').1), hP3]

theorem find_level {s : SL} {A B : List Nat} {k : Int} (hr : Rep s (A ++ B))
    (hA : ∀ a ∈ A, ikey s.nodes a < k) {i : Nat} (hi : i ≤ Gen.maxLevel) {f : Nat} (hf : A.length ≤ f) :
    ∃ f', f ≤ f' + A.length ∧
      findLoop (.item k) f s i (predAt s.nodes A (i + 1)) (getNext s.nodes (predAt s.nodes A (i + 1)) i).1
        = findLoop (.item k) f' s i (predAt s.nodes A i) (succAt s.nodes B i) := by
  have hpath := hr.paths i hi
  rw [LL_append] at hpath
  rcases succ_split s.nodes B i with ⟨R, hR⟩
  refine level_walk (mk := nomk) (R := R) (by rw [← hR, ← List.append_assoc, List.cons_append]; exact hpath)
    (fun a ha => ⟨rfl, ?_⟩) hf
  rw [(hr.nodes a (List.mem_append_left _ ha)).key, compare_item_item]
  exact Int.sub_neg_of_lt (hA a ha)

theorem findLoop_quiescent {A B : List Nat} {k : Int} (i : Nat) (s : SL) (f : Nat)
    (hr : Rep s (A ++ B)) (hA : ∀ a ∈ A, ikey s.nodes a < k) (hB : ∀ b ∈ B, k ≤ ikey s.nodes b)
    (hi : i ≤ Gen.maxLevel) (hf : (i + 1) * (A.length + 1) ≤ f) :
    ∃ s', findLoop (.item k) f s i (predAt s.nodes A (i + 1))
              (getNext s.nodes (predAt s.nodes A (i + 1)) i).1
            = (s', compare (keyOf s.nodes (succAt s.nodes B 0)) (.item k)) ∧
          SameBut s s' ∧ BufOK s' s.nodes A B i := by
  have hstep : ∀ j t g, SameBut s t → j ≤ Gen.maxLevel → A.length ≤ g →
      ∃ t' g', g ≤ g' + A.length ∧ SameBut s t' ∧ t'.buf = t.buf ∧
        findLoop (.item k) g t j (predAt s.nodes A (j + 1)) (getNext t.nodes (predAt s.nodes A (j + 1)) j).1
          = findLoop (.item k) g' t' j (predAt s.nodes A j) (succAt s.nodes B j) ∧
        (getNext t'.nodes (succAt s.nodes B j) j).2 = false ∧
        ¬ compare (keyOf t'.nodes (succAt s.nodes B j)) (.item k) < 0 := by
    intro j t g hsb hj hg
    have hrt := hr.of_sameBut hsb
    rw [← hsb.nodes] at hA hB ⊢
    rcases find_level (B := B) hrt hA hj hg with ⟨g', hg', he⟩
    exact ⟨t, g', hg', hsb, rfl, he, hrt.succ_unmarked hj, succ_ge hrt.base (fun b hb => hrt.nodes b (List.mem_append_right _ hb)) hB j⟩
  rcases findLoop_levels (J := fun _ t => SameBut s t) (fun _ _ _ _ _ h => h.trans (sameBut_setBuf _ _ _ _))
    hstep i s f (SameBut.refl s) hi hf with ⟨s', he, hsb, _, _, hbuf, _⟩
  rw [hsb.nodes] at he
  exact ⟨s', he, hsb, fun j hj => hbuf j hj (hr.bufP ▸ Nat.lt_succ_of_le (Nat.le_trans hj hi))
    (hr.bufS ▸ Nat.lt_succ_of_le (Nat.le_trans hj hi))⟩

end NitroVerif.SkipSeq
