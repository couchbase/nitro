import NitroVerif.Lemmas.SkipSeqRep
/-!
  The well-formedness predicate of C14, stated on what a walk of the structure measures
  (`walkLevel`, no ghost state), and its derivation from the representation invariant.
-/
namespace NitroVerif.SkipSeq

/-- the level-`l` chain as the walk sees it (`[]` if the walk does not reach the tail) -/
def lev (s : SL) (l : Nat) : List Nat := (walkLevel s l).getD []

/-- strict order of two nodes under the comparator the list was built with -/
def nodeLt (h : Heap) (a b : Nat) : Prop := compare (keyOf h a) (keyOf h b) < 0

/-- sum of the per-level distribution = the `node_count` of `GetStats` -/
def nodeCount (s : SL) : Int := s.stats.levelNodesCount.foldl (· + ·) 0

structure WF (s : SL) : Prop where
  /-- no loop of the model ran out of fuel -/
  live : s.stuck = false
  lvl : s.level ≤ Gen.maxLevel
  /-- every level is an acyclic chain from head that reaches tail -/
  reach : ∀ l, l ≤ Gen.maxLevel → (walkLevel s l).isSome = true
  /-- no node on a chain is marked deleted -/
  unmarked : ∀ l, l ≤ Gen.maxLevel → ∀ n ∈ lev s l, markedAt s.nodes l n = false
  /-- strictly increasing on every level -/
  sorted : ∀ l, l ≤ Gen.maxLevel → (lev s l).Pairwise (nodeLt s.nodes)
  /-- level `l+1` is a sub-sequence of level `l` -/
  sub : ∀ l, l < Gen.maxLevel → (lev s (l + 1)).Sublist (lev s l)
  /-- a node of height `h` is linked on exactly the levels `0..h` -/
  height : ∀ n ∈ lev s 0, ∀ l, l ≤ Gen.maxLevel → (n ∈ lev s l ↔ l ≤ levelOf s.nodes n)
  /-- the list level bounds every height -/
  top : ∀ n ∈ lev s 0, levelOf s.nodes n ≤ s.level
  /-- statistics: per-level distribution, node count, soft deletes, frees -/
  distLen : s.stats.levelNodesCount.length = Gen.maxLevel + 1
  dist : ∀ g, g ≤ Gen.maxLevel →
    s.stats.levelNodesCount.getD g 0 = (((lev s 0).filter fun n => levelOf s.nodes n == g).length : Int)
  count : nodeCount s = ((lev s 0).length : Int)
  soft : s.stats.softDeletes = 0
  frees : s.stats.nodeFrees = 0

theorem walkFrom_path {h : Heap} {mk : Nat → Bool} {l : Nat} : ∀ (X : List Nat) (f : Nat),
    Path h mk l (X ++ [tailId]) → (∀ x ∈ X, x ≠ tailId ∧ x ≠ nilId) → X.length < f →
    walkFrom h l f ((X.head?).getD tailId) = some X := by
  intro X
  induction X with
  | nil =>
    intro f _ _ hf
    obtain ⟨f', rfl⟩ := Nat.exists_eq_add_of_le' (Nat.succ_le_of_lt hf)
    simp [walkFrom]
  | cons c R ih =>
    intro f hp hne hf
    obtain ⟨f', rfl⟩ := Nat.exists_eq_add_of_le' (Nat.succ_le_of_lt (Nat.lt_of_le_of_lt (Nat.zero_le _) hf))
    have hc := hne c (by simp)
    have hlink : getNext h c l = ((R.head?).getD tailId, mk c) := path_head_link (by simpa using hp)
    simp only [List.head?_cons, Option.getD_some, walkFrom, hc.1, hc.2, if_false, hlink]
    rw [ih f' (path_tail (by simpa using hp)) (fun x hx => hne x (List.mem_cons_of_mem _ hx))
      (Nat.lt_of_succ_lt_succ hf)]
    rfl

theorem walkLevel_of_path {s : SL} {l : Nat} {X : List Nat}
    (hp : Path s.nodes nomk l (headId :: X ++ [tailId])) (hlo : ∀ x ∈ X, 3 ≤ x)
    (hlen : X.length < s.nodes.length + 1) : walkLevel s l = some X := by
  unfold walkLevel
  rw [path_head_link hp]
  exact walkFrom_path (mk := nomk) _ _ (path_tail (by simpa using hp))
    (fun x hx => ⟨ne_of_three_le (hlo x hx) (by decide), ne_of_three_le (hlo x hx) (by decide)⟩) hlen

theorem Rep.lev_eq {s : SL} {L0 : List Nat} (hr : Rep s L0) {l : Nat} (hl : l ≤ Gen.maxLevel) :
    walkLevel s l = some (LL s.nodes L0 l) :=
  walkLevel_of_path (hr.paths l hl) (fun x hx => (hr.nodes x (mem_LL.mp hx).1).lo)
    (Nat.lt_succ_of_le (Nat.le_trans (List.length_filter_le _ _) (Nat.le_trans (Nat.le_add_right _ 3) hr.size)))

/-- a distribution whose entry `g` counts the nodes of `L` of height `g` sums to the length of `L`:
    take the nodes away one by one, each lowers its entry by one -/
theorem sum_dist {h : Heap} : ∀ (L : List Nat) (l : List Int), (∀ x ∈ L, levelOf h x < l.length) →
    (∀ g, g < l.length → l.getD g 0 = (cntLevel h L g : Int)) → l.foldl (· + ·) 0 = (L.length : Int) := by
  intro L
  induction L with
  | nil =>
    intro l
    induction l with
    | nil => intro _ _; rfl
    | cons x r ihr =>
      intro _ hg
      have h0 := hg 0 (Nat.succ_pos _)
      rw [List.foldl_cons, foldl_add_eq, ihr (fun _ hx => nomatch hx) (fun g hg' => hg (g + 1) (Nat.succ_lt_succ hg'))]
      simpa [cntLevel] using h0
  | cons a r ih =>
    intro l hlv hg
    have ha := hlv a List.mem_cons_self
    have := ih (addAt l (levelOf h a) (-1))
      (fun x hx => by rw [length_addAt]; exact hlv x (List.mem_cons_of_mem _ hx))
      (fun g hg' => by
        rw [length_addAt] at hg'
        rw [getD_addAt _ _ _ _ ha, hg g hg', cntLevel_cons]
        split <;> omega)
    rw [sum_addAt _ _ _ ha] at this
    rw [List.length_cons]; omega

theorem Rep.count {s : SL} {L0 : List Nat} (hr : Rep s L0) : nodeCount s = (L0.length : Int) := by
  refine sum_dist (h := s.nodes) L0 _ (fun x hx => ?_) (fun g hg => ?_)
  · rw [hr.stats.len]; exact Nat.lt_succ_of_le (Nat.le_trans (hr.nodes x hx).lvl hr.lvl)
  · rw [hr.stats.len] at hg; exact hr.stats.dist g (Nat.le_of_lt_succ hg)

theorem Rep.wf {s : SL} {L0 : List Nat} (hr : Rep s L0) : WF s := by
  have hlev : ∀ l, l ≤ Gen.maxLevel → lev s l = LL s.nodes L0 l := fun l hl => by
    unfold lev; rw [hr.lev_eq hl]; rfl
  have hlev0 : lev s 0 = L0 := by rw [hlev 0 (Nat.zero_le _), LL_zero]
  refine ⟨hr.live, hr.lvl, ?_, ?_, ?_, ?_, ?_, ?_, hr.stats.len, ?_, ?_, hr.stats.soft, hr.stats.frees⟩
  · intro l hl; rw [hr.lev_eq hl]; rfl
  · intro l hl n hn
    rw [hlev l hl] at hn
    exact hr.unmarked (mem_LL.mp hn).1 (mem_LL.mp hn).2
  · intro l hl
    rw [hlev l hl]
    apply List.Pairwise.filter
    apply List.Pairwise.imp_of_mem _ hr.sorted
    intro a b ha hb hab
    unfold nodeLt
    rw [(hr.nodes a ha).key, (hr.nodes b hb).key, compare_item_item]; exact Int.sub_neg_of_lt hab
  · intro l hl
    rw [hlev l (Nat.le_of_lt hl), hlev (l + 1) hl]
    have : LL s.nodes L0 (l + 1) = (LL s.nodes L0 l).filter (lvlGe s.nodes (l + 1)) := by
      unfold LL
      rw [List.filter_filter]
      apply List.filter_congr
      intro x _
      simp only [lvlGe]
      by_cases hx : l + 1 ≤ levelOf s.nodes x
      · have : l ≤ levelOf s.nodes x := Nat.le_of_succ_le hx
        simp [hx, this]
      · simp [hx]
    rw [this]
    exact List.filter_sublist
  · intro n hn l hl
    rw [hlev0] at hn
    rw [hlev l hl, mem_LL]
    exact ⟨fun h => h.2, fun h => ⟨hn, h⟩⟩
  · intro n hn
    rw [hlev0] at hn
    exact (hr.nodes n hn).lvl
  · intro g hg
    rw [hlev0]
    exact hr.stats.dist g hg
  · rw [hlev0]; exact hr.count

end NitroVerif.SkipSeq
