import NitroVerif.Lemmas.SkipConcInv
/-!
  Reachability along the successor words of ONE level (marks ignored; level 0 included) under each kind of heap
  write: when one node's successor changes, a path survives or passes that node (`ReachL.change`); the unlink and the
  link are read off that; the mark and the appended node have their own inductions.  Also `unmarkedAt` / `markedAt`
  under `Ext` and H4.  The level-0 core has its own `Reach`, `unmarked0`, `marked0` (`reachL_zero_iff` is the bridge).
-/
namespace NitroVerif.SkipConc

/-- reachability along level-`l` successor words (marks ignored) -/
inductive ReachL (h : Heap) (l : Nat) : Nat → Nat → Prop
  | refl (a : Nat) : ReachL h l a a
  | step {a b c : Nat} {m : Bool} : word? h a l = some (b, m) → ReachL h l b c → ReachL h l a c

theorem ReachL.trans {h : Heap} {l a b c : Nat} (r1 : ReachL h l a b) (r2 : ReachL h l b c) : ReachL h l a c := by
  induction r1 with
  | refl => exact r2
  | step hw _ ih => exact .step hw (ih r2)

theorem ReachL.single {h : Heap} {l a b : Nat} {m : Bool} (hw : word? h a l = some (b, m)) : ReachL h l a b :=
  .step hw (.refl b)

theorem ReachL.snoc {h : Heap} {l a b c : Nat} {m : Bool} (r : ReachL h l a b) (hw : word? h b l = some (c, m)) :
    ReachL h l a c := r.trans (.single hw)

theorem ReachL.det {h : Heap} {l a b c : Nat} (r1 : ReachL h l a b) (r2 : ReachL h l a c) :
    ReachL h l b c ∨ ReachL h l c b := by
  induction r1 with
  | refl => exact .inl r2
  | step hw r ih =>
    cases r2 with
    | refl => exact .inr (.step hw r)
    | step hw' r' =>
      rw [hw] at hw'; simp at hw'
      obtain ⟨rfl, _⟩ := hw'
      exact ih r'

theorem ReachL.mono {h h' : Heap} {l : Nat} (he : ∀ a b m, word? h a l = some (b, m) → ReachL h' l a b) {a c : Nat}
    (r : ReachL h l a c) : ReachL h' l a c := by
  induction r with
  | refl => exact .refl _
  | step hw _ ih => exact (he _ _ _ hw).trans ih

theorem ReachL.last {h : Heap} {l a c : Nat} (r : ReachL h l a c) : a = c ∨ ∃ b m, word? h b l = some (c, m) := by
  induction r with
  | refl => exact .inl rfl
  | @step a b c m hw _ ih =>
    rcases ih with e | ih
    · subst e; exact .inr ⟨a, m, hw⟩
    · exact .inr ih

theorem ReachL.start_lt {h : Heap} {l a d : Nat} (r : ReachL h l a d) : a = d ∨ a < h.length := by
  cases r with
  | refl => exact .inl rfl
  | step hw _ => exact .inr (word?_lt hw)

/-- `h'` has the level-`l` words of `h` except at node `n`.  A path of `h` is a path of `h'`, or
    it leaves `n`: then `n` is reached from `a` in both heaps, and from the OLD successor `o` of `n` the end is reached
    in `h'` (the part of the path after its last visit of `n`).  The hypothesis is symmetric in `h`, `h'`. -/
theorem ReachL.change {h h' : Heap} {l n : Nat} (he : ∀ b, b ≠ n → word? h' b l = word? h b l) {a d : Nat}
    (r : ReachL h l a d) :
    ReachL h' l a d ∨ ∃ o m, word? h n l = some (o, m) ∧ ReachL h l a n ∧ ReachL h' l a n ∧ ReachL h' l o d := by
  induction r with
  | refl => exact .inl (.refl _)
  | @step a b d m hw _ ih =>
    by_cases ha : a = n
    · subst ha
      refine .inr ⟨b, m, hw, .refl _, .refl _, ?_⟩
      rcases ih with r' | ⟨o, m', hw', _, _, r'⟩
      · exact r'
      · rw [hw] at hw'; cases hw'; exact r'
    · have hw' : word? h' a l = some (b, m) := by rw [he a ha]; exact hw
      rcases ih with r' | ⟨o, m', hn, r1, r2, r3⟩
      · exact .inl (.step hw' r')
      · exact .inr ⟨o, m', hn, .step hw r1, .step hw' r2, r3⟩

theorem reachL_succ {h : Heap} {l a n : Nat} (r : ReachL h l a n) (hne : a ≠ n) : ReachL h l (getNext h a l).1 n := by
  cases r with
  | refl => exact absurd rfl hne
  | step hw r' => rw [getNext_of_word hw]; exact r'

theorem ReachL.tail_of_word {h : Heap} {l a b d : Nat} {m : Bool} (r : ReachL h l a d) (hw : word? h a l = some (b, m))
    (hne : d ≠ a) : ReachL h l b d := by
  have r' := reachL_succ r hne.symm
  rwa [getNext_of_word hw] at r'

def unmarkedAt (h : Heap) (l n : Nat) : Prop := ∃ p, word? h n l = some (p, false)

def markedAt (h : Heap) (l n : Nat) : Prop := ∃ p, word? h n l = some (p, true)

theorem unmarkedAt_back {h h' : Heap} (e : Ext h h') {l n : Nat} (hn : n < h.length) (hu : unmarkedAt h' l n) :
    unmarkedAt h l n := by
  obtain ⟨p, hp⟩ := hu
  have hs : (word? h n l).isSome := (e.dom n l hn).mp (by rw [hp]; rfl)
  obtain ⟨⟨q, m⟩, hq⟩ := Option.isSome_iff_exists.mp hs
  cases m with
  | false => exact ⟨q, hq⟩
  | true => have := e.marked _ _ _ hq; rw [this] at hp; simp at hp

theorem unmarkedAt_lt {h : Heap} {l n : Nat} (hu : unmarkedAt h l n) : n < h.length := by
  obtain ⟨p, hp⟩ := hu; exact word?_lt hp

theorem unmarkedAt_of_read {h : Heap} {c i : Nat} (hlv : c = 1 ∨ (word? h c i).isSome) (hc1 : c ≠ 1)
    (hm : (getNext h c i).2 = false) : unmarkedAt h i c := by
  obtain ⟨⟨p, m⟩, hw⟩ := Option.isSome_iff_exists.mp (hlv.resolve_left hc1)
  rw [getNext_of_word hw] at hm
  cases hm
  exact ⟨p, hw⟩

/-- marking is top-down, so a node that is unmarked at a level is unmarked at every lower level -/
theorem unmarkedAt_down {h : Heap} (H : HInv h) {l l' a : Nat} (hu : unmarkedAt h l a) (hle : l' ≤ l) :
    unmarkedAt h l' a := by
  obtain ⟨p, hp⟩ := hu
  have ha := word?_lt hp
  have ha1 : a ≠ 1 := by
    intro e; rw [e, H.tailNoWord] at hp; simp at hp
  have hs := H.full a l' ha ha1 (Nat.le_trans hle (H.wordLevel _ _ _ hp))
  obtain ⟨⟨q, m⟩, hq⟩ := Option.isSome_iff_exists.mp hs
  cases m with
  | false => exact ⟨q, hq⟩
  | true => have := H.h4 _ _ _ _ _ _ hq hle hp; simp at this

theorem not_unmarkedAt_of_marked {h : Heap} (H : HInv h) {n i l : Nat} (hm : markedAt h i n) (hil : i ≤ l) :
    ¬ unmarkedAt h l n := by
  intro ⟨p, hp⟩
  obtain ⟨q, hq⟩ := hm
  have := H.h4 _ _ _ _ _ _ hq hil hp
  simp at this

theorem ReachL.congr {h h' : Heap} {l : Nat}
    (he : ∀ a, (word? h' a l).map (·.1) = (word? h a l).map (·.1)) {a c : Nat} (r : ReachL h l a c) :
    ReachL h' l a c := by
  refine r.mono (fun a b m hab => ?_)
  have := he a
  rw [hab] at this
  cases hw : word? h' a l with
  | none => rw [hw] at this; simp at this
  | some w =>
    obtain ⟨q, m'⟩ := w
    rw [hw] at this; simp at this
    subst this
    exact .single hw

theorem reachL_of_eq {h h' : Heap} {l : Nat} (he : ∀ a, word? h' a l = word? h a l) {a c : Nat} :
    ReachL h' l a c ↔ ReachL h l a c :=
  ⟨ReachL.congr (fun a => by rw [he a]), ReachL.congr (fun a => by rw [he a])⟩

theorem reachL_tail {h : Heap} (H : HInv h) {l d : Nat} (r : ReachL h l 1 d) : d = 1 := by
  cases r with
  | refl => rfl
  | step hw _ => rw [H.tailNoWord] at hw; simp at hw

theorem reachL_setWord_level {h : Heap} {n l : Nat} (w : Nat × Bool) {l0 : Nat} (hne : l0 ≠ l) {a c : Nat} :
    ReachL (setWord h n l w) l0 a c ↔ ReachL h l0 a c :=
  reachL_of_eq (word?_setWord_level w hne)

theorem reachL_setWord_mark {h : Heap} {n l e : Nat} {m m' : Bool} (hw : word? h n l = some (e, m)) {l0 a c : Nat} :
    ReachL (setWord h n l (e, m')) l0 a c ↔ ReachL h l0 a c := by
  by_cases hne : l0 = l
  · subst hne
    have he : ∀ a, (word? (setWord h n l0 (e, m')) a l0).map (·.1) = (word? h a l0).map (·.1) := fun a => by
      rw [word?_setWord_same hw]
      by_cases ha : a = n
      · subst ha; simp [hw]
      · simp [ha]
    exact ⟨ReachL.congr fun a => (he a).symm, ReachL.congr he⟩
  · exact reachL_setWord_level _ hne

theorem unlink_reachL {h : Heap} {l prev curr next : Nat} (hp : word? h prev l = some (curr, false))
    (hc : word? h curr l = some (next, true)) {a n : Nat} (r : ReachL h l a n) (hn : n ≠ curr) :
    ReachL (setWord h prev l (next, false)) l a n := by
  have hne : curr ≠ prev := fun e => by rw [e, hp] at hc; cases hc
  rcases r.change (setWord_off hp (next, false)) with r' | ⟨o, m, ho, _, r1, r2⟩
  · exact r'
  · rw [hp] at ho; cases ho
    -- after `prev` the old path went through `curr`; the new word of `prev` jumps to `next`
    exact (r1.snoc (setWord_at hp _)).trans (r2.tail_of_word (by rw [setWord_off hp _ _ hne]; exact hc) hn)

theorem unlink_reachL_back {h : Heap} {l prev curr next : Nat} (hp : word? h prev l = some (curr, false))
    (hc : word? h curr l = some (next, true)) {a n : Nat} (r : ReachL (setWord h prev l (next, false)) l a n) :
    ReachL h l a n := by
  rcases r.change (fun b hb => (setWord_off hp (next, false) b hb).symm) with r' | ⟨o, m, ho, _, r1, r2⟩
  · exact r'
  · rw [setWord_at hp] at ho; cases ho
    exact ((r1.snoc hp).snoc hc).trans r2

theorem link_reachL {h : Heap} {l pred x next : Nat} {m0 m : Bool} (hp : word? h pred l = some (next, m0))
    (hx : word? h x l = some (next, m)) (hne : x ≠ pred) {a c : Nat} (r : ReachL h l a c) :
    ReachL (setWord h pred l (x, false)) l a c := by
  rcases r.change (setWord_off hp (x, false)) with r' | ⟨o, m', ho, _, r1, r2⟩
  · exact r'
  · rw [hp] at ho; cases ho
    exact ((r1.snoc (setWord_at hp _)).snoc (by rw [setWord_off hp _ _ hne]; exact hx)).trans r2

theorem link_reachL_back {h : Heap} {l pred x next : Nat} {m0 m : Bool} (hp : word? h pred l = some (next, m0))
    (hx : word? h x l = some (next, m)) {a c : Nat}
    (r : ReachL (setWord h pred l (x, false)) l a c) :
    ReachL h l a c ∨ (ReachL h l a pred ∧ c = x) := by
  rcases r.change (fun b hb => (setWord_off hp (x, false) b hb).symm) with r' | ⟨o, m', ho, _, r1, r2⟩
  · exact .inl r'
  · rw [setWord_at hp] at ho; cases ho
    by_cases hc : c = x
    · exact .inr ⟨r1, hc⟩
    · exact .inl ((r1.snoc hp).trans (r2.tail_of_word hx hc))

theorem reachL_off {h h' : Heap} {l x a0 : Nat} (he : ∀ a, a ≠ x → word? h' a l = word? h a l)
    (hx : ¬ ReachL h l a0 x) {c : Nat} : ReachL h' l a0 c ↔ ReachL h l a0 c := by
  constructor
  · intro r
    rcases r.change (fun b hb => (he b hb).symm) with r' | ⟨_, _, _, _, r1, _⟩
    · exact r'
    · exact absurd r1 hx
  · intro r
    rcases r.change he with r' | ⟨_, _, _, r1, _, _⟩
    · exact r'
    · exact absurd r1 hx

theorem reachL_grow {h h' : Heap} {l : Nat} (he : ∀ a, a < h.length → word? h' a l = word? h a l)
    (hcl : ∀ a q m, word? h a l = some (q, m) → q < h.length) {a c : Nat} (ha : a < h.length) :
    ReachL h' l a c ↔ ReachL h l a c := by
  constructor
  · intro r
    induction r with
    | refl => exact .refl _
    | @step a b c m hw _ ih =>
      rw [he a ha] at hw
      exact .step hw (ih (hcl _ _ _ hw))
  · intro r
    induction r with
    | refl => exact .refl _
    | @step a b c m hw _ ih =>
      exact .step (by rw [he a ha]; exact hw) (ih (hcl _ _ _ hw))

theorem ReachL.append {h : Heap} {l a c : Nat} (nd : Node) (r : ReachL h l a c) : ReachL (h ++ [nd]) l a c := by
  induction r with
  | refl => exact .refl _
  | step hw _ ih => exact .step (by rw [word?_append_lt h nd (word?_lt hw)]; exact hw) ih

/-- the publish is an append followed by a level-0 link of the new node -/
theorem publish_reach0 {h : Heap} {p c : Nat} (nd : Node) (hw : word? h p 0 = some (c, false))
    (hn0 : nd.next[0]? = some (c, false)) {a d : Nat} (r : ReachL h 0 a d) :
    ReachL (setWord h p 0 (h.length, false) ++ [nd]) 0 a d := by
  have hp := word?_lt hw
  rw [setWord_append h nd hp]
  have hw' : word? (h ++ [nd]) p 0 = some (c, false) := by rw [word?_append_lt h nd hp]; exact hw
  exact link_reachL hw' (by rw [word?_append_new]; exact hn0) (Nat.ne_of_gt hp) (r.append nd)

theorem publish_reach0_back {h : Heap} (H : HInv h) {p c : Nat} (nd : Node) (hw : word? h p 0 = some (c, false))
    (hn0 : nd.next[0]? = some (c, false)) {a d : Nat} (ha : a < h.length)
    (r : ReachL (setWord h p 0 (h.length, false) ++ [nd]) 0 a d) : d = h.length ∨ ReachL h 0 a d := by
  have hp := word?_lt hw
  rw [setWord_append h nd hp] at r
  have hw' : word? (h ++ [nd]) p 0 = some (c, false) := by rw [word?_append_lt h nd hp]; exact hw
  have grow := fun {d} => reachL_grow (l := 0) (h' := h ++ [nd]) (c := d) (fun b hb => word?_append_lt h nd hb 0)
    (fun b q m hb => H.lt_of_word hb) ha
  rcases link_reachL_back hw' (by rw [word?_append_new]; exact hn0) r with r' | ⟨_, e⟩
  · exact .inr (grow.mp r')
  · exact .inl e

end NitroVerif.SkipConc
