import NitroVerif.Lemmas.SkipConcLevelsThread
/-!
  Statistics of M5: what a segment does to the counters (`levelNodesCount`, `softDeletes`, `nodeAllocs`,
  `nodeFrees`), tied to the event of the level-0 core it produces (`HStep`) and to whether the thread is an Insert4
  between its publish CAS and `finished:` (`pendIns` = the height of the node it has published but not yet accounted).
  The result is `stepThread_goodS`: every segment is an event of the level-0 core with the matching change of the
  counters; a counting invariant along runs is not stated.  The `mark` clause of `StatRel` also says that the marked
  node carries an item (`PCL` at SOFT_MARK), so that head and tail are never counted as deleted; `pendIns th.pc = none` in its
  `publish` clause: an Insert4 publishes before it has a node to account for.
-/
namespace NitroVerif.SkipConc

def contLvl : Cont → Option Nat
  | .insRelink _ lvl _ => some lvl
  | .insSuccDeleted _ lvl _ => some lvl
  | .insUnlink _ lvl => some lvl
  | _ => none

/-- the height of the node this Insert4 has published but not yet accounted in the statistics -/
def pendIns : PC → Option Nat
  | .findLevel fp => contLvl fp.cont
  | .findNext fp _ => contLvl fp.cont
  | .helpDelete fp _ => contLvl fp.cont
  | .insUpRead _ _ lvl _ => some lvl
  | .insUpLink _ _ lvl _ _ => some lvl
  | _ => none

/-- the counters are untouched -/
def StQuiet (a b : Stats) : Prop := b.dist = a.dist ∧ b.soft = a.soft ∧ b.allocs = a.allocs ∧ b.frees = a.frees
/-- Insert4 `finished:` for a node of height `lvl` -/
def StFin (lvl : Nat) (a b : Stats) : Prop :=
  b.dist = addAt a.dist lvl 1 ∧ b.soft = a.soft ∧ b.allocs = a.allocs + 1 ∧ b.frees = a.frees
/-- helpDelete's accounting of a level-0 unlink of a node of height `k` -/
def StUnl (k : Nat) (a b : Stats) : Prop :=
  b.dist = addAt a.dist k (-1) ∧ b.soft = a.soft - 1 ∧ b.allocs = a.allocs ∧ b.frees = a.frees
/-- softDelete's accounting of the winning level-0 mark -/
def StMark (a b : Stats) : Prop := b.dist = a.dist ∧ b.soft = a.soft + 1 ∧ b.allocs = a.allocs ∧ b.frees = a.frees

theorem StQuiet.refl (a : Stats) : StQuiet a a := ⟨rfl, rfl, rfl, rfl⟩

/-- no heap event of the core, or an upper-level write: nothing happens to the counters, or the Insert4 finishes -/
def QuietOrFin (st : Stats) (pc : PC) (r : Res) : Prop :=
  (StQuiet st r.1.stats ∧ pendIns r.2.1.pc = pendIns pc) ∨
  (∃ lvl, pendIns pc = some lvl ∧ pendIns r.2.1.pc = none ∧ StFin lvl st r.1.stats)

/-- what the segment does to the counters, by the event of the level-0 core -/
def StatRel (sh : Shared) (th : Thread) (r : Res) : Event → Prop
  | .none => QuietOrFin sh.stats th.pc r
  | .upper => QuietOrFin sh.stats th.pc r
  | .unlink c => StUnl (heightOf r.1.heap c) sh.stats r.1.stats ∧ pendIns r.2.1.pc = pendIns th.pc
  | .mark n => StMark sh.stats r.1.stats ∧ pendIns r.2.1.pc = pendIns th.pc ∧ ∃ item, keyOf sh.heap n = .fin item
  | .publish x _ => pendIns th.pc = none ∧
      ((StQuiet sh.stats r.1.stats ∧ pendIns r.2.1.pc = some (heightOf r.1.heap x)) ∨
       (StFin (heightOf r.1.heap x) sh.stats r.1.stats ∧ pendIns r.2.1.pc = none))

theorem pendIns_enterSoft (sh : Shared) (th : Thread) (item n i : Nat) (m : Bool) :
    pendIns (enterSoft sh th item n i m).2.1.pc = none := by
  rcases enterSoft_cases sh th item n i m with ⟨j, next, h⟩ | ⟨_, h, _⟩ | ⟨_, h, _⟩ <;> rw [h] <;> rfl

theorem pendIns_afterNext (sh : Shared) (th : Thread) (it : Nat) : pendIns (afterNext sh th it).2.1.pc = none := by
  obtain ⟨v, _, _, h | ⟨_, h⟩⟩ := afterNext_cases sh th it <;> rw [h] <;> rfl

theorem pendIns_insCheckSucc (sh : Shared) (th : Thread) (item x lvl i next : Nat) :
    pendIns (insCheckSucc sh th item x lvl i next).2.1.pc = some lvl := by
  unfold insCheckSucc; split <;> rfl

theorem finishFind_stat (sh : Shared) (th : Thread) (item : Nat) (found : Bool) (c : Cont) {pc : PC}
    (hpc : pendIns pc = contLvl c) : QuietOrFin sh.stats pc (finishFind sh th item found c) := by
  have s := finishFind_cases sh th item found c
  generalize finishFind sh th item found c = r at s ⊢
  unfold QuietOrFin
  rw [hpc]
  cases s with
  | insUnlink => exact .inr ⟨_, rfl, rfl, rfl, rfl, rfl, rfl⟩
  | delHit => rw [enterSoft_sh]; exact .inl ⟨StQuiet.refl _, pendIns_enterSoft ..⟩
  | iterDone => rw [afterNext_sh]; exact .inl ⟨StQuiet.refl _, pendIns_afterNext ..⟩
  | _ => exact .inl ⟨StQuiet.refl _, rfl⟩

theorem helpStats_stats_no (sh : Shared) (h' : Heap) (ok : Bool) (l c : Nat) (hno : ¬ (ok = true ∧ l = 0)) :
    (helpStats sh h' ok l c).stats = sh.stats := by
  unfold helpStats
  rw [if_neg (fun hc => hno ((Gen.helpAccounts_iff _ _).mp hc))]

theorem helpStats_stats_yes (sh : Shared) (h' : Heap) (c : Nat) :
    StUnl (heightOf h' c) sh.stats (helpStats sh h' true 0 c).stats := by
  unfold helpStats
  rw [if_pos ((Gen.helpAccounts_iff _ _).mpr ⟨rfl, rfl⟩)]
  exact ⟨rfl, rfl, rfl, rfl⟩

/-- the result of a segment: an event of the level-0 core and the matching change of the counters -/
def GoodS (sh : Shared) (th : Thread) (r : Res) : Prop :=
  ∃ ev, HStep sh.heap ev r.1.heap ∧ StatRel sh th r ev

theorem Seg.goodS {sh : Shared} {th : Thread} {pc : PC} {r : Res} (s : Seg sh th pc r) (hpc : th.pc = pc)
    (hp : PCInv sh.heap th pc) (hl : PCL sh.heap sh.level th.preds th.succs pc) : GoodS sh th r := by
  have hfin : ∀ {item x lvl i : Nat} (sh1 : Shared), pc = .insUpRead item x lvl i ∨ (∃ n, pc = .insUpLink item x lvl i n) →
      sh1.stats = sh.stats → QuietOrFin sh.stats th.pc (insFinished sh1 th lvl) := by
    intro item x lvl i sh1 h h1
    refine .inr ⟨lvl, by rw [hpc]; rcases h with h | ⟨n, h⟩ <;> rw [h] <;> rfl, rfl, ?_⟩
    simp only [insFinished, h1]
    exact ⟨rfl, rfl, rfl, rfl⟩
  have hq : ∀ {r' : Res}, r'.1.stats = sh.stats → pendIns r'.2.1.pc = pendIns pc → QuietOrFin sh.stats th.pc r' :=
    fun h1 h2 => .inl ⟨by rw [h1]; exact StQuiet.refl _, by rw [hpc]; exact h2⟩
  cases s with
  | idle _ => exact ⟨.none, .none, hq rfl (by rw [hpc])⟩
  | newLevelBump _ | newLevelKeep _ | findLevel | readMarked _ _ | readAdvance _ _ _ | readDown _ _ _ _
  | upLinkFail _ | delSearch | iterNextMarked _ | iterRefresh =>
    exact ⟨.none, .none, hq rfl rfl⟩
  | publishFail _ | helpFail _ | iterHelpFail _ =>
    -- only the conflict counters move
    exact ⟨.none, .none, .inl ⟨⟨rfl, rfl, rfl, rfl⟩, by rw [hpc]; rfl⟩⟩
  | readEnd _ _ _ _ =>
    exact ⟨.none, by rw [(finishFind_shared ..).1]; exact .none, finishFind_stat sh _ _ _ _ (by rw [hpc]; rfl)⟩
  | @helpOk fp next hw =>
    by_cases hi : fp.i = 0
    · refine ⟨.unlink fp.curr, ?_, ?_, by rw [hpc]; rfl⟩
      · rw [helpStats_heap, hi]
        exact .unlink (hi ▸ hw) (hi ▸ hp.2)
      · rw [helpStats_heap, hi]; exact helpStats_stats_yes ..
    · exact ⟨.upper, by rw [helpStats_heap]; exact .upper _ (Nat.pos_of_ne_zero hi) hw,
        hq (helpStats_stats_no _ _ _ _ _ (fun c => hi c.2)) rfl⟩
  | @publishUp item lvl hw _ =>
    refine ⟨.publish sh.heap.length item, .publish item (newNode th item lvl) hw (newNode_next0 ..) rfl hp.1 hp.2.1,
      by rw [hpc]; rfl, .inl ⟨StQuiet.refl _, ?_⟩⟩
    show some lvl = some _
    rw [heightOf_publish]; rfl
  | @publishDone item lvl hw _ =>
    refine ⟨.publish sh.heap.length item, .publish item (newNode th item lvl) hw (newNode_next0 ..) rfl hp.1 hp.2.1,
      by rw [hpc]; rfl, .inr ⟨?_, rfl⟩⟩
    simp only [insFinished, heightOf_publish]
    exact ⟨rfl, rfl, rfl, rfl⟩
  | upReadMarked _ | upReadLost _ _ _ => exact ⟨.none, .none, hfin sh (.inl rfl) rfl⟩
  | upReadOwn _ _ hw =>
    exact ⟨.upper, by rw [insCheckSucc_sh]; exact .upper _ hp.2.2.1 hw,
      hq (by rw [insCheckSucc_sh]) (pendIns_insCheckSucc ..)⟩
  | upReadSame _ _ => exact ⟨.none, by rw [insCheckSucc_sh]; exact .none, hq (by rw [insCheckSucc_sh]) (pendIns_insCheckSucc ..)⟩
  | upLinkMarked hw _ | upLinkNext hw _ _ => exact ⟨.upper, .upper _ hp.2.2.1 hw, hq rfl rfl⟩
  | upLinkDone hw _ _ => exact ⟨.upper, .upper _ hp.2.2.1 hw, hfin _ (.inr ⟨_, rfl⟩) rfl⟩
  | softWin hw =>
    exact ⟨.mark _, by rw [enterSoft_sh]; exact .mark hw, by rw [enterSoft_sh]; exact ⟨rfl, rfl, rfl, rfl⟩,
      by rw [pendIns_enterSoft, hpc]; rfl, _, hl⟩
  | softUp hw hi =>
    exact ⟨.upper, by rw [enterSoft_sh]; exact .upper _ (Nat.pos_of_ne_zero hi) hw,
      hq (by rw [enterSoft_sh]) (pendIns_enterSoft ..)⟩
  | softLost _ => exact ⟨.none, by rw [enterSoft_sh]; exact .none, hq (by rw [enterSoft_sh]) (pendIns_enterSoft ..)⟩
  | iterNextMove _ => exact ⟨.none, by rw [afterNext_sh]; exact .none, hq (by rw [afterNext_sh]) (pendIns_afterNext ..)⟩
  | iterHelpOk hw =>
    exact ⟨.unlink _, by rw [afterNext_sh, helpStats_heap]; exact .unlink hw hp.1,
      by rw [afterNext_sh, helpStats_heap]; exact helpStats_stats_yes ..,
      by rw [pendIns_afterNext, hpc]; rfl⟩

theorem stepThread_goodS {sh : Shared} {th : Thread} (hT : TInv sh.heap th) (hL : TL sh.heap sh.level th) :
    GoodS sh th (stepThread sh th) :=
  (stepThread_seg sh th).goodS rfl hT.pc hL.2

end NitroVerif.SkipConc
