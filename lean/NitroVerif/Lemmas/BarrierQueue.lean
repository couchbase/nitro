import NitroVerif.Model.Barrier
/-!
  The free queue: ordered insertion (`qinsert`, the model of `freeq.Insert` with `CompareBS`) when the keys (seqnos)
  order the sessions involved as their ids do (under `Inv` a session's seqno is `id + 1`: `qinsert_closed`).
-/
namespace NitroVerif.Barrier

/-- inserting a session that is not queued yet, for any `key` that is strictly monotone on the sessions involved -/
theorem qinsert_spec (key : Nat → Nat) (s : Nat) (q : List Nat)
    (hk : ∀ x ∈ s :: q, ∀ y ∈ s :: q, key x < key y ↔ x < y)
    (hs : q.Pairwise (· < ·)) (hn : q.count s = 0) :
    ∃ q', qinsert key s q = some q' ∧ q'.Pairwise (· < ·) ∧
      (∀ x, q'.count x = q.count x + (if s = x then 1 else 0)) ∧
      (∀ a, q.head? = some a → a < s → q'.head? = some a) := by
  induction q with
  | nil =>
    refine ⟨[s], rfl, by simp, ?_, by simp⟩
    intro x; simp [List.count_cons]
  | cons y ys ih =>
    have ms : s ∈ s :: y :: ys := List.mem_cons_self
    have my : y ∈ s :: y :: ys := List.mem_cons_of_mem _ List.mem_cons_self
    have hsy : s ≠ y := by
      intro e; subst e; simp at hn
    have hn' : ys.count s = 0 := by
      simp [List.count_cons] at hn; exact hn.1
    rw [List.pairwise_cons] at hs
    by_cases h1 : s < y
    · refine ⟨s :: y :: ys, by simp [qinsert, (hk s ms y my).mpr h1], ?_, ?_, ?_⟩
      · rw [List.pairwise_cons]
        refine ⟨?_, List.pairwise_cons.mpr hs⟩
        intro a ha
        rcases List.mem_cons.mp ha with rfl | ha
        · exact h1
        · exact Nat.lt_trans h1 (hs.1 a ha)
      · intro x; simp [List.count_cons]
      · intro a ha hlt; simp at ha; subst ha; omega
    · have h2 : ¬ key s < key y := fun h => h1 ((hk s ms y my).mp h)
      have h3 : ¬ key s = key y := fun e =>
        Nat.lt_irrefl (key y) (e ▸ (hk y my s ms).mpr (Nat.lt_of_le_of_ne (Nat.le_of_not_lt h1) (Ne.symm hsy)))
      have sub : ∀ x ∈ s :: ys, x ∈ s :: y :: ys := fun x hx =>
        (List.mem_cons.mp hx).elim (fun e => e ▸ ms) fun hx => List.mem_cons_of_mem _ (List.mem_cons_of_mem _ hx)
      obtain ⟨q', hq, hp, hc, _⟩ := ih (fun x hx z hz => hk x (sub x hx) z (sub z hz)) hs.2 hn'
      refine ⟨y :: q', by simp [qinsert, h2, h3, hq], ?_, ?_, ?_⟩
      · rw [List.pairwise_cons]
        refine ⟨?_, hp⟩
        intro a ha
        have hca := hc a
        have : 0 < q'.count a := List.count_pos_iff.mpr ha
        by_cases e : s = a
        · subst e; omega
        · simp [e] at hca
          exact hs.1 a (List.count_pos_iff.mp (by omega))
      · intro x; have := hc x; simp [List.count_cons]; omega
      · intro a ha _; simpa using ha

theorem erase_head (s : Nat) (r : List Nat) : (s :: r).erase s = r := by simp

end NitroVerif.Barrier
