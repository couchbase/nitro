import NitroVerif.Lemmas.BarrierFacts
import NitroVerif.Lemmas.BarrierAbsTab
/-!
  The abstraction function from the small-step barrier M4 (`Model/Barrier.lean`) to the lazy abstract
  barrier (`Lemmas/BarrierAbs.lean`), and its behaviour under the steps that change it.

  * sessions: `0 … cur`; `s` is abstractly flushed iff `s < cur`, i.e. from the FL_SWAP of the flush that closes it;
  * holders of `s`: one anonymous holder per token (`heldT s`); a thread is a holder from its successful ACQ_ADD to
    its REL_DEC (`relDec s retRel` still counts).  Neither the transient unit of a backing-off `Acquire`
    (`relDec s retAcq`) nor the flusher's own unit (`relDec s retFlush`) is a holder;
  * object of a flushed session: `tagged[s]`, before FL_TAG the object the flusher carries in `flTag s obj` — taken as
    the SUM of `pcObj` over all threads, which is that one object because at most one thread is at FL_TAG;
  * `freeSeq = freeSeqno`, `log` = the objects of the destructor calls.
-/
namespace NitroVerif.Barrier
open NitroVerif.AbsBarrier

def contHeld : Cont → Nat
  | .retRel => 1
  | _ => 0

def pcHeld (s : Nat) : PC → Nat
  | .relDec s' k => if s' = s then contHeld k else 0
  | _ => 0

/-- tokens of session `s` held by the thread (a `Release` that has not decremented yet included) -/
def heldT (s : Nat) (t : Th) : Nat := t.toks.count s + pcHeld s t.pc

/-- the object a flusher carries between FL_SWAP and FL_TAG -/
def pcObj : PC → Nat
  | .flTag _ o => o
  | _ => 0

@[simp, barsimp] theorem pcHeld_idle (s : Nat)  : pcHeld s .idle = 0 := rfl
@[simp, barsimp] theorem pcObj_idle  : pcObj .idle = 0 := rfl
@[simp, barsimp] theorem pcHeld_acqLoad (s : Nat)  : pcHeld s .acqLoad = 0 := rfl
@[simp, barsimp] theorem pcObj_acqLoad  : pcObj .acqLoad = 0 := rfl
@[simp, barsimp] theorem pcHeld_acqAdd (s : Nat) (a : Nat) : pcHeld s (.acqAdd a) = 0 := rfl
@[simp, barsimp] theorem pcObj_acqAdd (a : Nat) : pcObj (.acqAdd a) = 0 := rfl
@[simp, barsimp] theorem pcHeld_relClosed (s : Nat) (a : Nat) (k : Cont) : pcHeld s (.relClosed a k) = 0 := rfl
@[simp, barsimp] theorem pcObj_relClosed (a : Nat) (k : Cont) : pcObj (.relClosed a k) = 0 := rfl
@[simp, barsimp] theorem pcHeld_relInsert (s : Nat) (a : Nat) (k : Cont) : pcHeld s (.relInsert a k) = 0 := rfl
@[simp, barsimp] theorem pcObj_relInsert (a : Nat) (k : Cont) : pcObj (.relInsert a k) = 0 := rfl
@[simp, barsimp] theorem pcHeld_relTryLock (s : Nat) (k : Cont) : pcHeld s (.relTryLock k) = 0 := rfl
@[simp, barsimp] theorem pcObj_relTryLock (k : Cont) : pcObj (.relTryLock k) = 0 := rfl
@[simp, barsimp] theorem pcHeld_clRead (s : Nat) (b : Bool) (k : Cont) : pcHeld s (.clRead b k) = 0 := rfl
@[simp, barsimp] theorem pcObj_clRead (b : Bool) (k : Cont) : pcObj (.clRead b k) = 0 := rfl
@[simp, barsimp] theorem pcHeld_clProc (s : Nat) (a : Nat) (k : Cont) : pcHeld s (.clProc a k) = 0 := rfl
@[simp, barsimp] theorem pcObj_clProc (a : Nat) (k : Cont) : pcObj (.clProc a k) = 0 := rfl
@[simp, barsimp] theorem pcHeld_relUnlock (s : Nat) (k : Cont) : pcHeld s (.relUnlock k) = 0 := rfl
@[simp, barsimp] theorem pcObj_relUnlock (k : Cont) : pcObj (.relUnlock k) = 0 := rfl
@[simp, barsimp] theorem pcHeld_relRecheck (s : Nat) (k : Cont) : pcHeld s (.relRecheck k) = 0 := rfl
@[simp, barsimp] theorem pcObj_relRecheck (k : Cont) : pcObj (.relRecheck k) = 0 := rfl
@[simp, barsimp] theorem pcHeld_flLock (s : Nat) (o : Nat) : pcHeld s (.flLock o) = 0 := rfl
@[simp, barsimp] theorem pcObj_flLock (o : Nat) : pcObj (.flLock o) = 0 := rfl
@[simp, barsimp] theorem pcHeld_flSwap (s : Nat) (o : Nat) : pcHeld s (.flSwap o) = 0 := rfl
@[simp, barsimp] theorem pcObj_flSwap (o : Nat) : pcObj (.flSwap o) = 0 := rfl
@[simp, barsimp] theorem pcHeld_flTag (s : Nat) (a : Nat) (o : Nat) : pcHeld s (.flTag a o) = 0 := rfl
@[simp, barsimp] theorem pcHeld_flAdd (s : Nat) (a : Nat) : pcHeld s (.flAdd a) = 0 := rfl
@[simp, barsimp] theorem pcObj_flAdd (a : Nat) : pcObj (.flAdd a) = 0 := rfl
@[simp, barsimp] theorem pcHeld_flUnlock (s : Nat)  : pcHeld s .flUnlock = 0 := rfl
@[simp, barsimp] theorem pcObj_flUnlock  : pcObj .flUnlock = 0 := rfl
@[simp, barsimp] theorem pcHeld_relDec (s a : Nat) (k : Cont) : pcHeld s (.relDec a k) = if a = s then contHeld k else 0 := rfl
@[simp, barsimp] theorem pcObj_relDec (a : Nat) (k : Cont) : pcObj (.relDec a k) = 0 := rfl
@[simp, barsimp] theorem pcObj_flTag (a o : Nat) : pcObj (.flTag a o) = o := rfl
@[simp, barsimp] theorem contHeld_retRel : contHeld .retRel = 1 := rfl
@[simp, barsimp] theorem contHeld_retAcq : contHeld .retAcq = 0 := rfl
@[simp, barsimp] theorem contHeld_retFlush : contHeld .retFlush = 0 := rfl
@[simp, barsimp] theorem pcHeld_after (s : Nat) (k : Cont) : pcHeld s (afterCont k) = 0 := by cases k <;> rfl
@[simp, barsimp] theorem pcObj_after (k : Cont) : pcObj (afterCont k) = 0 := by cases k <;> rfl

def absOf (st : St) : AbsBarrier Unit Nat :=
  tab st.cur (fun s => cnt (heldT s) st) (fun s => (st.tagged[s]?).getD (cnt (onPc pcObj) st))
    st.freeSeqno (st.log.map Prod.snd)

theorem absOf_freeSeq (st : St) : (absOf st).freeSeq = st.freeSeqno := rfl
theorem absOf_log (st : St) : (absOf st).log = st.log.map Prod.snd := rfl
theorem absOf_sess_length (st : St) : (absOf st).sess.length = st.cur + 1 := tab_sess_length _ _ _ _ _

theorem ready_absOf (st : St) :
    ready (absOf st) = (decide (st.freeSeqno < st.cur) && decide (cnt (heldT st.freeSeqno) st = 0)) :=
  ready_tab _ _ _ _ _

theorem absOf_holders {st : St} {s : Nat} {x : ASess Unit Nat} (hx : (absOf st).sess[s]? = some x) :
    x.holders = List.replicate (cnt (heldT s) st) () := by
  unfold absOf at hx
  rw [tab_getElem?] at hx
  split at hx
  · cases hx; rfl
  · cases hx

/-- the ACQ_ADD step on session `s` is enabled and hands out the token (the guard of `execStep` at ACQ_ADD) -/
def grants (st : St) (s : Nat) : Bool :=
  !(!(getS st s).flushed && decide (Gen.barrierFlushOffset ≤ (getS st s).live + 1)) &&
    !Gen.acquireBackoff ((getS st s).live + 1)

/-- the abstract action an M4 action of a thread with record `t` stands for (`none`: a stutter):
    acquire at the successful increment, release at the decrement of an API `Release`, flush at the swap,
    destruct at the destructor call -/
def absAct (st : St) (t : Th) : Barrier.Act → Option (AbsBarrier.Act Unit Nat)
  | .step =>
    match t.pc with
    | .acqAdd s => if grants st s then some (.acq ()) else none
    | .relDec s .retRel => some (.rel s ())
    | .flSwap obj => some (.flush obj)
    | .clProc _ _ => some .destruct
    | _ => none
  | _ => none

/-- the step is a successful ACQ_ADD on a session that is no longer current (the thread loaded
    `ab.session` before a flusher's FL_SWAP and increments before that flusher's FL_ADD) -/
def lateGrant (st : St) (t : Th) : Barrier.Act → Bool
  | .step =>
    match t.pc with
    | .acqAdd s => grants st s && decide (s ≠ st.cur)
    | _ => false
  | _ => false

def Sim (st : St) (t : Th) (a : Barrier.Act) (st' : St) : Prop :=
  match absAct st t a with
  | none => absOf st' = absOf st
  | some α => AbsBarrier.step (absOf st) α = some (absOf st')

theorem pcHeld_le_pcReal (s : Nat) (pc : PC) : pcHeld s pc ≤ pcReal s pc := by
  cases pc
  case relDec a k => by_cases e : a = s <;> cases k <;> simp [pcHeld, pcReal, contHeld, contReal, e]
  all_goals exact Nat.le_refl 0

theorem heldT_le_realT (s : Nat) (u : Th) : heldT s u ≤ realT s u :=
  Nat.add_le_add_left (pcHeld_le_pcReal s u.pc) _

theorem heldT_le_refT (s : Nat) (u : Th) : heldT s u ≤ refT s u :=
  Nat.le_trans (heldT_le_realT s u) (realT_le_refT s u)

theorem pcObj_zero_of_pcTag (u : Th) (h : onPc pcTag u = 0) : onPc pcObj u = 0 := by
  obtain ⟨pc, _⟩ := u
  cases pc
  case flTag a o => exact absurd (show 1 = 0 from h) (by decide)
  all_goals rfl

theorem absOf_of_sums {st : St} {l l' : List Th} (e : SameSums l l') :
    absOf (withThs st l') = absOf (withThs st l) := by
  unfold absOf
  simp only [barsimp, show ∀ f : Th → Nat, (l'.map f).sum = (l.map f).sum from e]

theorem absOf_front {st : St} {i : Nat} {t : Th} (ht : st.ths[i]? = some t) :
    absOf st = absOf (withThs st (t :: st.ths.eraseIdx i)) :=
  (absOf_of_sums (.front ht)).symm

theorem absOf_setT_front {st st1 : St} {i : Nat} {t : Th} (t' : Th) (ht : st.ths[i]? = some t)
    (h1 : st1.ths = st.ths) : absOf (setT st1 i t') = absOf (withThs st1 (t' :: st.ths.eraseIdx i)) := by
  rw [setT_eq_withThs, h1]; exact absOf_of_sums (.back t' ht)

theorem grants_of_grant {st : St} {s : Nat}
    (hreg : (!(getS st s).flushed && decide (Gen.barrierFlushOffset ≤ (getS st s).live + 1)) = false)
    (hb : Gen.acquireBackoff ((getS st s).live + 1) = false) : grants st s = true := by
  simp [grants, hreg, hb]

theorem grants_of_backoff {st : St} {s : Nat} (hb : Gen.acquireBackoff ((getS st s).live + 1) = true) :
    grants st s = false := by
  simp [grants, hb]

@[simp] theorem grants_withThs (st : St) (l : List Th) (s : Nat) : grants (withThs st l) s = grants st s := rfl

theorem no_obj_of_mutex {st : St} {t : Th} {r : List Th} (h : Inv (withThs st (t :: r)))
    (hm : pcMutex t.pc = 1) : (r.map (onPc pcObj)).sum = 0 :=
  sum_zero_of_zero _ _ r pcObj_zero_of_pcTag (no_tag_of_mutex h hm)

theorem absOf_same {st st1 : St} {t t' : Th} {r : List Th}
    (hh : ∀ s, heldT s t' = heldT s t) (ho : pcObj t'.pc = pcObj t.pc)
    (hc : st1.cur = st.cur := by rfl) (hg : st1.tagged = st.tagged := by rfl)
    (hf : st1.freeSeqno = st.freeSeqno := by rfl) (hl : st1.log = st.log := by rfl) :
    absOf (withThs st1 (t' :: r)) = absOf (withThs st (t :: r)) := by
  unfold absOf
  simp only [barsimp, hc, hg, hf, hl, hh, ho]

/-- NOT an action of `AbsBarrier`: a holder more in session `s`, whichever it is -/
def acqAt (b : AbsBarrier Unit Nat) (s : Nat) : AbsBarrier Unit Nat :=
  { b with sess := b.sess.modify s (fun a => { a with holders := a.holders ++ [()] }) }

theorem acqAt_tab (cur : Nat) (held obj : Nat → Nat) (fs : Nat) (lg : List Nat) (s0 : Nat) :
    acqAt (tab cur held obj fs lg) s0 = tab cur (fun s => held s + (if s = s0 then 1 else 0)) obj fs lg := by
  unfold acqAt
  simp only [tab]
  rw [addHolder_tab]

theorem absOf_grant_any {st : St} {toks : List Nat} {r : List Th} {x : Sess} {s0 : Nat} :
    absOf (withThs (setS st s0 x) (⟨.idle, toks ++ [s0]⟩ :: r))
      = acqAt (absOf (withThs st (⟨.acqAdd s0, toks⟩ :: r))) s0 := by
  unfold absOf
  rw [acqAt_tab]
  simp only [barsimp]
  refine tab_congr _ _ _ _ _ _ _ (fun s _ => ?_) (fun _ _ => rfl)
  by_cases e : s = s0
  · subst e; simp [heldT, List.count_append]; omega
  · have e' : ¬ s0 = s := fun h => e h.symm
    simp [heldT, e, e', List.count_append]

theorem absOf_grant {st : St} {toks : List Nat} {r : List Th} {x : Sess} :
    absOf (withThs (setS st st.cur x) (⟨.idle, toks ++ [st.cur]⟩ :: r))
      = acqF (absOf (withThs st (⟨.acqAdd st.cur, toks⟩ :: r))) () := by
  rw [absOf_grant_any]
  simp [acqF, acqAt, absOf, tab_sess_length]

theorem absOf_rel {st st1 : St} {toks : List Nat} {pc' : PC} {r : List Th} {s0 : Nat}
    (h : Inv (withThs st (⟨.relDec s0 .retRel, toks⟩ :: r))) (hp : ∀ s, pcHeld s pc' = 0) (ho : pcObj pc' = 0)
    (hc : st1.cur = st.cur := by rfl) (hg : st1.tagged = st.tagged := by rfl)
    (hf : st1.freeSeqno = st.freeSeqno := by rfl) (hl : st1.log = st.log := by rfl) :
    AbsBarrier.step (absOf (withThs st (⟨.relDec s0 .retRel, toks⟩ :: r))) (.rel s0 ())
      = some (absOf (withThs st1 (⟨pc', toks⟩ :: r))) := by
  have hs0 : s0 < st.sess.length := ref_lt_pc h (if_pos rfl)
  have hcl := h.curlen
  simp only [barsimp] at hcl
  have hh : holds (absOf (withThs st (⟨.relDec s0 .retRel, toks⟩ :: r))) s0 () = true :=
    holds_tab _ _ _ _ _ s0 (by simp only [barsimp]; omega) (by simp [heldT]; omega)
  simp only [AbsBarrier.step, hh, if_true]
  congr 1
  unfold absOf
  rw [relF_tab]
  simp only [barsimp, hc, hg, hf, hl, ho]
  congr 1
  funext s
  by_cases e : s = s0
  · subst e; simp [heldT, hp]
  · have e' : ¬ s0 = s := fun h => e h.symm
    simp [heldT, hp, e, e']

theorem absOf_swap {st : St} {toks : List Nat} {obj : Nat} {r : List Th}
    (h : Inv (withThs st (⟨.flSwap obj, toks⟩ :: r))) :
    absOf (withThs { st with sess := st.sess ++ [{}], cur := st.sess.length } (⟨.flTag st.cur obj, toks⟩ :: r))
      = flushF (absOf (withThs st (⟨.flSwap obj, toks⟩ :: r))) obj := by
  have hcl := h.curlen
  have hnt := no_tag_of_mutex h rfl
  have hno := no_obj_of_mutex h rfl
  have hact := h.active
  have htg := h.tagged
  have hr := h.range (st.cur + 1) (by simp only [barsimp] at hcl ⊢; omega)
  have h0 : cnt (heldT (st.cur + 1)) (withThs st (⟨.flSwap obj, toks⟩ :: r)) = 0 := by
    have := cnt_le_cnt (heldT (st.cur + 1)) (refT (st.cur + 1)) (withThs st (⟨.flSwap obj, toks⟩ :: r))
      (heldT_le_refT _)
    omega
  simp only [barsimp, hnt] at hcl hact htg
  have hc : st.sess.length = st.cur + 1 := by omega
  unfold absOf
  rw [flushF_tab _ _ _ _ _ _ h0]
  simp only [barsimp, hno, hc]
  apply tab_congr
  · intro s _; rfl
  · intro s hs
    by_cases e : s = st.cur
    · subst e
      have : st.tagged[st.cur]? = none := List.getElem?_eq_none (by omega)
      simp [this]
    · have hlt : s < st.tagged.length := by omega
      simp [e, List.getElem?_eq_getElem hlt]

theorem absOf_tag {st : St} {toks : List Nat} {s0 obj : Nat} {x : Sess} {r : List Th}
    (h : Inv (withThs st (⟨.flTag s0 obj, toks⟩ :: r))) :
    absOf (withThs (setS (tagGlobals st obj) s0 x) (⟨.flAdd s0, toks⟩ :: r))
      = absOf (withThs st (⟨.flTag s0 obj, toks⟩ :: r)) := by
  have hnt := no_tag_of_mutex h rfl
  have hno := no_obj_of_mutex h rfl
  have hact := h.active
  have htg := h.tagged
  simp only [barsimp, hnt] at hact htg
  unfold absOf
  simp only [barsimp, hno]
  apply tab_congr
  · intro s _; rfl
  · intro s hs
    by_cases e : s < st.tagged.length
    · simp [List.getElem?_append_left e, List.getElem?_eq_getElem e]
    · have e2 : s = st.tagged.length := by omega
      subst e2
      simp

theorem absOf_proc {st : St} {toks : List Nat} {s0 : Nat} {k : Cont} {r : List Th}
    (h : Inv (withThs st (⟨.clProc s0 k, toks⟩ :: r))) :
    AbsBarrier.step (absOf (withThs st (⟨.clProc s0 k, toks⟩ :: r))) .destruct
      = some (absOf (withThs (destruct st s0) (⟨.clRead false k, toks⟩ :: r))) := by
  obtain ⟨_, hs, hc1, hlt, _, hobj⟩ := h.at_clProc
  have hreal := (h.closed s0 (Or.inl hc1)).2
  have hheld : cnt (heldT s0) (withThs st (⟨.clProc s0 k, toks⟩ :: r)) = 0 := by
    have := cnt_le_cnt _ _ (withThs st (⟨.clProc s0 k, toks⟩ :: r)) (heldT_le_realT s0); omega
  have hact := h.active
  simp only [barsimp] at hact
  have hcur : s0 < st.cur := by omega
  have hrd : ready (absOf (withThs st (⟨.clProc s0 k, toks⟩ :: r))) = true := by
    rw [ready_absOf]; simp [← hs, hcur, hheld]
  simp only [AbsBarrier.step, hrd, if_true]
  congr 1
  unfold absOf
  rw [destructF_tab _ _ _ _ _ (by simp; omega)]
  -- the right side with the old thread record (same `heldT`, `pcObj`)
  show tab _ _ _ _ _ = tab _ (fun s => cnt (heldT s) (withThs st (⟨.clProc s0 k, toks⟩ :: r)))
    (fun s => (st.tagged[s]?).getD (cnt (onPc pcObj) (withThs st (⟨.clProc s0 k, toks⟩ :: r)))) _ _
  simp only [barsimp]
  rw [← hs, hobj]
  simp

end NitroVerif.Barrier
