/-
  Linking a version, marking one dead and unlinking (any filter) keep the store sorted and the lifetimes
  consistent, and do not change what a snapshot sees if the version is born after it, dies after it, or is
  invisible to it.  Linking or unlinking an alive version changes the number of alive versions by one.
-/
import NitroVerif.Lemmas.MvccStore

namespace NitroVerif.Mvcc

theorem insertAt_eq {s : List Ver} (hs : Sorted s) (p : Ver) :
    insertAt s p = s.filter (fun x => insLt x p) ++ p :: s.filter (fun x => !insLt x p) := by
  unfold insertAt; rw [(findPath_ins hs p).1, (findPath_ins hs p).2]

theorem mem_insertAt (s : List Ver) (p x : Ver) : x ∈ insertAt s p ↔ x = p ∨ x ∈ s := by
  unfold insertAt
  conv => rhs; rw [← findPath_append insCmp p s]
  rw [List.mem_append, List.mem_cons, List.mem_append, or_left_comm]

theorem sorted_insertAt {s : List Ver} (hs : Sorted s) (p : Ver)
    (hno : ∀ y ∈ s, ¬ (y.key = p.key ∧ y.born = p.born)) : Sorted (insertAt s p) := by
  -- what is not below the probe is above it, since nothing has its identity
  have habove : ∀ b ∈ s.filter (fun x => !insLt x p), vlt p b := by
    intro b hb
    have hb' := List.mem_filter.mp hb
    rcases vlt_total b p with h | h | h
    · have hnot : (!insLt b p) = true := hb'.2
      rw [(insLt_iff _ _).mpr h] at hnot; cases hnot
    · exact absurd h (hno b hb'.1)
    · exact h
  rw [insertAt_eq hs]
  refine List.pairwise_append.mpr ⟨List.Pairwise.filter _ hs, List.pairwise_cons.mpr ⟨habove, List.Pairwise.filter _ hs⟩, ?_⟩
  intro a ha b hb
  have hap : vlt a p := (insLt_iff _ _).mp (List.mem_filter.mp ha).2
  rcases List.mem_cons.mp hb with rfl | hb
  · exact hap
  · exact vlt_trans hap (habove b hb)

theorem filter_insertAt_length (s : List Ver) (p : Ver) (q : Ver → Bool) :
    ((insertAt s p).filter q).length = (s.filter q).length + (if q p then 1 else 0) := by
  have happ := findPath_append insCmp p s
  unfold insertAt
  conv => rhs; rw [← happ]
  rw [List.filter_append, List.filter_append, List.filter_cons, List.length_append, List.length_append]
  split <;> rfl

theorem chains_insertAt {cur : Nat} {s : List Ver} (hc : Chains cur s) (k v : Nat)
    (hno : ∀ y ∈ s, y.key = k → y.dead ≠ 0) : Chains cur (insertAt s ⟨k, v, cur, 0⟩) := by
  constructor
  · intro x hx
    rcases (mem_insertAt s _ x).mp hx with rfl | hx
    · exact ⟨Nat.le_refl _, fun h => absurd rfl h⟩
    · exact hc.1 x hx
  · intro a ha b hb hk hlt
    rcases (mem_insertAt s _ a).mp ha with rfl | ha <;> rcases (mem_insertAt s _ b).mp hb with rfl | hb
    · exact absurd hlt (Nat.lt_irrefl _)
    · exact absurd (Nat.lt_of_lt_of_le hlt (hc.1 b hb).1) (Nat.lt_irrefl cur)
    · -- the versions of `k` present are dead, and died by now
      have hd := hno a ha hk
      exact ⟨hd, ((hc.1 a ha).2 hd).2⟩
    · exact hc.2 a ha b hb hk hlt

theorem no_same_id_of_no_alive {cur : Nat} {s : List Ver} (hc : Chains cur s) (k v : Nat)
    (hno : ∀ y ∈ s, y.key = k → y.dead ≠ 0) :
    ∀ y ∈ s, ¬ (y.key = (⟨k, v, cur, 0⟩ : Ver).key ∧ y.born = (⟨k, v, cur, 0⟩ : Ver).born) := by
  intro y hy h
  exact hno y hy h.1 (alive_of_born_cur hc hy h.2)

theorem sorted_markDead {s : List Ver} (hs : Sorted s) (x : Ver) (sn : Nat) :
    Sorted (markDead s x sn) := by
  unfold markDead Sorted
  apply List.Pairwise.map _ _ hs
  intro a b hab
  split <;> split <;> exact hab

theorem mem_markDead_iff {s : List Ver} (hs : Sorted s) {x : Ver} (hx : x ∈ s) (c : Nat) {y : Ver} :
    y ∈ markDead s x c ↔ (y ∈ s ∧ y ≠ x) ∨ y = { x with dead := c } := by
  have hsame : ∀ v ∈ s, (sameId v x = true ↔ v = x) := fun v hv =>
    ⟨eq_of_sameId hs hv hx, fun h => h ▸ (sameId_iff x x).mpr ⟨rfl, rfl⟩⟩
  unfold markDead
  rw [List.mem_map]
  constructor
  · rintro ⟨v, hv, rfl⟩
    by_cases h : sameId v x = true
    · rw [if_pos h, (hsame v hv).mp h]; exact Or.inr rfl
    · rw [if_neg h]; exact Or.inl ⟨hv, fun e => h ((hsame v hv).mpr e)⟩
  · rintro (⟨hy, hne⟩ | rfl)
    · exact ⟨y, hy, if_neg fun h => hne ((hsame y hy).mp h)⟩
    · exact ⟨x, hx, if_pos ((hsame x hx).mpr rfl)⟩

theorem chains_markDead {cur : Nat} {s : List Ver} (hs : Sorted s) (hc : Chains cur s) {x : Ver}
    (hx : x ∈ s) (hd : x.dead = 0) (hb : x.born < cur) : Chains cur (markDead s x cur) := by
  have hmem := @mem_markDead_iff s hs x hx cur
  constructor
  · intro y hy
    rcases hmem.mp hy with ⟨hy, _⟩ | rfl
    · exact hc.1 y hy
    · exact ⟨Nat.le_of_lt hb, fun _ => ⟨hb, Nat.le_refl _⟩⟩
  · intro a ha b hb' hk hlt
    rcases hmem.mp ha with ⟨ha, _⟩ | rfl
    · rcases hmem.mp hb' with ⟨hb', _⟩ | rfl
      · exact hc.2 a ha b hb' hk hlt
      · exact hc.2 a ha x hx hk hlt
    · -- `x` was alive, so no version of its key is younger
      rcases hmem.mp hb' with ⟨hb', _⟩ | rfl
      · exact absurd hd (hc.2 x hx b hb' hk hlt).1
      · exact absurd hlt (Nat.lt_irrefl _)

theorem chains_filter {cur : Nat} {s : List Ver} (hc : Chains cur s) (p : Ver → Bool) :
    Chains cur (s.filter p) :=
  have h : ∀ v ∈ s.filter p, v ∈ s := fun _ hv => (List.mem_filter.mp hv).1
  ⟨fun v hv => hc.1 v (h v hv), fun a ha b hb => hc.2 a (h a ha) b (h b hb)⟩

theorem chains_mono {cur cur' : Nat} {s : List Ver} (h : cur ≤ cur') (hc : Chains cur s) :
    Chains cur' s :=
  ⟨fun v hv => ⟨Nat.le_trans (hc.1 v hv).1 h,
    fun hd => ⟨((hc.1 v hv).2 hd).1, Nat.le_trans ((hc.1 v hv).2 hd).2 h⟩⟩, hc.2⟩

theorem mem_removeId {s : List Ver} {x v : Ver} : v ∈ removeId s x ↔ v ∈ s ∧ sameId v x = false := by
  unfold removeId; rw [List.mem_filter, Bool.not_eq_true']

theorem sameId_of_vlt {a b : Ver} (h : vlt a b ∨ vlt b a) : sameId a b = false :=
  Bool.eq_false_iff.mpr fun hs => by
    have hid := (sameId_iff a b).mp hs
    rcases h with h | h
    · exact h.elim (fun h => Nat.ne_of_lt h hid.1) fun h => Nat.ne_of_lt h.2 hid.2
    · exact h.elim (fun h => Nat.ne_of_lt h hid.1.symm) fun h => Nat.ne_of_lt h.2 hid.2.symm

theorem removeId_split {s : List Ver} (hs : Sorted s) {x : Ver} (hx : x ∈ s) :
    ∃ l r, s = l ++ x :: r ∧ removeId s x = l ++ r := by
  obtain ⟨l, r, rfl⟩ := List.append_of_mem hx
  have h := List.pairwise_append.mp hs
  have hl : ∀ v ∈ l, (!sameId v x) = true := fun v hv => by
    rw [sameId_of_vlt (Or.inl (h.2.2 v hv x (List.mem_cons_self ..)))]; rfl
  have hr : ∀ v ∈ r, (!sameId v x) = true := fun v hv => by
    rw [sameId_of_vlt (Or.inr ((List.pairwise_cons.mp h.2.1).1 v hv))]; rfl
  have hx' : ¬ (!sameId x x) = true := by rw [(sameId_iff x x).mpr ⟨rfl, rfl⟩]; nofun
  refine ⟨l, r, rfl, ?_⟩
  unfold removeId
  rw [List.filter_append, List.filter_cons_of_neg (p := fun v => !sameId v x) hx',
    List.filter_eq_self.mpr hl, List.filter_eq_self.mpr hr]

theorem alive_removeId_length' {s : List Ver} (hs : Sorted s) {x : Ver} (hx : x ∈ s) :
    ((removeId s x).filter isAlive).length + (if x.dead = 0 then 1 else 0) = (s.filter isAlive).length := by
  obtain ⟨l, r, rfl, e⟩ := removeId_split hs hx
  rw [e, List.filter_append, List.filter_append, List.filter_cons, List.length_append,
    List.length_append]
  by_cases hd : x.dead = 0
  · have ha : isAlive x = true := beq_iff_eq.mpr hd
    rw [if_pos hd, if_pos ha, List.length_cons, Nat.add_assoc]
  · have ha : ¬ isAlive x = true := fun ha => hd (beq_iff_eq.mp ha)
    rw [if_neg hd, if_neg ha]; rfl

theorem alive_removeId_length {s : List Ver} (hs : Sorted s) {x : Ver} (hx : x ∈ s) (hd : x.dead = 0) :
    ((removeId s x).filter isAlive).length + 1 = (s.filter isAlive).length := by
  have := alive_removeId_length' hs hx
  rwa [if_pos hd] at this

theorem filter_alive_markDead (s : List Ver) (x : Ver) {sn : Nat} (hsn : sn ≠ 0) :
    (markDead s x sn).filter isAlive = (removeId s x).filter isAlive := by
  unfold markDead removeId
  induction s with
  | nil => rfl
  | cons v r ih =>
    rw [List.map_cons]
    by_cases hv : sameId v x = true
    · have hdead : ¬ isAlive { v with dead := sn } = true := fun ha => hsn (beq_iff_eq.mp ha)
      have hrem : ¬ (fun v => !sameId v x) v = true := by
        show ¬ (!sameId v x) = true
        rw [hv]; nofun
      rw [if_pos hv, List.filter_cons_of_neg hdead, List.filter_cons_of_neg (p := fun v => !sameId v x) hrem, ih]
    · have hkeep : (fun v => !sameId v x) v = true := by
        show (!sameId v x) = true
        rw [Bool.eq_false_iff.mpr hv]; rfl
      rw [if_neg hv, List.filter_cons_of_pos (p := fun v => !sameId v x) hkeep, List.filter_cons,
        List.filter_cons, ih]

def vis (s : List Ver) (sn : Nat) : List Ver := s.filter (visible sn)

theorem view_eq (s : List Ver) (sn : Nat) : view s sn = (vis s sn).map Ver.norm := rfl

theorem view_insertAt (s : List Ver) (p : Ver) (sn : Nat) (hp : sn < p.born) :
    view (insertAt s p) sn = view s sn := by
  have happ := findPath_append insCmp p s
  unfold view insertAt
  have hv : visible sn p = false := by
    cases h : visible sn p
    · rfl
    · exact absurd (Nat.lt_of_lt_of_le hp ((visible_iff sn p).mp h).1) (Nat.lt_irrefl _)
  conv => rhs; rw [← happ]
  simp [List.filter_append, hv]

theorem view_markDead {s : List Ver} (hs : Sorted s) {x : Ver} (hx : x ∈ s) (hd : x.dead = 0)
    (sn cur : Nat) (h : sn < cur) : view (markDead s x cur) sn = view s sn := by
  -- the marked node was alive, and a snapshot below `cur` sees it as before; nothing else changes
  have hvis : ∀ v ∈ s, (visible sn ∘ fun v => if sameId v x = true then { v with dead := cur } else v) v =
      visible sn v := by
    intro v hv
    show visible sn (if sameId v x = true then { v with dead := cur } else v) = visible sn v
    split
    · rename_i hsame
      have hvd : v.dead = 0 := by rw [eq_of_sameId hs hv hx hsame]; exact hd
      rw [Bool.eq_iff_iff, visible_iff, visible_iff, hvd]
      exact ⟨fun h1 => ⟨h1.1, Or.inl rfl⟩, fun h1 => ⟨h1.1, Or.inr h⟩⟩
    · rfl
  unfold view markDead
  rw [List.filter_map, List.map_map, List.filter_congr hvis]
  refine List.map_congr_left fun v _ => ?_
  show Ver.norm (if sameId v x = true then { v with dead := cur } else v) = Ver.norm v
  split <;> rfl

theorem view_filter {s : List Ver} (q : Ver → Bool) (sn : Nat)
    (h : ∀ v ∈ s, q v = false → visible sn v = false) : view (s.filter q) sn = view s sn := by
  unfold view; rw [filter_filter_of_imp _ _ _ h]

theorem visible_cur_iff_alive {cur : Nat} {s : List Ver} (hc : Chains cur s) :
    s.filter (visible cur) = s.filter isAlive := by
  apply List.filter_congr
  intro v hv
  have h1 := hc.1 v hv
  have h2 := visible_iff cur v
  have h3 : isAlive v = true ↔ v.dead = 0 := by simp [isAlive]
  rw [Bool.eq_iff_iff, h2, h3]
  omega

theorem view_at_epoch {cur : Nat} {S : List Ver} (hc : Chains cur S) :
    (view S cur).length = (S.filter isAlive).length := by
  unfold view
  rw [List.length_map, visible_cur_iff_alive hc]

end NitroVerif.Mvcc
