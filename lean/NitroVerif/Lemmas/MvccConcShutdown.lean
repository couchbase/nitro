/-
  `Nitro.Close()` at quiescence: every block still live belongs to a linked node or is a sentinel, and
  `shutdown` returns each of them exactly once (`shutdown_books`).
-/
import NitroVerif.Lemmas.MvccConcBooks
import NitroVerif.Lemmas.MvccConcFields

namespace NitroVerif.MvccConc

structure Quiet (σ : State) : Prop where
  threads : ∀ pc ∈ σ.threads, pc = .idle
  gc : ∀ j ∈ σ.gcJobs, j.pc = .finished
  fr : ∀ j ∈ σ.frJobs, j.pc = .finished
  iters : σ.iters = []
  held : ∀ s ∈ σ.snaps, s.held = false

theorem quiescent_spec {σ : State} (hq : quiescent σ = true) : Quiet σ := by
  unfold quiescent at hq
  simp only [Bool.and_eq_true, List.all_eq_true, List.any_eq_false, List.isEmpty_iff,
    beq_iff_eq, gcPending, frPending, bne_iff_ne, ne_eq, Decidable.not_not, Bool.not_eq_eq_eq_not,
    Bool.not_true] at hq
  obtain ⟨⟨⟨⟨h1, h2⟩, h3⟩, h4⟩, h5⟩ := hq
  exact ⟨h1, fun j hj => by simpa using h2 j hj, fun j hj => by simpa using h3 j hj, h4, fun s hs => by
    simpa using h5 s hs⟩

theorem own_quiet {σ : State} (h : Inv σ) (hq : Quiet σ) :
    (∀ n, own σ n = (storeIds σ.store).count n) ∧ ∀ n, ¬ reserved σ.threads n := by
  have hthr : thrOwned σ.threads = [] := by
    unfold thrOwned
    exact List.flatMap_eq_nil_iff.mpr (fun pc hpc => by rw [hq.threads pc hpc]; rfl)
  have hgc : gcOwned σ.gcJobs = [] := by
    unfold gcOwned
    exact List.flatMap_eq_nil_iff.mpr (fun j hj => by simp [gcOwn, hq.gc j hj])
  have hfr : frOwned σ.frJobs = [] := by
    unfold frOwned
    exact List.flatMap_eq_nil_iff.mpr (fun j hj => by simp [frOwn, hq.fr j hj])
  have hhold : ∀ (i : Nat) (s : Sess), σ.sess[i]? = some s → s.holders = [] := by
    intro i s hs
    cases hh : s.holders with
    | nil => rfl
    | cons hd tl =>
      exfalso
      have hc := (h.tok.conv i s hs).2 hd (by rw [hh]; exact List.mem_cons_self)
      cases hd with
      | thr t =>
        obtain ⟨pc, hpc, htk⟩ := hc
        have := hq.threads pc (List.mem_of_getElem? hpc)
        subst this; simp [Pc.tok] at htk
      | it t j =>
        obtain ⟨it, hm, _⟩ := hc
        rw [hq.iters] at hm; simp at hm
  have hfs : σ.freeSeq + 1 = σ.sess.length := by
    have hlt := h.tok.lt
    have hg : σ.sess[σ.freeSeq]? = some σ.sess[σ.freeSeq] := List.getElem?_eq_getElem hlt
    have hterm := h.tok.fix _ hg
    have hho := hhold _ _ hg
    have hfl : σ.sess[σ.freeSeq].flushed = false := by
      cases hb : σ.sess[σ.freeSeq].flushed
      · rfl
      · simp [Sess.terminated, hb, hho] at hterm
    have := h.tok.flushed _ _ hg
    cases Nat.lt_or_ge (σ.freeSeq + 1) σ.sess.length with
    | inl hl => have := this.mpr hl; rw [hfl] at this; cases this
    | inr hge => omega
  have hsess : sessOwned σ.sess σ.freeSeq = [] := by
    unfold sessOwned
    apply List.flatMap_eq_nil_iff.mpr
    intro s hs
    obtain ⟨i, hi⟩ := List.mem_iff_getElem?.mp hs
    rw [List.getElem?_drop] at hi
    have hil : σ.freeSeq + i < σ.sess.length := (List.getElem?_eq_some_iff.mp hi).1
    have hfl : s.flushed = false := by
      cases hb : s.flushed
      · rfl
      · have := (h.tok.flushed _ s hi).mp hb; omega
    exact h.tok.nolist _ s hi hfl
  refine ⟨?_, ?_⟩
  · intro n
    unfold own ownC sessfr
    rw [hthr, hgc, hfr, hsess]; simp
  · rintro n ⟨k, v, b, hm⟩
    have := hq.threads _ hm; cases this

theorem shutdown_resp {σ : State} (hq : quiescent σ = true) :
    (shutdown σ).2 = .closed (liveCount (shutdown σ).1) (shutdown σ).1.bad.length := by
  unfold shutdown liveCount
  simp only [hq, if_true]

theorem shutdown_books {σ : State} (h : Inv σ) (hq : quiescent σ = true) :
    (shutdown σ).1.bad = [] ∧
    (shutdown σ).1.allocd = σ.allocd ∧
    (shutdown σ).1.freed = σ.freed ++ blocksOf (storeIds σ.store) ++ [Blk.head] ++ [Blk.tail] ∧
    (shutdown σ).1.freed.Nodup ∧
    (∀ b, b ∈ (shutdown σ).1.freed ↔ b ∈ (shutdown σ).1.allocd) := by
  have ⟨hownq, hnores⟩ := own_quiet h (quiescent_spec hq)
  have hc : ∀ m, (fun _ => 0) m + (storeIds σ.store).count m =
      ownC σ.store σ.threads σ.gcJobs σ.sess σ.freeSeq σ.frJobs m := fun m => by rw [← hownq m, Nat.zero_add]; rfl
  obtain ⟨hids, hblocks⟩ := h.own.toOwnBooks.freeable hc fun m _ => hnores m
  have hB := h.own.toOwnBooks.free_append hc fun m _ => hnores m
  obtain ⟨hfreed, hbad⟩ := freeNodes_spec (storeIds σ.store) σ hids hblocks
  have e1 := free_live (σ := freeNodes σ (storeIds σ.store)) (b := .head) (by simp; exact hB.sent.1)
    (by rw [hfreed]; exact hB.sent.2.2.1)
  have htail : Blk.tail ∉ σ.freed ++ blocksOf (storeIds σ.store) ++ [Blk.head] := fun hm =>
    (List.mem_append.mp hm).elim hB.sent.2.2.2 (by simp)
  have e2 := free_live (σ := free (freeNodes σ (storeIds σ.store)) .head) (b := .tail)
    (by rw [e1.2.2]; simp; exact hB.sent.2.1) (by rw [e1.1, hfreed]; exact htail)
  have hfr : (shutdown σ).1.freed = σ.freed ++ blocksOf (storeIds σ.store) ++ [Blk.head] ++ [Blk.tail] := by
    unfold shutdown; simp only [hq, if_true]
    show (free (free (freeNodes σ (storeIds σ.store)) .head) .tail).freed = _
    rw [e2.1, e1.1, hfreed]
  have hal : (shutdown σ).1.allocd = σ.allocd := by
    unfold shutdown; simp only [hq, if_true]
    show (free (free (freeNodes σ (storeIds σ.store)) .head) .tail).allocd = _
    rw [e2.2.2, e1.2.2]; simp
  have hbd : (shutdown σ).1.bad = [] := by
    unfold shutdown; simp only [hq, if_true]
    show (free (free (freeNodes σ (storeIds σ.store)) .head) .tail).bad = _
    rw [e2.2.1, e1.2.1, hbad]; exact h.own.bad
  refine ⟨hbd, hal, hfr, ?_, fun b => ?_⟩
  · rw [hfr]
    exact nodup_concat (nodup_concat hB.f_nodup hB.sent.2.2.1) htail
  · rw [hfr, hal, ← hB.none_left b]
    simp only [List.mem_append, List.mem_singleton, or_assoc]

end NitroVerif.MvccConc
