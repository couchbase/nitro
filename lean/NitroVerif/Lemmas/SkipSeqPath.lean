import NitroVerif.Lemmas.SkipSeqHeap
/-!
  Pointer chains.  `Path h mk l xs` : consecutive elements of `xs` are linked at level `l`, and the
  link word of every source node `a` carries the deleted flag `mk a`.  A level of the skiplist is
  `Path h mk l (head :: X ++ [tail])`.  Then the per-level vocabulary: `LL`, `predAt` / `succAt`,
  their splits, `pred_descend`.
-/
namespace NitroVerif.SkipSeq

def Path (h : Heap) (mk : Nat → Bool) (l : Nat) : List Nat → Prop
  | [] => True
  | [_] => True
  | a :: b :: r => getNext h a l = (b, mk a) ∧ Path h mk l (b :: r)

@[simp] theorem path_nil (h : Heap) (mk : Nat → Bool) (l : Nat) : Path h mk l [] = True := rfl
@[simp] theorem path_single (h : Heap) (mk : Nat → Bool) (l a : Nat) : Path h mk l [a] = True := rfl
@[simp] theorem path_cons_cons (h : Heap) (mk : Nat → Bool) (l a b : Nat) (r : List Nat) :
    Path h mk l (a :: b :: r) = (getNext h a l = (b, mk a) ∧ Path h mk l (b :: r)) := rfl

theorem path_append_cons {h : Heap} {mk : Nat → Bool} {l : Nat} (X : List Nat) (b : Nat) (Y : List Nat) :
    Path h mk l (X ++ b :: Y) ↔ Path h mk l (X ++ [b]) ∧ Path h mk l (b :: Y) := by
  induction X with
  | nil => simp
  | cons a X ih =>
    cases X with
    | nil => simp
    | cons c X' =>
      simp only [List.cons_append, path_cons_cons] at ih ⊢
      rw [ih]; exact and_assoc.symm

theorem path_tail {h : Heap} {mk : Nat → Bool} {l a : Nat} {r : List Nat} (hp : Path h mk l (a :: r)) :
    Path h mk l r := by
  cases r with
  | nil => simp
  | cons b r => exact hp.2

theorem path_congr_snoc {h h' : Heap} {mk mk' : Nat → Bool} {l : Nat} (X : List Nat) (p : Nat)
    (hx : ∀ a ∈ X, getNext h' a l = getNext h a l ∧ mk' a = mk a) :
    Path h' mk' l (X ++ [p]) ↔ Path h mk l (X ++ [p]) := by
  induction X with
  | nil => simp
  | cons a r ih =>
    have ha := hx a (by simp)
    have ih' := ih (fun c hc => hx c (List.mem_cons_of_mem _ hc))
    cases r with
    | nil => simp [ha.1, ha.2]
    | cons b r' =>
      simp only [List.cons_append, path_cons_cons, ha.1, ha.2] at ih' ⊢
      rw [ih']

theorem path_congr {h h' : Heap} {mk mk' : Nat → Bool} {l : Nat} (xs : List Nat)
    (hx : ∀ a ∈ xs, getNext h' a l = getNext h a l ∧ mk' a = mk a) :
    Path h' mk' l xs ↔ Path h mk l xs := by
  rcases List.eq_nil_or_concat xs with rfl | ⟨X, p, rfl⟩
  · rfl
  · rw [List.concat_eq_append] at hx ⊢
    exact path_congr_snoc X p (fun a ha => hx a (List.mem_append_left _ ha))

theorem path_head_link {h : Heap} {mk : Nat → Bool} {l a z : Nat} {X : List Nat}
    (hp : Path h mk l (a :: X ++ [z])) : getNext h a l = ((X.head?).getD z, mk a) := by
  cases X with
  | nil => simpa using hp
  | cons b r => simpa using hp.1

theorem path_last_link {h : Heap} {mk : Nat → Bool} {l z : Nat} (X : List Nat) (a : Nat)
    (hp : Path h mk l (a :: X ++ [z])) :
    getNext h ((X.getLast?).getD a) l = (z, mk ((X.getLast?).getD a)) := by
  induction X generalizing a with
  | nil => simpa using hp
  | cons b r ih =>
    have := ih b (path_tail hp)
    rwa [getLast?_cons_getD]

theorem path_mem_flag {h : Heap} {mk : Nat → Bool} {l z : Nat} (X : List Nat)
    (hp : Path h mk l (X ++ [z])) : ∀ a ∈ X, (getNext h a l).2 = mk a := by
  induction X with
  | nil => simp
  | cons b r ih =>
    intro a ha
    rcases List.mem_cons.mp ha with rfl | ha'
    · cases r with
      | nil => have := hp.1; simp [this]
      | cons c r' => have := hp.1; simp [this]
    · exact ih (path_tail hp) a ha'

theorem path_join {h : Heap} {mk : Nat → Bool} {l : Nat} (C' : List Nat) (t sh : Nat) (X' : List Nat)
    (hC : Path h mk l (C' ++ [t])) (hX : Path h mk l (sh :: X')) (htC : t ∉ C') (htX : t ∉ sh :: X')
    (hslot : l < nextLen h t) :
    Path (setNext h t l (sh, mk t)) mk l (C' ++ t :: sh :: X') := by
  have hsame : ∀ a, a ≠ t → getNext (setNext h t l (sh, mk t)) a l = getNext h a l :=
    fun a ha => getNext_setNext_ne (Or.inl (Ne.symm ha))
  rw [path_append_cons]
  refine ⟨?_, ?_⟩
  · rw [path_congr_snoc C' t (mk := mk)]
    · exact hC
    · intro a ha; exact ⟨hsame a (fun e => htC (e ▸ ha)), rfl⟩
  · simp only [path_cons_cons]
    refine ⟨getNext_setNext_same hslot, ?_⟩
    rw [path_congr (sh :: X') (mk := mk)]
    · exact hX
    · intro a ha; exact ⟨hsame a (fun e => htX (e ▸ ha)), rfl⟩

theorem path_link {h : Heap} {mk : Nat → Bool} {l p c x : Nat} (X Y : List Nat)
    (hp : Path h mk l (X ++ p :: c :: Y))
    (hpX : p ∉ X) (hpY : p ∉ c :: Y) (hxp : x ≠ p)
    (hx : getNext h x l = (c, mk x)) (hslot : l < nextLen h p) :
    Path (setNext h p l (x, mk p)) mk l (X ++ p :: x :: c :: Y) := by
  have hp' := (path_append_cons X p (c :: Y)).mp hp
  exact path_join X p x (c :: Y) hp'.1 ⟨hx, path_tail hp'.2⟩ hpX
    (fun hm => (List.mem_cons.mp hm).elim (fun e => hxp e.symm) hpY) hslot

theorem path_unlink {h : Heap} {mk : Nat → Bool} {l p d n : Nat} (X Y : List Nat)
    (hp : Path h mk l (X ++ p :: d :: n :: Y))
    (hpX : p ∉ X) (hpY : p ∉ n :: Y) (hslot : l < nextLen h p) :
    Path (setNext h p l (n, mk p)) mk l (X ++ p :: n :: Y) := by
  have hp' := (path_append_cons X p (d :: n :: Y)).mp hp
  exact path_join X p n Y hp'.1 (path_tail (path_tail hp'.2)) hpX hpY hslot

theorem path_frame {h : Heap} {mk : Nat → Bool} {l n m : Nat} {v : Nat × Bool} (xs : List Nat)
    (hfr : m ≠ l ∨ n ∉ xs) : Path (setNext h n m v) mk l xs ↔ Path h mk l xs := by
  apply path_congr
  intro a ha
  refine ⟨?_, rfl⟩
  apply getNext_setNext_ne
  rcases hfr with h1 | h1
  · right; exact h1
  · left; intro e; exact h1 (e ▸ ha)

def nomk : Nat → Bool := fun _ => false

def lvlGe (h : Heap) (l n : Nat) : Bool := decide (l ≤ levelOf h n)

/-- the nodes of `L` whose height reaches level `l` -/
def LL (h : Heap) (L : List Nat) (l : Nat) : List Nat := L.filter (lvlGe h l)

theorem LL_append (h : Heap) (A B : List Nat) (l : Nat) : LL h (A ++ B) l = LL h A l ++ LL h B l := by
  simp [LL]

theorem LL_cons (h : Heap) (a : Nat) (B : List Nat) (l : Nat) :
    LL h (a :: B) l = if l ≤ levelOf h a then a :: LL h B l else LL h B l := by
  simp [LL, List.filter_cons, lvlGe]

theorem mem_LL {h : Heap} {L : List Nat} {l n : Nat} : n ∈ LL h L l ↔ n ∈ L ∧ l ≤ levelOf h n := by
  simp [LL, lvlGe]

theorem mem_level {h : Heap} {L : List Nat} {l a : Nat} (ha : 3 ≤ a) :
    a ∈ headId :: LL h L l ++ [tailId] ↔ a ∈ L ∧ l ≤ levelOf h a := by
  rw [List.cons_append, List.mem_cons, List.mem_append, List.mem_singleton, mem_LL]
  exact ⟨fun h1 => h1.elim (fun e => absurd e (ne_of_three_le ha (by decide)))
    (fun h2 => h2.elim id (fun e => absurd e (ne_of_three_le ha (by decide)))), fun h1 => Or.inr (Or.inl h1)⟩

theorem LL_zero (h : Heap) (L : List Nat) : LL h L 0 = L := by
  simp [LL, lvlGe]

theorem LL_congr {h h' : Heap} {L : List Nat} (l : Nat) (hl : ∀ n ∈ L, levelOf h' n = levelOf h n) :
    LL h' L l = LL h L l := by
  unfold LL
  apply List.filter_congr
  intro n hn; simp [lvlGe, hl n hn]

theorem LL_eq_nil {h : Heap} {L : List Nat} {l : Nat} (hl : ∀ n ∈ L, levelOf h n < l) : LL h L l = [] := by
  simp only [LL, List.filter_eq_nil_iff, lvlGe, decide_eq_true_eq]
  intro n hn; exact Nat.not_le.mpr (hl n hn)

/-- last node before the search key on level `l` (`head` if none) -/
def predAt (h : Heap) (A : List Nat) (l : Nat) : Nat := ((LL h A l).getLast?).getD headId

/-- first node at or after the search key on level `l` (`tail` if none) -/
def succAt (h : Heap) (B : List Nat) (l : Nat) : Nat := ((LL h B l).head?).getD tailId

theorem predAt_mem (h : Heap) (A : List Nat) (l : Nat) :
    predAt h A l = headId ∨ (predAt h A l ∈ A ∧ l ≤ levelOf h (predAt h A l)) := by
  unfold predAt
  cases hl : (LL h A l).getLast? with
  | none => left; rfl
  | some p =>
    right
    have : p ∈ LL h A l := List.mem_of_getLast? hl
    simpa using mem_LL.mp this

theorem succAt_mem (h : Heap) (B : List Nat) (l : Nat) :
    succAt h B l = tailId ∨ (succAt h B l ∈ B ∧ l ≤ levelOf h (succAt h B l)) := by
  unfold succAt
  cases hl : (LL h B l).head? with
  | none => left; rfl
  | some p =>
    right
    have : p ∈ LL h B l := List.mem_of_head? hl
    simpa using mem_LL.mp this

theorem predAt_mem_cons (h : Heap) (A : List Nat) (l : Nat) : predAt h A l ∈ headId :: A := by
  rcases predAt_mem h A l with h1 | ⟨h1, _⟩
  · rw [h1]; exact List.mem_cons_self
  · exact List.mem_cons_of_mem _ h1

theorem SameShape.LL_eq {h0 h : Heap} (sh : SameShape h0 h) : LL h = LL h0 := by
  funext L l; exact LL_congr l (fun n _ => sh.lvl n)

theorem SameShape.predAt_eq {h0 h : Heap} (sh : SameShape h0 h) : predAt h = predAt h0 := by
  funext A l; unfold predAt; rw [sh.LL_eq]

theorem SameShape.succAt_eq {h0 h : Heap} (sh : SameShape h0 h) : succAt h = succAt h0 := by
  funext B l; unfold succAt; rw [sh.LL_eq]

theorem first_split (Y : List Nat) : ∃ R, Y ++ [tailId] = (Y.head?).getD tailId :: R := by
  cases Y with
  | nil => exact ⟨[], rfl⟩
  | cons c R => exact ⟨R ++ [tailId], rfl⟩

theorem succ_split (h : Heap) (B : List Nat) (l : Nat) :
    ∃ R, LL h B l ++ [tailId] = succAt h B l :: R :=
  first_split (LL h B l)

theorem last_split (X0 : List Nat) :
    ∃ X, headId :: X0 = X ++ [(X0.getLast?).getD headId] := by
  cases hA : X0.getLast? with
  | none =>
    have : X0 = [] := List.getLast?_eq_none_iff.mp hA
    exact ⟨[], by simp [this]⟩
  | some p =>
    rcases List.getLast?_eq_some_iff.mp hA with ⟨ys, hys⟩
    exact ⟨headId :: ys, by simp [hys]⟩

theorem LL_mid (h : Heap) (A B : List Nat) (z l : Nat) :
    LL h (A ++ z :: B) l = if l ≤ levelOf h z then LL h A l ++ z :: LL h B l else LL h (A ++ B) l := by
  rw [LL_append, LL_cons, LL_append]; split <;> rfl

/-- with `j` above the height of `z` every level that `z` reaches is `< j` -/
theorem LL_if_full {h : Heap} {A B : List Nat} {z j : Nat} (hj : levelOf h z < j) (l : Nat) :
    LL h (if l < j then A ++ z :: B else A ++ B) l = LL h (A ++ z :: B) l := by
  split
  · rfl
  · rename_i h1
    rw [LL_mid, if_neg (fun h2 : l ≤ levelOf h z => h1 (Nat.lt_of_le_of_lt h2 hj))]

theorem succAt_zero (h : Heap) (B : List Nat) : succAt h B 0 = (B.head?).getD tailId := by
  unfold succAt; rw [LL_zero]

theorem path_reflag {h h' : Heap} {mk mk' : Nat → Bool} {l : Nat} (xs : List Nat)
    (hx : ∀ a ∈ xs, getNext h' a l = ((getNext h a l).1, mk' a)) (hp : Path h mk l xs) :
    Path h' mk' l xs := by
  induction xs with
  | nil => simp
  | cons a r ih =>
    cases r with
    | nil => simp
    | cons b r' =>
      have ha := hx a (by simp)
      simp only [path_cons_cons] at hp ⊢
      refine ⟨?_, ih (fun c hc => hx c (List.mem_cons_of_mem _ hc)) hp.2⟩
      rw [ha, hp.1]

/-- descending one level: the search resumes at `predAt (l+1)`, which lies on level `l`, and the
    stretch `P` from there to the level-`l` predecessor consists of nodes of `A` -/
theorem pred_descend {h : Heap} {mk : Nat → Bool} {l c : Nat} (A R : List Nat)
    (hp : Path h mk l (headId :: LL h A l ++ c :: R)) :
    ∃ P, Path h mk l (predAt h A (l + 1) :: P ++ [c]) ∧ (∀ p ∈ P, p ∈ A ∧ l ≤ levelOf h p) ∧
      (P.getLast?).getD (predAt h A (l + 1)) = predAt h A l ∧ P.length ≤ A.length := by
  have hlen : (LL h A l).length ≤ A.length := List.length_filter_le _ _
  cases hl : (LL h A (l + 1)).getLast? with
  | none =>
    refine ⟨LL h A l, ?_, ?_, ?_, hlen⟩
    · have : predAt h A (l + 1) = headId := by simp [predAt, hl]
      rw [this]
      have := (path_append_cons (headId :: LL h A l) c R).mp (by simpa using hp)
      simpa using this.1
    · intro p hp'; exact mem_LL.mp hp'
    · simp [predAt, hl]
  | some p =>
    have hpm : p ∈ LL h A (l + 1) := List.mem_of_getLast? hl
    have hpm' : p ∈ LL h A l := by
      rcases mem_LL.mp hpm with ⟨h1, h2⟩
      exact mem_LL.mpr ⟨h1, Nat.le_of_succ_le h2⟩
    rcases List.append_of_mem hpm' with ⟨X, P, hXP⟩
    have hlenP : P.length ≤ A.length := by
      have : (LL h A l).length = X.length + (P.length + 1) := by rw [hXP]; simp
      omega
    refine ⟨P, ?_, ?_, ?_, hlenP⟩
    · have hpe : predAt h A (l + 1) = p := by simp [predAt, hl]
      rw [hpe]
      rw [hXP] at hp
      have h1 := (path_append_cons (headId :: X) p (P ++ c :: R)).mp (by simpa using hp)
      have h2 := (path_append_cons (p :: P) c R).mp (by simpa using h1.2)
      simpa using h2.1
    · intro q hq
      have : q ∈ LL h A l := by rw [hXP]; simp [hq]
      exact mem_LL.mp this
    · have hpe : predAt h A (l + 1) = p := by simp [predAt, hl]
      rw [hpe]
      unfold predAt
      rw [hXP]
      rw [List.getLast?_append, List.getLast?_cons, ← List.getLast?_cons (a := p)]
      simp [getLast?_cons_getD]

end NitroVerif.SkipSeq
