/-
  What the specification answers in a state related by `Abs`, and the replay of the losers' linearization
  points; unlinking a dead node leaves the specification's alive set alone.
-/
import NitroVerif.Lemmas.MvccConcLinPhase
import NitroVerif.Lemmas.MvccConcInv
import NitroVerif.Lemmas.MvccSimStore

namespace NitroVerif.MvccConc
open NitroVerif.SetSpec (findKey)
open NitroVerif.Mvcc (Sorted Chains isAlive)

theorem lookupN_val {store : List Node} {cur : Nat} (hs : Sorted (vers store)) (hc : Chains cur (vers store))
    (k v : Nat) : (lookupN store ⟨k, v, cur, 0⟩).map (·.ver) = Mvcc.aliveOf (vers store) k := by
  rw [lookupN_map, Mvcc.lookup_eq_aliveOf hs hc]

theorem findKey_lookup {σ : State} {sp : SetSpec.State} (hi : Inv σ) (habs : Abs σ sp) (k v : Nat) :
    findKey k sp.alive = (lookupN σ.store ⟨k, v, σ.currSn, 0⟩).map (fun x => Mvcc.entryOf x.ver) := by
  rw [habs.alive, Mvcc.findKey_abs, ← lookupN_val hi.store.sorted hi.store.chains k v, Option.map_map]
  rfl

theorem spec_snap {σ : State} {sp : SetSpec.State} (hi : Inv σ) (habs : Abs σ sp) :
    (SetSpec.step sp .snap).2 = .snap σ.currSn (σ.itemsCount + (σ.writers.map (·.count)).sum) := by
  have hcount : ((sp.alive.map (fun e => (e.key, e.val))).length : Int) =
      σ.itemsCount + (σ.writers.map (·.count)).sum := by
    rw [List.length_map, habs.alive, Mvcc.absAlive_length]
    exact hi.store.cnt.symm
  rw [← hcount, ← habs.epoch]; rfl

theorem spec_get {σ : State} {sp : SetSpec.State} (hi : Inv σ) (habs : Abs σ sp) {t : Nat}
    (ht : t < σ.writers.length) (k : Nat) :
    SetSpec.step sp (.get t k) = (sp, .val ((lookupN σ.store (probe σ k 0)).map (·.ver.val))) := by
  rw [setSpec_get, if_pos (habs.nw ▸ ht), findKey_lookup hi habs k 0, Option.map_map]
  rfl

theorem spec_del_none {σ : State} {sp : SetSpec.State} (hi : Inv σ) (habs : Abs σ sp) {t : Nat}
    (ht : t < σ.writers.length) {k : Nat} (hl : lookupN σ.store (probe σ k 0) = none) :
    SetSpec.step sp (.del t k) = (sp, .bool false) := by
  rw [setSpec_del, if_pos (habs.nw ▸ ht), findKey_lookup hi habs k 0, show lookupN σ.store ⟨k, 0, σ.currSn, 0⟩ = none from hl]
  rfl

theorem spec_del_some {σ : State} {sp : SetSpec.State} (hi : Inv σ) (habs : Abs σ sp) {t : Nat}
    (ht : t < σ.writers.length) {x : Node} (hx : x ∈ σ.store) (hd : x.ver.dead = 0) :
    SetSpec.step sp (.del t x.ver.key) = (SetSpec.delEntry sp (Mvcc.entryOf x.ver), .bool true) := by
  rw [setSpec_del, if_pos (habs.nw ▸ ht), habs.alive, Mvcc.findKey_abs,
    Mvcc.aliveOf_eq_some hi.store.sorted hi.store.chains (List.mem_map.mpr ⟨x, hx, rfl⟩) rfl hd]
  rfl

theorem spec_put_some {σ : State} {sp : SetSpec.State} (hi : Inv σ) (habs : Abs σ sp) {t : Nat}
    (ht : t < σ.writers.length) {k v : Nat} {y : Node} (hl : lookupN σ.store ⟨k, v, σ.currSn, 0⟩ = some y) :
    SetSpec.step sp (.put t k v) = (sp, .bool false) := by
  rw [setSpec_put, if_pos (habs.nw ▸ ht), findKey_lookup hi habs k v, hl]
  rfl

theorem spec_put_none {σ : State} {sp : SetSpec.State} (hi : Inv σ) (habs : Abs σ sp) {t : Nat}
    (ht : t < σ.writers.length) {k v : Nat} (hl : lookupN σ.store ⟨k, v, σ.currSn, 0⟩ = none) :
    SetSpec.step sp (.put t k v) = ({ sp with alive := SetSpec.ins ⟨k, v, σ.currSn⟩ sp.alive }, .bool true) := by
  rw [setSpec_put, if_pos (habs.nw ▸ ht), findKey_lookup hi habs k v, hl, habs.epoch]
  rfl

theorem replay_failed_dels (k : Nat) (l : List Ev) (sp : SetSpec.State)
    (hl : ∀ e ∈ l, ∃ t', e = .lin t' (.del t' k) (.bool false) ∧ t' < sp.nwriters)
    (hk : findKey k sp.alive = none) : replay sp l = some sp := by
  induction l with
  | nil => rfl
  | cons e es ih =>
    obtain ⟨t', rfl, ht'⟩ := hl e (List.mem_cons_self)
    have hstep : SetSpec.step sp (.del t' k) = (sp, .bool false) := by rw [setSpec_del, if_pos ht', hk]
    rw [replay_cons_some es (specStep_lin t' rfl hstep)]
    exact ih (fun e he => hl e (List.mem_cons_of_mem _ he))

theorem replay_losers {σ : State} {sp' : SetSpec.State} (hi : Inv σ) {t n : Nat} {x : Node} (hx : x ∈ σ.store)
    (hid : x.id = n) (hnw : sp'.nwriters = σ.writers.length)
    (hk : findKey x.ver.key sp'.alive = none) : replay sp' (losers σ t n) = some sp' := by
  apply replay_failed_dels x.ver.key _ _ _ hk
  intro e he
  obtain ⟨t', tok, k', _, rfl, hg⟩ := mem_losers he
  rcases hg with hg | hg
  · have := hi.pc.at hg
    exact ⟨t', by rw [(this.2.2.2 x hx hid).1], hnw ▸ this.1⟩
  · have := hi.pc.at hg
    exact ⟨t', by rw [(this.2.2.2.1 x hx hid).1], hnw ▸ this.1⟩

theorem absAlive_removeNode_dead {s : List Node} (hs : Sorted (vers s)) (hn : (storeIds s).Nodup) {n : Nat}
    {x : Node} (hf : findNode s n = some x) (hd : x.ver.dead ≠ 0) :
    Mvcc.absAlive (vers (removeNode s n)) = Mvcc.absAlive (vers s) := by
  obtain ⟨l, r, e1, e2⟩ := Mvcc.removeId_split hs (List.mem_map.mpr ⟨x, (findNode_some hf).1, rfl⟩)
  have ha : ¬ isAlive x.ver = true := fun ha => hd (beq_iff_eq.mp ha)
  rw [vers_removeNode hs hn hf, e2, e1, Mvcc.absAlive_append, Mvcc.absAlive_append]
  congr 1
  unfold Mvcc.absAlive
  rw [List.filter_cons_of_neg ha]

end NitroVerif.MvccConc
