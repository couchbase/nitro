import NitroVerif.Lemmas.SkipConcSys
import NitroVerif.Lemmas.SkipConcCore
/-!
  Refinement lemma: every segment of every thread of the full model is a transition of the level-0 core
  (`HStep`), and the event it produces is tied to the yield point the thread was parked at (`EvPC`):
  a publish happens only at INS_PUBLISH, a level-0 mark only at SOFT_MARK of level 0, an unlink only at
  HELP_DELETE.  With it the chain invariant `ReachInv` holds along every run.
-/
namespace NitroVerif.SkipConc

def EvPC (th : Thread) : Event → Prop
  | .none => True
  | .upper => True
  | .unlink c => (∃ fp next, th.pc = .helpDelete fp next ∧ fp.i = 0 ∧ fp.curr = c) ∨
                 (∃ it next, th.pc = .iterHelp it next ∧ (th.iter it).curr = c)
  | .mark n => ∃ item next marked, th.pc = .softMark item n 0 next marked
  | .publish _ k => ∃ lvl, th.pc = .insPublish k lvl

theorem publish_hstep {h : Heap} {th : Thread} {item lvl : Nat} (hp : PCInv h th (.insPublish item lvl))
    (hw : word? h (th.pred 0) 0 = some (th.succ 0, false)) :
    HStep h (.publish h.length item) (setWord h (th.pred 0) 0 (h.length, false) ++ [newNode th item lvl]) :=
  .publish item (newNode th item lvl) hw (newNode_next0 ..) rfl hp.1 hp.2.1

theorem Wr.hstep {h h' : Heap} {th : Thread} (w : Wr h th th.pc h') (hp : PCInv h th th.pc) :
    ∃ ev, HStep h ev h' ∧ EvPC th ev := by
  generalize hpc : th.pc = pc at w hp
  cases w with
  | none => exact ⟨.none, .none, trivial⟩
  | @unlink fp next hw =>
    cases hi : fp.i with
    | zero => rw [hi] at hw; exact ⟨_, .unlink hw (hi ▸ hp.2), .inl ⟨fp, next, hpc, hi, rfl⟩⟩
    | succ i => rw [hi] at hw; exact ⟨.upper, .upper _ (Nat.succ_pos i) hw, trivial⟩
  | @iterUnlink it next hw => exact ⟨_, .unlink hw hp.1, .inr ⟨it, next, hpc, rfl⟩⟩
  | @publish item lvl hw =>
    exact ⟨_, publish_hstep hp hw, lvl, hpc⟩
  | own hw | link hw => exact ⟨.upper, .upper _ hp.2.2.1 hw, trivial⟩
  | @mark item n i next marked hw =>
    cases i with
    | zero => exact ⟨.mark n, .mark hw, item, next, marked, hpc⟩
    | succ i => exact ⟨.upper, .upper _ (Nat.succ_pos i) hw, trivial⟩

theorem stepThread_hstep {sh : Shared} {th : Thread} (hT : TInv sh.heap th) :
    ∃ ev, HStep sh.heap ev (stepThread sh th).1.heap ∧ EvPC th ev :=
  (stepThread_seg sh th).wr.hstep hT.pc

/-- `Inv` plus the chain invariant of the level-0 core -/
def InvR (s : Sys) : Prop := Inv s ∧ ReachInv s.sh.heap

theorem InvR.inv {s : Sys} (hI : InvR s) : Inv s := hI.1
theorem InvR.heap {s : Sys} (hI : InvR s) : HInv s.sh.heap := hI.1.heap
theorem InvR.reach {s : Sys} (hI : InvR s) : ReachInv s.sh.heap := hI.2

theorem ReachInv_init : ReachInv initHeap := by
  have h01 : Reach initHeap 0 1 := .single (m := false) (by rw [word?_init_head]; simp [tailId, Gen.maxLevel])
  refine ⟨h01, fun n hn => ?_⟩
  obtain ⟨p, hp⟩ := hn
  obtain ⟨rfl, _⟩ := word?_init hp
  exact .refl _

theorem InvR_init (n : Nat) : InvR (Sys.init n) := ⟨Inv_init n, ReachInv_init⟩

theorem Move.hstep {sh : Shared} {th : Thread} {r : Res} (m : Move sh th r) (hT : TInv sh.heap th) :
    ∃ ev, HStep sh.heap ev r.1.heap := by
  cases m with
  | seg _ => obtain ⟨ev, h, _⟩ := stepThread_hstep hT; exact ⟨ev, h⟩
  | entry op _ => exact ⟨.none, by rw [startOp_heap]; exact .none⟩

theorem InvR.moved {s : Sys} {t : Nat} {th : Thread} {r : Res} (hI : InvR s) (hth : s.threads[t]? = some th)
    (m : Move s.sh th r) : InvR (s.moved t r) := by
  obtain ⟨ev, hs⟩ := m.hstep (hI.inv.thread hth)
  exact ⟨(hI.inv.moved hth m).1, hs.reachInv hI.heap hI.reach⟩

theorem run_invR {s : Sys} (hI : InvR s) (as : List Action) : InvR (s.run as) :=
  run_of_act (act_of_move InvR.moved) hI as

theorem sys_step_class {s : Sys} (hI : InvR s) (t : Nat) :
    UnmSame s.sh.heap (s.step t).1.sh.heap ∨
    (∃ th k lvl, s.threads[t]? = some th ∧ th.pc = .insPublish k lvl ∧ PublishEff s.sh.heap (s.step t).1.sh.heap k) ∨
    (∃ th item nd next marked, s.threads[t]? = some th ∧ th.pc = .softMark item nd 0 next marked ∧
      MarkEff s.sh.heap (s.step t).1.sh.heap nd) := by
  rcases Sys.step_cases s t with h | ⟨th, hth, _, h⟩
  · rw [h]; exact .inl (UnmSame.refl _)
  obtain ⟨ev, hs, hev⟩ := stepThread_hstep (sh := s.sh) (hI.1.thread hth)
  rw [h]
  cases ev with
  | none => exact .inl (hs.frame (.inl rfl))
  | upper => exact .inl (hs.frame (.inr (.inl rfl)))
  | unlink c => exact .inl (hs.frame (.inr (.inr ⟨c, rfl⟩)))
  | mark nd =>
    obtain ⟨item, next, marked, hpc⟩ := hev
    exact .inr (.inr ⟨th, item, nd, next, marked, hth, hpc, hs.mark_spec⟩)
  | publish x k =>
    obtain ⟨lvl, hpc⟩ := hev
    obtain ⟨rfl, h2, h3, h4, h5, h6⟩ := hs.publish_spec hI.heap hI.reach
    exact .inr (.inl ⟨th, k, lvl, hth, hpc, h2, h3, h4, h5, h6⟩)

end NitroVerif.SkipConc
