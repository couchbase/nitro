import Lean.Meta.Tactic.Simp.RegisterCommand

/-- how the primitive state transformers of `Model/MvccConc.lean` act on the fields of the state -/
register_simp_attr mvcc_fields
