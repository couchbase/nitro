/-
  Facts about the specification itself: what a step may do to the snapshot list and to the
  iterators it does not name (so snapshot contents never change), refresh rates and explicit
  `Refresh` calls are not observable.
-/
import NitroVerif.Lemmas.MvccGen
import NitroVerif.Lemmas.MvccAList
import NitroVerif.Lemmas.KeyedList

namespace NitroVerif.Mvcc
open SetSpec

def namesIter (i : Nat) : Op → Bool
  | .itNew j _ => j == i
  | .itRate j _ => j == i
  | .itFirst j => j == i
  | .itSeek j _ => j == i
  | .itNext j => j == i
  | .itRefresh j => j == i
  | .itClose j => j == i
  | _ => false

structure SpecFrame (op : Op) (st st' : SetSpec.State) : Prop where
  snaps : st'.snaps = st.snaps ∨
    (∃ s f, (∀ y, (f y).sn = y.sn ∧ (f y).content = y.content) ∧ st'.snaps = SetSpec.updSnap s f st.snaps) ∨
    ∃ x, st'.snaps = st.snaps ++ [x]
  iters : ∀ i, namesIter i op = false → alookup i st'.iters = alookup i st.iters

theorem SpecFrame.same {op : Op} {st st' : SetSpec.State} (hs : st'.snaps = st.snaps)
    (hi : st'.iters = st.iters) : SpecFrame op st st' :=
  ⟨Or.inl hs, fun _ _ => congrArg _ hi⟩

theorem SpecFrame.rc {op : Op} {st st' : SetSpec.State} {s : Nat} {d : Int}
    (hs : st'.snaps = SetSpec.updSnap s (fun y => { y with rc := y.rc + d }) st.snaps)
    (hi : ∀ i, namesIter i op = false → alookup i st'.iters = alookup i st.iters) : SpecFrame op st st' :=
  ⟨Or.inr (Or.inl ⟨s, fun y => { y with rc := y.rc + d }, fun _ => ⟨rfl, rfl⟩, hs⟩), hi⟩

theorem spec_step_frame (st : SetSpec.State) (op : Op) : SpecFrame op st (SetSpec.step st op).1 := by
  cases op with
  | put w k v => rw [SetSpec.step]; (repeat' split) <;> exact .same rfl rfl
  | del w k => rw [SetSpec.step]; (repeat' split) <;> exact .same rfl rfl
  | get w k => rw [SetSpec.step]; split <;> exact .same rfl rfl
  | getnode w k h => rw [SetSpec.step]; (repeat' split) <;> exact .same rfl rfl
  | delnode w h => rw [SetSpec.step]; (repeat' split) <;> exact .same rfl rfl
  | snap => exact ⟨Or.inr (Or.inr ⟨_, rfl⟩), fun _ _ => rfl⟩
  | «open» s =>
    rw [SetSpec.step]; split
    · split
      · exact .same rfl rfl
      · exact .rc (d := 1) rfl fun _ _ => rfl
    · exact .same rfl rfl
  | close s =>
    rw [SetSpec.step]; split
    · split
      · exact .rc (d := -1) rfl fun _ _ => rfl
      · exact .same rfl rfl
    · exact .same rfl rfl
  | count s => rw [SetSpec.step]; split <;> exact .same rfl rfl
  | items => exact .same rfl rfl
  | scan s r => rw [SetSpec.step]; (repeat' split) <;> exact .same rfl rfl
  | visit s p r fl => rw [SetSpec.step]; (repeat' split) <;> exact .same rfl rfl
  | itNew j s =>
    rw [SetSpec.step]; split
    · split
      · exact .same rfl rfl
      · exact .rc (d := 1) rfl fun i hn => alookup_aset_ne (ne_of_beq_false hn) _ _
    · exact .same rfl rfl
  | itRate j r => rw [SetSpec.step]; split <;> exact .same rfl rfl
  | itFirst j =>
    rw [SetSpec.step]; split
    · exact ⟨Or.inl rfl, fun i hn => alookup_aset_ne (ne_of_beq_false hn) _ _⟩
    · exact .same rfl rfl
  | itSeek j k =>
    rw [SetSpec.step]; split
    · exact ⟨Or.inl rfl, fun i hn => alookup_aset_ne (ne_of_beq_false hn) _ _⟩
    · exact .same rfl rfl
  | itNext j =>
    rw [SetSpec.step]; split
    · split
      · exact ⟨Or.inl rfl, fun i hn => alookup_aset_ne (ne_of_beq_false hn) _ _⟩
      · exact .same rfl rfl
    · exact .same rfl rfl
  | itRefresh j => rw [SetSpec.step]; split <;> exact .same rfl rfl
  | itClose j =>
    rw [SetSpec.step]; split
    · exact .rc (d := -1) rfl fun i hn => alookup_aerase_ne (ne_of_beq_false hn) _
    · exact .same rfl rfl

theorem spec_content_stable (st : SetSpec.State) (op : Op) {x : SetSpec.Snap} (hx : x ∈ st.snaps) :
    ∃ x' ∈ (SetSpec.step st op).1.snaps, x'.sn = x.sn ∧ x'.content = x.content := by
  rcases (spec_step_frame st op).snaps with h | ⟨s, f, hf, h⟩ | ⟨y, h⟩ <;> rw [h]
  · exact ⟨x, hx, rfl, rfl⟩
  · refine ⟨if x.sn = s then f x else x, List.mem_map.mpr ⟨x, hx, rfl⟩, ?_⟩
    split
    · exact hf x
    · exact ⟨rfl, rfl⟩
  · exact ⟨x, List.mem_append_left _ hx, rfl, rfl⟩

theorem spec_findSnap_updSnap (s s' : Nat) (f : SetSpec.Snap → SetSpec.Snap) (hf : ∀ y, (f y).sn = y.sn)
    (l : List SetSpec.Snap) : SetSpec.findSnap s (SetSpec.updSnap s' f l) =
      (SetSpec.findSnap s l).map (fun x => if x.sn = s' then f x else x) :=
  find?_key_map_upd f hf s _ l

theorem spec_findSnap_stable (st : SetSpec.State) (op : Op) {s : Nat} {x : SetSpec.Snap}
    (hx : SetSpec.findSnap s st.snaps = some x) :
    ∃ x', SetSpec.findSnap s (SetSpec.step st op).1.snaps = some x' ∧ x'.content = x.content := by
  rcases (spec_step_frame st op).snaps with h | ⟨s', f, hf, h⟩ | ⟨y, h⟩ <;> rw [h]
  · exact ⟨x, hx, rfl⟩
  · rw [spec_findSnap_updSnap s s' f (fun y => (hf y).1), hx]
    refine ⟨_, rfl, ?_⟩
    show (if x.sn = s' then f x else x).content = x.content
    split
    · exact (hf x).2
    · rfl
  · refine ⟨x, ?_, rfl⟩
    unfold SetSpec.findSnap at hx ⊢
    rw [List.find?_append, hx]; rfl

theorem contentOf_eq {st : SetSpec.State} {s : Nat} {x : SetSpec.Snap} (h : SetSpec.findSnap s st.snaps = some x) :
    contentOf st s = x.content := by
  unfold contentOf; rw [h]

def rerate (f : Int → Int) : Op → Op
  | .scan s r => .scan s (f r)
  | .itRate i r => .itRate i (f r)
  | .visit s p r fl => .visit s p (f r) fl
  | op => op

theorem spec_step_rerate (f : Int → Int) (st : SetSpec.State) (op : Op) :
    SetSpec.step st (rerate f op) = SetSpec.step st op := by
  cases op <;> rfl

theorem spec_run_rerate (f : Int → Int) (ops : List Op) (st : SetSpec.State) :
    SetSpec.run st (ops.map (rerate f)) = SetSpec.run st ops := by
  induction ops generalizing st with
  | nil => rfl
  | cons op ops ih => rw [List.map_cons, SetSpec.run, SetSpec.run, spec_step_rerate, ih]

def isRefresh : Op → Bool
  | .itRefresh _ => true
  | _ => false

def dropRefreshOut : List Op → List Out → List Out
  | op :: ops, o :: os => if isRefresh op then dropRefreshOut ops os else o :: dropRefreshOut ops os
  | _, _ => []

theorem spec_refresh_state (st : SetSpec.State) (i : Nat) : (SetSpec.step st (.itRefresh i)).1 = st := by
  rw [SetSpec.step]; split <;> rfl

theorem spec_run_dropRefresh (ops : List Op) (st : SetSpec.State) :
    SetSpec.run st (ops.filter (fun op => !isRefresh op)) = dropRefreshOut ops (SetSpec.run st ops) := by
  induction ops generalizing st with
  | nil => rfl
  | cons op ops ih =>
    rw [List.filter_cons, SetSpec.run, dropRefreshOut]
    cases hop : isRefresh op
    · exact congrArg _ (ih _)
    · cases op <;> try cases hop
      rw [spec_refresh_state]; exact ih st

end NitroVerif.Mvcc
