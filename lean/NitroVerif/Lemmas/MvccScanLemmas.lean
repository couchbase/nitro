/-
  Full scans and Visitor shards: the fuelled loops deliver exactly the visible versions of their
  key range; the shards of a Visitor partition the visible versions.
-/
import NitroVerif.Lemmas.MvccIterLemmas

namespace NitroVerif.Mvcc

def inRange (e : Option Nat) (v : Ver) : Bool :=
  match e with
  | some ek => !decide (ek ≤ v.key)
  | none => true

/-- what a shard loop does on the list of visible versions from its start position on -/
def shardSpec (e fail : Option Nat) : List Ver → List Ver × Bool
  | [] => ([], false)
  | v :: r =>
    if inRange e v then
      if fail = some v.key then ([], true)
      else (v :: (shardSpec e fail r).1, (shardSpec e fail r).2)
    else ([], false)

theorem endReached_eq (v : Ver) (endItem : Option Ver) :
    endReached endItem v = !inRange (endItem.map (·.key)) v := by
  cases endItem with
  | none => rfl
  | some e =>
    simp only [endReached, Option.map, inRange, visitorEndCmp_eq, cmpOf, Bool.not_not]
    have h1 := visitorEndStop_iff (iterCmp v e)
    have h2 := iterCmp_nonneg v e
    rw [Bool.eq_iff_iff]; simp only [decide_eq_true_eq]; exact h1.trans h2

theorem shardLoop_eq {cur : Nat} {s : List Ver} (hs : Sorted s) (hc : Chains cur s)
    (endItem : Option Ver) (fail : Option Nat) (fuel : Nat) (it : Iter) (pre rest : List Ver)
    (hv : vis s it.sn = pre ++ rest) (hcur : it.cur = rest.head?) (hf : rest.length < fuel) :
    shardLoop s endItem fail fuel it = shardSpec (endItem.map (·.key)) fail rest := by
  induction fuel generalizing it pre rest with
  | zero => exact absurd hf (Nat.not_lt_zero _)
  | succ fuel ih =>
    unfold shardLoop
    cases rest with
    | nil => rw [hcur]; rfl
    | cons v rest' =>
      have hcur : it.cur = some v := hcur
      rw [hcur]
      dsimp only
      rw [endReached_eq]
      unfold shardSpec
      cases hr : inRange (endItem.map (·.key)) v
      · rfl
      · rw [if_neg (by decide), if_pos rfl]
        by_cases hfl : fail = some v.key
        · rw [if_pos hfl, if_pos hfl]
        · rw [if_neg hfl, if_neg hfl]
          have hvm : v ∈ vis s it.sn := by rw [hv]; exact List.mem_append_right _ (List.mem_cons_self ..)
          have hn := next_cur hs hc hcur hvm rfl
          have hks := vis_keySorted hs hc it.sn
          rw [hv] at hn hks
          rw [find_gt_split hks] at hn
          rw [ih (it.next s) (pre ++ [v]) rest' (by rw [next_sn, hv, List.append_assoc]; rfl) hn
            (Nat.lt_of_succ_lt_succ hf)]

theorem scanLoop_eq_shard (s : List Ver) : ∀ (fuel : Nat) (it : Iter),
    scanLoop s fuel it = (shardLoop s none none fuel it).1
  | 0, _ => rfl
  | fuel + 1, it => by
    unfold scanLoop shardLoop
    cases it.cur with
    | none => rfl
    | some v => simp [scanLoop_eq_shard s fuel, endReached]

theorem keysplit {l : List Ver} (hl : l.Pairwise KeyLt) (k : Nat) :
    l.takeWhile (fun x => decide (x.key < k)) ++ l.filter (fun x => decide (k ≤ x.key)) = l := by
  have h := dropWhile_eq_filter KeyLt (fun x => decide (x.key < k)) l hl (by
    intro a b hab ha
    rw [decide_eq_false_iff_not, Nat.not_lt] at ha ⊢
    exact Nat.le_trans ha (Nat.le_of_lt hab))
  have h2 : l.filter (fun x => decide (k ≤ x.key)) = l.filter (fun x => !decide (x.key < k)) :=
    List.filter_congr fun x _ => (decide_eq_decide.mpr Nat.not_lt.symm).trans decide_not
  rw [h2, ← h]; exact List.takeWhile_append_dropWhile

def fromStart (start : Option Ver) (l : List Ver) : List Ver :=
  match start with
  | none => l
  | some p => l.filter (fun x => decide (p.key ≤ x.key))

theorem runShard_eq {cur : Nat} {s : List Ver} (hs : Sorted s) (hc : Chains cur s) (sn : Nat) (rate : Int)
    (fail : Option Nat) (start endItem : Option Ver) :
    runShard s sn rate fail start endItem =
      shardSpec (endItem.map (·.key)) fail (fromStart start (vis s sn)) := by
  unfold runShard
  have hks := vis_keySorted hs hc sn
  cases start with
  | none =>
    simp only [fromStart]
    exact shardLoop_eq hs hc endItem fail (s.length + 1) ((newIter sn rate).seekFirst s) [] (vis s sn)
      rfl (by rw [seekFirst_cur]; rfl) (Nat.lt_succ_of_le (List.length_filter_le _ _))
  | some p =>
    simp only [fromStart]
    apply shardLoop_eq hs hc endItem fail (s.length + 1) ((newIter sn rate).seek s p.key)
      ((vis s sn).takeWhile (fun x => decide (x.key < p.key)))
    · simp only [seek_sn, newIter]; exact (keysplit hks p.key).symm
    · rw [seek_cur hs, List.head?_filter]; rfl
    · exact Nat.lt_succ_of_le (Nat.le_trans (List.length_filter_le ..) (List.length_filter_le _ _))

theorem shardSpec_ok (e fail : Option Nat) (l : List Ver) (h : ∀ v ∈ l, fail ≠ some v.key) :
    shardSpec e fail l = (l.takeWhile (inRange e), false) := by
  induction l with
  | nil => rfl
  | cons v r ih =>
    have ih := ih fun x hx => h x (List.mem_cons_of_mem _ hx)
    unfold shardSpec
    rw [List.takeWhile_cons]
    cases inRange e v
    · rfl
    · rw [if_pos rfl, if_neg (h v (List.mem_cons_self ..)), ih]; rfl

theorem shardSpec_err (e : Option Nat) (fk : Nat) (l : List Ver)
    (h : ∃ v ∈ l.takeWhile (inRange e), v.key = fk) : (shardSpec e (some fk) l).2 = true := by
  induction l with
  | nil => obtain ⟨v, hv, _⟩ := h; exact absurd hv List.not_mem_nil
  | cons v r ih =>
    obtain ⟨x, hx, hxk⟩ := h
    unfold shardSpec
    cases hr : inRange e v
    · rw [List.takeWhile_cons, hr] at hx; exact absurd hx List.not_mem_nil
    · rw [List.takeWhile_cons, hr] at hx
      rw [if_pos rfl]
      by_cases hk : some fk = some v.key
      · rw [if_pos hk]
      · rw [if_neg hk]
        rcases List.mem_cons.mp hx with rfl | hx
        · exact absurd (congrArg some hxk.symm) hk
        · exact ih ⟨x, hx, hxk⟩

def StartLt : Option Ver → Ver → Prop
  | none, _ => True
  | some q, p => q.key < p.key

/-- the kept pivots are strictly increasing (above the start item) -/
def PivotsOk : Option Ver → List Ver → Prop
  | _, [] => True
  | st, p :: ps => StartLt st p ∧ PivotsOk (some p) ps

theorem filterPivots_ok (s : List Ver) (sn : Nat) (ps : List Ver) (prev : Option Ver) :
    PivotsOk prev (filterPivots s sn prev ps) := by
  induction ps generalizing prev with
  | nil => exact trivial
  | cons p ps ih =>
    unfold filterPivots
    by_cases h : (((newIter sn 0).seek s p.key).cur.isSome && pivotBigger prev p) = true
    · rw [if_pos h]
      cases prev with
      | none => exact ⟨trivial, ih (some p)⟩
      | some q =>
        refine ⟨?_, ih (some p)⟩
        have h2 : Gen.visitorPivotKeep (cmpOf Gen.visitorPivotCmp p q) = true := (Bool.and_eq_true _ _ ▸ h).2
        rw [visitorPivotCmp_eq] at h2
        exact (iterCmp_pos p q).mp ((visitorPivotKeep_iff _).mp h2)
    · rw [if_neg h]; exact ih prev

theorem takeWhile_inRange_none (l : List Ver) : l.takeWhile (inRange none) = l := by
  induction l with
  | nil => rfl
  | cons x xs ih => simp [List.takeWhile_cons, inRange, ih]

theorem scanAll_eq {cur : Nat} {s : List Ver} (hs : Sorted s) (hc : Chains cur s) (sn : Nat) (rate : Int) :
    scanAll s sn rate = vis s sn := by
  unfold scanAll
  rw [scanLoop_eq_shard]
  have h := runShard_eq hs hc sn rate none none none
  rw [shardSpec_ok _ _ _ fun v _ => (Option.some_ne_none v.key).symm] at h
  exact (congrArg Prod.fst h).trans (takeWhile_inRange_none _)

theorem fromStart_step {l : List Ver} (hl : l.Pairwise KeyLt) (start : Option Ver) (p : Ver)
    (h : StartLt start p) :
    (fromStart start l).takeWhile (inRange (some p.key)) ++ fromStart (some p) l = fromStart start l := by
  have hw : (fromStart start l).Pairwise KeyLt := by
    cases start with
    | none => exact hl
    | some p => exact List.Pairwise.filter _ hl
  have e1 : inRange (some p.key) = fun x => decide (x.key < p.key) :=
    funext fun x => (decide_not.symm.trans (decide_eq_decide.mpr Nat.not_le))
  have e2 : fromStart (some p) l = (fromStart start l).filter (fun x => decide (p.key ≤ x.key)) := by
    cases start with
    | none => rfl
    | some q =>
      show _ = (l.filter (fun x => decide (q.key ≤ x.key))).filter (fun x => decide (p.key ≤ x.key))
      rw [List.filter_filter]
      refine List.filter_congr fun x _ => ?_
      cases hx : decide (p.key ≤ x.key)
      · rfl
      · rw [decide_eq_true (Nat.le_trans (Nat.le_of_lt h) (of_decide_eq_true hx))]; rfl
  rw [e1, e2]; exact keysplit hw p.key

theorem runShards_cover {cur : Nat} {s : List Ver} (hs : Sorted s) (hc : Chains cur s) (sn : Nat) (rate : Int)
    (fail : Option Nat) (ps : List Ver) (start : Option Ver) (hp : PivotsOk start ps) :
    ((∀ v ∈ fromStart start (vis s sn), fail ≠ some v.key) →
      ((runShards s sn rate fail start ps).map (·.1)).flatten = fromStart start (vis s sn) ∧
      (runShards s sn rate fail start ps).any (·.2) = false) ∧
    (∀ fk, fail = some fk → (∃ v ∈ fromStart start (vis s sn), v.key = fk) →
      (runShards s sn rate fail start ps).any (·.2) = true) := by
  induction ps generalizing start with
  | nil =>
    rw [runShards, runShard_eq hs hc]
    refine ⟨fun hnf => ?_, fun fk hf hex => ?_⟩
    · rw [shardSpec_ok _ _ _ hnf, List.map_cons, List.map_nil, List.flatten_cons, List.flatten_nil, List.append_nil]
      exact ⟨takeWhile_inRange_none _, rfl⟩
    · rw [List.any_cons, List.any_nil, Bool.or_false, hf]
      exact shardSpec_err none _ _ (by rw [takeWhile_inRange_none]; exact hex)
  | cons p ps ih =>
    have hp' : StartLt start p ∧ PivotsOk (some p) ps := hp
    have hstep := fromStart_step (vis_keySorted hs hc sn) start p hp'.1
    have ih := ih (some p) hp'.2
    rw [runShards, runShard_eq hs hc]
    refine ⟨fun hnf => ?_, fun fk hf hex => ?_⟩
    · have ih1 := ih.1 fun v hv => hnf v (hstep ▸ List.mem_append_right _ hv)
      rw [shardSpec_ok _ _ _ hnf, List.map_cons, List.flatten_cons, List.any_cons, ih1.1, ih1.2]
      exact ⟨hstep, rfl⟩
    · obtain ⟨v, hv, hvk⟩ := hex
      rw [← hstep] at hv
      rw [List.any_cons, Bool.or_eq_true, hf]
      rcases List.mem_append.mp hv with h | h
      · exact Or.inl (shardSpec_err _ _ _ ⟨v, h, hvk⟩)
      · exact Or.inr (hf ▸ ih.2 fk hf ⟨v, h, hvk⟩)

theorem visitor_ok {cur : Nat} {s : List Ver} (hs : Sorted s) (hc : Chains cur s) (sn : Nat) (rate : Int)
    (fail : Option Nat) (pivots : List Ver) (hnf : ∀ v ∈ vis s sn, fail ≠ some v.key) :
    (visitor s sn rate fail pivots).1.flatten = vis s sn ∧ (visitor s sn rate fail pivots).2 = false :=
  (runShards_cover hs hc sn rate fail _ none (filterPivots_ok s sn pivots none)).1 hnf

theorem visitor_err {cur : Nat} {s : List Ver} (hs : Sorted s) (hc : Chains cur s) (sn : Nat) (rate : Int)
    (fk : Nat) (pivots : List Ver) (hex : ∃ v ∈ vis s sn, v.key = fk) :
    (visitor s sn rate (some fk) pivots).2 = true :=
  (runShards_cover hs hc sn rate (some fk) _ none (filterPivots_ok s sn pivots none)).2 fk rfl hex

theorem runShards_length (s : List Ver) (sn : Nat) (rate : Int) (fail : Option Nat) (ps : List Ver)
    (start : Option Ver) : (runShards s sn rate fail start ps).length = ps.length + 1 := by
  induction ps generalizing start with
  | nil => rfl
  | cons p ps ih => rw [runShards, List.length_cons, ih, List.length_cons]

theorem filterPivots_length_le (s : List Ver) (sn : Nat) (prev : Option Ver) (ps : List Ver) :
    (filterPivots s sn prev ps).length ≤ ps.length := by
  induction ps generalizing prev with
  | nil => exact Nat.le_refl _
  | cons p ps ih =>
    unfold filterPivots
    split
    · exact Nat.succ_le_succ (ih _)
    · exact Nat.le_succ_of_le (ih _)

theorem ascending_of_keySorted {l : List Ver} (h : l.Pairwise KeyLt) : ascending l = true := by
  induction l with
  | nil => rfl
  | cons a r ih =>
    cases r with
    | nil => rfl
    | cons b r =>
      have ha := List.pairwise_cons.mp h
      have hlt : a.key < b.key := ha.1 b (List.mem_cons_self ..)
      rw [ascending, decide_eq_true hlt, ih ha.2]; rfl

end NitroVerif.Mvcc
