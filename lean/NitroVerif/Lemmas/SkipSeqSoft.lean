import NitroVerif.Lemmas.SkipSeqRep
import NitroVerif.Lemmas.SkipSeqGen
/-!
  `softDelete`: on a live node it marks every level from the top down and wins; on a node that is
  already marked on all its levels it changes nothing and loses.
-/
namespace NitroVerif.SkipSeq

/-- heap `h` is `h0` with the link words of `d` marked on the levels `j..top` -/
structure MarkInv (h0 : Heap) (d top j : Nat) (h : Heap) : Prop where
  shape : SameShape h0 h
  links : ∀ m l, getNext h m l
      = if m = d ∧ j ≤ l ∧ l ≤ top then ((getNext h0 d l).1, true) else getNext h0 m l

theorem MarkInv.start (h0 : Heap) (d top : Nat) : MarkInv h0 d top (top + 1) h0 :=
  ⟨SameShape.refl _, fun m l => by
    rw [if_neg (fun h => Nat.not_succ_le_self top (Nat.le_trans h.2.1 h.2.2))]⟩

theorem MarkInv.step {h0 h : Heap} {d top i : Nat} (hi : MarkInv h0 d top (i + 1) h)
    (hslot : i < nextLen h0 d) (hit : i ≤ top) :
    MarkInv h0 d top i (setNext h d i ((getNext h0 d i).1, true)) := by
  refine ⟨hi.shape.setNext _ _ _, fun m l => ?_⟩
  rw [getNext_setNext (by rw [hi.shape.nlen]; exact hslot)]
  by_cases hc : d = m ∧ i = l
  · rcases hc with ⟨rfl, rfl⟩
    have : d = d ∧ i ≤ i ∧ i ≤ top := ⟨rfl, Nat.le_refl _, hit⟩
    rw [if_pos ⟨rfl, rfl⟩, if_pos this]
  · rw [if_neg hc, hi.links m l]
    by_cases hm : m = d
    · subst hm
      have hil : i ≠ l := fun e => hc ⟨rfl, e⟩
      by_cases h1 : i + 1 ≤ l ∧ l ≤ top
      · rw [if_pos ⟨rfl, h1⟩, if_pos ⟨rfl, Nat.le_of_succ_le h1.1, h1.2⟩]
      · have : ¬ (m = m ∧ i ≤ l ∧ l ≤ top) := fun h => h1 ⟨Nat.lt_of_le_of_ne h.2.1 hil, h.2.2⟩
        rw [if_neg (fun h => h1 h.2), if_neg this]
    · rw [if_neg (fun h => hm h.1), if_neg (fun h => hm h.1)]

theorem MarkInv.read {h0 h : Heap} {d top i : Nat} (hi : MarkInv h0 d top (i + 1) h)
    (hun : (getNext h0 d i).2 = false) : getNext h d i = ((getNext h0 d i).1, false) := by
  rw [hi.links d i, if_neg (fun h => Nat.not_succ_le_self i h.2.1)]
  exact Prod.ext rfl hun

theorem softLoop_mark {s : SL} {d i nx : Nat} (m : Bool) (f : Nat)
    (hnd : getNext s.nodes d i = (nx, false)) (hslot : i < nextLen s.nodes d) :
    softLoop d (f + 1 + 1) s i m =
      match i with
      | 0 => ({ s with nodes := setNext s.nodes d 0 (nx, true),
                       stats := { s.stats with softDeletes := s.stats.softDeletes + 1 } }, true)
      | j + 1 => softLoop d f { s with nodes := setNext s.nodes d (j + 1) (nx, true) } j m := by
  cases i with
  | zero =>
    have hwin : Gen.softDeleteWins true 0 = true := (Gen.softDeleteWins_iff _ _).mpr ⟨rfl, rfl⟩
    rw [softLoop]
    simp only [hnd, Bool.false_eq_true, if_false, dcasNext_ok hnd, hwin, if_true]
    rw [softLoop]
    simp only [getNext_setNext_same hslot, if_true]
  | succ j =>
    have hwin : Gen.softDeleteWins true (j + 1) = false :=
      Bool.eq_false_iff.mpr fun h => Nat.succ_ne_zero j ((Gen.softDeleteWins_iff _ _).mp h).2
    rw [softLoop]
    simp only [hnd, Bool.false_eq_true, if_false, dcasNext_ok hnd, hwin]
    rw [softLoop]
    simp only [getNext_setNext_same hslot, if_true]

theorem softLoop_live {h0 : Heap} {d top : Nat} {s0 : SL}
    (hun : ∀ l, l ≤ top → (getNext h0 d l).2 = false) (hslot : top < nextLen h0 d) :
    ∀ (i : Nat) (s : SL) (m : Bool) (f : Nat), MarkInv h0 d top (i + 1) s.nodes → Kept s0 s → i ≤ top →
      2 * (i + 1) ≤ f →
      ∃ s', softLoop d f s i m = (s', true) ∧ MarkInv h0 d top 0 s'.nodes ∧ Kept s0 s' ∧
        s'.stats = { s.stats with softDeletes := s.stats.softDeletes + 1 } := by
  intro i
  induction i with
  | zero =>
    intro s m f hinv hk hit hf
    obtain ⟨f', rfl⟩ := Nat.exists_eq_add_of_le' (show 1 + 1 ≤ f from hf)
    have hsl : 0 < nextLen h0 d := Nat.lt_of_le_of_lt hit hslot
    rw [← Nat.add_assoc, softLoop_mark m f' (hinv.read (hun 0 hit)) (hinv.shape.nlen d ▸ hsl)]
    exact ⟨_, rfl, hinv.step hsl hit, ⟨hk.level, hk.buf, hk.stuck⟩, rfl⟩
  | succ i ih =>
    intro s m f hinv hk hit hf
    obtain ⟨f', rfl⟩ : ∃ f', f = f' + 1 + 1 := ⟨f - 2, by omega⟩
    have hsl : i + 1 < nextLen h0 d := Nat.lt_of_le_of_lt hit hslot
    rw [softLoop_mark m f' (hinv.read (hun (i + 1) hit)) (hinv.shape.nlen d ▸ hsl)]
    exact ih _ m f' (hinv.step hsl hit) ⟨hk.level, hk.buf, hk.stuck⟩ (Nat.le_of_succ_le hit) (by omega)

/-- all link words of `d` carry the deleted flag -/
def Dead (h : Heap) (d : Nat) : Prop := ∀ l, l ≤ levelOf h d → (getNext h d l).2 = true

theorem softLoop_dead {s : SL} {d : Nat} (hd : Dead s.nodes d) :
    ∀ (i : Nat) (m : Bool) (f : Nat), i ≤ levelOf s.nodes d → i < f → softLoop d f s i m = (s, m) := by
  intro i
  induction i with
  | zero =>
    intro m f hi hf
    obtain ⟨f', rfl⟩ := Nat.exists_eq_add_of_le' (Nat.succ_le_of_lt hf)
    rw [softLoop]
    simp [hd 0 hi]
  | succ i ih =>
    intro m f hi hf
    obtain ⟨f', rfl⟩ := Nat.exists_eq_add_of_le' (Nat.succ_le_of_lt (Nat.lt_of_le_of_lt (Nat.zero_le _) hf))
    rw [softLoop]
    simp only [hd (i + 1) hi, if_true]
    exact ih m f' (Nat.le_of_succ_le hi) (Nat.lt_of_succ_lt_succ hf)

theorem softDelete_dead {s : SL} {d : Nat} (hd : Dead s.nodes d) : softDelete s d = (s, false) := by
  unfold softDelete
  exact softLoop_dead hd _ _ _ (Nat.le_refl _) (by omega)

/-- the fuel `2 * (level + 1)` is two iterations per level (`softLoop_mark`: the CAS that marks, then the
    re-read that descends) -/
theorem softDelete_live {s : SL} {d : Nat} (hun : ∀ l, l ≤ levelOf s.nodes d → (getNext s.nodes d l).2 = false)
    (hslot : levelOf s.nodes d < nextLen s.nodes d) :
    ∃ s', softDelete s d = (s', true) ∧ MarkInv s.nodes d (levelOf s.nodes d) 0 s'.nodes ∧
      Kept s s' ∧ s'.stats = { s.stats with softDeletes := s.stats.softDeletes + 1 } := by
  unfold softDelete
  exact softLoop_live hun hslot _ s false _ (MarkInv.start _ _ _) (Kept.refl s) (Nat.le_refl _) (Nat.le_refl _)

end NitroVerif.SkipSeq
