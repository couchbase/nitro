import NitroVerif.Model.BackupEffects
import NitroVerif.Lemmas.BackupResidual
/-!
  Lemmas for C12.  After its header (directories, empty shard files, nitro.json) a store performs
  only "body" effects, appends and manifest writes: the directories hold what was appended
  (`runEffects_body`), the five manifests are a fold of their own (`runEffects_mfs`).
  `crash_data_side` is the crash theorem for a variable header and a variable body; the non-delta
  and the delta-mode store are instances.
-/
namespace NitroVerif.Backup
open NitroVerif.Codec

theorem filesOf_append (k : Nat) (cs ds : List Bytes) :
    filesOf k (cs ++ ds) = filesOf k cs ++ filesOf (k + cs.length) ds := by
  induction cs generalizing k with
  | nil => simp [filesOf]
  | cons c r ih =>
    simp only [List.cons_append, filesOf, ih, List.length_cons]
    rw [Nat.add_assoc, Nat.add_comm 1]

theorem createFile_filesOf (n : Nat) :
    createFile (shardName n) (filesOf 0 (List.replicate n [])) = filesOf 0 (List.replicate (n + 1) []) := by
  unfold createFile
  rw [lookup_filesOf_zero]
  simp only [List.length_replicate, Nat.lt_irrefl, not_false_eq_true, getElem?_neg]
  rw [List.replicate_succ', filesOf_append]
  simp [filesOf]

theorem appendFile_filesOf (k i : Nat) (bs : Bytes) (cs : List Bytes) :
    appendFile (shardName (k + i)) bs (filesOf k cs) = filesOf k (cs.modify i (· ++ bs)) := by
  induction cs generalizing k i with
  | nil => simp [filesOf, appendFile]
  | cons c r ih =>
    cases i with
    | zero => simp [filesOf, appendFile]
    | succ i =>
      simp only [filesOf, appendFile, List.modify_succ_cons]
      rw [if_neg (fun he => absurd (shardName_inj he) (Nat.ne_of_lt (Nat.lt_add_of_pos_right (Nat.succ_pos i)))),
        show k + (i + 1) = k + 1 + i by rw [Nat.add_assoc, Nat.add_comm 1 i], ih]

theorem runEffects_append (img : Image) (a b : List Effect) :
    runEffects img (a ++ b) = runEffects (runEffects img a) b := by
  simp [runEffects, List.foldl_append]

theorem runEffects_cons (img : Image) (e : Effect) (r : List Effect) :
    runEffects img (e :: r) = runEffects (applyEffect img e) r := rfl

theorem imageAfter_append (a b : List Effect) : imageAfter (a ++ b) = runEffects (imageAfter a) b :=
  runEffects_append _ _ _

/-- the directory when the Visitor starts: nitro.json complete, no other manifest touched, the data
    shard files holding `cs`, the delta files `ds` -/
def started (ver : Nat) (cs ds : List Bytes) : Image :=
  { version := .parsed ver, files := .absent, sums := .absent, dfiles := .absent, dsums := .absent,
    data := filesOf 0 cs, delta := filesOf 0 ds }

theorem runEffects_createAll (img : Image) (hd : img.data = []) (n : Nat) :
    runEffects img (createAll n) = { img with data := filesOf 0 (List.replicate n []) } := by
  induction n with
  | zero => simp [createAll, runEffects, filesOf, ← hd]
  | succ n ih =>
    simp only [createAll, runEffects_append, ih]
    simp only [runEffects, List.foldl_cons, List.foldl_nil, applyEffect]
    rw [createFile_filesOf]

theorem runEffects_createAllDelta (img : Image) (hd : img.delta = []) (m : Nat) :
    runEffects img (createAllDelta m) = { img with delta := filesOf 0 (List.replicate m []) } := by
  induction m with
  | zero => simp [createAllDelta, runEffects, filesOf, ← hd]
  | succ m ih =>
    simp only [createAllDelta, runEffects_append, ih]
    simp only [runEffects, List.foldl_cons, List.foldl_nil, applyEffect]
    rw [createFile_filesOf]

theorem imageAfter_header (n ver : Nat) :
    imageAfter (storeHeader n ver) = started ver (List.replicate n []) [] := by
  unfold imageAfter storeHeader
  rw [runEffects_append, runEffects_append, runEffects_cons, runEffects_createAll _ rfl]
  rfl

theorem imageAfter_headerDelta (n m ver : Nat) :
    imageAfter (storeHeaderDelta n m ver) = started ver (List.replicate n []) (List.replicate m []) := by
  unfold imageAfter storeHeaderDelta
  rw [runEffects_append, runEffects_append, runEffects_append, runEffects_append, runEffects_cons,
    runEffects_createAll _ rfl, runEffects_cons, runEffects_createAllDelta _ rfl]
  rfl

/-- an effect a store performs after its header: it creates no file, leaves nitro.json alone, and
    if it completes files.json then with the list `names` -/
def bodyOf (names : List String) : Effect → Prop
  | .createData _ | .createDelta _ | .writeVersion _ | .manifestBegin .version => False
  | .writeFiles l => l = names
  | _ => True

theorem bodyOf_dataAppend {names : List String} {n : Nat} {e : Effect} (h : isDataAppend n e) :
    bodyOf names e := by
  cases e with
  | appendData _ _ => trivial
  | _ => exact h.elim

theorem bodyOf_deltaAppend {names : List String} {m : Nat} {e : Effect} (h : isDeltaAppend m e) :
    bodyOf names e := by
  cases e with
  | appendDelta _ _ => trivial
  | _ => exact h.elim

structure Manifests where
  version : Manifest Nat
  files : Manifest (List String)
  sums : Manifest (List Nat)
  dfiles : Manifest (List String)
  dsums : Manifest (List Nat)

def Image.mfs (img : Image) : Manifests := ⟨img.version, img.files, img.sums, img.dfiles, img.dsums⟩

/-- what an effect does to the manifests (`applyEffect` read on them, `runEffects_mfs`) -/
def Effect.onMfs : Effect → Manifests → Manifests
  | .manifestBegin .version, m => { m with version := .unparsable }
  | .manifestBegin .files, m => { m with files := .unparsable }
  | .manifestBegin .sums, m => { m with sums := .unparsable }
  | .manifestBegin .dfiles, m => { m with dfiles := .unparsable }
  | .manifestBegin .dsums, m => { m with dsums := .unparsable }
  | .writeVersion v, m => { m with version := .parsed v }
  | .writeFiles l, m => { m with files := .parsed l }
  | .writeSums l, m => { m with sums := .parsed l }
  | .writeDFiles l, m => { m with dfiles := .parsed l }
  | .writeDSums l, m => { m with dsums := .parsed l }
  | _, m => m

theorem runEffects_mfs (img : Image) (es : List Effect) :
    (runEffects img es).mfs = es.foldl (fun m e => e.onMfs m) img.mfs := by
  induction es generalizing img with
  | nil => rfl
  | cons e r ih =>
    rw [runEffects_cons, ih, List.foldl_cons]
    congr 1
    cases e with
    | manifestBegin m => cases m <;> rfl
    | _ => rfl

/-- `n`, `m` bound the shard numbers of the two kinds of append and play no role: a caller with
    appends of one kind picks the other bound freely -/
theorem foldl_onMfs_appends {n m : Nat} {q : List Effect}
    (hq : ∀ e ∈ q, isDataAppend n e ∨ isDeltaAppend m e) (ms : Manifests) :
    q.foldl (fun m e => e.onMfs m) ms = ms := by
  induction q with
  | nil => rfl
  | cons e r ih =>
    have he := hq e List.mem_cons_self
    rw [List.foldl_cons]
    cases e with
    | appendData _ _ => exact ih fun x hx => hq x (List.mem_cons_of_mem _ hx)
    | appendDelta _ _ => exact ih fun x hx => hq x (List.mem_cons_of_mem _ hx)
    | _ => exact (he.elim id id).elim

theorem foldl_onMfs_version {names : List String} {q : List Effect} (hq : ∀ e ∈ q, bodyOf names e)
    (ms : Manifests) : (q.foldl (fun m e => e.onMfs m) ms).version = ms.version := by
  induction q generalizing ms with
  | nil => rfl
  | cons e r ih =>
    rw [List.foldl_cons, ih fun x hx => hq x (List.mem_cons_of_mem _ hx)]
    have he := hq e List.mem_cons_self
    cases e with
    | manifestBegin m =>
      cases m with
      | version => exact he.elim
      | _ => rfl
    | writeVersion _ => exact he.elim
    | _ => rfl

theorem foldl_onMfs_files (P : List String → Prop) {es : List Effect}
    (hes : ∀ l, Effect.writeFiles l ∈ es → P l) (ms : Manifests) (hi : ∀ l, ms.files = .parsed l → P l) :
    ∀ l, (es.foldl (fun m e => e.onMfs m) ms).files = .parsed l → P l := by
  induction es generalizing ms with
  | nil => exact hi
  | cons e r ih =>
    rw [List.foldl_cons]
    apply ih (fun l hl => hes l (List.mem_cons_of_mem _ hl))
    cases e with
    | writeFiles l' =>
      intro l hl
      cases hl
      exact hes _ List.mem_cons_self
    | manifestBegin m =>
      cases m with
      | files => intro l hl; cases hl
      | _ => exact hi
    | _ => exact hi

theorem foldl_onMfs_files_absent {es : List Effect} {ms : Manifests}
    (h : (es.foldl (fun m e => e.onMfs m) ms).files = .absent) : ms.files = .absent := by
  induction es generalizing ms with
  | nil => exact h
  | cons e r ih =>
    have := ih (ms := e.onMfs ms) h
    cases e with
    | writeFiles l' => cases this
    | manifestBegin m =>
      cases m with
      | files => cases this
      | _ => exact this
    | _ => exact this

theorem image_of_parts {a b : Image} (h1 : a.mfs = b.mfs) (h2 : a.data = b.data)
    (h3 : a.delta = b.delta) : a = b := by
  cases a; cases b; cases h1; cases h2; cases h3; rfl

theorem range_map_appended {f : Nat → Bytes} {parts : List (List Bytes)}
    (h : ∀ i (hi : i < parts.length), f i = writeFile parts[i]) :
    (List.range parts.length).map f = parts.map writeFile := by
  apply List.ext_getElem (by simp)
  intro i h1 h2
  have hi : i < parts.length := List.length_map writeFile ▸ h2
  rw [List.getElem_map, List.getElem_map, List.getElem_range, h i hi]

theorem appendedData_append (i : Nat) (a b : List Effect) :
    appendedData i (a ++ b) = appendedData i a ++ appendedData i b := by
  induction a with
  | nil => simp [appendedData]
  | cons e r ih =>
    cases e with
    | appendData j bs =>
      simp only [List.cons_append, appendedData, ih]
      split
      · rw [List.append_assoc]
      · rfl
    | _ => simp only [List.cons_append, appendedData, ih]

theorem appendedData_prefix (i : Nat) {a b : List Effect} (h : a <+: b) :
    appendedData i a <+: appendedData i b := by
  obtain ⟨t, rfl⟩ := h
  rw [appendedData_append]
  exact List.prefix_append _ _

theorem appendedDelta_append (j : Nat) (a b : List Effect) :
    appendedDelta j (a ++ b) = appendedDelta j a ++ appendedDelta j b := by
  induction a with
  | nil => simp [appendedDelta]
  | cons e r ih =>
    cases e with
    | appendDelta k bs =>
      simp only [List.cons_append, appendedDelta, ih]
      split
      · rw [List.append_assoc]
      · rfl
    | _ => simp only [List.cons_append, appendedDelta, ih]

theorem runEffects_body {names : List String} {q : List Effect} (hq : ∀ e ∈ q, bodyOf names e)
    (img : Image) (cs ds : List Bytes) (hd : img.data = filesOf 0 cs) (hde : img.delta = filesOf 0 ds) :
    (runEffects img q).data = filesOf 0 (cs.mapIdx fun i c => c ++ appendedData i q) ∧
    (runEffects img q).delta = filesOf 0 (ds.mapIdx fun j c => c ++ appendedDelta j q) := by
  induction q generalizing img cs ds with
  | nil =>
    have e : ∀ l : List Bytes, (l.mapIdx fun _ c => c ++ ([] : Bytes)) = l :=
      fun l => List.ext_getElem (by simp) (by simp)
    exact ⟨hd.trans (congrArg _ (e cs).symm), hde.trans (congrArg _ (e ds).symm)⟩
  | cons e r ih =>
    have hr : ∀ x ∈ r, bodyOf names x := fun x hx => hq x (List.mem_cons_of_mem _ hx)
    have he := hq e List.mem_cons_self
    rw [runEffects_cons]
    have other : ∀ e', (applyEffect img e').data = img.data → (applyEffect img e').delta = img.delta →
        (∀ i, appendedData i (e' :: r) = appendedData i r) →
        (∀ j, appendedDelta j (e' :: r) = appendedDelta j r) →
        (runEffects (applyEffect img e') r).data
          = filesOf 0 (cs.mapIdx fun i c => c ++ appendedData i (e' :: r)) ∧
        (runEffects (applyEffect img e') r).delta
          = filesOf 0 (ds.mapIdx fun j c => c ++ appendedDelta j (e' :: r)) := by
      intro e' h2 h3 h4 h5
      have := ih hr (applyEffect img e') cs ds (h2.trans hd) (h3.trans hde)
      simp only [h4, h5]
      exact this
    cases e with
    | appendData k bs =>
      have := ih hr (applyEffect img (.appendData k bs)) (cs.modify k (· ++ bs)) ds
        (by have := appendFile_filesOf 0 k bs cs; rw [Nat.zero_add] at this; simp only [applyEffect, hd, this])
        hde
      rw [mapIdx_append_modify] at this
      exact this
    | appendDelta k bs =>
      have := ih hr (applyEffect img (.appendDelta k bs)) cs (ds.modify k (· ++ bs)) hd
        (by have := appendFile_filesOf 0 k bs ds; rw [Nat.zero_add] at this; simp only [applyEffect, hde, this])
      rw [mapIdx_append_modify] at this
      exact this
    | manifestBegin m => cases m <;> exact other _ rfl rfl (fun _ => rfl) (fun _ => rfl)
    | createData _ => exact he.elim
    | createDelta _ => exact he.elim
    | _ => exact other _ rfl rfl (fun _ => rfl) (fun _ => rfl)

/-- **Crash at any point of a store**, for a variable header `H` and a variable list `r` of body
    effects: for every prefix `p` of `H ++ r` LoadFromDisk (without delta files) of the directory `p`
    leaves fails — or `p` is past the header, every shard file is complete, and the result is the
    content.  The header enters through the image it leaves (`hH`; `ds`: its delta files), so that
    both store modes can supply their own. -/
theorem crash_data_side (h : Bytes → Nat) (cmp : Bytes → Bytes → Int) (parts : List (List Bytes))
    (hval : ValidItems parts.flatten) {ver : Nat} (hv : ver ≠ 0) {H r : List Effect} {ds : List Bytes}
    (hH : imageAfter H = started ver (List.replicate parts.length []) ds)
    (hbody : ∀ e ∈ r, bodyOf (shardNames parts.length) e)
    (htotal : ∀ i (hi : i < parts.length), appendedData i r = writeFile parts[i])
    {p : List Effect} (hp : p <+: H ++ r) :
    load h cmp false (imageAfter p) = .err ∨
    ∃ q, p = H ++ q ∧ q <+: r ∧ load h cmp false (imageAfter p) = .ok parts.flatten ∧
      (imageAfter p).data = shardFiles 0 parts ∧
      ∀ i (hi : i < parts.length), appendedData i q = writeFile parts[i] := by
  rcases prefix_append_cases hp with h1 | ⟨q, rfl, hq⟩
  · -- inside the header: files.json does not exist yet
    left
    obtain ⟨t, rfl⟩ := h1
    rw [imageAfter_append] at hH
    have hf : (imageAfter p).files = .absent :=
      foldl_onMfs_files_absent (es := t)
        (congrArg Manifests.files ((runEffects_mfs _ t).symm.trans (congrArg Image.mfs hH)))
    exact load_err_of_files_none (congrArg parsedOf hf) false
  · have hqb : ∀ e ∈ q, bodyOf (shardNames parts.length) e := fun e he => hbody e (hq.subset he)
    rw [imageAfter_append, hH]
    obtain ⟨hdata, _⟩ := runEffects_body hqb (started ver (List.replicate parts.length []) ds)
      (List.replicate parts.length []) ds rfl rfl
    rw [mapIdx_replicate_nil] at hdata
    have hmfs := runEffects_mfs (started ver (List.replicate parts.length []) ds) q
    have hver : (runEffects (started ver (List.replicate parts.length []) ds) q).version = .parsed ver :=
      (congrArg Manifests.version hmfs).trans (foldl_onMfs_version hqb _)
    cases hf : (runEffects (started ver (List.replicate parts.length []) ds) q).files with
    | absent => exact Or.inl (load_err_of_files_none (congrArg parsedOf hf) false)
    | unparsable => exact Or.inl (load_err_of_files_none (congrArg parsedOf hf) false)
    | parsed l =>
      have hl : l = shardNames parts.length :=
        foldl_onMfs_files (· = shardNames parts.length) (fun l hl => hqb _ hl) _
          (fun l hl => by cases hl) l ((congrArg Manifests.files hmfs).symm.trans hf)
      subst hl
      have hlen : ((List.range parts.length).map fun i => appendedData i q).length = parts.length := by
        rw [List.length_map, List.length_range]
      rcases load_prefix_shards h cmp parts hval hv _ hver _ hlen hf hdata
        (fun i h1 h2 => by
          rw [List.getElem_map, List.getElem_range, ← htotal i h2]
          exact appendedData_prefix i hq) with he | ⟨hok, hcs⟩
      · exact Or.inl he
      · refine Or.inr ⟨q, rfl, hq, hok, by rw [hdata, hcs]; rfl, fun i hi => ?_⟩
        have := congrArg (fun l => l[i]?) hcs
        simpa [hi] using this

theorem bodyOf_storeManifests (h : Bytes → Nat) (parts : List (List Bytes)) :
    ∀ e ∈ storeManifests h parts, bodyOf (shardNames parts.length) e := by
  intro e he
  simp only [storeManifests, List.mem_cons, List.not_mem_nil, or_false] at he
  rcases he with rfl | rfl | rfl | rfl
  · trivial
  · rfl
  · trivial
  · trivial

section
variable {h : Bytes → Nat} {parts : List (List Bytes)} {ver : Nat} {es : List Effect}

def StoreTrace.body (tr : StoreTrace h parts ver es) : List Effect :=
  tr.mid ++ storeManifests h parts ++ tr.closes

theorem StoreTrace.shape' (tr : StoreTrace h parts ver es) :
    es = storeHeader parts.length ver ++ tr.body :=
  tr.shape.trans (by simp only [StoreTrace.body, List.append_assoc])

theorem StoreTrace.bodyOf_body (tr : StoreTrace h parts ver es) :
    ∀ e ∈ tr.body, bodyOf (shardNames parts.length) e := by
  simp only [StoreTrace.body, List.forall_mem_append]
  exact ⟨⟨fun e he => bodyOf_dataAppend (tr.midData e he), bodyOf_storeManifests h parts⟩,
    fun e he => bodyOf_dataAppend (tr.closesData e he)⟩

theorem StoreTrace.appendedData_body (tr : StoreTrace h parts ver es) (i : Nat) :
    appendedData i tr.body = appendedData i (tr.mid ++ tr.closes) := by
  simp only [StoreTrace.body, appendedData_append]
  rw [show appendedData i (storeManifests h parts) = [] from rfl, List.append_nil]

end

theorem crash_prefix (h : Bytes → Nat) (cmp : Bytes → Bytes → Int) (parts : List (List Bytes))
    (hval : ValidItems parts.flatten) {ver : Nat} (hv : ver ≠ 0) {es : List Effect}
    (tr : StoreTrace h parts ver es) (p : List Effect) (hp : p <+: es) :
    load h cmp false (imageAfter p) = .err ∨
    (load h cmp false (imageAfter p) = .ok parts.flatten ∧ (imageAfter p).data = shardFiles 0 parts) := by
  rw [tr.shape'] at hp
  rcases crash_data_side h cmp parts hval hv (imageAfter_header _ _) tr.bodyOf_body
    (fun i hi => by rw [tr.appendedData_body, tr.total i hi]) hp with he | ⟨_, _, _, hok, hd, _⟩
  · exact Or.inl he
  · exact Or.inr ⟨hok, hd⟩

theorem imageAfter_complete (h : Bytes → Nat) (parts : List (List Bytes)) (ver : Nat) {es : List Effect}
    (tr : StoreTrace h parts ver es) : imageAfter es = storeImage h parts ver := by
  rw [tr.shape', imageAfter_append, imageAfter_header]
  obtain ⟨hdata, hdelta⟩ := runEffects_body tr.bodyOf_body
    (started ver (List.replicate parts.length []) []) _ [] rfl rfl
  rw [mapIdx_replicate_nil,
    range_map_appended fun i hi => (tr.appendedData_body i).trans (tr.total i hi)] at hdata
  refine image_of_parts ?_ hdata hdelta
  rw [runEffects_mfs, StoreTrace.body, List.foldl_append, List.foldl_append,
    foldl_onMfs_appends (m := 0) fun e he => Or.inl (tr.midData e he),
    foldl_onMfs_appends (m := 0) fun e he => Or.inl (tr.closesData e he)]
  rfl

/-- no shard file has its terminator before a deferred Close writes: with at least one shard every
    such crash image is rejected -/
theorem crash_before_closes_err (h : Bytes → Nat) (cmp : Bytes → Bytes → Int) (parts : List (List Bytes))
    (hval : ValidItems parts.flatten) {ver : Nat} (hv : ver ≠ 0) (hn : 0 < parts.length)
    {es : List Effect} (tr : StoreTrace h parts ver es) (p : List Effect)
    (hp : p <+: storeHeader parts.length ver ++ tr.mid ++ storeManifests h parts) :
    load h cmp false (imageAfter p) = .err := by
  have hpes : p <+: storeHeader parts.length ver ++ tr.body := by
    rw [← tr.shape', tr.shape]; exact hp.trans (List.prefix_append _ _)
  rcases crash_data_side h cmp parts hval hv (imageAfter_header _ _) tr.bodyOf_body
    (fun i hi => by rw [tr.appendedData_body, tr.total i hi]) hpes with he | ⟨q, rfl, _, _, _, hall⟩
  · exact he
  · -- shard 0 would be complete, but the Visitor never writes a terminator
    exfalso
    rw [List.append_assoc, List.prefix_append_right_inj] at hp
    have hpre := (appendedData_prefix 0 hp).trans
      (by rw [appendedData_append, show appendedData 0 (storeManifests h parts) = [] from rfl,
        List.append_nil]; exact tr.midItems 0 hn)
    rw [hall 0 hn] at hpre
    exact writeFile_not_prefix_frames _ hpre

instance (n : Nat) (e : Effect) : Decidable (isDataAppend n e) := by
  cases e <;> simp only [isDataAppend] <;> infer_instance

theorem applyBudget_ok {b : Budget} {img img' : Image} {e : Effect}
    (h : applyBudget b img e = (img', true)) : img' = applyEffect img e := by
  have fits : ∀ {c : Prop} [Decidable c] {x y : Image},
      (if c then (x, true) else (y, false)) = (img', true) → img' = x := by
    intro c _ x y hc
    by_cases hcond : c
    · rw [if_pos hcond] at hc; exact (Prod.mk.inj hc).1.symm
    · rw [if_neg hcond] at hc; cases hc
  cases e with
  | appendData i bs => exact fits h
  | appendDelta j bs => exact fits h
  | writeVersion _ => exact fits h
  | writeFiles _ => exact fits h
  | writeSums _ => exact fits h
  | writeDFiles _ => exact fits h
  | writeDSums _ => exact fits h
  | _ => exact (Prod.mk.inj h).1.symm

theorem runUntilFailure_ok {b : Budget} (es : List Effect) {img img' : Image}
    (h : runUntilFailure b img es = (img', true)) : img' = runEffects img es := by
  induction es generalizing img with
  | nil => simp only [runUntilFailure, Prod.mk.injEq, and_true] at h; exact h.symm
  | cons e r ih =>
    simp only [runUntilFailure] at h
    cases ha : applyBudget b img e with
    | mk i1 ok1 =>
      rw [ha] at h
      cases ok1 with
      | true =>
        simp only at h
        rw [runEffects_cons, ← applyBudget_ok ha]
        exact ih h
      | false => simp at h

theorem runAll_ok {b : Budget} (es : List Effect) {img img' : Image}
    (h : runAll b img es = (img', true)) : img' = runEffects img es := by
  induction es generalizing img with
  | nil => simp only [runAll, Prod.mk.injEq, and_true] at h; exact h.symm
  | cons e r ih =>
    simp only [runAll] at h
    cases ha : applyBudget b img e with
    | mk i1 ok1 =>
      rw [ha] at h
      cases hr : runAll b i1 r with
      | mk i2 ok2 =>
        rw [hr] at h
        simp only [Prod.mk.injEq, Bool.and_eq_true] at h
        obtain ⟨rfl, rfl, rfl⟩ := h
        rw [runEffects_cons, ← applyBudget_ok ha]
        exact ih hr

theorem storeWithBudget_ok {b : Budget} {main deferred : List Effect} {img : Image}
    (h : storeWithBudget true b main deferred = (.ok, img)) : img = imageAfter (main ++ deferred) := by
  unfold storeWithBudget at h
  cases hm : runUntilFailure b emptyImage main with
  | mk i1 ok1 =>
    rw [hm] at h
    simp only at h
    cases hd : runAll b i1 deferred with
    | mk i2 ok2 =>
      rw [hd] at h
      simp only [Bool.not_true, Bool.or_false, Prod.mk.injEq] at h
      obtain ⟨hres, rfl⟩ := h
      obtain ⟨rfl, rfl⟩ : ok1 = true ∧ ok2 = true := by cases ok1 <;> cases ok2 <;> simp at hres ⊢
      unfold imageAfter
      rw [runEffects_append, ← runUntilFailure_ok main hm]
      exact runAll_ok deferred hd

end NitroVerif.Backup
