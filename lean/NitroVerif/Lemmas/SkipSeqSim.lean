import NitroVerif.Lemmas.SkipSeqSoft
import NitroVerif.Lemmas.OrdSetLemmas
/-!
  The simulation between the model (`step`) and the ordered-set specification (`specStep`):
  `Sim st sp L0` relates a model state whose skiplist represents the node list `L0` to the
  specification state holding the keys of `L0`, with matching node handles (`HOK.nh`: `Ext.frame` exempts the head).
-/
namespace NitroVerif.SkipSeq
open NitroVerif.OrdSet

/-- a model handle (node `n`) against a specification handle (key `k`, liveness) -/
structure HOK (s : SL) (L0 : List Nat) (n : Nat) (k : Int) (live : Bool) : Prop where
  lt : n < s.nodes.length
  nh : n ≠ headId
  key : ikey s.nodes n = k
  isLive : live = true → n ∈ L0
  isDead : live = false → n ∉ L0 ∧ Dead s.nodes n

/-- pointwise relation between the two handle tables -/
def HRel (P : Nat → Int → Bool → Prop) : List (String × Nat) → List (String × Int × Bool) → Prop
  | [], [] => True
  | m :: r, p :: t => m.1 = p.1 ∧ P m.2 p.2.1 p.2.2 ∧ HRel P r t
  | _, _ => False

theorem HRel.imp {P Q : Nat → Int → Bool → Prop} (h : ∀ n k l, P n k l → Q n k l) :
    ∀ {ms ps}, HRel P ms ps → HRel Q ms ps := by
  intro ms
  induction ms with
  | nil => intro ps hr; cases ps <;> exact hr
  | cons m r ih =>
    intro ps hr
    cases ps with
    | nil => exact hr.elim
    | cons p t => exact ⟨hr.1, h _ _ _ hr.2.1, ih hr.2.2⟩

theorem HRel.kill {P Q : Nat → Int → Bool → Prop} {k : Int}
    (h : ∀ n k' l, P n k' l → Q n k' (if k' = k then false else l)) :
    ∀ {ms ps}, HRel P ms ps → HRel Q ms (kill k ps) := by
  intro ms
  induction ms with
  | nil => intro ps hr; cases ps <;> exact hr
  | cons m r ih =>
    intro ps hr
    cases ps with
    | nil => exact hr.elim
    | cons p t =>
      have := h _ _ _ hr.2.1
      rw [kill_cons]
      refine ⟨?_, ?_, ih hr.2.2⟩ <;> split
      · exact hr.1
      · exact hr.1
      · rename_i hk; rwa [if_pos hk] at this
      · rename_i hk; rwa [if_neg hk] at this

theorem lookupHandle_cons (e : String × Nat) (r : List (String × Nat)) (h : String) :
    lookupHandle (e :: r) h = if e.1 = h then some e.2 else lookupHandle r h := by
  by_cases hn : e.1 = h <;> simp [lookupHandle, hn]

theorem HRel.lookup {P : Nat → Int → Bool → Prop} (h : String) :
    ∀ {ms ps}, HRel P ms ps →
      (lookupHandle ms h = none ∧ findHandle ps h = none) ∨
      (∃ n k l, lookupHandle ms h = some n ∧ findHandle ps h = some (k, l) ∧ P n k l) := by
  intro ms
  induction ms with
  | nil =>
    intro ps hr
    cases ps with
    | nil => exact Or.inl ⟨rfl, rfl⟩
    | cons p t => exact hr.elim
  | cons m r ih =>
    intro ps hr
    cases ps with
    | nil => exact hr.elim
    | cons p t =>
      rw [lookupHandle_cons, findHandle_cons, ← hr.1]
      by_cases hm : m.1 = h
      · rw [if_pos hm, if_pos hm]
        exact Or.inr ⟨m.2, p.2.1, p.2.2, rfl, rfl, hr.2.1⟩
      · rw [if_neg hm, if_neg hm]
        exact ih hr.2.2

structure Sim (st : St) (sp : SpecSt) (L0 : List Nat) : Prop where
  rep : Rep st.sl L0
  keys : sp.set = L0.map (ikey st.sl.nodes)
  handles : HRel (HOK st.sl L0) st.handles sp.handles

theorem HOK.ext {s s' : SL} {L0 L0' : List Nat} {n : Nat} {k : Int} {live : Bool}
    (h : HOK s L0 n k live) (he : Ext s s' L0)
    (hl : live = true → n ∈ L0') (hd : live = false → n ∉ L0') : HOK s' L0' n k live := by
  refine ⟨Nat.lt_of_lt_of_le h.lt he.len, h.nh, ?_, hl, ?_⟩
  · rw [ikey_congr (he.key n h.lt)]; exact h.key
  · intro hf
    refine ⟨hd hf, ?_⟩
    have hdd := h.isDead hf
    intro l hl'
    rw [he.lvl n h.lt] at hl'
    rw [he.frame n h.lt hdd.1 h.nh l]
    exact hdd.2 l hl'

/-- removing the node `d` keeps the simulation: its key leaves the set and every live handle on that key dies -/
theorem sim_after_delete {st : St} {sp : SpecSt} {A B : List Nat} {d : Nat} {s' : SL}
    (hsim : Sim st sp (A ++ d :: B)) (hrep : Rep s' (A ++ B)) (hdead : Dead s'.nodes d)
    (hext : Ext st.sl s' (A ++ d :: B)) :
    Sim { st with sl := s' }
      { set := OrdSet.delete (ikey st.sl.nodes d) sp.set, handles := OrdSet.kill (ikey st.sl.nodes d) sp.handles } (A ++ B) := by
  have hr := hsim.rep
  have hdm : d ∈ A ++ d :: B := by simp
  have hdAB : d ∉ A ++ B := nodup_mid hr.nodup
  have hsub : ∀ n, n ∈ A ++ d :: B → n ≠ d → n ∈ A ++ B :=
    fun n hn hne => (mem_append_cons_iff.mp hn).resolve_left hne
  have hsup : ∀ n, n ∈ A ++ B → n ∈ A ++ d :: B := fun n hn => mem_append_cons_iff.mpr (Or.inr hn)
  have hs := pairwise_mid hr.sorted
  refine ⟨hrep, ?_, ?_⟩
  · simp only
    rw [hsim.keys, List.map_append, List.map_cons, delete_split]
    · rw [← List.map_append, hext.map_ikey hr hsup]
    · intro a ha
      rcases List.mem_map.mp ha with ⟨x, hx, rfl⟩
      exact hs.1 x hx
    · intro b hb
      rcases List.mem_map.mp hb with ⟨x, hx, rfl⟩
      exact hs.2 x hx
  · apply HRel.kill _ hsim.handles
    intro n k' live hok
    by_cases hk : k' = ikey st.sl.nodes d
    · rw [if_pos hk]
      by_cases hl : live = true
      · have hn := hok.isLive hl
        have hnd' : n = d := hr.key_inj hn hdm (by rw [hok.key, hk])
        subst hnd'
        refine ⟨Nat.lt_of_lt_of_le hok.lt hext.len, hok.nh, ?_, fun h => Bool.noConfusion h, fun _ => ?_⟩
        · rw [ikey_congr (hext.key n hok.lt)]; exact hok.key
        · exact ⟨hdAB, hdead⟩
      · obtain rfl : live = false := (Bool.not_eq_true live).mp hl
        exact hok.ext hext (fun h => Bool.noConfusion h) (fun _ h => (hok.isDead rfl).1 (hsup n h))
    · rw [if_neg hk]
      apply hok.ext hext
      · intro hl
        have hn := hok.isLive hl
        apply hsub n hn
        intro e; apply hk; rw [← hok.key, e]
      · intro hl h
        exact (hok.isDead hl).1 (hsup n h)

end NitroVerif.SkipSeq
