import NitroVerif.Lemmas.SkipSeqSearch
import NitroVerif.Spec.OrdSet
/-!
  Iterator on a quiescent list: `Seek` lands on the first node `≥` the key, a full scan visits exactly
  the level-0 list.
-/
namespace NitroVerif.SkipSeq

theorem iterSeek_pos {s : SL} {L0 : List Nat} (hr : Rep s L0) (x : Int) (it : Iter) :
    ∃ s' p, iterSeek s it (.item x)
        = (s', { it with valid := true, prev := p, curr := ((geX s L0 x).head?).getD tailId },
           decide (x ∈ L0.map (ikey s.nodes))) ∧ SameBut s s' := by
  rcases hr.split_ge x with ⟨A, hAB, hA, hB⟩
  rcases findPath_quiescent (hAB ▸ hr) hA hB with ⟨s3, he, hsb, hbuf⟩
  have hs0 : s3.buf.succs.getD 0 0 = succAt s.nodes (geX s L0 x) 0 := (hbuf 0 (Nat.zero_le _)).2
  have hcur : s3.buf.succs.getD 0 0 = ((geX s L0 x).head?).getD tailId := by rw [hs0, succAt_zero]
  have he' : findPath s (.item x) =
      (s3, if Hit s (geX s L0 x) x then succAt s.nodes (geX s L0 x) 0 else nilId) := he
  refine ⟨s3, s3.buf.preds.getD 0 0, ?_, hsb⟩
  unfold iterSeek
  rw [he']
  simp only [hcur, found_iff_mem (B := geX s L0 x) (hAB ▸ hr) hA hB]
  rw [← hAB]

theorem iterSeek_spec {s : SL} {L0 : List Nat} (hr : Rep s L0) (k : Int) :
    ∃ s' it, iterSeek s Iter.new (.item k) = (s', it, decide (k ∈ L0.map (ikey s.nodes))) ∧ SameBut s s' ∧
      (if (iterValid it).2 then some (keyOf s'.nodes (iterValid it).1.curr) else none)
        = (OrdSet.seekGE k (L0.map (ikey s.nodes))).map Key.item := by
  rcases iterSeek_pos hr k Iter.new with ⟨s', p, he, hsb⟩
  refine ⟨s', _, he, hsb, ?_⟩
  have hge : OrdSet.seekGE k (L0.map (ikey s.nodes)) = ((geX s L0 k).head?).map (ikey s.nodes) := by
    unfold OrdSet.seekGE
    rw [geX_eq, List.head?_filter, List.find?_map]
    rfl
  rw [hge]
  cases hg : geX s L0 k with
  | nil => simp [iterValid, Iter.new]
  | cons b T =>
    have hb := hr.nodes b (mem_of_mem_geX (hg ▸ List.mem_cons_self))
    simp [iterValid, Iter.new, ne_of_three_le hb.lo (by decide : tailId < 3), hsb.nodes, hb.key]

theorem iterNext_plain {s : SL} {it : Iter} (hd : it.deleted = false)
    (hun : (getNext s.nodes it.curr 0).2 = false) :
    iterNext s it = (s, { it with valid := true, prev := it.curr, curr := (getNext s.nodes it.curr 0).1 }) := by
  unfold iterNext
  rw [hd]
  simp only [Bool.false_eq_true, if_false]
  rw [iterNextLoop]
  simp [hun, hd]

theorem scanLoop_spec {s : SL} : ∀ (X : List Nat) (it : Iter) (acc : List Nat) (f : Nat),
    Path s.nodes nomk 0 (X ++ [tailId]) → (∀ x ∈ X, x ≠ tailId) → it.curr = (X.head?).getD tailId →
    it.deleted = false → it.valid = true → X.length < f →
    scanLoop f s it acc = (s, acc.reverse ++ X) := by
  intro X
  induction X with
  | nil =>
    intro it acc f _ _ hc _ hv hf
    obtain ⟨f', rfl⟩ := Nat.exists_eq_add_of_le' (show 1 ≤ f from hf)
    simp only [List.head?_nil, Option.getD_none] at hc
    rw [scanLoop]
    simp [iterValid, hc, hv]
  | cons c R ih =>
    intro it acc f hp hne hc hd hv hf
    obtain ⟨f', rfl⟩ := Nat.exists_eq_add_of_le' (Nat.succ_le_of_lt (Nat.lt_of_le_of_lt (Nat.zero_le _) hf))
    simp only [List.head?_cons, Option.getD_some] at hc
    have hct : c ≠ tailId := hne c (by simp)
    have hlink : getNext s.nodes c 0 = ((R.head?).getD tailId, nomk c) := path_head_link (by simpa using hp)
    have hun : (getNext s.nodes it.curr 0).2 = false := by rw [hc, hlink]; rfl
    have hval : iterValid it = (it, true) := by
      unfold iterValid
      simp [hc, hct, hv]
    rw [scanLoop, hval]
    simp only [if_true]
    rw [iterNext_plain hd hun]
    simp only
    have := ih { it with valid := true, prev := it.curr, curr := (getNext s.nodes it.curr 0).1 }
      (it.curr :: acc) f' (path_tail (by simpa using hp)) (fun x hx => hne x (List.mem_cons_of_mem _ hx))
      (by simp [hc, hlink]) hd rfl (Nat.lt_of_succ_lt_succ hf)
    rw [this]
    simp [hc]

theorem scanAll_spec {s : SL} {L0 : List Nat} (hr : Rep s L0) : scanAll s = (s, L0) := by
  unfold scanAll
  have hp := hr.paths 0 (Nat.zero_le _)
  rw [LL_zero] at hp
  have hlink : getNext s.nodes headId 0 = ((L0.head?).getD tailId, nomk headId) := path_head_link hp
  have := scanLoop_spec (s := s) L0 (iterSeekFirst s Iter.new) [] (s.nodes.length + 1)
    (path_tail (by simpa using hp)) (fun x hx => hr.ne_tail hx) (by simp [iterSeekFirst, hlink])
    (by simp [iterSeekFirst, Iter.new]) (by simp [iterSeekFirst]) (by have := hr.size; omega)
  simpa using this

end NitroVerif.SkipSeq
