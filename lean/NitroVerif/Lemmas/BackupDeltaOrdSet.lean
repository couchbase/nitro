import NitroVerif.Lemmas.BackupDelta
import NitroVerif.Lemmas.OrdSetLemmas
/-!
  The delta part of `LoadFromDisk` seen from both models: M7 inserts a delta item with the level-0
  walk `insertAux` (`Insert2` on restored items); M3 runs `Insert2` on the pointer heap, which C13
  shows to behave as `OrdSet.insert` guarded by `member`.  When the byte comparison of the loading
  instance agrees with the integer key of M3 on the items at hand (`KeyAgreesOn`), the two coincide item by item.
-/
namespace NitroVerif.Backup
open NitroVerif.Codec NitroVerif.OrdSet NitroVerif.SkipSeq

/-- on the items that satisfy `P` (the items at hand: the decoded data and delta items) the key
    comparison `keyCmp` of the loading instance is the comparison of the integer keys `key`.
    (Relative to `P` on purpose: `bytes.Compare` on ALL byte strings does not embed into the integers,
    on fixed-width keys it does.) -/
structure KeyAgreesOn (keyCmp : Bytes → Bytes → Int) (key : Bytes → Int) (P : Bytes → Prop) : Prop where
  lt : ∀ a b, P a → P b → (keyCmp a b < 0 ↔ key a < key b)
  eq : ∀ a b, P a → P b → (keyCmp a b = 0 ↔ key a = key b)

theorem predEq_false_of_key {keyCmp : Bytes → Bytes → Int} {key : Bytes → Int} {P : Bytes → Prop}
    (ka : KeyAgreesOn keyCmp key P) {x : Bytes} (hx : P x) {pred : Option Bytes}
    (hp : ∀ p, pred = some p → P p ∧ key p < key x) :
    predEq keyCmp x pred = false := by
  cases pred with
  | none => rfl
  | some p =>
    rw [predEq_some]
    have h1 := hp p rfl
    have h2 := ka.eq x p hx h1.1
    simp; omega

/-- the level-0 walk of M7 against `OrdSet`: a present key is rejected, an absent one is linked at
    the place `OrdSet.insert` puts it -/
theorem insertAux_key {keyCmp : Bytes → Bytes → Int} {key : Bytes → Int} {P : Bytes → Prop}
    (ka : KeyAgreesOn keyCmp key P) (x : Bytes) (hx : P x) : ∀ (l : List Bytes) (pred : Option Bytes),
    (∀ y ∈ l, P y) → Asc (l.map key) → (∀ p, pred = some p → P p ∧ key p < key x) →
    (key x ∈ l.map key → insertAux keyCmp x pred l = none) ∧
    (key x ∉ l.map key → ∃ l', insertAux keyCmp x pred l = some l' ∧
        l'.map key = OrdSet.insert (key x) (l.map key) ∧ ∀ y ∈ l', P y) := by
  intro l
  induction l with
  | nil =>
    intro pred _ _ hp
    refine ⟨by simp, fun _ => ⟨[x], ?_, by simp [OrdSet.insert], by simpa using hx⟩⟩
    rw [insertAux_nil, predEq_false_of_key ka hx hp]; rfl
  | cons c r ih =>
    intro pred hP hasc hp
    have hc : P c := hP c (by simp)
    have hPr : ∀ y ∈ r, P y := fun y hy => hP y (List.mem_cons_of_mem _ hy)
    have hasc' := List.pairwise_cons.mp (show ((key c) :: r.map key).Pairwise (· < ·) from hasc)
    rw [insertAux_cons]
    by_cases h1 : keyCmp c x < 0
    · have hlt : key c < key x := (ka.lt c x hc hx).mp h1
      rw [if_pos h1]
      rcases ih (some c) hPr hasc'.2 (fun p hp' => by cases hp'; exact ⟨hc, hlt⟩) with ⟨i1, i2⟩
      constructor
      · intro hm
        have : key x ∈ r.map key := by
          rw [List.map_cons] at hm
          rcases List.mem_cons.mp hm with e | e
          · exact absurd e (Int.ne_of_gt hlt)
          · exact e
        rw [i1 this]; rfl
      · intro hm
        have hnr : key x ∉ r.map key := fun h => hm (by simp only [List.map_cons]; exact List.mem_cons_of_mem _ h)
        rcases i2 hnr with ⟨l', e1, e2, e3⟩
        refine ⟨c :: l', by rw [e1]; rfl, ?_, ?_⟩
        · simp only [List.map_cons, OrdSet.insert, e2]
          rw [if_neg (Int.lt_asymm hlt), if_neg (Int.ne_of_gt hlt)]
        · intro y hy
          rcases List.mem_cons.mp hy with e | e
          · rw [e]; exact hc
          · exact e3 y e
    · rw [if_neg h1]
      by_cases h2 : keyCmp c x = 0
      · have he : key c = key x := (ka.eq c x hc hx).mp h2
        rw [if_pos h2]
        exact ⟨fun _ => rfl, fun hm => absurd (by simp [he]) hm⟩
      · have hgt : key x < key c := by
          have := ka.lt c x hc hx; have := ka.eq c x hc hx; omega
        rw [if_neg h2, predEq_false_of_key ka hx hp]
        constructor
        · intro hm
          exfalso
          rw [List.map_cons] at hm
          rcases List.mem_cons.mp hm with e | e
          · exact Int.lt_irrefl _ (e ▸ hgt)
          · exact Int.lt_asymm hgt (hasc'.1 (key x) e)
        · intro _
          refine ⟨x :: c :: r, rfl, ?_, ?_⟩
          · simp only [List.map_cons, OrdSet.insert]
            rw [if_pos hgt]
          · intro y hy
            rcases List.mem_cons.mp hy with e | e
            · rw [e]; exact hx
            · exact hP y e

/-- one delta item: M7's `deltaInsert` is the `ins` step of the ordered-set specification -/
theorem deltaInsert_key {keyCmp : Bytes → Bytes → Int} {key : Bytes → Int} {P : Bytes → Prop}
    (ka : KeyAgreesOn keyCmp key P) (l : List Bytes) (hP : ∀ y ∈ l, P y) (hasc : Asc (l.map key))
    (x : Bytes) (hx : P x) :
    (deltaInsert keyCmp l x).map key
      = (if key x ∈ l.map key then l.map key else OrdSet.insert (key x) (l.map key)) ∧
    Asc ((deltaInsert keyCmp l x).map key) ∧ (∀ y ∈ deltaInsert keyCmp l x, P y) := by
  rcases insertAux_key ka x hx l none hP hasc (fun p hp => by cases hp) with ⟨i1, i2⟩
  unfold deltaInsert
  by_cases hm : key x ∈ l.map key
  · rw [i1 hm, if_pos hm]
    exact ⟨rfl, hasc, hP⟩
  · rcases i2 hm with ⟨l', e1, e2, e3⟩
    rw [e1, if_neg hm]
    exact ⟨e2, by rw [e2]; exact insert_asc hasc, e3⟩

/-- the `Insert` calls that apply the delta items `ds`, one call per item, any level requests -/
inductive DeltaOps (key : Bytes → Int) : List Bytes → List Op → Prop
  | nil : DeltaOps key [] []
  | cons (x : Bytes) (lvl : Nat) {ds : List Bytes} {ops : List Op} :
      DeltaOps key ds ops → DeltaOps key (x :: ds) (Op.ins (key x) lvl :: ops)

/-- the whole delta: M7's `insertAll` is the specification run of the `Insert` calls, which leaves the
    handle table alone -/
theorem insertAll_key {keyCmp : Bytes → Bytes → Int} {key : Bytes → Int} {P : Bytes → Prop}
    (ka : KeyAgreesOn keyCmp key P) {ds : List Bytes} {ops : List Op} (hd : DeltaOps key ds ops) :
    ∀ (base : List Bytes) (hs : List (String × Int × Bool)), (∀ y ∈ base, P y) → (∀ y ∈ ds, P y) →
    Asc (base.map key) →
    (specRun { set := base.map key, handles := hs } ops).1
      = { set := (insertAll keyCmp base ds).map key, handles := hs } := by
  induction hd with
  | nil => intro base hs _ _ _; rfl
  | cons x lvl _ ih =>
    intro base hs hPb hPd hasc
    rcases deltaInsert_key ka base hPb hasc x (hPd x (by simp)) with ⟨e1, e2, e3⟩
    have := ih (deltaInsert keyCmp base x) hs e3 (fun y hy => hPd y (List.mem_cons_of_mem _ hy)) e2
    simp only [insertAll, List.foldl_cons] at this ⊢
    simp only [specRun]
    rw [specStep_ins]
    by_cases hm : key x ∈ base.map key
    · rw [if_pos hm] at e1 ⊢
      simp only
      rw [← e1]; exact this
    · rw [if_neg hm] at e1 ⊢
      simp only
      rw [← e1]; exact this

end NitroVerif.Backup
