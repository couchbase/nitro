/-
  `Mvcc.step` by what it does to the state: every operation that changes it, under its decoded guards;
  read off it, the frame rule for the iterators of the model.
-/
import NitroVerif.Lemmas.MvccGen
import NitroVerif.Lemmas.MvccSpecLemmas

namespace NitroVerif.Mvcc
open SetSpec

theorem withRef_eq (σ : State) (s : Nat) {rc : Int} (hrc : rc ≠ 0) : withRef σ s rc = σ := by
  have hret : ¬ Gen.closeRetire (rc + 1 - 1) = true := fun h =>
    hrc ((Int.add_sub_cancel rc 1).symm.trans ((Gen.closeRetire_iff _).mp h))
  have hpt : ∀ z : Snap, (fun x : Snap => if x.sn = s then { x with rc := x.rc - 1 } else x)
      ((fun x : Snap => if x.sn = s then { x with rc := x.rc + 1 } else x) z) = z := by
    intro z
    dsimp only
    by_cases hz : z.sn = s
    · rw [if_pos hz]; dsimp only; rw [if_pos hz, Int.add_sub_cancel]
    · rw [if_neg hz, if_neg hz]
  unfold withRef closeSnap
  rw [if_neg hret]
  show { σ with snaps := updSnap s _ (updSnap s _ σ.snaps) } = σ
  unfold updSnap
  rw [List.map_map]
  exact congrArg (fun l => ({ σ with snaps := l } : State))
    ((List.map_congr_left fun z _ => hpt z).trans (List.map_id _))

theorem step_scan {σ : State} {s : Nat} {x : Snap} (hx : findSnap s σ.snaps = some x) (hrc : x.rc ≠ 0)
    (rate : Int) : step σ (.scan s rate) = (σ, .items ((scanAll σ.store s rate).map Ver.item)) := by
  simp only [step, hx, openRefuse_false hrc, Bool.false_eq_true, if_false, withRef_eq σ s hrc]

/-- `same`: every outcome that keeps the state (refused, reads, and the scans, which take a reference and give
    it back); its output is not constrained -/
inductive StepCase (σ : State) : Op → State × Out → Prop
  | same (op : Op) (o : Out) : StepCase σ op (σ, o)
  | put {w k v : Nat} : w < σ.writers.length →
      StepCase σ (.put w k v) ((put σ w k v).1, .bool (put σ w k v).2)
  | del {w k : Nat} : w < σ.writers.length → StepCase σ (.del w k) ((del σ w k).1, .bool (del σ w k).2)
  | getnode {w k h : Nat} {x : Ver} : w < σ.writers.length → getNode σ k = some x →
      StepCase σ (.getnode w k h) ({ σ with handles := aset h ⟨x.key, x.born, false⟩ σ.handles }, .found true)
  | getnodeNone {w k h : Nat} : w < σ.writers.length → getNode σ k = none →
      StepCase σ (.getnode w k h) ({ σ with handles := aerase h σ.handles }, .found false)
  | delnode {w h : Nat} {hd : Handle} : w < σ.writers.length → alookup h σ.handles = some hd →
      StepCase σ (.delnode w h) ((delHandle σ w hd).1, .bool (delHandle σ w hd).2)
  | snap : StepCase σ .snap ((newSnapshot σ).1, .snap (newSnapshot σ).2.sn (newSnapshot σ).2.count)
  | «open» {s : Nat} {x : Snap} : findSnap s σ.snaps = some x → x.rc ≠ 0 →
      StepCase σ (.open s) (openSnap σ s, .bool true)
  | close {s : Nat} {x : Snap} : findSnap s σ.snaps = some x → x.rc - itersOn s σ.iters > 0 →
      StepCase σ (.close s) (closeSnap σ s x.rc, .ok)
  | itNew {i s : Nat} {x : Snap} : findSnap s σ.snaps = some x → alookup i σ.iters = none → x.rc ≠ 0 →
      StepCase σ (.itNew i s) ({ (openSnap σ s) with iters := aset i (newIter s 0) σ.iters }, .ok)
  | itRate {i : Nat} {r : Int} {it : Iter} : alookup i σ.iters = some it →
      StepCase σ (.itRate i r) ({ σ with iters := aset i { it with rate := r } σ.iters }, .ok)
  | itFirst {i : Nat} {it : Iter} : alookup i σ.iters = some it →
      StepCase σ (.itFirst i) (setIter σ i (it.seekFirst σ.store))
  | itSeek {i k : Nat} {it : Iter} : alookup i σ.iters = some it →
      StepCase σ (.itSeek i k) (setIter σ i (it.seek σ.store k))
  | itNext {i : Nat} {it : Iter} {v : Ver} : alookup i σ.iters = some it → it.cur = some v →
      StepCase σ (.itNext i) (setIter σ i (it.next σ.store))
  | itRefresh {i : Nat} {it : Iter} : alookup i σ.iters = some it →
      StepCase σ (.itRefresh i) (setIter σ i (it.refresh σ.store))
  | itClose {i : Nat} {it : Iter} {x : Snap} : alookup i σ.iters = some it →
      findSnap it.sn σ.snaps = some x →
      StepCase σ (.itClose i) (closeSnap { σ with iters := aerase i σ.iters } it.sn x.rc, .ok)

theorem step_case (σ : State) (op : Op) : StepCase σ op (step σ op) := by
  cases op with
  | put w k v =>
    rw [step]; split
    · exact .put ‹_›
    · exact .same ..
  | del w k =>
    rw [step]; split
    · exact .del ‹_›
    · exact .same ..
  | get w k => rw [step]; split <;> exact .same ..
  | getnode w k h =>
    rw [step]; split
    · split
      · exact .getnode ‹_› ‹_›
      · exact .getnodeNone ‹_› ‹_›
    · exact .same ..
  | delnode w h =>
    rw [step]; split
    · split
      · exact .delnode ‹_› ‹_›
      · exact .same ..
    · exact .same ..
  | snap => exact .snap
  | «open» s =>
    rw [step]; split
    · split
      · exact .same ..
      · rename_i hx hr; exact .open hx fun h0 => hr ((Gen.openRefuse_iff _).mpr h0)
    · exact .same ..
  | close s =>
    rw [step]; split
    · split
      · exact .close ‹_› ‹_›
      · exact .same ..
    · exact .same ..
  | count s => rw [step]; split <;> exact .same ..
  | items => exact .same ..
  | scan s r =>
    rw [step]; split
    · split
      · exact .same ..
      · rename_i hr; rw [withRef_eq σ s fun h0 => hr ((Gen.openRefuse_iff _).mpr h0)]; exact .same ..
    · exact .same ..
  | visit s p r fl =>
    rw [step]; split
    · split
      · exact .same ..
      · rename_i hr; rw [withRef_eq σ s fun h0 => hr ((Gen.openRefuse_iff _).mpr h0)]; exact .same ..
    · exact .same ..
  | itNew i s =>
    rw [step]; split
    · split
      · exact .same ..
      · rename_i hx hi hr; exact .itNew hx hi fun h0 => hr ((Gen.openRefuse_iff _).mpr h0)
    · exact .same ..
  | itRate i r =>
    rw [step]; split
    · exact .itRate ‹_›
    · exact .same ..
  | itFirst i =>
    rw [step]; split
    · exact .itFirst ‹_›
    · exact .same ..
  | itSeek i k =>
    rw [step]; split
    · exact .itSeek ‹_›
    · exact .same ..
  | itNext i =>
    rw [step]; split
    · split
      · exact .itNext ‹_› ‹_›
      · exact .same ..
    · exact .same ..
  | itRefresh i =>
    rw [step]; split
    · exact .itRefresh ‹_›
    · exact .same ..
  | itClose i =>
    rw [step]; split
    · split
      · exact .itClose ‹_› ‹_›
      · exact .same ..
    · exact .same ..

theorem step_visit_state (σ : State) (s : Nat) (pivots : List Nat) (rate : Int) (fail : Option Nat) :
    (step σ (.visit s pivots rate fail)).1 = σ := by
  have hc := step_case σ (.visit s pivots rate fail)
  generalize step σ _ = r at hc
  cases hc
  rfl

theorem put_iters (σ : State) (w k v : Nat) : (put σ w k v).1.iters = σ.iters := by
  unfold put; split <;> rfl

theorem deleteNode_iters (σ : State) (w : Nat) (x : Ver) : (deleteNode σ w x).1.iters = σ.iters := by
  unfold deleteNode; split
  · rfl
  · split <;> rfl

theorem del_iters (σ : State) (w k : Nat) : (del σ w k).1.iters = σ.iters := by
  unfold del; split
  · exact deleteNode_iters ..
  · rfl

theorem delHandle_iters (σ : State) (w : Nat) (h : Handle) : (delHandle σ w h).1.iters = σ.iters := by
  unfold delHandle; split
  · rfl
  · split
    · exact deleteNode_iters ..
    · rfl

theorem closeSnap_iters (σ : State) (s : Nat) (rc : Int) : (closeSnap σ s rc).iters = σ.iters := by
  unfold closeSnap gc; split <;> rfl

theorem step_frame (σ : State) (i : Nat) (op : Op) (hn : namesIter i op = false) :
    alookup i (step σ op).1.iters = alookup i σ.iters := by
  have hc := step_case σ op
  generalize step σ op = r at hc
  cases hc with
  | put => exact congrArg _ (put_iters ..)
  | del => exact congrArg _ (del_iters ..)
  | delnode => exact congrArg _ (delHandle_iters ..)
  | close => exact congrArg _ (closeSnap_iters ..)
  | itClose => rw [closeSnap_iters]; exact alookup_aerase_ne (ne_of_beq_false hn) _
  | itNew | itRate | itFirst | itSeek | itNext | itRefresh => exact alookup_aset_ne (ne_of_beq_false hn) _ _
  | _ => rfl

end NitroVerif.Mvcc
