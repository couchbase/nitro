import NitroVerif.Lemmas.SkipConcSearch
/-!
  The TRACE of a run of M5 and of its abstract sets (`stAt`, `heapAt`, `thrAt`, `absAt`; constant from `as.length`
  on).  Action `p` takes state `p` to state `p + 1`.

  Every position satisfies `InvS`, and positions are related by `Ext` (`heap_ext`).  `step_class`: an action leaves the
  level-0 marks alone, or is a successful INS_PUBLISH, or a successful level-0 SOFT_MARK of some thread.  From it: a
  node that loses its unmarked state between two positions was marked by an action in between
  (`crossing`, `mark_of_crossing`), right after which its key is absent
  (`absent_after_mark`); hence `absent_instant`, which turns the end of a missing search (`search_miss`) into an
  instant of absence.
-/
namespace NitroVerif.SkipConc

/-- the state after the first `i` actions of `as` -/
def stAt (n : Nat) (as : List Action) (i : Nat) : Sys := (Sys.init n).run (as.take i)

/-- the heap after the first `i` actions -/
def heapAt (n : Nat) (as : List Action) (i : Nat) : Heap := (stAt n as i).sh.heap

/-- the trace of abstract sets -/
def absAt (n : Nat) (as : List Action) (i : Nat) (k : Nat) : Prop := absOf (heapAt n as i) k

/-- thread `t` after the first `i` actions -/
def thrAt (n : Nat) (as : List Action) (t i : Nat) : Option Thread := (stAt n as i).threads[t]?

theorem stAt_zero (n : Nat) (as : List Action) : stAt n as 0 = Sys.init n := by
  simp [stAt, Sys.run]

theorem absAt_zero (n : Nat) (as : List Action) (k : Nat) : ¬ absAt n as 0 k := by
  rintro ⟨m, ⟨p, hp⟩, hk⟩
  unfold heapAt at hp hk
  rw [stAt_zero] at hp hk
  obtain ⟨rfl, _⟩ := word?_init hp
  simp [keyOf, Sys.init, Sys.initWith, Shared.init, initHeap] at hk

theorem stAt_ge (n : Nat) (as : List Action) {i : Nat} (h : as.length ≤ i) : stAt n as i = (Sys.init n).run as := by
  simp [stAt, List.take_of_length_le h]

theorem stAt_length (n : Nat) (as : List Action) : stAt n as as.length = (Sys.init n).run as :=
  stAt_ge n as (Nat.le_refl _)

theorem absAt_zero_eq (n : Nat) (as : List Action) : absAt n as 0 = fun _ => False := by
  funext k
  exact propext ⟨fun h => absurd h (absAt_zero n as k), False.elim⟩

theorem absAt_ge (n : Nat) (as : List Action) {i : Nat} (h : as.length ≤ i) :
    absAt n as i = fun k => absOf ((Sys.init n).run as).sh.heap k := by
  unfold absAt heapAt; rw [stAt_ge n as h]

theorem stAt_succ_some {n : Nat} {as : List Action} {i : Nat} {a : Action} (h : as[i]? = some a) :
    stAt n as (i + 1) = (stAt n as i).act a := by
  simp only [stAt, List.take_add_one, h, Option.toList_some, run_append]
  rfl

theorem stAt_succ_none {n : Nat} {as : List Action} {i : Nat} (h : as[i]? = none) :
    stAt n as (i + 1) = stAt n as i := by
  simp only [stAt, List.take_add_one, h, Option.toList_none, List.append_nil]

theorem stAt_invS (n : Nat) (as : List Action) (i : Nat) : InvS (stAt n as i) :=
  run_invS (InvS_init n) _

theorem stAt_invR (n : Nat) (as : List Action) (i : Nat) : InvR (stAt n as i) := (stAt_invS n as i).1

theorem heap_ext (n : Nat) (as : List Action) {i j : Nat} (hij : i ≤ j) : Ext (heapAt n as i) (heapAt n as j) := by
  unfold heapAt stAt
  rw [← List.take_append_drop i (as.take j), List.take_take, Nat.min_eq_left hij, run_append]
  exact (run_inv (stAt_invR n as i).1 _).2

theorem heap_ext_succ (n : Nat) (as : List Action) (i : Nat) : Ext (heapAt n as i) (heapAt n as (i + 1)) :=
  heap_ext n as (Nat.le_succ i)

theorem step_class (n : Nat) (as : List Action) (p : Nat) :
    UnmSame (heapAt n as p) (heapAt n as (p + 1)) ∨
    (∃ t th k lvl, as[p]? = some (.step t) ∧ thrAt n as t p = some th ∧ th.pc = .insPublish k lvl ∧
      PublishEff (heapAt n as p) (heapAt n as (p + 1)) k) ∨
    (∃ t th item nd next marked, as[p]? = some (.step t) ∧ thrAt n as t p = some th ∧
      th.pc = .softMark item nd 0 next marked ∧ MarkEff (heapAt n as p) (heapAt n as (p + 1)) nd) := by
  unfold heapAt thrAt
  cases h : as[p]? with
  | none => rw [stAt_succ_none h]; exact .inl (UnmSame.refl _)
  | some a =>
    rw [stAt_succ_some h]
    cases a with
    | start t op =>
      simp only [Sys.act]
      rw [Sys.start_heap]
      exact .inl (UnmSame.refl _)
    | step t =>
      simp only [Sys.act]
      rcases sys_step_class (stAt_invR n as p) t with h1 | ⟨th, k, lvl, h1, h2, h3⟩ |
          ⟨th, item, nd, next, marked, h1, h2, h3⟩
      · exact .inl h1
      · exact .inr (.inl ⟨t, th, k, lvl, rfl, h1, h2, h3⟩)
      · exact .inr (.inr ⟨t, th, item, nd, next, marked, rfl, h1, h2, h3⟩)

/-- discrete intermediate value: a property that holds at `i` and fails at `j ≥ i` is lost by one step in between -/
theorem crossing {P : Nat → Prop} {i j : Nat} (hij : i ≤ j) (hi : P i) (hj : ¬ P j) :
    ∃ p, i ≤ p ∧ p < j ∧ P p ∧ ¬ P (p + 1) := by
  induction j with
  | zero => have : i = 0 := Nat.le_zero.mp hij
            subst this; exact absurd hi hj
  | succ j ih =>
    by_cases h : i = j + 1
    · subst h; exact absurd hi hj
    · by_cases hpj : P j
      · exact ⟨j, Nat.le_of_lt_succ (Nat.lt_of_le_of_ne hij h), Nat.lt_succ_self j, hpj, hj⟩
      · obtain ⟨p, h1, h2, h3, h4⟩ := ih (Nat.le_of_lt_succ (Nat.lt_of_le_of_ne hij h)) hpj
        exact ⟨p, h1, Nat.lt_succ_of_lt h2, h3, h4⟩

theorem mark_of_crossing (n : Nat) (as : List Action) {p m : Nat}
    (h1 : unmarked0 (heapAt n as p) m) (h2 : ¬ unmarked0 (heapAt n as (p + 1)) m) :
    MarkEff (heapAt n as p) (heapAt n as (p + 1)) m := by
  rcases step_class n as p with u | ⟨t, th, k, lvl, _, _, _, u⟩ | ⟨t, th, item, nd, next, marked, _, _, _, u⟩
  · exact absurd ((u.iff m).mpr h1) h2
  · have : m ≠ (heapAt n as p).length := Nat.ne_of_lt (unmarkedAt_lt h1)
    exact absurd ((u.others this).mpr h1) h2
  · by_cases hm : m = nd
    · subst hm; exact u
    · exact absurd ((u.others hm).mpr h1) h2

/-- right after the action that marks a node carrying `k`, `k` is absent (live keys are distinct) -/
theorem absent_after_mark (n : Nat) (as : List Action) {p m k : Nat}
    (u : MarkEff (heapAt n as p) (heapAt n as (p + 1)) m) (hk : keyOf (heapAt n as p) m = .fin k) :
    ¬ absAt n as (p + 1) k := by
  have hI := stAt_invR n as p
  have := (u.abs hI.heap hI.reach (heap_ext_succ n as p) hk).2 k
  intro ha
  exact ((this.mp ha).2) rfl

theorem absent_instant (n : Nat) (as : List Action) {a b k : Nat} (hab : a ≤ b)
    (hmiss : ∀ m, m < (heapAt n as a).length → keyOf (heapAt n as b) m = .fin k → ¬ unmarked0 (heapAt n as b) m) :
    ∃ q, a ≤ q ∧ q ≤ b ∧ ¬ absAt n as q k := by
  by_cases h0 : absAt n as a k
  · obtain ⟨m, hm, hk⟩ := h0
    have hml := unmarkedAt_lt hm
    have hkb : keyOf (heapAt n as b) m = .fin k := by rw [(heap_ext n as hab).key m hml]; exact hk
    obtain ⟨p, hp1, hp2, hp3, hp4⟩ :=
      crossing (P := fun q => unmarked0 (heapAt n as q) m) hab hm (hmiss m hml hkb)
    have hkp : keyOf (heapAt n as p) m = .fin k := by rw [(heap_ext n as hp1).key m hml]; exact hk
    exact ⟨p + 1, Nat.le_succ_of_le hp1, hp2, absent_after_mark n as (mark_of_crossing n as hp3 hp4) hkp⟩
  · exact ⟨a, Nat.le_refl _, hab, h0⟩

end NitroVerif.SkipConc
