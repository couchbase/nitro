import NitroVerif.Lemmas.SkipSeqBuildRun
/-!
  The filling phase of the restore of `LoadFromDisk` on the pointer heap of M3: the loaders' `Segment.Add`
  calls in ANY interleaving that keeps each shard's file order (`Shuffle`).
-/
namespace NitroVerif.SkipSeq

/-- `segments[i] = b.NewSegment()` for every listed file -/
def news (n : Nat) : List BOp := List.replicate n BOp.new

/-- the calls of the loader of shard `i`: `segments[i].Add(itm)` for every decoded item in file
    order; an item is its key and the level request the random source answers for it -/
def shardAdds (i : Nat) (sh : List (Int × Nat)) : List BOp := sh.map fun p => BOp.add i p.1 p.2

/-- the loaders run one after the other, shard `i`, then `i+1`, … -/
def fillFrom : Nat → List (List (Int × Nat)) → List BOp
  | _, [] => []
  | i, sh :: r => shardAdds i sh ++ fillFrom (i + 1) r

/-- `ops` is an interleaving of the loaders of `shards`: at every step some loader `i` whose shard
    is not exhausted adds its next item to ITS segment `i` -/
inductive Shuffle : List (List (Int × Nat)) → List BOp → Prop
  | done {shards : List (List (Int × Nat))} : (∀ sh ∈ shards, sh = []) → Shuffle shards []
  | step {shards : List (List (Int × Nat))} {ops : List BOp} (i : Nat) (k : Int) (l : Nat)
      (rest : List (Int × Nat)) : shards[i]? = some ((k, l) :: rest) →
      Shuffle (shards.set i rest) ops → Shuffle shards (BOp.add i k l :: ops)

theorem getD_eq_nil_of_all_nil {α : Type} {ls : List (List α)} (h : ∀ l ∈ ls, l = []) (i : Nat) :
    ls.getD i [] = [] := by
  rw [List.getD_eq_getElem?_getD]
  cases hi : ls[i]? with
  | none => rfl
  | some l => exact h l (List.mem_of_getElem? hi)

theorem Shuffle.addedKeys {shards : List (List (Int × Nat))} {ops : List BOp} (h : Shuffle shards ops) :
    ∀ (n : Nat), shards.length ≤ n → ∀ i, addedKeys i n ops = (shards.getD i []).map (·.1) := by
  induction h with
  | done hall =>
    intro n _ i
    rw [getD_eq_nil_of_all_nil hall]; rfl
  | @step shards ops j k l rest hj _ ih =>
    intro n hn i
    have hjl : j < shards.length := (List.getElem?_eq_some_iff.mp hj).1
    have hj2 : shards[j] = (k, l) :: rest := (List.getElem?_eq_some_iff.mp hj).2
    have ih' := ih n (by simpa using hn) i
    simp only [SkipSeq.addedKeys]
    by_cases hij : j = i
    · subst hij
      rw [if_pos ⟨rfl, Nat.lt_of_lt_of_le hjl hn⟩, ih']
      simp [List.getD_eq_getElem?_getD, hjl, hj2]
    · rw [if_neg (fun hh => hij hh.1), ih']
      simp [List.getD_eq_getElem?_getD, List.getElem?_set_ne hij]

theorem shuffle_fillFrom_aux : ∀ (shards pre : List (List (Int × Nat))), (∀ sh ∈ pre, sh = []) →
    Shuffle (pre ++ shards) (fillFrom pre.length shards) := by
  intro shards
  induction shards with
  | nil => intro pre hpre; exact Shuffle.done (by simpa using hpre)
  | cons sh r ih =>
    intro pre hpre
    induction sh with
    | nil =>
      have := ih (pre ++ [[]]) (by
        intro s hs
        rcases List.mem_append.mp hs with h | h
        · exact hpre s h
        · simpa using h)
      simpa [fillFrom, shardAdds, List.append_assoc] using this
    | cons p rest ihs =>
      rcases p with ⟨k, l⟩
      simp only [fillFrom, shardAdds, List.map_cons, List.cons_append]
      refine Shuffle.step pre.length k l rest (by simp) ?_
      have hset : (pre ++ ((k, l) :: rest) :: r).set pre.length rest = pre ++ rest :: r := by simp
      rw [hset]
      exact ihs

theorem shuffle_fillFrom (shards : List (List (Int × Nat))) : Shuffle shards (fillFrom 0 shards) :=
  shuffle_fillFrom_aux shards [] (by simp)

theorem Shuffle.swap {i j : Nat} (hij : i ≠ j) (k k' : Int) (l l' : Nat) (b : List BOp) :
    ∀ (a : List BOp) (shards : List (List (Int × Nat))),
    Shuffle shards (a ++ BOp.add i k l :: BOp.add j k' l' :: b) →
    Shuffle shards (a ++ BOp.add j k' l' :: BOp.add i k l :: b) := by
  intro a
  induction a with
  | nil =>
    intro shards h
    cases h with
    | step _ _ _ rest hi h2 =>
      cases h2 with
      | step _ _ _ rest' hj h3 =>
        rw [List.getElem?_set_ne hij] at hj
        refine Shuffle.step j k' l' rest' hj (Shuffle.step i k l rest ?_ ?_)
        · rw [List.getElem?_set_ne (Ne.symm hij)]; exact hi
        · rw [List.set_comm _ _ (Ne.symm hij)]; exact h3
  | cons op a ih =>
    intro shards h
    cases h with
    | step i0 k0 l0 rest hi h2 => exact Shuffle.step i0 k0 l0 rest hi (ih _ h2)

theorem addedKeys_news (i : Nat) (adds : List BOp) : ∀ (n m : Nat),
    addedKeys i m (news n ++ adds) = addedKeys i (m + n) adds := by
  intro n
  induction n with
  | zero => intro m; simp [news]
  | succ n ih =>
    intro m
    have : news (n + 1) ++ adds = BOp.new :: (news n ++ adds) := by simp [news, List.replicate_succ]
    rw [this, addedKeys, ih]
    congr 1; exact Nat.add_right_comm m 1 n

theorem grun_news (n : Nat) : ∀ (st : SL × List (Segment × List Nat)),
    (grun st (news n)).2.length = st.2.length + n := by
  induction n with
  | zero => intro st; simp [news, grun]
  | succ n ih =>
    intro st
    have : news (n + 1) = BOp.new :: news n := by simp [news, List.replicate_succ]
    rw [this, grun, ih]
    simp [gstep]; omega

theorem Shuffle.grun_length {shards : List (List (Int × Nat))} {ops : List BOp} (h : Shuffle shards ops) :
    ∀ (st : SL × List (Segment × List Nat)), (grun st ops).2.length = st.2.length := by
  induction h with
  | done _ => intro st; rfl
  | step i k l rest _ _ ih =>
    intro st
    rw [grun, ih, gstep_add_length]

/-- the state after `n` `NewSegment` calls and any interleaving of the loaders: a consistent build state
    (whose erasure is the executable state), one segment per shard, carrying the shards' keys in file order -/
theorem fill_state (shards : List (List (Int × Nat))) (adds : List BOp) (hsh : Shuffle shards adds) :
    let g := grun (SL.init, []) (news shards.length ++ adds)
    BuildOK g.1 g.2 ∧
    (g.1, g.2.map (·.1)) = brun (SL.init, []) (news shards.length ++ adds) ∧
    (allNodes g.2).map (ikey g.1.nodes) = shards.flatten.map (·.1) := by
  intro g
  rcases grun_ok (news shards.length ++ adds) (SL.init, []) buildOK_init with ⟨hb, hk⟩
  have hlen : g.2.length = shards.length := by
    show (grun (SL.init, []) (news shards.length ++ adds)).2.length = _
    rw [grun_append, hsh.grun_length, grun_news]; simp
  have hsegs : (g.2.map fun e => e.2.map (ikey g.1.nodes)) = shards.map (·.map (·.1)) := by
    apply List.ext_getElem (by rw [List.length_map, List.length_map, hlen])
    intro i h1 h2
    rw [List.length_map] at h1 h2
    have hki := hk i
    rw [addedKeys_news, hsh.addedKeys _ (Nat.le_add_left _ _) i, segKeys, segKeys,
      List.getElem?_eq_getElem h1, List.getD_eq_getElem?_getD, List.getElem?_eq_getElem h2] at hki
    rw [List.getElem_map, List.getElem_map]
    exact hki
  refine ⟨hb, by simpa using grun_erase (news shards.length ++ adds) (SL.init, []), ?_⟩
  rw [allNodes_map, hsegs, List.map_flatten]

end NitroVerif.SkipSeq
