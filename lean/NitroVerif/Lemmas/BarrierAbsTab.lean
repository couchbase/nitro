import NitroVerif.Lemmas.BarrierAbs
/-!
  Abstract barrier states in "tabulated" form (`tab`): the sessions `0 … cur`, session `s` with
  `held s` anonymous holders (`Unit`), flushed iff `s < cur`, object `obj s`.
  Effect of every action of `AbsBarrier` on a tabulated state.
-/
namespace NitroVerif.AbsBarrier

def tabSess (cur : Nat) (held obj : Nat → Nat) (s : Nat) : ASess Unit Nat :=
  ⟨List.replicate (held s) (), decide (s < cur), if s < cur then obj s else 0⟩

def tab (cur : Nat) (held obj : Nat → Nat) (fs : Nat) (lg : List Nat) : AbsBarrier Unit Nat :=
  ⟨(List.range (cur + 1)).map (tabSess cur held obj), fs, lg⟩

theorem tab_sess_length (cur : Nat) (held obj : Nat → Nat) (fs : Nat) (lg : List Nat) :
    (tab cur held obj fs lg).sess.length = cur + 1 := by simp [tab]

theorem tab_getElem? (cur : Nat) (held obj : Nat → Nat) (fs : Nat) (lg : List Nat) (s : Nat) :
    (tab cur held obj fs lg).sess[s]? = if s < cur + 1 then some (tabSess cur held obj s) else none := by
  simp only [tab, List.getElem?_map]
  by_cases h : s < cur + 1
  · simp [h]
  · simp [h]

theorem tab_congr (cur : Nat) (held held' obj obj' : Nat → Nat) (fs : Nat) (lg : List Nat)
    (hh : ∀ s, s ≤ cur → held s = held' s) (ho : ∀ s, s < cur → obj s = obj' s) :
    tab cur held obj fs lg = tab cur held' obj' fs lg := by
  unfold tab
  congr 1
  apply List.map_congr_left
  intro s hs
  simp at hs
  unfold tabSess
  rw [hh s (by omega)]
  by_cases h : s < cur
  · simp [h, ho s h]
  · simp [h]

theorem modify_tab (cur : Nat) (held obj : Nat → Nat) (k : Nat) (f : ASess Unit Nat → ASess Unit Nat) :
    ((List.range (cur + 1)).map (tabSess cur held obj)).modify k f
      = (List.range (cur + 1)).map (fun s => if s = k then f (tabSess cur held obj s) else tabSess cur held obj s) := by
  apply List.ext_getElem?
  intro j
  rw [List.getElem?_modify]
  simp only [List.getElem?_map]
  by_cases hj : j < cur + 1
  · simp [List.getElem?_range hj]
    by_cases e : k = j
    · subst e; simp
    · have e' : ¬ j = k := fun h => e h.symm
      simp [e, e']
  · simp [hj]

theorem addHolder_tab (cur : Nat) (held obj : Nat → Nat) (s0 : Nat) :
    ((List.range (cur + 1)).map (tabSess cur held obj)).modify s0 (fun a => { a with holders := a.holders ++ [()] })
      = (List.range (cur + 1)).map (tabSess cur (fun s => held s + (if s = s0 then 1 else 0)) obj) := by
  rw [modify_tab]
  apply List.map_congr_left
  intro s _
  by_cases e : s = s0
  · subst e; simp [tabSess, List.replicate_succ']
  · simp [tabSess, e]

theorem acqF_tab (cur : Nat) (held obj : Nat → Nat) (fs : Nat) (lg : List Nat) :
    acqF (tab cur held obj fs lg) () = tab cur (fun s => held s + (if s = cur then 1 else 0)) obj fs lg := by
  unfold acqF
  rw [tab_sess_length]
  simp only [tab, Nat.add_sub_cancel]
  rw [addHolder_tab]

theorem relF_tab (cur : Nat) (held obj : Nat → Nat) (fs : Nat) (lg : List Nat) (s0 : Nat) :
    relF (tab cur held obj fs lg) s0 () = tab cur (fun s => held s - (if s = s0 then 1 else 0)) obj fs lg := by
  unfold relF
  simp only [tab]
  rw [modify_tab]
  congr 1
  apply List.map_congr_left
  intro s _
  by_cases e : s = s0
  · subst e
    simp only [tabSess, if_true]
    cases hh : held s with
    | zero => simp
    | succ n => simp [List.replicate_succ]
  · simp [tabSess, e]

theorem holds_tab (cur : Nat) (held obj : Nat → Nat) (fs : Nat) (lg : List Nat) (s0 : Nat)
    (hs : s0 ≤ cur) (hh : 1 ≤ held s0) : holds (tab cur held obj fs lg) s0 () = true := by
  unfold holds
  rw [tab_getElem?, if_pos (by omega)]
  simp only [tabSess]
  cases hc : held s0 with
  | zero => omega
  | succ n => simp [List.replicate_succ]

theorem flushF_tab (cur : Nat) (held obj : Nat → Nat) (fs : Nat) (lg : List Nat) (o : Nat)
    (h0 : held (cur + 1) = 0) :
    flushF (tab cur held obj fs lg) o = tab (cur + 1) held (fun s => if s = cur then o else obj s) fs lg := by
  unfold flushF
  rw [tab_sess_length]
  simp only [tab, Nat.add_sub_cancel]
  rw [modify_tab]
  congr 1
  rw [List.range_succ (n := cur + 1), List.map_append]
  congr 1
  · apply List.map_congr_left
    intro s hs
    simp at hs
    by_cases e : s = cur
    · subst e; simp [tabSess]
    · have h1 : s < cur := by omega
      have h2 : s < cur + 1 := by omega
      simp [tabSess, e, h1, h2]
  · simp [tabSess, h0]

@[simp] theorem tab_freeSeq (cur : Nat) (held obj : Nat → Nat) (fs : Nat) (lg : List Nat) :
    (tab cur held obj fs lg).freeSeq = fs := rfl
@[simp] theorem tab_log (cur : Nat) (held obj : Nat → Nat) (fs : Nat) (lg : List Nat) :
    (tab cur held obj fs lg).log = lg := rfl

theorem ready_tab (cur : Nat) (held obj : Nat → Nat) (fs : Nat) (lg : List Nat) :
    ready (tab cur held obj fs lg) = (decide (fs < cur) && decide (held fs = 0)) := by
  unfold ready
  rw [tab_getElem?, tab_freeSeq]
  by_cases h : fs < cur + 1
  · rw [if_pos h]
    simp only [ASess.terminated, tabSess]
    cases hc : held fs with
    | zero => simp
    | succ n => simp [List.replicate_succ]
  · have : ¬ fs < cur := by omega
    simp [h, this]

theorem destructF_tab (cur : Nat) (held obj : Nat → Nat) (fs : Nat) (lg : List Nat) (h : fs < cur) :
    destructF (tab cur held obj fs lg) = tab cur held obj (fs + 1) (lg ++ [obj fs]) := by
  unfold destructF
  rw [tab_getElem?, tab_freeSeq, if_pos (by omega)]
  simp [tab, tabSess, h]

end NitroVerif.AbsBarrier
