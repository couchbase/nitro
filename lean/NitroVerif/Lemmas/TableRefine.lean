import NitroVerif.Lemmas.TableOps
/-!
  The node table refines the association-list map: `Rel` is `SInv`, `BInv` and "the lookup in the bucket of a key's
  hash is the lookup in the map"; one step, whole runs.
-/
namespace NitroVerif.Table

/-- the API contract of the table: the pointer handed to Update points to an object whose key is
    the key handed to Update (`keyEqual(nptr, key)` holds) -/
def contract (keyOf : Ptr → Key) : MapSpec.Op → Prop
  | .update k p => keyOf p = k
  | _ => True

instance (keyOf : Ptr → Key) (op : MapSpec.Op) : Decidable (contract keyOf op) :=
  match op with
  | .update k p => inferInstanceAs (Decidable (keyOf p = k))
  | .get _ => isTrue trivial
  | .remove _ => isTrue trivial
  | .count => isTrue trivial

variable (hash : Key → Hash) (keyOf : Ptr → Key)

/-- bucket-level invariant: every pointer sits in the bucket of its key's hash, and the keys of
    one bucket (fast entry + slow list) are pairwise distinct -/
structure BInv (t : Table) : Prop where
  hashOk : ∀ h p, p ∈ bucket t h → hash (keyOf p) = h
  keysNodup : ∀ h, ((bucket t h).map keyOf).Nodup

structure Rel (t : Table) (m : MapSpec.Map) : Prop where
  sinv : SInv t
  binv : BInv hash keyOf t
  mnodup : (AL.keys m).Nodup
  lookup : ∀ k, AL.get m k = lookupB keyOf k (bucket t (hash k))
  count : m.length = itemsCount t

theorem Rel_empty : Rel hash keyOf {} [] := by
  refine ⟨SInv_empty, ⟨?_, ?_⟩, by simp [AL.keys], ?_, by simp [itemsCount]⟩
  · intro h p hp; simp [bucket, bucketOf, AL.get] at hp
  · intro h; simp [bucket, bucketOf, AL.get]
  · intro k; simp [bucket, bucketOf, AL.get, lookupB]

theorem Rel.rewrite {t t' : Table} {m m' : MapSpec.Map} (hR : Rel hash keyOf t m) {k : Key} {b' : List Ptr}
    {e : Option Ptr} (hS : SInv t')
    (hB : ∀ h', bucket t' h' = if h' = hash k then b' else bucket t h')
    (hmem : ∀ x ∈ b', x ∈ bucket t (hash k) ∨ keyOf x = k)
    (hnd : ((bucket t (hash k)).map keyOf).Nodup → (b'.map keyOf).Nodup)
    (hlk : ∀ k', lookupB keyOf k' b' = if k' = k then e else lookupB keyOf k' (bucket t (hash k)))
    (hm : ∀ k', AL.get m' k' = if k' = k then e else AL.get m k') (hmn : (AL.keys m').Nodup)
    (hcount : m'.length = itemsCount t') : Rel hash keyOf t' m' := by
  refine ⟨hS, ⟨fun h x hx => ?_, fun h => ?_⟩, hmn, fun k' => ?_, hcount⟩
  · rw [hB] at hx
    by_cases e1 : h = hash k
    · rw [if_pos e1] at hx
      rcases hmem x hx with hx | hx
      · rw [e1]; exact hR.binv.hashOk _ _ hx
      · rw [hx, e1]
    · rw [if_neg e1] at hx; exact hR.binv.hashOk _ _ hx
  · rw [hB]
    by_cases e1 : h = hash k
    · rw [if_pos e1]; exact hnd (hR.binv.keysNodup _)
    · rw [if_neg e1]; exact hR.binv.keysNodup _
  · rw [hm, hB, hR.lookup k']
    by_cases e1 : hash k' = hash k
    · rw [if_pos e1, hlk, e1]
    · rw [if_neg e1, if_neg (fun e2 : k' = k => e1 (congrArg hash e2))]

theorem update_rel {t : Table} {m : MapSpec.Map} (hR : Rel hash keyOf t m) (k : Key) (p : Ptr)
    (hc : keyOf p = k) :
    Rel hash keyOf (update hash keyOf t k p).1 (AL.set m k p) ∧
    (update hash keyOf t k p).2.1 = (AL.get m k).isSome ∧
    (update hash keyOf t k p).2.2 = AL.get m k := by
  obtain ⟨hS, hB, hu, ho, hcnt⟩ := update_ok hash keyOf hR.sinv k p
  rw [← hR.lookup k] at hu ho hcnt
  refine ⟨hR.rewrite hash keyOf hS hB (fun x hx => (mem_updateB keyOf hx).elim (fun e => Or.inr (e ▸ hc)) Or.inl)
    (nodup_updateB keyOf hc) (lookupB_updateB keyOf hc _) (AL.get_set m k p)
    (AL.nodup_set _ _ _ hR.mnodup) ?_, hu, ho⟩
  rw [AL.length_set, hcnt, hR.count]
  split <;> simp

theorem remove_rel {t : Table} {m : MapSpec.Map} (hR : Rel hash keyOf t m) (k : Key) :
    Rel hash keyOf (remove hash keyOf t k).1 (AL.del m k) ∧
    (remove hash keyOf t k).2.1 = (AL.get m k).isSome ∧
    (remove hash keyOf t k).2.2 = AL.get m k := by
  obtain ⟨hS, hB, hu, ho, hcnt⟩ := remove_ok hash keyOf hR.sinv k
  rw [← hR.lookup k] at hu ho hcnt
  refine ⟨hR.rewrite hash keyOf (e := none) hS hB (fun x hx => Or.inl (List.eraseP_sublist.subset hx))
    (fun hn => hn.sublist (List.eraseP_sublist.map keyOf)) (lookupB_eraseP keyOf _ (hR.binv.keysNodup _))
    (AL.get_del m k hR.mnodup) (AL.nodup_del _ _ hR.mnodup) ?_, hu, ho⟩
  have := AL.length_del m k
  rw [← hR.count] at hcnt
  omega

theorem step_rel {t : Table} {m : MapSpec.Map} (hR : Rel hash keyOf t m) (op : MapSpec.Op)
    (hc : contract keyOf op) :
    Rel hash keyOf (step hash keyOf t op).1 (MapSpec.step m op).1 ∧
    (step hash keyOf t op).2 = (MapSpec.step m op).2 := by
  cases op with
  | update k p =>
    obtain ⟨h1, h2, h3⟩ := update_rel hash keyOf hR k p hc
    simp only [step, MapSpec.step]
    exact ⟨h1, by rw [h2, h3]⟩
  | get k =>
    simp only [step, MapSpec.step]
    exact ⟨hR, by rw [get_eq_lookup hash keyOf hR.sinv, hR.lookup]⟩
  | remove k =>
    obtain ⟨h1, h2, h3⟩ := remove_rel hash keyOf hR k
    simp only [step, MapSpec.step]
    exact ⟨h1, by rw [h2, h3]⟩
  | count =>
    simp only [step, MapSpec.step]
    exact ⟨hR, by rw [hR.count]⟩

theorem runFrom_rel {t : Table} {m : MapSpec.Map} (hR : Rel hash keyOf t m) (ops : List MapSpec.Op)
    (hc : ∀ op ∈ ops, contract keyOf op) :
    Rel hash keyOf (runFrom hash keyOf t ops).1 (MapSpec.runFrom m ops).1 ∧
    (runFrom hash keyOf t ops).2 = (MapSpec.runFrom m ops).2 := by
  induction ops generalizing t m with
  | nil => exact ⟨hR, rfl⟩
  | cons op ops ih =>
    obtain ⟨h1, h2⟩ := step_rel hash keyOf hR op (hc op List.mem_cons_self)
    obtain ⟨h3, h4⟩ := ih h1 (fun o ho => hc o (List.mem_cons_of_mem _ ho))
    simp only [runFrom, MapSpec.runFrom]
    exact ⟨h3, by rw [h2, h4]⟩

end NitroVerif.Table
