import NitroVerif.Lemmas.BarrierFacts
import NitroVerif.Lemmas.BarrierExec
/-!
  `Inv` is inductive, for both protocol variants and with the proof-only `stale` action enabled.

  The stepping thread stands in front of the others (`withThs st (t :: r)`), where `cnt f` unfolds to
  `f t + (r.map f).sum` and `t`, `t'` are constructor terms: a clause the step does not touch is the old clause up to
  unfolding, and `{ h with … }` lists the others (the rest is taken from `h` BY NAME and checked up to unfolding; `h` and
  the goal need not be the same structure).  A step that works on session `s` evaluates the weights
  of its two program counters once and lists the clauses of `s` that change; every other session is framed.
-/
namespace NitroVerif.Barrier

theorem Exec.inv {fixed : Bool} {st st1 : St} {t t' : Th} {a : Act} {r : List Th}
    (hs : Exec fixed st t a st1 t') (h : Inv (withThs st (t :: r))) : Inv (withThs st1 (t' :: r)) := by
  cases hs
  case startAcquire => exact { h with }
  case startRelease toks j s hj =>
    have ce := fun x => count_eraseIdx toks j s x hj
    have eU : ∀ x, unitsT x ⟨.relDec s .retRel, toks.eraseIdx j⟩ = unitsT x ⟨.idle, toks⟩ :=
      fun x => by simpa [barsimp] using ce x
    have eR : ∀ x, realT x ⟨.relDec s .retRel, toks.eraseIdx j⟩ = realT x ⟨.idle, toks⟩ :=
      fun x => by simpa [barsimp] using ce x
    have eF : ∀ x, refT x ⟨.relDec s .retRel, toks.eraseIdx j⟩ = refT x ⟨.idle, toks⟩ :=
      fun x => by simpa [barsimp] using ce x
    refine Inv.of_sess rfl { h with } fun x => ?_
    have := h.sess x
    simp only [Inv.At, cnt_withThs, List.map_cons, List.sum_cons, eF, eU, eR] at this ⊢
    exact this
  case startFlush =>
    exact { h with calls := ⟨by have := h.calls.1; simp only [barsimp] at this ⊢; omega, h.calls.2⟩ }
  case stale => exact { h with }
  case acqLoad =>
    exact { h with
      range := fun x hx => by
        have := h.range x hx
        have := h.curlen
        have : st.cur ≠ x := by simp only [barsimp] at hx; simp only [barsimp] at *; omega
        simpa only [barsimp, this] using h.range x hx }
  case acqBackoff toks s hb =>
    refine h.setS_of (if_pos rfl) { h with } (fun hs0 => ?_) (fun _ e => if_neg e) (fun _ e => if_neg e) (fun _ _ => rfl)
    have hs := h.sess s
    simp only [barsimp] at hs ⊢
    have hfl : (getS st s).flushed = true := (live_backoff (hs.count hs0) hs.bound).symm.trans hb
    exact { hs with
      count := by have := hs.count; simp only [addLive_live, addLive_flushed]; omega
      bound := fun c => by rw [addLive_flushed, hfl] at c; cases c
      last := fun _ c => by omega }
  case acqGrant toks s hreg hb =>
    refine h.setS_of (if_pos rfl) { h with } (fun hs0 => ?_) (fun _ e => if_neg e) (fun _ _ => rfl)
      (fun x e => by simp [List.count_append, e])
    have hs := h.sess s
    simp only [barsimp, List.count_append, List.count_singleton_self] at hs ⊢
    have hnf : (getS st s).flushed = false := (live_backoff (hs.count hs0) hs.bound).symm.trans hb
    simp only [hnf, barrierFlushOffset_val, Bool.not_false, Bool.true_and, decide_eq_false_iff_not, Int.not_le] at hreg
    have hcl := hs.closed
    simp only [hnf, b2n_false] at hcl
    exact { hs with
      range := fun hx => absurd hs0 (Nat.not_lt.mpr hx)
      count := by have := hs.count; simp only [addLive_live, addLive_flushed]; omega
      bound := fun _ => hreg
      closed := fun c => by simp only [addLive_closed] at c; exact absurd (hcl (by omega)).1 (by decide)
      last := fun c => by rw [addLive_flushed, hnf] at c; cases c }
  case relDecLast toks s k hv =>
    refine h.setS_of (if_pos rfl) { h with } (fun hs0 => ?_) (fun _ e => if_neg e) (fun _ e => if_neg e) (fun _ _ => rfl)
    have hs := h.sess s
    simp only [barsimp] at hs ⊢
    obtain ⟨hfl, hu⟩ := (live_last (hs.count hs0) hs.bound).mp hv
    have hru := sum_map_le _ _ r (realT_le_unitsT s)
    exact { hs with
      count := by have := hs.count; simp only [addLive_live, addLive_flushed]; omega
      bound := fun c => by rw [addLive_flushed, hfl] at c; cases c
      closed := fun _ => ⟨by rw [addLive_flushed, hfl]; rfl, by omega⟩
      last := fun _ _ => .inr (Nat.le_add_right 1 _) }
  case relDecPanic toks s k hv hp =>
    -- the panic branch of `Release` contradicts `count` and `bound`
    have hs := h.sess s
    simp only [barsimp] at hs
    have := live_nopanic (hs.count (ref_lt_pc h (if_pos rfl))) hs.bound
      (Nat.le_trans (Nat.le_add_left 1 _) (Nat.le_add_right _ _)) hp
    rw [hv] at this; cases this
  case relDecMore toks s k hv hp =>
    refine inv_afterCont (h.setS_of (if_pos rfl) { h with } (fun hs0 => ?_) (fun _ e => if_neg e) (fun _ _ => rfl) (fun _ _ => rfl))
    have hs := h.sess s
    simp only [barsimp] at hs ⊢
    have hl := live_last (hs.count hs0) hs.bound
    exact { hs with
      range := fun hx => absurd hs0 (Nat.not_lt.mpr hx)
      count := by have := hs.count; simp only [addLive_live, addLive_flushed]; omega
      bound := by have := hs.bound; simp only [addLive_live, addLive_flushed]; omega
      closed := by have := hs.closed; simp only [addLive_closed, addLive_flushed]; omega
      last := fun hf hu => by
        rw [addLive_flushed, b2n_eq_one] at hf
        exact absurd (hl.mpr ⟨hf, by omega⟩) (by rw [hv]; exact Bool.false_ne_true) }
  case relClosedFirst toks s k hv =>
    refine h.setS_of (if_pos rfl) { h with } (fun hs0 => ?_) (fun _ e => if_neg e) (fun _ e => if_neg e) (fun _ _ => rfl)
    have hs := h.sess s
    simp only [barsimp] at hs ⊢
    have hc0 : (getS st s).closed = 0 := by rw [closedFirst_iff] at hv; omega
    have hcl := hs.closed (.inr (Nat.le_add_right 1 _))
    have hpl := hs.place.1 hc0
    exact { hs with
      closed := fun _ => by simpa only [incClosed_flushed] using hcl
      place := by simp only [incClosed_closed]; omega
      last := fun _ _ => .inl (Nat.le_add_left 1 _) }
  case relClosedAgain toks s k hv =>
    refine inv_afterCont (h.setS_of (if_pos rfl) { h with } (fun hs0 => ?_) (fun _ e => if_neg e) (fun _ _ => rfl) (fun _ _ => rfl))
    have hs := h.sess s
    simp only [barsimp] at hs ⊢
    have hc1 : 1 ≤ (getS st s).closed := by rw [← Bool.not_eq_true, closedFirst_iff] at hv; omega
    have hcl := hs.closed (.inl hc1)
    have hpl := hs.place.2 hc1
    exact { hs with
      range := fun hx => absurd hs0 (Nat.not_lt.mpr hx)
      closed := fun _ => by simpa only [incClosed_flushed] using hcl
      place := by simp only [incClosed_closed]; omega
      last := fun _ _ => .inl (Nat.le_add_left 1 _) }
  case relInsert toks s k q hq =>
    have hs := h.sess s
    simp only [barsimp] at hs
    have hc1 : 1 ≤ (getS st s).closed := by have := hs.place.1; omega
    have hpl := hs.place.2 hc1
    have hq0 : st.freeq.count s = 0 ∧ st.freeSeqno ≤ s := by omega
    obtain ⟨q', hq', hsorted, hcq, hhead⟩ := qinsert_closed h (s := s) hc1 hq0.1
    obtain rfl : q' = q := by simpa [hq] using hq'.symm
    -- the head a thread at CL_PROC works on stays the head: it is `freeSeqno`, which is `≤ s` and not `s`
    have hproc : ∀ x, st.freeq.head? = some x → x = st.freeSeqno → q'.head? = some x := fun x hh hx => by
      refine hhead x hh ?_
      have : 0 < st.freeq.count x := List.count_pos_iff.mpr (List.mem_of_mem_head? hh)
      have : x ≠ s := by rintro rfl; omega
      omega
    refine Inv.of_sess rfl { h with sorted := hsorted } fun x => ?_
    show Inv.At _ _ x (getS st x)
    by_cases e : s = x
    · subst e
      have hc := hcq s
      simp only [barsimp] at hc ⊢
      exact { hs with
        range := fun hx => absurd (ref_lt_pc h (if_pos rfl)) (Nat.not_lt.mpr hx)
        place := by omega
        proc := fun hp => have := hs.proc hp; ⟨hproc s this.1 this.2, this.2⟩ }
    · have hx := (h.sess x).frame (pc' := .relTryLock k) (if_neg e) rfl rfl
      have hc := hcq x
      rw [if_neg e] at hc
      exact { hx with
        place := by have := hx.place; simp only [barsimp] at this ⊢; rw [hc]; exact this
        proc := fun hp => have := hx.proc hp; ⟨hproc x this.1 this.2, this.2⟩ }
  case relInsertPanic toks s k hq =>
    have hpl := h.place s
    simp [barsimp] at hpl
    obtain ⟨q', hq', _⟩ := qinsert_closed h (s := s) (by simp; omega) (by simp; omega)
    simp [hq] at hq'
  case relTryLockFail => exact inv_afterCont h
  case relTryLockOk toks k hf =>
    exact { h with flag := by have := h.flag; simp only [barsimp, hf] at this ⊢; omega }
  case clReadProc toks b k s hr =>
    obtain ⟨hh, hs⟩ := headReady_some h hr
    have hs0 := (closed_facts h s (queued_closed h s (List.mem_of_mem_head? hh))).1
    exact { h with
      range := fun x hx => by
        have hold := h.range x hx
        have e : s ≠ x := by simp only [barsimp] at hx hs0; omega
        simpa only [barsimp, e] using hold
      proc := fun x hp => by
        by_cases e : s = x
        · subst e; exact ⟨hh, hs⟩
        · exact h.proc x (by simpa only [barsimp, e] using hp) }
  case clReadExit => exact { h with }
  case clProc toks s k =>
    obtain ⟨hh, hsf, hc1, hact, hseq, hobj⟩ := h.at_clProc
    obtain ⟨r', hq⟩ := List.head?_eq_some_iff.mp hh
    have hqc : st.freeq.count s = r'.count s + 1 := by rw [hq, List.count_cons_self]
    have hP0 : ∀ x, (r.map (onPc (pcProc x))).sum = 0 := fun x => Nat.le_zero.mp
      (alone_with_flag h rfl ▸ sum_map_le (onPc (pcProc x)) (onPc pcFlag) r fun u => (pc_weights x u.pc).proc_flag)
    have her : st.freeq.erase s = r' := hq ▸ erase_head s r'
    refine Inv.of_sess rfl { h with
      sorted := by
        have := h.sorted; simp only [barsimp, hq, List.pairwise_cons] at this
        simp only [barsimp, her]; exact this.2
      logseq := by
        have := h.logseq; simp only [barsimp] at this
        simp [barsimp, this, hseq, List.range'_concat]; omega
      logobj := by
        have := h.logobj; simp only [barsimp] at this
        simp [barsimp, this, List.take_add_one, ← hsf, hobj]
      stats := by have := h.stats; simp only [barsimp] at this ⊢; omega } fun x => ?_
    show Inv.At _ _ x (getS st x)
    by_cases e : s = x
    · subst e
      have hs := h.sess s
      simp only [barsimp] at hs
      simp only [barsimp, her]
      have := hs.place.2 hc1
      exact { hs with
        range := fun hx => absurd (ref_lt_pc h (if_pos rfl)) (Nat.not_lt.mpr hx)
        place := by omega
        proc := fun hp => by rw [hP0 s] at hp; cases hp }
    · have hx := (h.sess x).frame (pc' := .clRead false k) (if_neg e) rfl rfl
      have hc : r'.count x = st.freeq.count x := by rw [hq, List.count_cons_of_ne e]
      have e1 : st.freeSeqno + 1 ≤ x ↔ st.freeSeqno ≤ x := by omega
      have e2 : x < st.freeSeqno + 1 ↔ x < st.freeSeqno := by omega
      exact { hx with
        place := by have := hx.place; simp only [barsimp, her, hc, e1, e2] at this ⊢; exact this
        proc := fun hp => by simp only [barsimp, hP0 x] at hp; cases hp }
  case relUnlock toks k =>
    have hF := alone_with_flag h rfl
    have h' : Inv (withThs { st with flag := false } (⟨.relTryLock k, toks⟩ :: r)) :=
      { h with flag := by simp only [barsimp]; omega }
    cases fixed
    · exact inv_afterCont h'
    · exact { h' with }
  case relRecheckAgain => exact { h with }
  case relRecheckDone => exact inv_afterCont { h with }
  case flLock toks obj hm =>
    exact { h with
      mutex := by have := h.mutex; simp only [barsimp, hm] at this ⊢; omega
      calls := ⟨by have := h.calls.1; simp only [barsimp] at this ⊢; omega, h.calls.2⟩ }
  case flSwap toks obj =>
    have hcl := h.curlen
    have hact := h.active
    have hM0 := alone_in_mutex h rfl
    simp only [barsimp, no_tag_of_mutex h rfl] at hcl hact
    refine Inv.of_sess (n := st.sess.length + 1) (by simp only [barsimp]) { h with
      curlen := rfl
      active := by simp only [barsimp, no_tag_of_mutex h rfl]; omega } fun x => ?_
    show Inv.At _ _ x (getS { st with sess := st.sess ++ [{}], cur := st.sess.length } x)
    rw [getS_append st _ x rfl]
    have hx := h.sess x
    have hP0 : (r.map (onPc (pcPend x))).sum = 0 :=
      Nat.le_zero.mp (hM0 ▸ sum_map_le (onPc (pcPend x)) _ r fun u => (pc_weights x u.pc).pend_mutex)
    by_cases e : st.cur = x
    · -- the session that was current
      subst e
      simp only [barsimp] at hx ⊢
      have hp := hx.pend (by omega)
      exact { hx with
        range := fun c => by omega
        count := fun _ => hx.count (by omega)
        pend := fun _ => by omega
        pendcur := .inr hcl }
    · simp only [barsimp, e] at hx ⊢
      by_cases hlt : x < st.sess.length
      · have hp := hx.pend hlt
        exact { hx with
          range := fun c => by omega
          count := fun _ => hx.count hlt
          pend := fun _ => by omega
          pendcur := .inl hP0 }
      · -- not allocated before the step
        have hr := hx.range (Nat.le_of_not_lt hlt)
        have hu := sum_map_le _ _ r (unitsT_le_refT x)
        rw [getS_default st x (Nat.le_of_not_lt hlt)] at hx ⊢
        exact { hx with
          range := fun _ => hr
          count := fun _ => by simp only [barsimp]; omega
          pend := fun _ => by simp only [barsimp]; omega
          pendcur := .inl hP0 }
  case flTag toks s obj =>
    have hs0 : s < st.sess.length := ref_lt_pc h (if_pos rfl)
    have hnt := no_tag_of_mutex h rfl
    have hact := h.active
    have htl := h.tagged
    have hfa := freeSeqno_le_active h
    simp only [barsimp, hnt] at hact htl hfa
    have hs0a : s = st.activeSeqno := by have := h.pendcur s; simp only [barsimp] at this; omega
    refine Inv.of_sess (setS_sess_length _ s _) { h with
      active := by simp only [barsimp, hnt]; exact hact
      tagged := by simp only [barsimp, htl]
      logobj := by
        have := h.logobj; simp only [barsimp] at this ⊢
        rw [this, List.take_append_of_le_length (htl ▸ hfa)]
      stats := by have := h.stats; simp only [barsimp] at this ⊢; exact ⟨by rw [this.1], this.2⟩
      calls := ⟨h.calls.1, by have := h.calls.2; simp only [barsimp] at this ⊢; omega⟩ } fun x => ?_
    show Inv.At _ _ x (getS (setS (tagGlobals st obj) s _) x)
    have hx := h.sess x
    by_cases e : s = x
    · subst e
      rw [getS_setS_same (tagGlobals st obj) _ _ hs0]
      simp only [Inv.At] at hx ⊢
      exact { hx with
        numbering := fun _ => by
          have : (st.tagged ++ [obj])[s]? = some obj := by rw [hs0a, ← htl]; simp
          simp only [barsimp, this]; omega
        flushedlt := fun hf => Nat.lt_succ_of_lt (hx.flushedlt hf) }
    · rw [getS_setS_ne _ _ _ _ e]
      simp only [Inv.At] at hx ⊢
      exact { hx with
        numbering := fun hlt => by
          simp only [barsimp] at hlt
          have hxa : x < st.activeSeqno :=
            Nat.lt_of_le_of_ne (Nat.le_of_lt_succ hlt) fun c => e (hs0a.trans c.symm)
          have : x < st.tagged.length := htl ▸ hxa
          simpa only [barsimp, List.getElem?_append_left this] using hx.numbering hxa
        flushedlt := fun hf => Nat.lt_succ_of_lt (hx.flushedlt hf) }
  case flAdd toks s =>
    refine h.setS_of (if_pos rfl) { h with } (fun hs0 => ?_) (fun _ e => if_neg e) (fun _ e => if_neg e) (fun _ _ => rfl)
    have hs := h.sess s
    have hnt := no_tag_of_mutex h rfl
    have hact := h.active
    simp only [barsimp, hnt] at hs hact ⊢
    have hcur : s + 1 = st.cur := by have := hs.pendcur; omega
    have hP := (hs.pend hs0).2 (by omega)
    have hcl : (getS st s).closed = 0 ∧ (r.map (onPc (pcClosed s))).sum = 0 := by have := hs.closed; omega
    have hfv := flushAdd_val
    have hc := hs.count hs0
    exact { hs with
      count := by simp only [flush_live, flush_flushed, b2n_true, hfv]; omega
      bound := by simp only [flush_flushed, b2n_true]; omega
      pend := by simp only [flush_flushed, b2n_true]; omega
      pendcur := by omega
      flushedlt := fun _ => by omega
      closed := by simp only [flush_closed, flush_flushed, b2n_true]; omega
      last := by simp only [flush_closed, flush_flushed, b2n_true]; omega }
  case flUnlock toks =>
    have hM := alone_in_mutex h rfl
    exact { h with
      mutex := by simp only [barsimp]; omega
      calls := by have := h.calls; simp only [barsimp] at this ⊢; exact ⟨by omega, by omega⟩ }

theorem step_inv {fixed : Bool} {st st' : St} {i : Nat} {a : Act} (h : Inv st)
    (hs : step fixed st i a = some st') : Inv st' := by
  obtain ⟨t, st1, t', ht, he, rfl⟩ := step_some hs
  have hx := exec_sound he
  rw [setT_eq_withThs, hx.ths]
  exact Inv.of_sums (.back t' ht) (hx.inv (h.front ht))

theorem init_inv (n : Nat) : Inv (init n) := by
  have c := fun f hf => cnt_init f n hf
  have cU := fun s => c (unitsT s) (by simp [barsimp])
  have cR := fun s => c (realT s) (by simp [barsimp])
  have cF := fun s => c (refT s) (by simp [barsimp])
  have cP := fun g (hg : g PC.idle = 0) => c (onPc g) (by simp [barsimp, hg])
  have g := getS_init n
  constructor
  case range => intro s _; exact cF s
  case curlen => simp [init]
  case count => intro s _; simp [g, cU]
  case bound => intro s; simp [g]
  case pend =>
    intro s hs
    have : s = 0 := by simp [init] at hs; omega
    subst this
    simp [g, cP _ (pcPend_idle 0)]; simp [init]
  case pendcur => intro s; left; exact cP _ (pcPend_idle s)
  case mutex => rw [cP _ pcMutex_idle]; simp [init]
  case flag => rw [cP _ pcFlag_idle]; simp [init]
  case active => rw [cP _ pcTag_idle]; simp [init]
  case tagged => simp [init]
  case numbering => intro s hs; simp [init] at hs
  case flushedlt => intro s; simp [g]
  case closed => intro s; simp [g, cP _ (pcClosed_idle s)]
  case place => intro s; simp [g, cP _ (pcInsert_idle s)]; simp [init]
  case sorted => simp [init]
  case logseq => simp [init]
  case logobj => simp [init]
  case proc => intro s; simp [cP _ (pcProc_idle s)]
  case nopanic => simp [init]
  case stats => simp [init]
  case calls => rw [cP _ pcMutex_idle, cP _ pcLock_idle, cP _ pcPast_idle]; simp [init]
  case last => intro s; simp [g]

theorem run_inv {fixed : Bool} {sched : List (Nat × Act)} {st st' : St} (h : Inv st)
    (hr : run fixed st sched = some st') : Inv st' :=
  run_induct step_inv h hr

theorem reachable_inv {fixed : Bool} {n : Nat} {st : St} (hr : Reachable fixed n st) : Inv st := by
  obtain ⟨sched, hs⟩ := hr
  exact run_inv (init_inv n) hs

end NitroVerif.Barrier
