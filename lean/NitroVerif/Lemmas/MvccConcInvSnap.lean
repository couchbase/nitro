/-
  The invariant is preserved by snapshots and their users: `NewSnapshot` (the writers' garbage lists and counts
  move to the new snapshot, the epoch advances); the readers' calls; `Snapshot.Close` / `Iterator.Close` and the
  COLLECT_SEND step: a reference goes back, then the tail of the Close, in which the collector flag changes only
  in the hands of the one thread that may act as the collector.
-/
import NitroVerif.Lemmas.MvccConcPcProt
import NitroVerif.Lemmas.MvccConcFields
import NitroVerif.Lemmas.MvccConcOutcome
import NitroVerif.Lemmas.MvccConcGen

namespace NitroVerif.MvccConc

theorem inv_snap {σ : State} (h : Inv σ) (hi : writersIdle σ = true) : Inv (snap σ).1 := by
  unfold snap
  have hst := h.store
  have hpc := h.pc
  refine inv_iff.mpr ?_
  simp only [mvcc_fields]
  refine ⟨?_, ?_, ?_, h.own, h.tok, h.prot⟩
  · refine ⟨hst.sorted, Mvcc.chains_mono (by omega) hst.chains, ?_, by omega, hst.ids, hst.unl, hst.id_lt, ?_, ?_, ?_⟩
    · have hz : ((σ.writers.map fun _ => (⟨0, []⟩ : Writer)).map (·.count)).sum = 0 :=
        sum_map_eq_zero fun a ha => by obtain ⟨_, _, rfl⟩ := List.mem_map.mp ha; rfl
      rw [hz]; have := hst.cnt; omega
    · rw [List.pairwise_append]
      refine ⟨hst.snaps_inc, by simp, ?_⟩
      intro a ha b hb
      simp at hb; subst hb
      exact hst.snaps_lt a ha
    · intro s hs
      rcases List.mem_append.mp hs with hs | hs
      · have := hst.snaps_lt s hs; omega
      · simp at hs; subst hs; simp
    · intro s hs hne
      rcases List.mem_append.mp hs with hs | hs
      · exact hst.rc_dead s hs hne
      · simp at hs; subst hs; simp at hne
  · rw [List.length_map]
    refine ⟨fun {t pc} hg => ?_, hpc.excl⟩
    have hat := hpc.at hg
    -- no writer is parked: the entries that speak of the epoch are not there
    cases pc with
    | putInsert n k v b => cases writersIdle_spec hi hat.1 hg
    | delPhys n tk k => cases writersIdle_spec hi hat.1 hg
    | delCas n tk k => cases writersIdle_spec hi hat.1 hg
    | collectSend sn a =>
      obtain ⟨hf, x, hx, h1⟩ := hat
      exact ⟨hf, x, List.mem_append_left _ hx, h1⟩
    | _ => trivial
  · have hg : ∀ m, garbC (σ.writers.map (fun _ => (⟨0, []⟩ : Writer)))
        (σ.snaps ++ [⟨σ.currSn, 1, σ.itemsCount + (σ.writers.map (·.count)).sum,
          (σ.writers.reverse.map (·.gc)).flatten, .live, true⟩]) σ.gcJobs m = garbC σ.writers σ.snaps σ.gcJobs m := by
      intro m
      unfold garbC garbW garbS
      rw [List.flatMap_eq_nil_iff.mpr fun a ha => by obtain ⟨_, _, rfl⟩ := List.mem_map.mp ha; rfl,
        List.flatMap_append]
      have e : snapGarb ⟨σ.currSn, 1, σ.itemsCount + (σ.writers.map (·.count)).sum,
          (σ.writers.reverse.map (·.gc)).flatten, .live, true⟩ = σ.writers.reverse.flatMap (·.gc) := by
        simp [snapGarb, List.flatMap_def]
      simp only [List.flatMap_cons, List.flatMap_nil, List.append_nil, List.count_append, List.count_nil, e]
      rw [count_flatMap_reverse]
      omega
    exact h.garb.mono (fun m => Nat.le_of_eq (hg m)) (fun _ hy _ => hy) (Nat.le_succ _) h.garb.jobs

theorem garbS_updSnap_same (s : Nat) (f : Snap → Snap) : ∀ (snaps : List Snap),
    (∀ x ∈ snaps, x.sn = s → snapGarb (f x) = snapGarb x) → garbS (updSnap s f snaps) = garbS snaps
  | [], _ => rfl
  | x :: xs, hf => by
    have ih := garbS_updSnap_same s f xs (fun y hy => hf y (List.mem_cons_of_mem _ hy))
    unfold garbS updSnap at ih ⊢
    simp only [List.map_cons, List.flatMap_cons, ih]
    split
    · rename_i hx; rw [hf x (List.mem_cons_self) hx]
    · rfl

theorem inv_updSnap {σ : State} {s : Nat} {f : Snap → Snap} (h : Inv σ)
    (hsn : ∀ x, (f x).sn = x.sn) (hgl : ∀ x, (f x).gclist = x.gclist)
    (hst : ∀ x ∈ σ.snaps, x.sn = s → (f x).st = x.st ∨ (x.st = .live ∧ (f x).st = .retired))
    (hrc : ∀ x ∈ σ.snaps, x.sn = s → (f x).st ≠ .live → (f x).rc ≤ 0) :
    Inv { σ with snaps := updSnap s f σ.snaps } := by
  have hst0 := h.store
  refine ⟨?_, ?_, ?_, h.own, h.tok, h.prot⟩
  · exact hst0.updSnap hsn hrc
  · refine h.pc.snaps_mono ?_
    intro y hy hyst
    refine ⟨_, mem_updSnap_of_mem hy, ?_⟩
    split
    · rename_i hys
      refine ⟨hsn y, ?_⟩
      rcases hst y hy hys with h1 | ⟨h1, _⟩
      · rw [h1]; exact hyst
      · rw [hyst] at h1; cases h1
    · exact ⟨rfl, hyst⟩
  · refine h.garb.congr_jobs ?_ h.garb.jobs
    intro n
    show garbC σ.writers (updSnap s f σ.snaps) σ.gcJobs n = _
    unfold garbC
    rw [garbS_updSnap_same s f σ.snaps]
    intro x hx hxs
    unfold snapGarb
    rw [hgl]
    rcases hst x hx hxs with h1 | ⟨h1, h2⟩
    · rw [h1]
    · rw [h1, h2]; simp

theorem inv_setPc_plain {σ : State} {t : Nat} {pc0 pc' : Pc} (h : Inv σ) (ht : σ.threads[t]? = some pc0)
    (hp0 : pc0.plain) (hp' : pc'.plain) : Inv (setPc σ t pc') :=
  ⟨h.store.set_not_put t hp'.put, h.pc.set_plain t hp', h.garb,
   h.own.set_same ht (by rw [hp'.own, hp0.own]) hp0.put hp'.put,
   h.tok.set_tok_same ht (by rw [hp'.tok, hp0.tok]),
   h.prot.set_plain ht hp0.flush hp'.ref⟩

theorem inv_set_iter_plain {σ : State} {t : Nat} {pc0 pc' : Pc} {k : Nat × Nat} {it it' : Iter} (h : Inv σ)
    (ht : σ.threads[t]? = some pc0) (hp0 : pc0.plain) (hp' : pc'.plain) (hm : (k, it) ∈ σ.iters)
    (he : it'.tok = it.tok) (hc : ∀ c, it'.cur = some c → c.id ∈ storeIds σ.store) :
    Inv (setPc { σ with iters := setIter k it' σ.iters } t pc') := by
  refine ⟨h.store.set_not_put t hp'.put, h.pc.set_plain t hp', h.garb,
    h.own.set_same ht (by rw [hp'.own, hp0.own]) hp0.put hp'.put,
    (h.tok.setIter_tok_same hm he).set_tok_same ht (by rw [hp'.tok, hp0.tok]), ?_⟩
  refine (h.prot.iters_mono ?_).set_plain ht hp0.flush hp'.ref
  intro key it0 c hm0 hcur
  rcases mem_setIter.mp hm0 with ⟨h1, _⟩ | h1
  · exact Or.inl h1
  · injection h1 with h2 h3
    subst h3
    exact Or.inr (hc c hcur)

theorem inv_landOn {σ : State} {t i : Nat} {it : Iter} {land : Option Node} {pc0 : Pc} (h : Inv σ)
    (ht : σ.threads[t]? = some pc0) (hp0 : pc0.plain) (hm : ((t, i), it) ∈ σ.iters)
    (hl : ∀ y, land = some y → y ∈ σ.store) : Inv (landOn σ t i it land).1 := by
  unfold landOn
  cases land with
  | none =>
    exact inv_set_iter_plain h ht hp0 trivial hm rfl (by intro c hc; simp at hc)
  | some y =>
    have hy : y.id ∈ storeIds σ.store := mem_storeIds (hl y rfl)
    simp only
    split <;> exact inv_set_iter_plain h ht hp0 trivial hm rfl (by intro c hc; simp at hc; subst hc; exact hy)

theorem inv_itFirst {σ : State} {t i : Nat} (h : Inv σ) (ht : σ.threads[t]? = some .idle) :
    Inv (itFirst σ t i).1 := by
  rcases itFirst_cases σ t i with e | ⟨it, hf, e⟩
  · rw [e]; exact h
  · rw [e]; exact inv_landOn h ht trivial (findIter_some hf) (fun y hy => List.mem_of_head? hy)

theorem inv_itNext {σ : State} {t i : Nat} (h : Inv σ) (ht : σ.threads[t]? = some .idle) :
    Inv (itNext σ t i).1 := by
  rcases itNext_cases σ t i with e | e
  · rw [e]; exact h
  · rw [e]; exact inv_setPc_plain h ht trivial trivial

theorem inv_stepIter {σ : State} {t i : Nat} (h : Inv σ) (ht : σ.threads[t]? = some (.iterNext i)) :
    Inv (stepIter σ t i).1 := by
  rcases stepIter_outcome h t i with e | ⟨it, c, land, hf, _, hland, e⟩
  · rw [e]; exact h
  · rw [e]
    refine inv_landOn h ht trivial (findIter_some hf) fun y hy => ?_
    rcases hland with ⟨x, _, hl⟩ | ⟨_, hl⟩
    · exact succN_mem (hl ▸ hy)
    · exact seekN_mem (hl ▸ hy)

theorem inv_itNew {σ : State} {t i s : Nat} (h : Inv σ) : Inv (itNew σ t i s).1 := by
  rcases itNew_cases σ t i s with ⟨r, _, e⟩ | ⟨x, hs, hf, hrc, e⟩
  · rw [e]; exact h
  rw [e]
  -- for `omega` below: a snapshot that is not live has `rc ≤ 0`, and `rc + 1 ≤ 0` needs `rc ≠ 0`
  have hrc' : x.rc ≠ 0 := fun h0 => Bool.false_ne_true (hrc ▸ (openRefuse_iff x.rc).mpr h0)
  have ⟨hxm, hxs⟩ := findSnap_some hs
  have hnone := findIter_none hf
  have h1 := inv_updSnap (s := s) (f := fun y => { y with rc := y.rc + 1 }) h (fun _ => rfl) (fun _ => rfl)
    (fun _ _ _ => Or.inl rfl) (fun z hz hzs hne => by
      rw [snap_unique h.store.snaps_inc hz hxm (hzs.trans hxs.symm)] at hne ⊢
      have := h.store.rc_dead x hxm hne
      show x.rc + 1 ≤ 0
      omega)
  refine inv_iff.mpr ?_
  simp only [mvcc_fields]
  refine ⟨h1.store, h1.pc, h1.garb, ?_, ?_, ?_⟩
  · refine h.own.congr ?_ (fun _ => Iff.rfl)
    intro n
    unfold ownC; rw [sessfr_acquire]
  · refine h.tok.acquire (fun t' pc tk hg _ => Or.inl hg) ?_ (setIter_pairwise h.tok.keys) ?_ ?_ ?_
    · intro t' j it hm
      rcases mem_setIter.mp hm with ⟨h1, _⟩ | h1
      · exact Or.inl h1
      · injection h1 with h2 h3
        injection h2 with h4 h5
        subst h3; subst h4; subst h5
        exact Or.inr ⟨rfl, rfl⟩
    · intro j hd hc
      refine claims_iters_ne (k := (t, i)) (fun he => ?_) (fun _ _ hm hne => mem_setIter.mpr (Or.inl ⟨hm, hne⟩)) hc
      subst he
      obtain ⟨it0, hm0, _⟩ := hc
      exact hnone it0 hm0
    · exact ⟨⟨s, curTok σ, none⟩, mem_setIter.mpr (Or.inr rfl), rfl⟩
    · rintro j ⟨it0, hm0, _⟩
      exact hnone it0 hm0
  · refine (h.prot.mono h.tok.toTokPre fun n tk _ => by
      unfold protC; rw [sessOwned_acqSess]; exact Nat.le_refl _).iters_mono ?_
    intro key it0 c hm0 hcur
    rcases mem_setIter.mp hm0 with ⟨h1, _⟩ | h1
    · exact Or.inl h1
    · injection h1 with h2 h3
      subst h3; simp at hcur

theorem inv_release_iter {σ : State} {t i : Nat} {it : Iter} {pc0 : Pc} (h : Inv σ)
    (ht : σ.threads[t]? = some pc0) (hp0 : pc0.plain) (hm : ((t, i), it) ∈ σ.iters) :
    Inv (setPc (release { σ with iters := eraseIter (t, i) σ.iters } it.tok (.it t i)) t .idle) := by
  refine inv_release h ht hp0.own ?_ fun key it0 c hm0 _ => Or.inl (mem_eraseIter.mp hm0).1
  refine (h.tok.toTokPre.release (fun t' pc tk hg _ => ⟨hg, by simp⟩) ?_ (eraseIter_pairwise h.tok.keys) ?_ ?_).set_tok_same
    ht (by rw [hp0.tok]; rfl)
  · intro t' j it0 hm0
    have := mem_eraseIter.mp hm0
    refine ⟨this.1, ?_⟩
    intro he; injection he with h1 h2
    exact this.2 (by simp [h1, h2])
  · exact fun j hd hne hc => claims_iters_ne (k := (t, i)) hne (fun _ _ hm hk => mem_eraseIter.mpr ⟨hm, hk⟩) hc
  · rintro j ⟨it0, hm0, htk⟩
    have := iter_unique h.tok.keys hm0 hm
    subst this; exact htk.symm

theorem noCollector_of_lock {σ : State} {t : Nat} (h : Inv σ) (hl : GcLock σ t) :
    NoCollector (σ.threads.set t .idle) := by
  intro t' sn' a' hg
  rcases getElem?_set_cases hg with ⟨_, he⟩ | ⟨hne, hg'⟩
  · cases he
  · rcases hl with hf | ⟨sn, a, ht⟩
    · have hpc := h.pc
      rw [hf] at hpc
      exact hpc.no_collector t' sn' a' hg'
    · exact hne (h.pc.excl t t' _ _ _ _ ht hg')

/-- the tail of a Close, from the state in which its thread has been made idle (the tail overwrites that entry) -/
theorem CloseTail.inv {σ : State} {t : Nat} {after : Option Nat} {p : State × Resp} {pc0 : Pc}
    (hct : CloseTail σ t after p) (h : Inv (setPc σ t .idle)) (ht : σ.threads[t]? = some pc0)
    (hn : GcLock σ t → NoCollector (σ.threads.set t .idle)) : Inv p.1 := by
  have ht1 : (setPc σ t .idle).threads[t]? = some .idle := getElem?_set_same ht
  have hflag : ∀ g, g = σ.gcFlag ∨ GcLock σ t → Inv { setPc σ t .idle with gcFlag := g } := by
    intro g hg
    rcases hg with rfl | hl
    · exact h
    · exact ⟨h.store, h.pc.of_no_collector (hn hl), h.garb, h.own, h.tok, h.prot⟩
  cases hct with
  | idle g _ hg => exact hflag g hg
  | @iter g i it _ hf hg =>
    have e : setPc (release { σ with gcFlag := g, iters := eraseIter (t, i) σ.iters } it.tok (.it t i)) t .idle =
        setPc (release { { setPc σ t .idle with gcFlag := g } with iters := eraseIter (t, i) σ.iters } it.tok
          (.it t i)) t .idle := by
      simp [setPc, release, cleanup, List.set_set]
    show Inv (setPc _ t .idle)
    rw [e]
    exact inv_release_iter (hflag g hg) ht1 trivial (findIter_some hf)
  | @send s hc hl =>
    have e : setPc { σ with gcFlag := true } t (.collectSend s.sn after) =
        setPc { setPc σ t .idle with gcFlag := true } t (.collectSend s.sn after) := by
      simp [setPc, List.set_set]
    show Inv (setPc _ t _)
    rw [e]
    have h1 := hflag true (Or.inr hl)
    have ⟨hsm, hst, _⟩ := collectable_some hc
    refine ⟨h1.store.set_not_put t rfl, ?_, h1.garb, h1.own.set_same ht1 rfl rfl rfl,
      h1.tok.set_tok_same ht1 rfl, h1.prot.set_plain ht1 rfl rfl⟩
    exact h1.pc.set (Nat.le_refl _) (fun n _ hr => reserved_set_of_not_put rfl hr)
      .refl ⟨rfl, s, hsm, rfl, hst⟩
      (fun _ _ _ t' sn' a' _ => hn hl t' sn' a')

theorem inv_refBack {σ : State} {s : Nat} {rc : Int} {f : Snap → Snap} (h : Inv σ) (hrb : RefBack rc f)
    (hx : ∀ x ∈ σ.snaps, x.sn = s → x.rc = rc) : Inv { σ with snaps := updSnap s f σ.snaps } := by
  rcases hrb with rfl | ⟨hret, rfl⟩
  · refine inv_updSnap h (fun _ => rfl) (fun _ => rfl) (fun _ _ _ => Or.inl rfl) ?_
    intro x hxm hxs hne
    have := h.store.rc_dead x hxm hne
    simp only; omega
  · have hrc1 : rc = 1 := by have := (closeRetire_iff _).mp hret; omega
    refine inv_updSnap h (fun _ => rfl) (fun _ => rfl) ?_ ?_
    · intro x hxm hxs
      right
      refine ⟨?_, rfl⟩
      have := hx x hxm hxs
      cases hst : x.st with
      | live => rfl
      | retired =>
        have := h.store.rc_dead x hxm (by rw [hst]; simp); omega
      | collected =>
        have := h.store.rc_dead x hxm (by rw [hst]; simp); omega
    · intro x hxm hxs _
      have := hx x hxm hxs
      simp only; omega

theorem inv_startClose {σ : State} {t s : Nat} (h : Inv σ) (ht : σ.threads[t]? = some .idle) :
    Inv (startClose σ t s).1 := by
  rcases startClose_tail σ t s with e | ⟨x, f, hs, _, hrb, hct⟩
  · rw [e]; exact h
  have ⟨hxm, hxs⟩ := findSnap_some hs
  have h1 : Inv { σ with snaps := updSnap s (fun y => { y with held := false }) σ.snaps } :=
    inv_updSnap h (fun _ => rfl) (fun _ => rfl) (fun _ _ _ => Or.inl rfl) fun y hy _ hne => h.store.rc_dead y hy hne
  have h2 := inv_refBack (s := s) h1 hrb fun y hy hys => by
    obtain ⟨z, hz, rfl⟩ := mem_updSnap hy
    by_cases hzs : z.sn = s
    · simp only [hzs, if_true]
      rw [snap_unique h.store.snaps_inc hz hxm (hzs.trans hxs.symm)]
    · simp only [hzs, if_false] at hys
  exact hct.inv (inv_setPc_plain h2 ht trivial trivial) ht (noCollector_of_lock h2)

theorem inv_itClose {σ : State} {t i : Nat} (h : Inv σ) (ht : σ.threads[t]? = some .idle) :
    Inv (itClose σ t i).1 := by
  rcases itClose_tail σ t i with e | ⟨it, x, f, _, hs, hrb, hct⟩
  · rw [e]; exact h
  have ⟨hxm, hxs⟩ := findSnap_some hs
  have h2 := inv_refBack (s := it.sn) h hrb fun y hy hys => by
    rw [snap_unique h.store.snaps_inc hy hxm (hys.trans hxs.symm)]
  exact hct.inv (inv_setPc_plain h2 ht trivial trivial) ht (noCollector_of_lock h2)

theorem garbS_collect {snaps : List Snap} (hinc : snaps.Pairwise (fun a b => a.sn < b.sn)) {x : Snap}
    (hx : x ∈ snaps) (hst : x.st ≠ .collected) (n : Nat) :
    (garbS (updSnap x.sn (fun y => { y with st := .collected }) snaps)).count n + x.gclist.count n =
      (garbS snaps).count n := by
  induction snaps with
  | nil => simp at hx
  | cons y ys ih =>
    have hp := List.pairwise_cons.mp hinc
    unfold garbS updSnap at ih ⊢
    simp only [List.map_cons, List.flatMap_cons, List.count_append]
    rcases List.mem_cons.mp hx with rfl | hx'
    · have hrest : List.map (fun z => if z.sn = x.sn then { z with st := Mvcc.SnapSt.collected } else z) ys = ys := by
        have : List.map (fun z => if z.sn = x.sn then { z with st := Mvcc.SnapSt.collected } else z) ys =
            List.map id ys := by
          apply List.map_congr_left
          intro z hz
          have := hp.1 z hz
          have : z.sn ≠ x.sn := by omega
          simp [this]
        rw [this, List.map_id]
      simp only [if_true, hrest]
      simp [snapGarb, hst]
      omega
    · have hne : y.sn ≠ x.sn := by have := hp.1 x hx'; omega
      simp only [hne, if_false]
      have := ih hp.2 hx'
      dsimp only at this
      omega

theorem inv_stepCollect {σ : State} {t sn : Nat} {after : Option Nat} (h : Inv σ)
    (ht : σ.threads[t]? = some (.collectSend sn after)) : Inv (stepCollect σ t sn after).1 := by
  rcases stepCollect_tail σ ht with e | ⟨x, hs, hct⟩
  · rw [e]; exact h
  · have ⟨hxm, hxs⟩ := findSnap_some hs
    obtain ⟨hflag, y, hym, hysn, hyst⟩ := h.pc.at ht
    have hyx : y = x := snap_unique h.store.snaps_inc hym hxm (by omega)
    subst hyx
    subst hxs
    have hnc := noCollector_of_lock h (Or.inr ⟨_, _, ht⟩)
    refine hct.inv ?_ ht fun _ => hnc
    refine inv_iff.mpr ?_
    simp only [mvcc_fields]
    refine ⟨?_, ?_, ?_, ?_, h.tok.set_tok_same ht rfl, ?_⟩
    · refine (h.store.set_not_put t rfl).updSnap (fun _ => rfl) fun w hw hws _ => ?_
      rw [snap_unique h.store.snaps_inc hw hym hws]
      exact h.store.rc_dead y hym (by rw [hyst]; simp)
    · exact (h.pc.set_plain t (pc' := .idle) trivial).of_no_collector hnc
    · have hg : ∀ n, garbC σ.writers (updSnap y.sn (fun z => { z with st := .collected }) σ.snaps)
          (σ.gcJobs ++ [⟨[], y.gclist, .recv⟩]) n = garbC σ.writers σ.snaps σ.gcJobs n := by
        intro n
        unfold garbC
        rw [garbJ_append]
        have := garbS_collect h.store.snaps_inc hym (by rw [hyst]; simp) n
        simp only; omega
      refine h.garb.congr_jobs hg ?_
      intro j hj hpc
      rcases List.mem_append.mp hj with hj | hj
      · exact h.garb.jobs j hj hpc
      · simp at hj; subst hj; simp at hpc
    · refine h.own.congr ?_ (reserved_set_iff ht rfl rfl)
      intro n
      unfold ownC thrOwned
      rw [gcOwned_append, count_flatMap_set_same pcOwn n ht (b := .idle) rfl]
      rfl
    · refine h.prot.set (fun n tok => ?_) (fun _ _ hr => nomatch hr)
      unfold protC flushOwned
      rw [gcOwned_append, count_flatMap_set_same flushOwn n ht (b := .idle) rfl]
      exact Nat.le_refl _

end NitroVerif.MvccConc
