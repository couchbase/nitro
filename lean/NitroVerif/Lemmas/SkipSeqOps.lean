import NitroVerif.Lemmas.SkipSeqDelete
import NitroVerif.Lemmas.SkipSeqSearch
/-!
  Operation-level statements on a quiescent list: `Delete`, `Lookup`.
-/
namespace NitroVerif.SkipSeq

theorem delete_spec {s : SL} {L0 : List Nat} (hr : Rep s L0) (k : Int) :
    ∃ s' ok, delete s (.item k) = (s', ok) ∧ Ext s s' L0 ∧ s'.stats.nodeAllocs = s.stats.nodeAllocs ∧
      (k ∈ L0.map (ikey s.nodes) → ok = true ∧ ∃ A d B, L0 = A ++ d :: B ∧ ikey s.nodes d = k ∧
          Rep s' (A ++ B) ∧ Dead s'.nodes d) ∧
      (k ∉ L0.map (ikey s.nodes) → ok = false ∧ Rep s' L0) := by
  rcases hr.find k with ⟨A, B, s3, rfl, hA, hB, he, hsb, hs0⟩
  by_cases hk : k ∈ (A ++ B).map (ikey s.nodes)
  · have hc := (hr.hit_iff hA hB).mpr hk
    have hne := hr.succ_ne_nil hc
    rcases hr.hit_head hc with ⟨B', hB', hkd⟩
    rw [if_pos hc] at he
    have hr3 : Rep s3 (A ++ succAt s.nodes B 0 :: B') := by rw [← hB']; exact hr.of_sameBut hsb
    rcases deleteNode_live hr3 with ⟨s', hd, hrep, hdead, hext, hal⟩
    refine ⟨s', true, ?_, ?_, by rw [hal, hsb.stats], fun _ => ?_, fun h => absurd hk h⟩
    · unfold delete
      rw [he]
      simp only [bne_iff_ne, ne_eq, hne, not_false_eq_true, if_true, hs0]
      exact hd
    · have := (Ext.of_sameBut _ hsb).trans hext
      rw [← hB'] at this; exact this
    · refine ⟨rfl, A, succAt s.nodes B 0, B', ?_, hkd, hrep, hdead⟩
      rw [← hB']
  · have hc : ¬ Hit s B k := fun h => hk ((hr.hit_iff hA hB).mp h)
    rw [if_neg hc] at he
    refine ⟨s3, false, ?_, Ext.of_sameBut _ hsb, by rw [hsb.stats], fun h => absurd h hk,
      fun _ => ⟨rfl, hr.of_sameBut hsb⟩⟩
    unfold delete
    rw [he]
    simp

/-- on a hit `succs[0]` is the node carrying the key (what `getnode` hands out as a handle) -/
theorem lookup_spec {s : SL} {L0 : List Nat} (hr : Rep s L0) (k : Int) :
    ∃ s', lookup s (.item k) = (s', decide (k ∈ L0.map (ikey s.nodes))) ∧ SameBut s s' ∧
      (k ∈ L0.map (ikey s.nodes) → s'.buf.succs.getD 0 0 ∈ L0 ∧ ikey s.nodes (s'.buf.succs.getD 0 0) = k) := by
  rcases hr.find k with ⟨A, B, s3, rfl, hA, hB, he, hsb, hs0⟩
  refine ⟨s3, ?_, hsb, ?_⟩
  · unfold lookup
    rw [he]
    simp only [found_iff_mem hr hA hB]
  · intro hk
    rw [hs0]
    exact hr.hit_mem ((hr.hit_iff hA hB).mpr hk)

end NitroVerif.SkipSeq
