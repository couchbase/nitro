import NitroVerif.Gen.Shapes
/-!
  Control shapes, area Table: the functions of /repo the models of this area mirror have exactly
  these shapes (tools/gofacts/shapes.go).  `Gen/Shapes.lean` is regenerated from the working tree on every run; a change
  of an operator, bound, call, early return or loop in one of these functions breaks the lemma named after it.
-/
namespace NitroVerif.ShapeTie.Table
open NitroVerif.Gen.Shape

/-- nodetable/table.go `*NodeTable.Get` -/
theorem shape_TableGet_ok : Table_TableGet =
    ["find", "if(& ==)", "if(==)", "return(_)", "decodePointer", "return(_)", "decodePointer", "return(nil)"] := rfl

/-- nodetable/table.go `*NodeTable.Update` -/
theorem shape_TableUpdate_ok : Table_TableUpdate =
    ["find", "if-else(& ==)", "if-else(==)", "decodePointer", "encodePointer", "decodePointer", "encodePointer", "if-else(||)", "encodePointer", "if()", "encodePointer", "decodePointer", "++", "++", "encodePointer", "++", "return()"] := rfl

/-- nodetable/table.go `*NodeTable.Remove` -/
theorem shape_TableRemove_ok : Table_TableRemove =
    ["find", "if(& ==)", "if-else(==)", "decodePointer", "if-else()", "--", "if-else(== 0)", "delete", "--", "encodePointer", "decodePointer", "delete", "--", "decodePointer", "if(+ 1 !=)", "--", "if-else(== 0)", "delete", "encodePointer", "decodePointer", "--", "return()"] := rfl

/-- nodetable/table.go `*NodeTable.find` -/
theorem shape_TableFind_ok : Table_TableFind =
    ["hash", "if()", "hasConflict", "if()", "isEqual", "return()", "if()", "if()", "range", "if()", "isEqual", "return()", "return()"] := rfl

/-- nodetable/table.go `*NodeTable.hasConflict` -/
theorem shape_TableHasConflict_ok : Table_TableHasConflict =
    ["return(_)"] := rfl

/-- nodetable/table.go `*NodeTable.isEqual` -/
theorem shape_TableIsEqual_ok : Table_TableIsEqual =
    ["decodePointer", "return(_)", "keyEqual"] := rfl

/-- nodetable/table.go `.encodePointer` -/
theorem shape_encodePointer_ok : Table_encodePointer =
    ["if()", "return(_)"] := rfl

/-- nodetable/table.go `.decodePointer` -/
theorem shape_decodePointer_ok : Table_decodePointer =
    ["if(== 8)", "return(_)", "return(_)"] := rfl

/-- nodelist.go `*NodeList.Add` -/
theorem shape_NodeListAdd_ok : Table_NodeListAdd =
    ["SetLink"] := rfl

/-- nodelist.go `*NodeList.Remove` -/
theorem shape_NodeListRemove_ok : Table_NodeListRemove =
    ["for(!= nil)", "Bytes", "Item", "if()", "Equal", "if(== nil)", "GetLink", "return(_)", "SetLink", "GetLink", "return(_)", "GetLink", "return(nil)"] := rfl

/-- nodelist.go `*NodeList.Keys` -/
theorem shape_NodeListKeys_ok : Table_NodeListKeys =
    ["for(!= nil)", "Bytes", "Item", "GetLink", "return()"] := rfl

end NitroVerif.ShapeTie.Table
