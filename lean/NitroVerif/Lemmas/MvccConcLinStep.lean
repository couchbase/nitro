/-
  Every action of the machine against the specification.  `StepOK σ sp a`: the events of `a` replay on the
  specification and lead to a related state, and every thread's phase stays consistent; an action has one of
  three shapes (no event of any thread; events of the acting thread only; a winning Delete with its losers).
-/
import NitroVerif.Lemmas.MvccConcLinSpec
import NitroVerif.Lemmas.MvccSimStore
import NitroVerif.Lemmas.MvccConcMain
import NitroVerif.Lemmas.MvccConcAct

namespace NitroVerif.MvccConc

structure StepOK (σ : State) (sp : SetSpec.State) (a : Act) : Prop where
  rep : ∃ sp', replay sp (events σ a) = some sp' ∧ Abs (step σ a).1 sp'
  ph : ∀ t' p, PhaseOK σ t' p → PhaseOK (step σ a).1 t' (phaseOf t' p (events σ a))

theorem idle_wop {σ : State} {t : Nat} (h : σ.threads[t]? = some .idle) : ∀ pc, σ.threads[t]? = some pc → pc.isWop = false :=
  fun pc hg => by cases h.symm.trans hg; rfl

theorem accepted_of {σ : State} {t : Nat} (hd : σ.down = false) (hw : t < σ.writers.length)
    (ht : σ.threads[t]? = some .idle) : accepted σ t = true := by
  unfold accepted isWriter isIdle
  rw [hd, ht]; simpa using hw

namespace StepOK
variable {σ σ' : State} {sp sp' : SetSpec.State} {a : Act} {evs : List Ev}

theorem unthreaded (hev : events σ a = evs) (hst : (step σ a).1 = σ') (hnone : ∀ e ∈ evs, e.thread = none)
    (hrep : replay sp evs = some sp') (habs : Abs σ' sp') (hph : ∀ t' p, PhaseOK σ t' p → PhaseOK σ' t' p) :
    StepOK σ sp a := by
  refine ⟨⟨sp', hev ▸ hrep, hst ▸ habs⟩, fun t' p hp => ?_⟩
  rw [hev, hst, phaseOf_others (fun e he => by rw [hnone e he]; exact nofun)]
  exact hph t' p hp

theorem stutter {t : Nat} (hev : events σ a = []) (hm : Mild t σ (step σ a).1)
    (h0 : ∀ pc, σ.threads[t]? = some pc → pc.isWop = false) (habs : Abs σ sp) : StepOK σ sp a :=
  unthreaded hev rfl (thread_nil _) rfl (habs.mild hm) (fun _ _ hp => hp.mild hm h0)

theorem thread {t : Nat} (hev : events σ a = evs) (hst : (step σ a).1 = σ') (hmine : ∀ e ∈ evs, e.thread = some t)
    (hrep : replay sp evs = some sp') (habs : Abs σ' sp')
    (hself : ∀ p, PhaseOK σ t p → PhaseOK σ' t (phaseOf t p evs))
    (hothers : ∀ t' p, t' ≠ t → PhaseOK σ t' p → PhaseOK σ' t' p) : StepOK σ sp a := by
  refine ⟨⟨sp', hev ▸ hrep, hst ▸ habs⟩, fun t' p hp => ?_⟩
  rw [hev, hst]
  by_cases he : t' = t
  · exact he ▸ hself p (he ▸ hp)
  · rw [phaseOf_of_thread hmine he]; exact hothers t' p he hp

theorem thread_same {t : Nat} (hev : events σ a = evs) (hst : (step σ a).1 = σ) (hmine : ∀ e ∈ evs, e.thread = some t)
    (hrep : replay sp evs = some sp) (habs : Abs σ sp) (hself : ∀ p, PhaseOK σ t p → PhaseOK σ t (phaseOf t p evs)) :
    StepOK σ sp a :=
  thread hev hst hmine hrep habs hself (fun _ _ _ hp => hp)

theorem thread_pc {t : Nat} {pc0 pc' : Pc} (hev : events σ a = evs) (hst : (step σ a).1 = σ')
    (hmine : ∀ e ∈ evs, e.thread = some t) (hrep : replay sp evs = some sp) (habs : Abs σ sp)
    (hfld : σ'.threads = σ.threads.set t pc' ∧ σ'.store = σ.store ∧ σ'.currSn = σ.currSn ∧ σ'.writers = σ.writers)
    (hg : σ.threads[t]? = some pc0) (hself : ∀ p, PhaseOK σ t p → PcPhase σ.store t (some pc') (phaseOf t p evs)) :
    StepOK σ sp a := by
  obtain ⟨hthr, hs, hc, hw⟩ := hfld
  refine thread hev hst hmine hrep (habs.of_eq (by rw [hw]) hs hc) (fun p hp => ?_)
    (fun t' p he hp => hp.of_store_eq (by rw [hthr]; exact List.getElem?_set_ne (fun h => he h.symm)) hs)
  rw [phaseOK_iff, hs, hthr, getElem?_set_same hg]
  exact hself p hp

theorem ret (habs : Abs σ sp) {t : Nat} {b : Bool} {k : Nat}
    (hev : events σ (.step t) = [.ret t (.bool b)]) (hst : (step σ (.step t)).1 = σ')
    (hfld : σ'.threads = σ.threads.set t .idle ∧ σ'.store = σ.store ∧ σ'.currSn = σ.currSn ∧ σ'.writers = σ.writers)
    {pc0 : Pc} (hg : σ.threads[t]? = some pc0)
    (hphase : ∀ p, PhaseOK σ t p → p = .decided (.del t k) (.bool b)) : StepOK σ sp (.step t) := by
  refine thread_pc hev hst (thread_cons rfl (thread_nil _)) rfl habs hfld hg (fun p hp => ?_)
  rw [hphase p hp, phaseOf_cons, phaseStep_ret]
  exact .idle _ t

/-- a winning Delete of thread `t`: `alive … phys` are what its store operation owes, the rest is bookkeeping -/
theorem win (hi : Inv σ) (habs : Abs σ sp) {t n k : Nat} {x : Node}
    (hw : t < σ.writers.length) (hx : x ∈ σ.store) (hid : x.id = n) (hxk : x.ver.key = k) (hxd : x.ver.dead = 0)
    {tail : List Ev}
    (hev : events σ (.step t) = .lin t (.del t k) (.bool true) :: (losers σ t n ++ tail))
    (htail : tail = [] ∨ tail = [.ret t (.bool true)])
    (hst : (step σ (.step t)).1 = σ') {s' : List Node} {pc0 pc' : Pc}
    (hfld : σ'.store = s' ∧ σ'.threads = σ.threads.set t pc' ∧ σ'.currSn = σ.currSn ∧
      σ'.writers.length = σ.writers.length)
    (alive : Mvcc.absAlive (vers s') = SetSpec.removeKey k (Mvcc.absAlive (vers σ.store)))
    (ids : ∀ m, m ≠ n → (m ∈ storeIds s' ↔ m ∈ storeIds σ.store))
    (aliveIn : ∀ m, m ≠ n → (AliveIn s' m ↔ AliveIn σ.store m)) (dead : ¬ AliveIn s' n)
    (phys : ∀ (t' tok k' : Nat), σ.threads[t']? = some (Pc.delPhys n tok k') → n ∉ storeIds s')
    (hg : σ.threads[t]? = some pc0)
    (hself : ∀ p, PhaseOK σ t p → p = .called (.del t k))
    (hselfOK : PcPhase s' t (some pc') (phaseOf t (.decided (.del t k) (.bool true)) tail)) :
    StepOK σ sp (.step t) := by
  obtain ⟨hs, hthr, hcur, hwr⟩ := hfld
  have hspec := spec_del_some hi habs hw hx hxd
  rw [hxk] at hspec
  have htl : ∀ e ∈ tail, e.thread = some t := by
    rcases htail with rfl | rfl
    · exact thread_nil _
    · exact thread_cons rfl (thread_nil _)
  refine ⟨⟨SetSpec.delEntry sp (Mvcc.entryOf x.ver), ?_, ?_⟩, ?_⟩
  · rw [hev, replay_cons_some _ (specStep_lin t rfl hspec), replay_append_some
      (replay_losers (sp' := SetSpec.delEntry sp (Mvcc.entryOf x.ver)) hi hx hid habs.nw (findKey_removeKey _ _))]
    rcases htail with rfl | rfl <;> rfl
  · rw [hst]
    exact ⟨hwr ▸ habs.nw, by rw [hs, alive, ← habs.alive, ← hxk]; rfl, hcur ▸ habs.epoch⟩
  · intro t' p hp
    rw [hev, hst, phaseOf_cons, phaseOf_append]
    by_cases he : t' = t
    · subst he
      rw [hself p hp, phaseStep_lin, phaseOf_others (l := losers σ t' n), phaseOK_iff, hs, hthr, getElem?_set_same hg]
      · exact hselfOK
      · intro e hm
        obtain ⟨u, _, _, hne, rfl, _⟩ := mem_losers hm
        exact fun (h : some u = some t') => hne (Option.some.inj h)
    · rw [phaseStep_other (e := .lin t (.del t k) (.bool true)) (fun h => he (Option.some.inj h).symm), phaseOf_of_thread htl he]
      subst hs
      exact phase_kill (fun u hu => by rw [hthr]; exact List.getElem?_set_ne (fun h => hu h.symm)) ids aliveIn
        ⟨x, hx, hid, hxd⟩ dead phys he hp

end StepOK

theorem stepOK_stepPut {σ : State} {sp : SetSpec.State} (hi : Inv σ) (hd : σ.down = false) (habs : Abs σ sp)
    {t n k v b : Nat} (hg : σ.threads[t]? = some (.putInsert n k v b))
    (he : step σ (.step t) = stepPut σ t n k v b) : StepOK σ sp (.step t) := by
  obtain ⟨hw, rfl, hout⟩ := stepPut_outcome hi hg
  have hmine : ∀ r, ∀ e ∈ [Ev.lin t (.put t k v) r, .ret t r], e.thread = some t :=
    fun _ => thread_cons rfl (thread_cons rfl (thread_nil _))
  have hself : ∀ r p, PhaseOK σ t p → phaseOf t p [.lin t (.put t k v) r, .ret t r] = .idle := by
    intro r p hp
    rw [(hp.pc hg).of_putInsert, phaseOf_cons, phaseStep_lin, phaseOf_cons, phaseStep_ret]
    rfl
  rcases hout with ⟨y, hl, hres⟩ | ⟨hl, hres⟩
  · obtain ⟨hst, hev0⟩ := step_wop hd hg rfl (he.trans hres)
    have hev : events σ (.step t) = [.lin t (.put t k v) (.bool false), .ret t (.bool false)] := by
      rw [hev0, lins_putInsert hd hg, hl]; rfl
    exact .thread_pc (pc' := .idle) hev hst (hmine _)
      (replay_lin_ret t rfl (spec_put_some hi habs hw hl)) habs (by simp only [mvcc_fields, and_self]) hg
      (fun p hp => by rw [hself _ p hp]; exact .idle _ t)
  · obtain ⟨hst, hev0⟩ := step_wop hd hg rfl (he.trans hres)
    have hev : events σ (.step t) = [.lin t (.put t k v) (.bool true), .ret t (.bool true)] := by
      rw [hev0, lins_putInsert hd hg, hl]; rfl
    -- the fresh node is nobody's: the threads parked on a node keep what they know of it
    have hres_n : reserved σ.threads n := ⟨k, v, σ.currSn, List.mem_of_getElem? hg⟩
    refine .thread hev hst (hmine _)
      (replay_lin_ret t rfl (spec_put_none hi habs hw hl)) ⟨?_, ?_, habs.epoch⟩
      (fun p hp => by rw [hself _ p hp]; exact .idle_of_set rfl hg)
      (fun t' p he hp => hp.congr (σ := σ) (List.getElem?_set_ne (fun h => he h.symm)) (fun m tok k' hgm => ?_)
        (fun m tok k' hgm => ?_))
    · exact habs.nw.trans (updWriter_length ..).symm
    · show SetSpec.ins ⟨k, v, σ.currSn⟩ sp.alive = Mvcc.absAlive (vers (insertN σ.store ⟨⟨k, v, σ.currSn, 0⟩, n⟩))
      rw [vers_insertN, habs.alive]
      have hlook := lookupN_val hi.store.sorted hi.store.chains k v
      rw [hl] at hlook
      exact (Mvcc.absAlive_insertAt hi.store.sorted k v (Mvcc.aliveOf_none hlook.symm)).symm
    · exact storeIds_insertN (x := ⟨⟨k, v, σ.currSn, 0⟩, n⟩)
        (fun h => (hi.pc.at hgm).2.2.1 (h ▸ hres_n))
    · exact aliveIn_insertN (x := ⟨⟨k, v, σ.currSn, 0⟩, n⟩)
        (fun h => (hi.pc.at hgm).2.2.1 (h ▸ hres_n))

theorem stepOK_stepDelPhys {σ : State} {sp : SetSpec.State} (hi : Inv σ) (hd : σ.down = false) (habs : Abs σ sp)
    {t n tok k : Nat} (hg : σ.threads[t]? = some (.delPhys n tok k))
    (he : step σ (.step t) = stepDelPhys σ t n tok k) : StepOK σ sp (.step t) := by
  obtain ⟨hw, hout⟩ := stepDelPhys_outcome hi hg
  rcases hout with ⟨x, hf, hxk, _, hxd, hres⟩ | ⟨hf, hres⟩
  · have ⟨hx, hid⟩ := findNode_some hf
    obtain ⟨hst, hev0⟩ := step_wop hd hg rfl (he.trans hres)
    have hev : events σ (.step t) = .lin t (.del t k) (.bool true) :: (losers σ t n ++ []) := by
      rw [hev0, lins_delPhys hd hg, hf]; rfl
    refine .win (s' := removeNode σ.store n) (pc' := .delFlush n tok k) hi habs hw hx hid hxk hxd hev (Or.inl rfl) hst
      (by simp only [mvcc_fields, updWriter_length, and_self])
      (alive := ?_) (ids := fun m hne => mem_storeIds_removeNode_iff.trans (and_iff_left hne))
      (aliveIn := fun m hne => aliveIn_removeNode_ne hne) (dead := not_aliveIn_removeNode _ _)
      (phys := fun _ _ _ _ h => (mem_storeIds_removeNode_iff.mp h).2 rfl)
      hg (hself := fun p hp => ?_) (hselfOK := .delFlush n tok k)
    · rw [vers_removeNode hi.store.sorted hi.store.ids hf,
        Mvcc.absAlive_removeId hi.store.sorted hi.store.chains (List.mem_map.mpr ⟨x, hx, rfl⟩) hxd, hxk]
    · rcases (hp.pc hg).of_delPhys with ⟨_, h⟩ | ⟨hm, _⟩
      · exact h
      · exact absurd (hid ▸ mem_storeIds hx) hm
  · obtain ⟨hst, hev0⟩ := step_wop hd hg rfl (he.trans hres)
    have hev : events σ (.step t) = [.ret t (.bool false)] := by
      rw [hev0, lins_delPhys hd hg, hf]; rfl
    refine .ret (k := k) habs hev hst (by simp only [mvcc_fields, and_self]) hg (fun p hp => ?_)
    rcases (hp.pc hg).of_delPhys with ⟨hm, _⟩ | ⟨_, h⟩
    · exact absurd hm (findNode_none_iff.mp hf)
    · exact h

theorem stepOK_stepDelFlush {σ : State} {sp : SetSpec.State} (hd : σ.down = false) (habs : Abs σ sp)
    {t n tok k : Nat} (hg : σ.threads[t]? = some (.delFlush n tok k))
    (he : step σ (.step t) = stepDelFlush σ t n tok) : StepOK σ sp (.step t) := by
  obtain ⟨hst, hev0⟩ := step_wop hd hg rfl he
  have hev : events σ (.step t) = [.ret t (.bool true)] := by
    rw [hev0, lins_delFlush hd hg]; rfl
  exact .ret (k := k) habs hev hst (by simp only [stepDelFlush, mvcc_fields, and_self]) hg
    (fun p hp => (hp.pc hg).of_delFlush)

theorem stepOK_stepDelCas {σ : State} {sp : SetSpec.State} (hi : Inv σ) (hd : σ.down = false) (habs : Abs σ sp)
    {t n tok k : Nat} (hg : σ.threads[t]? = some (.delCas n tok k))
    (he : step σ (.step t) = stepDelCas σ t n tok) : StepOK σ sp (.step t) := by
  obtain ⟨hw, hout⟩ := stepDelCas_outcome hi hg
  have hcur0 : σ.currSn ≠ 0 := Nat.ne_of_gt hi.store.cur_pos
  rcases hout with ⟨x, hf, hxk, hxb, hxd, hres⟩ | ⟨hdead, hres⟩
  · have ⟨hx, hid⟩ := findNode_some hf
    obtain ⟨hst, hev0⟩ := step_wop hd hg rfl (he.trans hres)
    have hev : events σ (.step t) =
        .lin t (.del t k) (.bool true) :: (losers σ t n ++ [.ret t (.bool true)]) := by
      rw [hev0, lins_delCas hd hg, hf]
      simp only [hxd, if_true]; rfl
    refine .win (s' := markDeadNode σ.store n σ.currSn) (pc' := .idle) hi habs hw hx hid hxk hxd hev (Or.inr rfl) hst
      (by simp only [mvcc_fields, updWriter_length, and_self])
      (alive := ?_) (ids := fun m _ => by rw [storeIds_markDeadNode]) (aliveIn := fun m hne => aliveIn_markDeadNode_ne hne)
      (dead := not_aliveIn_markDeadNode _ _ hcur0) (phys := fun t' tok' k' hg' => ?_)
      hg (hself := fun p hp => ?_) (hselfOK := ?_)
    · rw [vers_markDeadNode hi.store.sorted hi.store.ids hf,
        Mvcc.absAlive_markDead hi.store.sorted hi.store.chains (List.mem_map.mpr ⟨x, hx, rfl⟩) hxd σ.currSn hcur0, hxk]
    · -- nobody is parked at DEL_NODE_PHYS on a node of an earlier epoch
      exact absurd ((hi.pc.at hg').2.2.2 x hx hid).2 (Nat.ne_of_lt hxb)
    · rcases (hp.pc hg).of_delCas with ⟨_, h⟩ | ⟨hm, _⟩
      · exact h
      · exact absurd ⟨x, hx, hid, hxd⟩ hm
    · rw [phaseOf_cons, phaseStep_ret]
      exact .idle _ t
  · -- the node is gone or carries a death mark: the Delete was decided when somebody else took the node
    have hna : ¬ AliveIn σ.store n := by
      rintro ⟨y, hy, hyid, hyd⟩
      exact hdead y (hyid ▸ findNode_of_mem hi.store.ids hy) hyd
    have hlins : lins σ (.step t) = [] := by
      rw [lins_delCas hd hg]
      cases hf : findNode σ.store n with
      | none => rfl
      | some x => exact if_neg (hdead x hf)
    obtain ⟨hst, hev0⟩ := step_wop hd hg rfl (he.trans hres)
    have hev : events σ (.step t) = [.ret t (.bool false)] := by
      rw [hev0, hlins]; rfl
    refine .ret (k := k) habs hev hst (by simp only [mvcc_fields, and_self]) hg (fun p hp => ?_)
    rcases (hp.pc hg).of_delCas with ⟨hm, _⟩ | ⟨_, h⟩
    · exact absurd hm hna
    · exact h

theorem stepOK_snap {σ : State} {sp : SetSpec.State} (hi : Inv σ) (hd : σ.down = false) (habs : Abs σ sp)
    (hg : writersIdle σ = true) (hst : step σ .snap = snap σ) : StepOK σ sp .snap := by
  have hev : events σ .snap = [.snap (.snap σ.currSn (σ.itemsCount + (σ.writers.map (·.count)).sum))] := by
    simp only [events, calls, lins, rets, hd, hg, Bool.not_false, Bool.and_self, if_true, List.nil_append,
      List.append_nil]
  refine .unthreaded hev (congrArg Prod.fst hst) (thread_cons rfl (thread_nil _))
    (replay_cons_some [] (if_pos (spec_snap hi habs))) ⟨?_, habs.alive, ?_⟩ (fun t' p hp => hp.of_store_eq rfl rfl)
  · show sp.nwriters = (σ.writers.map (fun _ => (⟨0, []⟩ : Writer))).length
    rw [List.length_map]; exact habs.nw
  · show sp.epoch + 1 = σ.currSn + 1
    rw [habs.epoch]

theorem stepOK_get {σ : State} {sp : SetSpec.State} (hi : Inv σ) (hd : σ.down = false) (habs : Abs σ sp) {t k : Nat}
    (hw : t < σ.writers.length) (hidle : σ.threads[t]? = some .idle) (hst : step σ (.get t k) = startGet σ t k) :
    StepOK σ sp (.get t k) := by
  have hacc := accepted_of hd hw hidle
  have hev : events σ (.get t k) =
      [.call t (.get t k), .lin t (.get t k) (.val ((lookupN σ.store (probe σ k 0)).map (·.ver.val))),
       .ret t (.val ((lookupN σ.store (probe σ k 0)).map (·.ver.val)))] := by
    simp only [events, calls, lins, rets, hacc, if_true, hst, startGet, retOut, Option.map_some,
      Option.toList_some, List.cons_append, List.nil_append]
  refine .thread_same (t := t) hev (congrArg Prod.fst hst) (thread_cons rfl (thread_cons rfl (thread_cons rfl (thread_nil _))))
    (replay_call_lin_ret t rfl (spec_get hi habs hw k)) habs (fun p hp => ?_)
  cases hp.idle_of_not_wop (idle_wop hidle)
  rw [phaseOf_call_lin_ret]; exact hp

theorem stepOK_put {σ : State} {sp : SetSpec.State} (hd : σ.down = false) (habs : Abs σ sp) {t k v : Nat}
    (hw : t < σ.writers.length) (hidle : σ.threads[t]? = some .idle) (hst : step σ (.put t k v) = startPut σ t k v) :
    StepOK σ sp (.put t k v) := by
  have hacc := accepted_of hd hw hidle
  have hev : events σ (.put t k v) = [.call t (.put t k v)] := by
    simp only [events, calls, lins, rets, hacc, if_true, hst, startPut, retOut, Option.map_none,
      Option.toList_none, List.append_nil]
  refine .thread_pc (t := t) (pc' := .putInsert σ.nextId k v σ.currSn) hev (congrArg Prod.fst hst)
    (thread_cons rfl (thread_nil _)) rfl habs (by simp only [startPut, mvcc_fields, and_self]) hidle (fun p hp => ?_)
  rw [hp.idle_of_not_wop (idle_wop hidle), phaseOf_cons, phaseStep_call]
  exact .putInsert _ k v _

theorem stepOK_del {σ : State} {sp : SetSpec.State} (hi : Inv σ) (hd : σ.down = false) (habs : Abs σ sp) {t k : Nat}
    (hw : t < σ.writers.length) (hidle : σ.threads[t]? = some .idle) (hst : step σ (.del t k) = startDel σ t k) :
    StepOK σ sp (.del t k) := by
  have hacc := accepted_of hd hw hidle
  have hp0 : ∀ p, PhaseOK σ t p → p = .idle := fun p hp => hp.idle_of_not_wop (idle_wop hidle)
  rcases startDel_outcome hi t k with ⟨hl, hres⟩ | ⟨x, hl, hxm, _, hxd, hres⟩
  · have hev : events σ (.del t k) =
        [.call t (.del t k), .lin t (.del t k) (.bool false), .ret t (.bool false)] := by
      simp only [events, calls, lins, rets, hacc, if_true, hst, hres, retOut, Option.map_some, hl,
        Option.isNone_none, Bool.and_self, Option.toList_some, List.cons_append, List.nil_append]
    refine .thread_same (t := t) hev ((congrArg Prod.fst hst).trans (startDel_none_state hi hidle hl))
      (thread_cons rfl (thread_cons rfl (thread_cons rfl (thread_nil _))))
      (replay_call_lin_ret t rfl (spec_del_none hi habs hw hl)) habs (fun p hp => ?_)
    cases hp0 p hp
    rw [phaseOf_call_lin_ret]; exact hp
  · have hshape : ∃ pc' r, (pc' = Pc.delPhys x.id (curTok σ) k ∨ pc' = Pc.delCas x.id (curTok σ) k) ∧
        startDel σ t k = (setPc (acquire σ (.thr t)) t pc', r) ∧ retOut r = none := by
      rcases hres with ⟨_, h⟩ | ⟨_, h⟩
      · exact ⟨_, _, Or.inl rfl, h, rfl⟩
      · exact ⟨_, _, Or.inr rfl, h, rfl⟩
    obtain ⟨pc', r, hpc', hstate, hret⟩ := hshape
    have hev : events σ (.del t k) = [.call t (.del t k)] := by
      simp only [events, calls, lins, rets, hacc, if_true, hst, hstate, hret, hl, Option.isNone_some, Bool.and_false,
        Bool.false_eq_true, if_false, Option.map_none, Option.toList_none, List.append_nil]
    refine .thread_pc (t := t) (pc' := pc') hev ((congrArg Prod.fst hst).trans (congrArg Prod.fst hstate))
      (thread_cons rfl (thread_nil _)) rfl habs (by simp only [mvcc_fields, and_self]) hidle (fun p hp => ?_)
    rw [hp0 p hp, phaseOf_cons, phaseStep_call]
    rcases hpc' with rfl | rfl
    · exact .delPhys _ _ k (mem_storeIds hxm)
    · exact .delCas _ _ k ⟨x, hxm, rfl, hxd⟩

theorem stepOK_gc {σ : State} {sp : SetSpec.State} (hi : Inv σ) (habs : Abs σ sp) {j : Nat}
    (hst : step σ (.gc j) = stepGc σ j) : StepOK σ sp (.gc j) := by
  have keep : ∀ {σ' : State} {r : Resp}, stepGc σ j = (σ', r) → σ'.threads = σ.threads ∧ σ'.currSn = σ.currSn ∧
      σ'.writers = σ.writers ∧ σ'.store = σ.store → StepOK σ sp (.gc j) :=
    fun he ⟨hthr, hcur, hwr, hs⟩ => .unthreaded rfl (by rw [hst, he]) (thread_nil _) rfl (habs.of_eq (by rw [hwr]) hs hcur)
      (fun t' p hp => hp.of_store_eq (by rw [hthr]) hs)
  have hc := stepGc_outcome hi j
  generalize he : stepGc σ j = p at hc
  cases hc with
  | refuse | recvEmpty | recvNode | nodeNone | done => exact keep he ⟨rfl, rfl, rfl, rfl⟩
  | flush => exact keep he (by simp only [mvcc_fields, and_self])
  | @nodeLinked job n r x pc' pt hj _ htd hf hdead hborn =>
    -- a garbage node leaves the store: it is dead, and born in an earlier epoch
    have ⟨hx, hid⟩ := findNode_some hf
    have hst' : (step σ (.gc j)).1 = setGc { σ with store := removeNode σ.store n, unlinked := σ.unlinked ++ [x] } j
        ⟨job.done ++ [n], r, pc'⟩ := by rw [hst, he]
    refine .unthreaded rfl hst' (thread_nil _) rfl ⟨habs.nw, ?_, habs.epoch⟩ (fun t' p hp => hp.congr (σ := σ) rfl ?_ ?_)
    · show sp.alive = Mvcc.absAlive (vers (removeNode σ.store n))
      rw [absAlive_removeNode_dead hi.store.sorted hi.store.ids hf hdead]; exact habs.alive
    · intro m tok k hg
      refine mem_storeIds_removeNode_iff.trans (and_iff_left fun he => ?_)
      exact Nat.lt_irrefl _ (((hi.pc.at hg).2.2.2 x hx (hid.trans he.symm)).2 ▸ hborn)
    · intro m tok k _
      exact aliveIn_removeNode_dead hi.store.ids hf hdead m

theorem stepOK_fr {σ : State} {sp : SetSpec.State} (habs : Abs σ sp) {j : Nat} (hst : step σ (.fr j) = stepFr σ j) :
    StepOK σ sp (.fr j) := by
  -- no thread moves: `Mild` for an index that names no thread
  refine .stutter (t := σ.threads.length) rfl (hst ▸ mild_stepFr σ j _) (fun pc hg => ?_) habs
  rw [List.getElem?_eq_none_iff.mpr (Nat.le_refl _)] at hg; cases hg

theorem stepOK_shutdown {σ : State} {sp : SetSpec.State} (habs : Abs σ sp) (hst : step σ .shutdown = shutdown σ) :
    StepOK σ sp .shutdown := by
  obtain ⟨h1, h2, h3, h4⟩ := shutdown_untouched σ
  exact .unthreaded rfl (by rw [hst]) (thread_nil _) rfl
    (habs.of_eq (by rw [h3]) h1 h2) (fun t' p hp => hp.of_store_eq (by rw [h4]) h1)

theorem stepOK_all {σ : State} {sp : SetSpec.State} (hi : Inv σ) (hd : σ.down = false) (habs : Abs σ sp) (a : Act) :
    StepOK σ sp a := by
  -- the readers' and closers' actions, the collector's steps and the free jobs are invisible to the writers
  have unseen : ∀ {t : Nat} {pc : Pc} {x : State × Resp}, events σ a = [] → step σ a = x → Mild t σ x.1 →
      σ.threads[t]? = some pc → pc.isWop = false → StepOK σ sp a :=
    fun hev he hm hg hw => .stutter hev (he ▸ hm) (fun pc' hg' => by cases hg.symm.trans hg'; exact hw) habs
  have hc := step_cases σ a
  generalize he : step σ a = p at hc
  cases hc with
  | refuse _ hr => exact .unthreaded (events_refused hr) (by rw [he]) (thread_nil _) rfl habs (fun _ _ hp => hp)
  | snap hg => exact stepOK_snap hi hd habs hg he
  | put hw ht => exact stepOK_put hd habs hw ht he
  | del hw ht => exact stepOK_del hi hd habs hw ht he
  | get hw ht => exact stepOK_get hi hd habs hw ht he
  | close ht => exact unseen rfl he (startClose_eff σ _ ht).mild ht rfl
  | itNew _ ht => exact unseen rfl he (itNew_eff σ _ _ _).mild ht rfl
  | itFirst _ ht => exact unseen rfl he (itFirst_eff σ _ ht).mild ht rfl
  | itNext _ ht => exact unseen rfl he (mild_itNext σ _ _) ht rfl
  | itClose _ ht => exact unseen rfl he (itClose_eff σ _ ht).mild ht rfl
  | stepPut hg => exact stepOK_stepPut hi hd habs hg he
  | stepDelPhys hg => exact stepOK_stepDelPhys hi hd habs hg he
  | stepDelFlush hg => exact stepOK_stepDelFlush hd habs hg he
  | stepDelCas hg => exact stepOK_stepDelCas hi hd habs hg he
  | stepCollect hg => exact unseen (events_step_not_wop hg rfl) he (stepCollect_eff σ hg).mild hg rfl
  | stepIter hg => exact unseen (events_step_not_wop hg rfl) he (stepIter_eff σ hg).mild hg rfl
  | gc j => exact stepOK_gc hi habs he
  | fr j => exact stepOK_fr habs he
  | shutdown => exact stepOK_shutdown habs he

/-- `Inv` is asked for only while the store is up: `shutdown` does not keep it, and after it nothing happens -/
theorem lin_run (sched : List Act) {σ : State} {sp : SetSpec.State} (hinv : σ.down = false → Inv σ)
    (habs : Abs σ sp) (ps : Nat → Phase) (hps : ∀ t, PhaseOK σ t (ps t)) :
    ∃ sp', replay sp (trace σ sched) = some sp' ∧ Abs (run σ sched) sp' ∧
      ∀ t, PhaseOK (run σ sched) t (phaseOf t (ps t) (trace σ sched)) := by
  induction sched generalizing σ sp ps with
  | nil => exact ⟨sp, rfl, habs, hps⟩
  | cons a as ih =>
    rw [trace, run]
    by_cases hd : σ.down = true
    · rw [events_refused (a := a) (Or.inl hd), step_down hd a]
      exact ih hinv habs ps hps
    · have hd0 : σ.down = false := Bool.not_eq_true _ ▸ hd
      have hok := stepOK_all (hinv hd0) hd0 habs a
      obtain ⟨sp1, hrep, habs1⟩ := hok.rep
      obtain ⟨sp', h1, h2, h3⟩ := ih (inv_step_up hinv a) habs1
        (fun t => phaseOf t (ps t) (events σ a)) (fun t => hok.ph t (ps t) (hps t))
      exact ⟨sp', by rw [replay_append_some hrep]; exact h1, h2, fun t => by rw [phaseOf_append]; exact h3 t⟩

end NitroVerif.MvccConc
