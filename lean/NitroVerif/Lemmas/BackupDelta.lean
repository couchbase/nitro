import NitroVerif.Model.Backup
import NitroVerif.Lemmas.BackupGen
import NitroVerif.Lemmas.GuardsGen
import NitroVerif.Lemmas.CodecKV
import NitroVerif.Lemmas.ListFacts
/-!
  Insertion of delta items into the restored list (`Insert2` of LoadFromDisk's delta part):
  on a list strictly sorted by the key comparison an item whose key is present is rejected, any other
  item is linked at its sorted position.  `KeyOrder` is what the theorems need of the comparison;
  `bytes.Compare` and `CompareKV` satisfy it.
-/
namespace NitroVerif.Backup
open NitroVerif.Codec NitroVerif.Backup.GenLemmas

/-- a three-way comparison that is a total preorder (keys may compare equal without the byte strings
    being equal, as with CompareKV) -/
structure KeyOrder (cmp : Bytes → Bytes → Int) : Prop where
  swap : ∀ a b, cmp a b < 0 ↔ 0 < cmp b a
  le_trans : ∀ a b c, cmp a b ≤ 0 → cmp b c ≤ 0 → cmp a c ≤ 0

namespace KeyOrder
variable {cmp : Bytes → Bytes → Int} (ko : KeyOrder cmp)
include ko

theorem refl (a : Bytes) : cmp a a = 0 := by
  have := ko.swap a a; omega

theorem eq_symm {a b : Bytes} (h : cmp a b = 0) : cmp b a = 0 := by
  have h1 := ko.swap a b; have h2 := ko.swap b a; omega

theorem not_lt {a b : Bytes} : ¬ cmp a b < 0 ↔ cmp b a ≤ 0 := by
  rw [ko.swap, Int.not_lt]

theorem lt_of_le_of_lt {a b c : Bytes} (h1 : cmp a b ≤ 0) (h2 : cmp b c < 0) : cmp a c < 0 :=
  Decidable.byContradiction fun hn =>
    absurd h2 (ko.not_lt.2 (ko.le_trans c a b (ko.not_lt.1 hn) h1))

theorem lt_of_lt_of_eq {a b c : Bytes} (h1 : cmp a b < 0) (h2 : cmp b c = 0) : cmp a c < 0 :=
  Decidable.byContradiction fun hn =>
    absurd h1 (ko.not_lt.2 (ko.le_trans b c a (Int.le_of_eq h2) (ko.not_lt.1 hn)))

theorem lt_of_eq_of_lt {a b c : Bytes} (h1 : cmp a b = 0) (h2 : cmp b c < 0) : cmp a c < 0 :=
  ko.lt_of_le_of_lt (Int.le_of_eq h1) h2

theorem lt_trans {a b c : Bytes} (h1 : cmp a b < 0) (h2 : cmp b c < 0) : cmp a c < 0 :=
  ko.lt_of_le_of_lt (Int.le_of_lt h1) h2

theorem lt_of_not_le {a b : Bytes} (h1 : ¬ cmp a b < 0) (h2 : cmp a b ≠ 0) : cmp b a < 0 :=
  (ko.swap b a).2 (by omega)

theorem lt_asymm {a b : Bytes} (h1 : cmp a b < 0) : ¬ cmp b a < 0 := by
  have := ko.swap a b; omega

theorem eq_of_pairwise {l : List Bytes} (hs : l.Pairwise (fun a b => cmp a b < 0)) {a b : Bytes}
    (ha : a ∈ l) (hb : b ∈ l) (h : cmp a b = 0) : a = b := by
  rcases pairwise_mem_trichotomy hs ha hb with e | hlt | hgt
  · exact e
  · exact absurd h (Int.ne_of_lt hlt)
  · exact absurd (ko.eq_symm h) (Int.ne_of_lt hgt)

end KeyOrder

theorem keyOrder_cmpBytes : KeyOrder cmpBytes where
  swap a b := by rw [cmpBytes_antisymm a b, Int.neg_neg_iff_pos]
  le_trans a b c h1 h2 := by
    by_cases e1 : cmpBytes a b = 0
    · rw [(cmpBytes_eq_zero_iff a b).1 e1]; exact h2
    · by_cases e2 : cmpBytes b c = 0
      · rw [← (cmpBytes_eq_zero_iff b c).1 e2]; exact h1
      · exact Int.le_of_lt (cmpBytes_trans (Int.lt_iff_le_and_ne.2 ⟨h1, e1⟩)
          (Int.lt_iff_le_and_ne.2 ⟨h2, e2⟩))

theorem keyOrder_compareKV : KeyOrder compareKV :=
  ⟨fun _ _ => keyOrder_cmpBytes.swap _ _, fun _ _ _ => keyOrder_cmpBytes.le_trans _ _ _⟩

theorem insCmp_eq (cmp : Bytes → Bytes → Int) (c x : Bytes) : insCmp cmp c x = cmp c x := by
  unfold insCmp; exact insertCompare_restored _

theorem predEq_some (cmp : Bytes → Bytes → Int) (x p : Bytes) :
    predEq cmp x (some p) = decide (cmp x p = 0) := by
  simp [predEq, existCompare_restored]

theorem insertAux_nil (cmp : Bytes → Bytes → Int) (x : Bytes) (pred : Option Bytes) :
    insertAux cmp x pred [] = if predEq cmp x pred then none else some [x] := rfl

theorem insertAux_cons (cmp : Bytes → Bytes → Int) (x : Bytes) (pred : Option Bytes) (c : Bytes)
    (r : List Bytes) :
    insertAux cmp x pred (c :: r) =
      if cmp c x < 0 then (insertAux cmp x (some c) r).map (c :: ·)
      else if cmp c x = 0 then none
      else if predEq cmp x pred then none
      else some (x :: c :: r) := by
  have ha : Gen.findAdvance (insCmp cmp c x) = decide (cmp c x < 0) := by
    rw [insCmp_eq, Bool.eq_iff_iff, Gen.findAdvance_iff]; simp
  have hf : Gen.findFound (insCmp cmp c x) = decide (cmp c x = 0) := by
    rw [insCmp_eq, Bool.eq_iff_iff, Gen.findFound_iff]; simp
  rw [insertAux, ha, hf]
  by_cases h1 : cmp c x < 0
  · simp only [h1, decide_true, if_true]
    cases insertAux cmp x (some c) r <;> rfl
  · by_cases h2 : cmp c x = 0
    · simp [h2]
    · simp [h1, h2]

/-- the predecessor the walk has reached is smaller than the item (no predecessor at the head) -/
def PredOk (cmp : Bytes → Bytes → Int) (x : Bytes) : Option Bytes → Prop
  | none => True
  | some p => cmp p x < 0

theorem predEq_false {cmp : Bytes → Bytes → Int} (ko : KeyOrder cmp) {x : Bytes} {pred : Option Bytes}
    (h : PredOk cmp x pred) : predEq cmp x pred = false := by
  cases pred with
  | none => rfl
  | some p =>
    rw [predEq_some]
    have := ko.swap p x
    simp only [PredOk] at h
    simp; omega

theorem insertAux_reject {cmp : Bytes → Bytes → Int} (ko : KeyOrder cmp) (x : Bytes)
    (l : List Bytes) (hs : l.Pairwise (fun a b => cmp a b < 0)) (pred : Option Bytes)
    (c : Bytes) (hc : c ∈ l) (heq : cmp x c = 0) : insertAux cmp x pred l = none := by
  induction l generalizing pred with
  | nil => cases hc
  | cons c' r ih =>
    rw [insertAux_cons]
    have hs' := List.pairwise_cons.1 hs
    by_cases h1 : cmp c' x < 0
    · rw [if_pos h1]
      rcases List.mem_cons.1 hc with rfl | hcr
      · exact absurd (ko.eq_symm heq) (Int.ne_of_lt h1)
      · rw [ih hs'.2 (some c') hcr]; rfl
    · rw [if_neg h1]
      by_cases h2 : cmp c' x = 0
      · rw [if_pos h2]
      · exfalso
        have hx : cmp x c' < 0 := ko.lt_of_not_le h1 h2
        rcases List.mem_cons.1 hc with rfl | hcr
        · exact absurd heq (Int.ne_of_lt hx)
        · exact absurd heq (Int.ne_of_lt (ko.lt_trans hx (hs'.1 c hcr)))

theorem insertAux_accept {cmp : Bytes → Bytes → Int} (ko : KeyOrder cmp) (x : Bytes)
    (l : List Bytes) (hs : l.Pairwise (fun a b => cmp a b < 0)) (pred : Option Bytes)
    (hp : PredOk cmp x pred) (hne : ∀ c ∈ l, cmp x c ≠ 0) :
    ∃ l', insertAux cmp x pred l = some l' ∧ l'.Pairwise (fun a b => cmp a b < 0) ∧
      ∀ y, y ∈ l' ↔ y = x ∨ y ∈ l := by
  induction l generalizing pred with
  | nil =>
    refine ⟨[x], ?_, by simp, by simp⟩
    rw [insertAux_nil, predEq_false ko hp]; rfl
  | cons c r ih =>
    rw [insertAux_cons]
    have hs' := List.pairwise_cons.1 hs
    have hcx : cmp c x ≠ 0 := fun h => hne c List.mem_cons_self (ko.eq_symm h)
    by_cases h1 : cmp c x < 0
    · rw [if_pos h1]
      obtain ⟨l', hl', hsort, hmem⟩ := ih hs'.2 (some c) h1
        (fun d hd => hne d (List.mem_cons_of_mem _ hd))
      refine ⟨c :: l', by rw [hl']; rfl, ?_, ?_⟩
      · refine List.pairwise_cons.2 ⟨fun y hy => ?_, hsort⟩
        rcases (hmem y).1 hy with rfl | hyr
        · exact h1
        · exact hs'.1 y hyr
      · intro y
        simp only [List.mem_cons, hmem]
        exact or_left_comm
    · rw [if_neg h1, if_neg hcx, predEq_false ko hp]
      have hx : cmp x c < 0 := ko.lt_of_not_le h1 hcx
      refine ⟨x :: c :: r, rfl, ?_, by simp⟩
      refine List.pairwise_cons.2 ⟨fun y hy => ?_, hs⟩
      rcases List.mem_cons.1 hy with rfl | hyr
      · exact hx
      · exact ko.lt_trans hx (hs'.1 y hyr)

theorem eq_of_sorted_of_mem_iff {cmp : Bytes → Bytes → Int} (ko : KeyOrder cmp)
    (l₁ l₂ : List Bytes) (h₁ : l₁.Pairwise (fun a b => cmp a b < 0))
    (h₂ : l₂.Pairwise (fun a b => cmp a b < 0)) (hm : ∀ y, y ∈ l₁ ↔ y ∈ l₂) : l₁ = l₂ := by
  have nd : ∀ {l : List Bytes}, l.Pairwise (fun a b => cmp a b < 0) → l.Nodup := fun h =>
    h.imp fun {a b} hab e => by rw [e, ko.refl b] at hab; exact absurd hab (Int.lt_irrefl 0)
  exact ((List.perm_ext_iff_of_nodup (nd h₁) (nd h₂)).mpr hm).eq_of_pairwise
    (fun a b _ _ hab hba => absurd hba (ko.lt_asymm hab)) h₁ h₂

theorem insertAll_cons (cmp : Bytes → Bytes → Int) (l : List Bytes) (x : Bytes) (r : List Bytes) :
    insertAll cmp l (x :: r) = insertAll cmp (deltaInsert cmp l x) r := rfl

theorem deltaInsert_sorted {cmp : Bytes → Bytes → Int} (ko : KeyOrder cmp) (l : List Bytes)
    (hs : l.Pairwise (fun a b => cmp a b < 0)) (x : Bytes) :
    ((∃ c ∈ l, cmp x c = 0) ∧ deltaInsert cmp l x = l) ∨
    ((∀ c ∈ l, cmp x c ≠ 0) ∧ (deltaInsert cmp l x).Pairwise (fun a b => cmp a b < 0) ∧
      ∀ y, y ∈ deltaInsert cmp l x ↔ y = x ∨ y ∈ l) := by
  by_cases hex : ∃ c ∈ l, cmp x c = 0
  · obtain ⟨c, hc, heq⟩ := hex
    left
    refine ⟨⟨c, hc, heq⟩, ?_⟩
    unfold deltaInsert
    rw [insertAux_reject ko x l hs none c hc heq]
  · right
    have hne : ∀ c ∈ l, cmp x c ≠ 0 := fun c hc he => hex ⟨c, hc, he⟩
    obtain ⟨l', hl', hsort, hmem⟩ := insertAux_accept ko x l hs none trivial hne
    refine ⟨hne, ?_⟩
    unfold deltaInsert
    rw [hl']
    exact ⟨hsort, hmem⟩

/-- The delta fold restores the content: `base` = what the shard files delivered (a sorted part of
    the content), every delta item is an item of the content or has the key of an item the shards
    delivered, and every item of the content came through a shard or a delta file. -/
theorem insertAll_eq_content {cmp : Bytes → Bytes → Int} (ko : KeyOrder cmp)
    (content base ds : List Bytes)
    (hc : content.Pairwise (fun a b => cmp a b < 0))
    (hb : base.Pairwise (fun a b => cmp a b < 0)) (hbc : ∀ y ∈ base, y ∈ content)
    (hds : ∀ x ∈ ds, x ∈ content ∨ ∃ c ∈ base, cmp x c = 0)
    (hall : ∀ y ∈ content, y ∈ base ∨ y ∈ ds) :
    insertAll cmp base ds = content := by
  -- invariant of the fold: sorted; inside the content; above the base; every content item of `ds` is in
  have key : ∀ (ds : List Bytes) (l : List Bytes),
      l.Pairwise (fun a b => cmp a b < 0) → (∀ y ∈ l, y ∈ content) → (∀ y ∈ base, y ∈ l) →
      (∀ x ∈ ds, x ∈ content ∨ ∃ c ∈ base, cmp x c = 0) →
      (insertAll cmp l ds).Pairwise (fun a b => cmp a b < 0) ∧
      (∀ y ∈ insertAll cmp l ds, y ∈ content) ∧
      (∀ y ∈ l, y ∈ insertAll cmp l ds) ∧
      (∀ x ∈ ds, x ∈ content → x ∈ insertAll cmp l ds) := by
    intro ds
    induction ds with
    | nil => intro l hs hlc _ _; exact ⟨hs, hlc, fun y hy => hy, by simp⟩
    | cons x r ih =>
      intro l hs hlc hbl hx
      have hxr : ∀ z ∈ r, z ∈ content ∨ ∃ c ∈ base, cmp z c = 0 :=
        fun z hz => hx z (List.mem_cons_of_mem _ hz)
      rw [insertAll_cons]
      rcases deltaInsert_sorted ko l hs x with ⟨⟨c, hcl, heq⟩, hsame⟩ | ⟨hne, hsort, hmem⟩
      · rw [hsame]
        obtain ⟨i1, i2, i3, i4⟩ := ih l hs hlc hbl hxr
        refine ⟨i1, i2, i3, ?_⟩
        intro z hz hzc
        rcases List.mem_cons.1 hz with rfl | hzr
        · -- the equal-key item of the list is `z` itself: the content has distinct keys
          have : c = z := (ko.eq_of_pairwise hc hzc (hlc c hcl) heq).symm
          rw [← this]; exact i3 c hcl
        · exact i4 z hzr hzc
      · have hx' := hx x List.mem_cons_self
        have hxc : x ∈ content := by
          rcases hx' with h | ⟨c, hcb, heq⟩
          · exact h
          · exact absurd heq (hne c (hbl c hcb))
        obtain ⟨i1, i2, i3, i4⟩ := ih (deltaInsert cmp l x) hsort
          (fun y hy => by
            rcases (hmem y).1 hy with rfl | h
            · exact hxc
            · exact hlc y h)
          (fun y hy => (hmem y).2 (Or.inr (hbl y hy))) hxr
        refine ⟨i1, i2, fun y hy => i3 y ((hmem y).2 (Or.inr hy)), ?_⟩
        intro z hz hzc
        rcases List.mem_cons.1 hz with rfl | hzr
        · exact i3 z ((hmem z).2 (Or.inl rfl))
        · exact i4 z hzr hzc
  obtain ⟨i1, i2, i3, i4⟩ := key ds base hb hbc (fun y hy => hy) hds
  apply eq_of_sorted_of_mem_iff ko _ _ i1 hc
  intro y
  constructor
  · exact i2 y
  · intro hy
    rcases hall y hy with h | h
    · exact i3 y h
    · exact i4 y h hy

end NitroVerif.Backup
