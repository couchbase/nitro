/-
  Refinement per operation (`Refines`).  Each proof aligns the specification's guard with the model's (a lookup
  in `abs σ` is the model's lookup mapped) and closes the accepted arm by the commutation lemmas of `abs`.
  Here the writer operations.
-/
import NitroVerif.Lemmas.MvccSimStore
import NitroVerif.Lemmas.MvccAList

namespace NitroVerif.Mvcc
open SetSpec

def Refines (σ : State) (op : Op) : Prop :=
  SetSpec.step (abs σ) op = (abs (step σ op).1, (step σ op).2)

theorem refines_writer {σ : State} {w : Nat} {A : SetSpec.State × Out} {B : State × Out}
    (h : w < σ.writers.length → A = (abs B.1, B.2)) :
    (if w < (abs σ).nwriters then A else (abs σ, Out.bad)) =
      (abs (if w < σ.writers.length then B else (σ, Out.bad)).1,
       (if w < σ.writers.length then B else (σ, Out.bad)).2) := by
  by_cases hw : w < σ.writers.length
  · rw [if_pos hw, if_pos (show w < (abs σ).nwriters from hw)]; exact h hw
  · rw [if_neg hw, if_neg (show ¬ w < (abs σ).nwriters from hw)]

theorem sim_put {σ : State} (h : Inv σ) (w k v : Nat) : Refines σ (.put w k v) := by
  unfold Refines
  rw [SetSpec.step, step]
  refine refines_writer fun hw => ?_
  rw [findKey_alive]
  unfold put
  rw [lookup_probe h]
  cases ha : aliveOf σ.store k with
  | some x => rfl
  | none =>
    have hno := aliveOf_none ha
    refine Prod.ext (state_ext ?_ (absAlive_insertAt h.sorted k v hno).symm rfl rfl rfl rfl
      (handles_insertAt h k v hno).symm) rfl
    exact (updWriter_length ..).symm

theorem abs_deleteNode {σ : State} (h : Inv σ) {w : Nat} {x : Ver} (hx : x ∈ σ.store)
    (hd : x.dead = 0) :
    (deleteNode σ w x).2 = true ∧
    abs (deleteNode σ w x).1 = delEntry (abs σ) (entryOf x) := by
  have hcur : σ.currSn ≠ 0 := Nat.ne_of_gt h.cur_pos
  unfold deleteNode
  split
  · exact ⟨rfl, state_ext (updWriter_length ..) (absAlive_removeId h.sorted h.chains hx hd) rfl rfl rfl rfl
      (handles_removeId σ x)⟩
  · exact ⟨rfl, state_ext (updWriter_length ..) (absAlive_markDead h.sorted h.chains hx hd _ hcur) rfl rfl rfl
      rfl (handles_markDead σ x hcur)⟩

theorem sim_del {σ : State} (h : Inv σ) (w k : Nat) : Refines σ (.del w k) := by
  unfold Refines
  rw [SetSpec.step, step]
  refine refines_writer fun hw => ?_
  rw [findKey_alive]
  unfold del
  rw [getNode_eq h]
  cases ha : aliveOf σ.store k with
  | none => rfl
  | some x =>
    have ⟨hxm, _, hd⟩ := aliveOf_some ha
    have ⟨h1, h2⟩ := abs_deleteNode (w := w) h hxm hd
    simp only [Option.map]
    rw [h1, h2]

theorem sim_get {σ : State} (h : Inv σ) (w k : Nat) : Refines σ (.get w k) := by
  unfold Refines
  rw [SetSpec.step, step]
  refine refines_writer fun hw => ?_
  rw [findKey_alive, getNode_eq h]
  cases aliveOf σ.store k <;> rfl

theorem sim_getnode {σ : State} (h : Inv σ) (w k hn : Nat) : Refines σ (.getnode w k hn) := by
  unfold Refines
  rw [SetSpec.step, step]
  refine refines_writer fun hw => ?_
  rw [findKey_alive, getNode_eq h]
  cases ha : aliveOf σ.store k with
  | none =>
    simp only [Option.map]
    refine Prod.ext (state_ext rfl rfl rfl rfl rfl rfl ?_) rfl
    simp only [abs]
    exact (map_aerase _ (absHandle_fst σ.store) hn σ.handles).symm
  | some x =>
    have ⟨hxm, hk, hd⟩ := aliveOf_some ha
    simp only [Option.map]
    refine Prod.ext (state_ext rfl rfl rfl rfl rfl rfl ?_) rfl
    simp only [abs]
    rw [map_aset _ (absHandle_fst σ.store)]
    have : hasAlive σ.store k x.born = true := (hasAlive_iff _ _ _).mpr ⟨x, hxm, hk, rfl, hd⟩
    simp [absHandle, this, entryOf, hk]

theorem delHandle_eq {σ : State} (h : Inv σ) (w : Nat) (hd : Handle) :
    (∃ x ∈ σ.store, x.key = hd.key ∧ x.born = hd.born ∧ x.dead = 0 ∧
        (!hd.gone && hasAlive σ.store hd.key hd.born) = true ∧ delHandle σ w hd = deleteNode σ w x) ∨
    ((!hd.gone && hasAlive σ.store hd.key hd.born) = false ∧ delHandle σ w hd = (σ, false)) := by
  unfold delHandle
  cases hd.gone
  · rw [if_neg Bool.false_ne_true, Bool.not_false, Bool.true_and]
    cases hf : findId σ.store ⟨hd.key, 0, hd.born, 0⟩ with
    | none =>
      refine Or.inr ⟨Bool.eq_false_iff.mpr fun hh => ?_, rfl⟩
      obtain ⟨y, hy, hk, hb, _⟩ := (hasAlive_iff _ _ _).mp hh
      exact List.find?_eq_none.mp hf y hy ((sameId_iff _ _).mpr ⟨hk, hb⟩)
    | some x =>
      have hxm : x ∈ σ.store := List.mem_of_find?_eq_some hf
      have hxs : sameId x ⟨hd.key, 0, hd.born, 0⟩ = true :=
        List.find?_some (p := fun v => sameId v ⟨hd.key, 0, hd.born, 0⟩) hf
      have hid : x.key = hd.key ∧ x.born = hd.born := (sameId_iff _ _).mp hxs
      by_cases hxd : x.dead = 0
      · exact Or.inl ⟨x, hxm, hid.1, hid.2, hxd, (hasAlive_iff _ _ _).mpr ⟨x, hxm, hid.1, hid.2, hxd⟩, rfl⟩
      · refine Or.inr ⟨Bool.eq_false_iff.mpr fun hh => ?_, ?_⟩
        · obtain ⟨y, hy, hk, hb, hyd⟩ := (hasAlive_iff _ _ _).mp hh
          cases sorted_id_unique h.sorted hy hxm (hk.trans hid.1.symm) (hb.trans hid.2.symm)
          exact hxd hyd
        · have hne : ¬ Gen.sameEpoch x.born σ.currSn = true := fun hse =>
            hxd (alive_of_born_cur h.chains hxm ((Gen.sameEpoch_iff _ _).mp hse))
          show deleteNode σ w x = (σ, false)
          unfold deleteNode
          rw [if_neg hne, if_neg hxd]
  · exact Or.inr ⟨rfl, if_pos rfl⟩

theorem sim_delnode {σ : State} (h : Inv σ) (w hn : Nat) : Refines σ (.delnode w hn) := by
  unfold Refines
  rw [SetSpec.step, step]
  refine refines_writer fun hw => ?_
  have hlk : alookup hn (abs σ).handles =
      (alookup hn σ.handles).map (fun a => (absHandle σ.store (hn, a)).2) :=
    alookup_map _ (absHandle_fst σ.store) hn σ.handles
  rw [hlk]
  cases hh : alookup hn σ.handles with
  | none => rfl
  | some hd =>
    simp only [Option.map, absHandle]
    rcases delHandle_eq h w hd with ⟨x, hxm, hk, hb, hxd, hv, e⟩ | ⟨hv, e⟩
    · have ⟨h1, h2⟩ := abs_deleteNode (w := w) h hxm hxd
      rw [hv, if_pos rfl, e, h1, h2]
      -- the entry the specification deletes is named by key and epoch only
      show (delEntry (abs σ) ⟨hd.key, 0, hd.born⟩, _) = (delEntry (abs σ) (entryOf x), _)
      unfold delEntry entryOf
      dsimp only
      rw [hk, hb]
    · rw [hv, if_neg Bool.false_ne_true, e]

end NitroVerif.Mvcc
