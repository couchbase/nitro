import NitroVerif.Lemmas.SkipSeqFill
import NitroVerif.Lemmas.SkipSeqAssemble
/-!
  What the assembled heap of the restore of `LoadFromDisk` on M3 (`restoreWith`) is.
-/
namespace NitroVerif.SkipSeq

/-- the restore, executable: `n` `NewSegment` calls, the `Segment.Add` calls `adds` of the loaders in
    the order in which they happened, `b.Assemble(segments...)` with the segments in file order -/
def restoreWith (n : Nat) (adds : List BOp) : SL :=
  let st := brun (SL.init, []) (news n ++ adds)
  (assemble st.1 st.2).1

/-- the restore with the loaders running one after the other -/
def restore (shards : List (List (Int × Nat))) : SL := restoreWith shards.length (fillFrom 0 shards)

/-- `sh` is the list of decoded shards `shards` with, for every item, its integer key and SOME level
    request (the answer of the random source when the item is added) -/
def Annotates {α : Type} (key : α → Int) (shards : List (List α)) (sh : List (List (Int × Nat))) : Prop :=
  sh.map (·.map (·.1)) = shards.map (·.map key)

theorem Annotates.length {α : Type} {key : α → Int} {shards : List (List α)} {sh : List (List (Int × Nat))}
    (h : Annotates key shards sh) : sh.length = shards.length := by
  have := congrArg List.length h
  simpa using this

theorem Annotates.flatten {α : Type} {key : α → Int} {shards : List (List α)} {sh : List (List (Int × Nat))}
    (h : Annotates key shards sh) : sh.flatten.map (·.1) = shards.flatten.map key := by
  rw [List.map_flatten, List.map_flatten]
  exact congrArg List.flatten h

/-- the assembled heap after any interleaving of the loaders: there is a list `L` of heap nodes (the
    segments' nodes in file order) carrying exactly the concatenated keys, every level `l` walks to the
    nodes of `L` of height `≥ l` (no comparison is involved: this holds for unsorted input too), one node
    was allocated per item, and with strictly ascending keys the representation invariant holds -/
theorem restoreWith_spec {α : Type} {key : α → Int} {shards : List (List α)} {sh : List (List (Int × Nat))}
    (hsh : Annotates key shards sh) (adds : List BOp) (hadds : Shuffle sh adds) :
    let s' := restoreWith shards.length adds
    ∃ L : List Nat,
      L.map (ikey s'.nodes) = shards.flatten.map key ∧
      (∀ n ∈ L, keyOf s'.nodes n = .item (ikey s'.nodes n)) ∧
      (∀ l, l ≤ Gen.maxLevel → walkLevel s' l = some (LL s'.nodes L l)) ∧
      s'.stats.nodeAllocs = (shards.flatten.length : Int) ∧
      ((shards.flatten.map key).Pairwise (· < ·) → Rep s' L) := by
  rw [← hsh.length, ← hsh.flatten] -- the goal over `sh`, as `fill_state` has it
  intro s'
  have hst0 := grun_stats (news sh.length ++ adds) (SL.init, [])
  rcases fill_state sh adds hadds with ⟨hb, herase, hkeys⟩
  generalize grun (SL.init, []) (news sh.length ++ adds) = g at hb herase hkeys hst0
  have hs' : s' = (assemble g.1 (g.2.map (·.1))).1 := by
    show restoreWith _ _ = _
    unfold restoreWith
    rw [← herase]
  have hsh' : SameShape g.1.nodes s'.nodes := hs' ▸ assemble_shape _ _
  have hik : ∀ n, ikey s'.nodes n = ikey g.1.nodes n := hsh'.ikey
  refine ⟨allNodes g.2, ?_, ?_, ?_, ?_, ?_⟩
  · rw [← hkeys]; exact List.map_congr_left (fun n _ => hik n)
  · intro n hn; rw [hik, hsh'.key]; exact hb.keys n hn
  · intro l hl; rw [hsh'.LL_eq, hs']; exact assemble_walk hb hl
  · have hl := congrArg List.length (hkeys.trans hsh.flatten)
    rw [List.length_map, List.length_map] at hl
    rw [hs', (assemble_stats hb).2, hst0, hl]
    simp [SL.init, Stats.zero]
  · intro hasc
    rw [hs']
    apply assemble_rep hb
    rw [← hkeys] at hasc
    exact List.pairwise_map.mp hasc

/-- every level request is allowed, e.g. a constant one -/
theorem annotates_const {α : Type} (key : α → Int) (shards : List (List α)) (lvl : Nat) :
    Annotates key shards (shards.map (·.map fun b => (key b, lvl))) := by
  simp [Annotates, List.map_map, Function.comp_def]

end NitroVerif.SkipSeq
