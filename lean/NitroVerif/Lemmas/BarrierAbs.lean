import NitroVerif.Lemmas.ListFacts
/-!
  The LAZY abstract access barrier `AbsBarrier` (stand-alone, no model imported).

  It is the barrier of `Model/MvccConc.lean` (sessions = holders, flushed flag, attached object;
  `acquire` adds a holder to the last session, `release` removes one, `flush` closes the last session
  with an object and opens a new one) with `cleanup` split off: destruction of the session at position
  `freeSeq` is a separate action `destruct`, enabled exactly when that session is terminated
  (flushed, no holder).  `log` records the objects handed to the destructor, in call order.

  `exhaust`/`eager` repeat `destruct` while it is enabled; `eager_eq` computes the result in closed form
  (`takeWhile terminated` of the undestructed sessions), which is MvccConc's `cleanup`.
-/
namespace NitroVerif

structure ASess (H O : Type) where
  holders : List H
  flushed : Bool
  obj : O
deriving Repr, DecidableEq

/-- the lazy abstract barrier: sessions in creation order (the last one is current), the number of
    destructed sessions, the objects given to the destructor in call order -/
structure AbsBarrier (H O : Type) where
  sess : List (ASess H O)
  freeSeq : Nat
  log : List O
deriving Repr, DecidableEq

namespace AbsBarrier
variable {H O : Type}

def ASess.terminated (s : ASess H O) : Bool := s.flushed && s.holders.isEmpty

inductive Act (H O : Type) where
  | acq (h : H)
  | rel (tok : Nat) (h : H)
  | flush (o : O)
  | destruct
deriving Repr, DecidableEq

def init [Inhabited O] : AbsBarrier H O := ⟨[⟨[], false, default⟩], 0, []⟩

/-- `Acquire`: a holder more in the current (last) session -/
def acqF (b : AbsBarrier H O) (h : H) : AbsBarrier H O :=
  { b with sess := b.sess.modify (b.sess.length - 1) (fun s => { s with holders := s.holders ++ [h] }) }

/-- `Release` of a token of session `tok` -/
def relF [DecidableEq H] (b : AbsBarrier H O) (tok : Nat) (h : H) : AbsBarrier H O :=
  { b with sess := b.sess.modify tok (fun s => { s with holders := s.holders.erase h }) }

/-- `FlushSession(o)`: close the current session with `o` attached, open a new one -/
def flushF [Inhabited O] (b : AbsBarrier H O) (o : O) : AbsBarrier H O :=
  { b with sess := b.sess.modify (b.sess.length - 1) (fun s => { s with flushed := true, obj := o })
                     ++ [⟨[], false, default⟩] }

def ready (b : AbsBarrier H O) : Bool :=
  match b.sess[b.freeSeq]? with
  | some s => ASess.terminated s
  | none => false

/-- the destructor call for session `freeSeq` -/
def destructF (b : AbsBarrier H O) : AbsBarrier H O :=
  match b.sess[b.freeSeq]? with
  | some s => { b with freeSeq := b.freeSeq + 1, log := b.log ++ [s.obj] }
  | none => b

def holds [DecidableEq H] (b : AbsBarrier H O) (tok : Nat) (h : H) : Bool :=
  match b.sess[tok]? with
  | some s => s.holders.contains h
  | none => false

/-- one action of the lazy barrier; `none` = not enabled.  `rel` needs the token, `destruct` is enabled
    exactly when session `freeSeq` is terminated. -/
def step [DecidableEq H] [Inhabited O] (b : AbsBarrier H O) : Act H O → Option (AbsBarrier H O)
  | .acq h => some (acqF b h)
  | .rel tok h => if holds b tok h then some (relF b tok h) else none
  | .flush o => some (flushF b o)
  | .destruct => if ready b then some (destructF b) else none

def run [DecidableEq H] [Inhabited O] (b : AbsBarrier H O) : List (Act H O) → Option (AbsBarrier H O)
  | [] => some b
  | a :: r =>
    match step b a with
    | none => none
    | some b' => run b' r

/-- `destruct` repeated while enabled (at most `n` times) -/
def exhaust : Nat → AbsBarrier H O → AbsBarrier H O
  | 0, b => b
  | n + 1, b => if ready b then exhaust n (destructF b) else b

/-- `destruct` to exhaustion: every undestructed session can be destructed at most once -/
def eager (b : AbsBarrier H O) : AbsBarrier H O := exhaust (b.sess.length - b.freeSeq) b

def exhaustActs : Nat → AbsBarrier H O → List (Act H O)
  | 0, _ => []
  | n + 1, b => if ready b then .destruct :: exhaustActs n (destructF b) else []

/-- the sessions that can be destructed now, in order (MvccConc's `readySess`) -/
def readyList (b : AbsBarrier H O) : List (ASess H O) :=
  (b.sess.drop b.freeSeq).takeWhile ASess.terminated

theorem destructF_sess (b : AbsBarrier H O) : (destructF b).sess = b.sess := by
  unfold destructF; split <;> rfl

theorem exhaust_eq (n : Nat) (b : AbsBarrier H O) (hn : b.sess.length - b.freeSeq ≤ n) :
    exhaust n b = { b with freeSeq := b.freeSeq + (readyList b).length,
                           log := b.log ++ (readyList b).map (·.obj) } := by
  induction n generalizing b with
  | zero =>
    have : b.sess.drop b.freeSeq = [] := List.drop_eq_nil_of_le (by omega)
    simp [exhaust, readyList, this]
  | succ n ih =>
    obtain ⟨sess, fs, lg⟩ := b
    unfold exhaust
    simp only [] at hn
    by_cases hl : fs < sess.length
    · have hg : sess[fs]? = some sess[fs] := List.getElem?_eq_getElem hl
      by_cases hr : ASess.terminated sess[fs] = true
      · have hrd : ready (⟨sess, fs, lg⟩ : AbsBarrier H O) = true := by simp [ready, hg, hr]
        have hdf : destructF (⟨sess, fs, lg⟩ : AbsBarrier H O) = ⟨sess, fs + 1, lg ++ [sess[fs].obj]⟩ := by
          simp [destructF, hg]
        rw [if_pos hrd, hdf, ih ⟨sess, fs + 1, lg ++ [sess[fs].obj]⟩ (by simp only []; omega)]
        simp only [readyList]
        rw [List.drop_eq_getElem_cons hl, List.takeWhile_cons, if_pos hr]
        simp [Nat.add_assoc, Nat.add_comm 1]
      · have hrd : ready (⟨sess, fs, lg⟩ : AbsBarrier H O) = false := by simp [ready, hg, hr]
        simp only [readyList]
        rw [List.drop_eq_getElem_cons hl, List.takeWhile_cons, if_neg hr]
        simp [hrd]
    · have : sess.drop fs = [] := List.drop_eq_nil_of_le (by omega)
      have hg : sess[fs]? = none := List.getElem?_eq_none (by omega)
      simp [ready, hg, readyList, this]

theorem exhaust_of_not_ready (n : Nat) (b : AbsBarrier H O) (h : ready b = false) :
    exhaust n b = b := by
  cases n with
  | zero => rfl
  | succ n => simp [exhaust, h]

theorem eager_eq (b : AbsBarrier H O) :
    eager b = { b with freeSeq := b.freeSeq + (readyList b).length,
                       log := b.log ++ (readyList b).map (·.obj) } :=
  exhaust_eq _ b (Nat.le_refl _)

theorem ready_eager (b : AbsBarrier H O) : ready (eager b) = false := by
  rw [eager_eq]
  unfold ready
  simp only []
  split
  · rename_i s hs
    have hdrop : (b.sess.drop b.freeSeq)[((b.sess.drop b.freeSeq).takeWhile ASess.terminated).length]?
        = some s := by
      rw [List.getElem?_drop]; exact hs
    exact takeWhile_stop _ hdrop
  · rfl

theorem run_exhaustActs [DecidableEq H] [Inhabited O] (n : Nat) (b : AbsBarrier H O) :
    run b (exhaustActs n b) = some (exhaust n b) := by
  induction n generalizing b with
  | zero => rfl
  | succ n ih =>
    unfold exhaustActs exhaust
    by_cases hr : ready b = true
    · simp [hr, run, step, ih]
    · simp [hr, run]

theorem run_append [DecidableEq H] [Inhabited O] (b : AbsBarrier H O) (l1 l2 : List (Act H O)) :
    run b (l1 ++ l2) = (run b l1).bind (fun b' => run b' l2) := by
  induction l1 generalizing b with
  | nil => simp [run]
  | cons a r ih =>
    simp only [List.cons_append, run]
    split
    · simp
    · exact ih _

end AbsBarrier
end NitroVerif
