/-
  C01 along concurrent histories: what an open snapshot number sees (`viewOf`) does not change under any action;
  `Count()` of an open snapshot is the size of its view.  The readers' invariants together (`RInv`: cursors,
  frontier, reference counts, counts, comparator choice) hold in every reachable state.
-/
import NitroVerif.Lemmas.MvccConcFrontier
import NitroVerif.Lemmas.MvccConcRefs
import NitroVerif.Lemmas.MvccConcMain

namespace NitroVerif.MvccConc
open NitroVerif.Mvcc (Ver Chains visible)

/-- what snapshot number `sn` sees of the store: the versions the reader's `skipUnwanted` does not skip, in
    store order, without their (mutable) death mark -/
def viewOf (σ : State) (sn : Nat) : List Ver := Mvcc.view (vers σ.store) sn

theorem viewOf_eq (σ : State) (sn : Nat) : viewOf σ sn = Mvcc.view (vers σ.store) sn := rfl

def openSn (σ : State) (sn : Nat) : Prop := ∃ s ∈ σ.snaps, s.sn = sn ∧ 0 < s.rc

theorem open_facts {σ : State} (hi : Inv σ) (hv : FrontInv σ) {sn : Nat} (ho : openSn σ sn) :
    σ.lastGCSn < sn ∧ sn < σ.currSn := by
  obtain ⟨s, hs, rfl, hrc⟩ := ho
  refine ⟨?_, hi.store.snaps_lt s hs⟩
  by_cases hle : s.sn ≤ σ.lastGCSn
  · have hc := hv.s.coll s hs hle
    exact absurd hrc (Int.not_lt.mpr (hi.store.rc_dead s hs (by rw [hc]; simp)))
  · exact Nat.lt_of_not_le hle

theorem open_of_iter {σ : State} (hk : IterInv σ) (hv : RefInv σ) {t i : Nat} {it : Iter}
    (hm : ((t, i), it) ∈ σ.iters)
    (hc : closingB σ.threads (t, i) = false) : openSn σ it.sn := by
  obtain ⟨s, hs, hsn⟩ := hk.snap _ _ hm
  refine ⟨s, hs, hsn, ?_⟩
  have h1 := hv s hs
  have : 0 < cntRef σ.threads σ.iters s.sn := cntRef_pos hm (refP_iff.mpr ⟨hsn.symm, hc⟩)
  have h0 : (0 : Int) ≤ ((if s.held then 1 else 0 : Nat) : Int) := Int.natCast_nonneg _
  omega

theorem open_of_held {σ : State} (hv : RefInv σ) {s : Snap} (hs : s ∈ σ.snaps) (hh : s.held = true) :
    openSn σ s.sn := by
  refine ⟨s, hs, rfl, ?_⟩
  have h1 := hv s hs
  simp only [hh, if_true] at h1
  have h0 : (0 : Int) ≤ ((cntRef σ.threads σ.iters s.sn : Nat) : Int) := Int.natCast_nonneg _
  omega

theorem viewOf_congr {σ σ' : State} (h : σ'.store = σ.store) (sn : Nat) : viewOf σ' sn = viewOf σ sn := by
  rw [viewOf_eq, viewOf_eq, h]

theorem garbJ_invisible {σ : State} (hi : Inv σ) (hv : FrontInv σ) {n : Nat} (hn : n ∈ garbJ σ.gcJobs) {x : Node}
    (hx : x ∈ σ.store) (hid : x.id = n) {sn : Nat} (ho : openSn σ sn) : visible sn x.ver = false := by
  have hle := hv.s.jgc n hn x hx hid
  have ⟨hlg, _⟩ := open_facts hi hv ho
  cases hvis : visible sn x.ver
  · rfl
  · rcases ((Mvcc.visible_iff sn x.ver).mp hvis).2 with h | h
    · exact absurd h (garbJ_linked hi hn hx hid).1
    · exact absurd (Nat.lt_trans (Nat.lt_of_lt_of_le h hle) hlg) (Nat.lt_irrefl sn)

theorem view_qstep {σ σ' : State} (hi : Inv σ) (hv : FrontInv σ) (hq : QStep σ σ') {sn : Nat} (ho : openSn σ sn) :
    viewOf σ' sn = viewOf σ sn := by
  have ⟨hlg, hcur⟩ := open_facts hi hv ho
  have hsorted := hi.store.sorted
  rw [viewOf_eq, viewOf_eq]
  rcases hq.store with ⟨h, _⟩ | ⟨n, k, v, _, h, _⟩ | ⟨n, x, hf, hwhy, h, _⟩ | ⟨n, x, hf, hd0, h, _⟩
  · rw [h]
  · rw [h, vers_insertN]
    exact Mvcc.view_insertAt _ _ sn hcur
  · rw [h, vers_removeNode hsorted hi.store.ids hf]
    unfold Mvcc.removeId
    apply Mvcc.view_filter
    intro w hw hq'
    have hsame : Mvcc.sameId w x.ver = true := by simpa using hq'
    have ⟨hxm, hxid⟩ := findNode_some hf
    have hxv : x.ver ∈ vers σ.store := List.mem_map.mpr ⟨x, hxm, rfl⟩
    have hwx : w = x.ver := by
      have := (Mvcc.sameId_iff w x.ver).mp hsame
      exact Mvcc.sorted_id_unique hsorted hw hxv this.1 this.2
    rw [hwx]
    cases hvis : visible sn x.ver
    · rfl
    · exfalso
      rcases hwhy with hb | ⟨hg, _⟩
      · exact Nat.not_le_of_lt hcur (hb ▸ ((Mvcc.visible_iff sn x.ver).mp hvis).1)
      · rw [garbJ_invisible hi hv hg hxm hxid ho] at hvis; cases hvis
  · have ⟨hxm, _⟩ := findNode_some hf
    rw [h, vers_markDeadNode hsorted hi.store.ids hf]
    exact Mvcc.view_markDead hsorted (List.mem_map.mpr ⟨x, hxm, rfl⟩) hd0 sn σ.currSn hcur

theorem view_step_inv {σ : State} (hi : Inv σ) (hv : FrontInv σ) (a : Act) {sn : Nat}
    (ho : openSn σ sn) : viewOf (step σ a).1 sn = viewOf σ sn := by
  cases action_cases hi a with
  | quiet hq => exact view_qstep hi hv hq ho
  | snap _ he => rw [he]; exact viewOf_congr rfl sn
  | eff t he => exact viewOf_congr he.mild.store sn

theorem viewOf_keys {fx : Bool} {nw nr : Nat} {σ : State} (hr : ReachableFx fx nw nr σ) (sn : Nat) :
    (viewOf σ sn).Pairwise (fun a b => a.key < b.key) := by
  have ⟨hs, hc⟩ := store_facts_reachable hr
  rw [viewOf_eq, Mvcc.view, List.pairwise_map]
  exact Mvcc.vis_keySorted hs hc sn

def CountInv (σ : State) : Prop := ∀ s ∈ σ.snaps, 0 < s.rc → s.count = ((viewOf σ s.sn).length : Nat)

/-- every snapshot of the later table stems from one of the earlier table: same number, same count, and it
    was open before if it is open now -/
def SnapsBack (l l' : List Snap) : Prop :=
  ∀ s' ∈ l', ∃ s ∈ l, s.sn = s'.sn ∧ s.count = s'.count ∧ (0 < s'.rc → 0 < s.rc)

theorem SnapsBack.refl (l : List Snap) : SnapsBack l l := fun s hs => ⟨s, hs, rfl, rfl, fun h => h⟩

theorem SnapsBack.updSnap (l : List Snap) (s : Nat) {f : Snap → Snap}
    (hf : ∀ x ∈ l, x.sn = s → (f x).sn = x.sn ∧ (f x).count = x.count ∧ (0 < (f x).rc → 0 < x.rc)) :
    SnapsBack l (updSnap s f l) := by
  intro y hy
  obtain ⟨x, hx, rfl⟩ := mem_updSnap hy
  by_cases hxs : x.sn = s
  · rw [if_pos hxs]
    obtain ⟨e1, e2, e3⟩ := hf x hx hxs
    exact ⟨x, hx, e1.symm, e2.symm, e3⟩
  · rw [if_neg hxs]
    exact ⟨x, hx, rfl, rfl, fun h => h⟩

theorem CountInv.back {σ σ' : State} (h : CountInv σ) (hb : SnapsBack σ.snaps σ'.snaps)
    (hview : ∀ sn, openSn σ sn → viewOf σ' sn = viewOf σ sn) : CountInv σ' := by
  intro s' hs' hrc
  obtain ⟨s, hs, e1, e2, e3⟩ := hb s' hs'
  have ho : openSn σ s'.sn := ⟨s, hs, e1, e3 hrc⟩
  rw [hview _ ho, ← e2, ← e1]
  exact h s hs (e3 hrc)

theorem count_eff {σ : State} {a : Act} {t : Nat} {p : State × Resp} (hi : Inv σ) (hc : CountInv σ)
    (h : REff σ a t p) : CountInv p.1 := by
  cases h with
  | land i it land pc' _ _ _ he =>
    exact hc.back (by rw [he]; exact SnapsBack.refl _) (fun sn _ => viewOf_congr (by rw [he]; rfl) sn)
  | open_ i s x _ hf _ href he =>
    refine hc.back ?_ (fun sn _ => viewOf_congr (by rw [he]; rfl) sn)
    rw [he]
    refine SnapsBack.updSnap σ.snaps s (f := fun y => { y with rc := y.rc + 1 }) (fun y hy hys => ⟨rfl, rfl, fun h => ?_⟩)
    have ⟨hxm, hxs⟩ := findSnap_some hf
    have : y = x := snap_unique hi.store.snaps_inc hy hxm (hys.trans hxs.symm)
    subst this
    have hne : y.rc ≠ 0 := by
      intro e; rw [e] at href; simp [Gen.openRefuse] at href
    simp only at h; omega
  | close s x f after _ _ _ hf htl =>
    refine hc.back ?_ (fun sn _ => viewOf_congr htl.mild.store sn)
    rw [htl.tail.1]
    exact SnapsBack.updSnap _ _ (fun y _ _ => ⟨hf.sn y, hf.count y, fun h => by rw [hf.rc y] at h; omega⟩)
  | collect sn x after _ _ _ htl =>
    refine hc.back ?_ (fun sn _ => viewOf_congr htl.mild.store sn)
    rw [htl.tail.1]
    exact SnapsBack.updSnap _ _ (fun _ _ _ => ⟨rfl, rfl, fun h => h⟩)

theorem count_snap {σ : State} (hi : Inv σ) (hc : CountInv σ) : CountInv (snap σ).1 := by
  intro s hs hrc
  rw [show viewOf (snap σ).1 s.sn = viewOf σ s.sn from viewOf_congr rfl s.sn]
  have hs' : s ∈ σ.snaps ++ [_] := hs
  rcases List.mem_append.mp hs' with hs0 | hs0
  · exact hc s hs0 hrc
  · simp at hs0; subst hs0
    simp only
    rw [viewOf_eq, Mvcc.view_at_epoch hi.store.chains]
    exact hi.store.cnt

/-- everything the theorems about readers rest on, in every reachable state -/
structure RInv (fx : Bool) (σ : State) : Prop where
  iter : IterInv σ
  front : FrontInv σ
  ref : RefInv σ
  count : CountInv σ
  fx : σ.fixedIter = fx

theorem rinv_step {fx : Bool} {σ : State} (hi : Inv σ) (h : RInv fx σ) (a : Act) : RInv fx (step σ a).1 := by
  cases action_cases hi a with
  | quiet hq =>
    exact ⟨iterInv_quiet hi h.iter hq, front_qstep hi h.front hq, ref_qstep h.ref hq,
      h.count.back (by rw [hq.snaps]; exact SnapsBack.refl _) (fun sn ho => view_qstep hi h.front hq ho),
      hq.fixedIter.trans h.fx⟩
  | snap _ he =>
    rw [he]
    exact ⟨iterInv_snap h.iter, front_snap hi h.front, ref_snap hi h.iter h.ref, count_snap hi h.count, h.fx⟩
  | eff t he =>
    exact ⟨iterInv_eff hi h.iter he, front_eff hi h.front he, ref_eff hi h.ref he, count_eff hi h.count he,
      he.mild.fixedIter.trans h.fx⟩

theorem rinv_reachable {fx : Bool} {nw nr : Nat} {σ : State} (hr : ReachableFx fx nw nr σ) : RInv fx σ :=
  reachable_ind
    ⟨iterInv_init nw nr fx, frontInv_init nw nr fx, fun s hs => by simp [init] at hs,
      fun s hs => by simp [init] at hs, rfl⟩
    (fun _ a hi h => rinv_step hi h a) hr

theorem view_step {fx : Bool} {nw nr : Nat} {σ : State} (hr : ReachableFx fx nw nr σ) (a : Act) {sn : Nat}
    (ho : openSn σ sn) : viewOf (step σ a).1 sn = viewOf σ sn := by
  by_cases hd : σ.down = true
  · rw [step_down hd]
  · exact view_step_inv (inv_reachable hr (Bool.not_eq_true _ ▸ hd)) (rinv_reachable hr).front a ho

end NitroVerif.MvccConc
