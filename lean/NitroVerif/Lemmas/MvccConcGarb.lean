/-
  Garbage lists.  A node named by a garbage list (of a writer, of a snapshot not yet collected, of a collection
  job) is linked, dead and born in an earlier epoch; what keeps `GarbInv`: the garbage shrinks and its nodes stay
  linked (`mono`), one marked node joins (`add`).
-/
import NitroVerif.Lemmas.MvccConcInv

namespace NitroVerif.MvccConc

variable {writers writers' : List Writer} {snaps snaps' : List Snap} {gcJobs gcJobs' : List GcJob}
  {store store' : List Node} {cur cur' : Nat}

/-- a node is never written once it carries a death mark, so "stays linked" is membership of the same node -/
theorem GarbInv.mono (h : GarbInv writers snaps gcJobs store cur)
    (hle : ∀ m, garbC writers' snaps' gcJobs' m ≤ garbC writers snaps gcJobs m)
    (hst : ∀ x ∈ store, 0 < garbC writers' snaps' gcJobs' x.id → x ∈ store') (hcur : cur ≤ cur')
    (hjobs : ∀ j ∈ gcJobs', (j.pc = .flush ∨ j.pc = .done ∨ j.pc = .finished) → j.todo = []) :
    GarbInv writers' snaps' gcJobs' store' cur' := by
  refine ⟨fun m => Nat.le_trans (hle m) (h.le m), fun m hm => ?_, hjobs⟩
  obtain ⟨y, hy, hym, hd, hb⟩ := h.linked m (Nat.lt_of_lt_of_le hm (hle m))
  exact ⟨y, hst y hy (hym ▸ hm), hym, hd, Nat.lt_of_lt_of_le hb hcur⟩

theorem GarbInv.congr_jobs (h : GarbInv writers snaps gcJobs store cur)
    (hg : ∀ n, garbC writers' snaps' gcJobs' n = garbC writers snaps gcJobs n)
    (hj : ∀ j ∈ gcJobs', (j.pc = .flush ∨ j.pc = .done ∨ j.pc = .finished) → j.todo = []) :
    GarbInv writers' snaps' gcJobs' store cur :=
  h.mono (fun n => Nat.le_of_eq (hg n)) (fun _ hx _ => hx) (Nat.le_refl _) hj

theorem GarbInv.remove (h : GarbInv writers snaps gcJobs store cur) {n : Nat}
    (hle : ∀ m, garbC writers' snaps' gcJobs' m ≤ garbC writers snaps gcJobs m)
    (hn : garbC writers' snaps' gcJobs' n = 0)
    (hjobs : ∀ j ∈ gcJobs', (j.pc = .flush ∨ j.pc = .done ∨ j.pc = .finished) → j.todo = []) :
    GarbInv writers' snaps' gcJobs' (removeNode store n) cur :=
  h.mono hle (fun x hx hp => mem_removeNode.mpr ⟨hx, fun he => by rw [he, hn] at hp; exact Nat.lt_irrefl 0 hp⟩)
    (Nat.le_refl _) hjobs

theorem GarbInv.add (h : GarbInv writers snaps gcJobs store cur) {n : Nat}
    (hg : ∀ m, garbC writers' snaps' gcJobs' m = garbC writers snaps gcJobs m + [n].count m)
    (h0 : garbC writers snaps gcJobs n = 0) (hst : ∀ x ∈ store, x.id ≠ n → x ∈ store')
    (hn : ∃ x ∈ store', x.id = n ∧ x.ver.dead ≠ 0 ∧ x.ver.born < cur)
    (hjobs : ∀ j ∈ gcJobs', (j.pc = .flush ∨ j.pc = .done ∨ j.pc = .finished) → j.todo = []) :
    GarbInv writers' snaps' gcJobs' store' cur := by
  refine ⟨fun m => ?_, fun m hm => ?_, hjobs⟩
  · rw [hg]
    by_cases he : m = n
    · rw [he, h0, List.count_singleton_self]; exact Nat.le_refl 1
    · rw [List.count_singleton, beq_eq_false_iff_ne.mpr (Ne.symm he), if_neg Bool.false_ne_true]; exact h.le m
  · by_cases he : m = n
    · exact he ▸ hn
    · rw [hg, List.count_singleton, beq_eq_false_iff_ne.mpr (Ne.symm he), if_neg Bool.false_ne_true] at hm
      obtain ⟨y, hy, hym, h1⟩ := h.linked m hm
      exact ⟨y, hst y hy (hym ▸ he), hym, h1⟩

theorem GarbInv.not_garbage
    (h : GarbInv writers snaps gcJobs store cur) (hids : (storeIds store).Nodup) {x : Node} (hx : x ∈ store)
    (hd : x.ver.dead = 0 ∨ x.ver.born = cur) : garbC writers snaps gcJobs x.id = 0 := by
  cases hc : garbC writers snaps gcJobs x.id with
  | zero => rfl
  | succ c =>
    obtain ⟨y, hy, hyid, hyd, hyb⟩ := h.linked x.id (by rw [hc]; exact Nat.succ_pos c)
    rw [id_unique hids hy hx hyid] at hyd hyb
    rcases hd with hd | hd
    · exact absurd hd hyd
    · exact absurd hyb (by rw [hd]; exact Nat.lt_irrefl _)

theorem garbC_pos_of_snap {s : Snap} {n : Nat}
    (hs : s ∈ snaps) (hn : n ∈ snapGarb s) : 0 < garbC writers snaps gcJobs n :=
  Nat.lt_of_lt_of_le (List.count_pos_iff.mpr (List.mem_flatMap.mpr ⟨s, hs, hn⟩))
    (Nat.le_trans (Nat.le_add_left _ _) (Nat.le_add_right _ _))

theorem garbC_pos_of_job {n : Nat}
    (hn : n ∈ garbJ gcJobs) : 0 < garbC writers snaps gcJobs n :=
  Nat.lt_of_lt_of_le (List.count_pos_iff.mpr hn) (Nat.le_add_left _ _)

theorem garbJ_append (gcJobs : List GcJob) (job : GcJob) (n : Nat) :
    (garbJ (gcJobs ++ [job])).count n = (garbJ gcJobs).count n + job.todo.count n := by
  unfold garbJ; simp [List.flatMap_append, List.count_append]

theorem mem_garbJ {j : Nat} {job : GcJob} {n : Nat} (hj : gcJobs[j]? = some job)
    (hn : n ∈ job.todo) : n ∈ garbJ gcJobs :=
  List.mem_flatMap.mpr ⟨job, List.mem_of_getElem? hj, hn⟩

theorem garbJ_linked {σ : State} (hi : Inv σ) {n : Nat} (hn : n ∈ garbJ σ.gcJobs) {x : Node} (hx : x ∈ σ.store)
    (hid : x.id = n) : x.ver.dead ≠ 0 ∧ x.ver.born < σ.currSn := by
  obtain ⟨y, hy, hyid, hyd, hyb⟩ := hi.garb.linked n (garbC_pos_of_job hn)
  cases id_unique hi.store.ids hy hx (hyid.trans hid.symm)
  exact ⟨hyd, hyb⟩

theorem garbJ_set_sub {gcJobs : List GcJob} {j : Nat} {job job' : GcJob} (hj : gcJobs[j]? = some job)
    (hsub : ∀ n, n ∈ job'.todo → n ∈ job.todo) : ∀ n, n ∈ garbJ (gcJobs.set j job') → n ∈ garbJ gcJobs := by
  intro n hn
  unfold garbJ at hn ⊢
  obtain ⟨x, hx, hnx⟩ := List.mem_flatMap.mp hn
  rcases List.mem_or_eq_of_mem_set hx with hx' | rfl
  · exact List.mem_flatMap.mpr ⟨x, hx', hnx⟩
  · exact List.mem_flatMap.mpr ⟨job, List.mem_of_getElem? hj, hsub n hnx⟩

theorem snapGarb_sub {x y : Snap} (hg : y.gclist = x.gclist) (hc : x.st = .collected → y.st = .collected) :
    ∀ n, n ∈ snapGarb y → n ∈ snapGarb x := by
  intro n hn
  unfold snapGarb at hn ⊢
  by_cases hx : x.st = .collected
  · simp [hc hx] at hn
  · simp only [hx, if_false]
    split at hn
    · simp at hn
    · rw [← hg]; exact hn

end NitroVerif.MvccConc
