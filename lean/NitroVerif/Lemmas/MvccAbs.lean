/-
  The abstraction function from the M6 model to the specification `SetSpec`, and how it commutes
  with the bookkeeping functions.
-/
import NitroVerif.Lemmas.MvccIterLemmas

namespace NitroVerif.Mvcc
open SetSpec

def entryOf (v : Ver) : Entry := ⟨v.key, v.val, v.born⟩

/-- the alive items, in key order -/
def absAlive (s : List Ver) : List Entry := (s.filter isAlive).map entryOf

def absSnap (m : Snap) : SetSpec.Snap := ⟨m.sn, m.rc, m.content.map Ver.item⟩

def absIter (p : Nat × Iter) : Nat × SetSpec.Iter := (p.1, ⟨p.2.sn, p.2.cur.map Ver.item⟩)

def hasAlive (store : List Ver) (k b : Nat) : Bool :=
  (store.filter isAlive).any (fun v => v.key == k && v.born == b)

/-- valid: not `gone` AND node alive — a node marked dead in a later epoch stays linked, its handle unmarked -/
def absHandle (store : List Ver) (p : Nat × Handle) : Nat × SetSpec.Handle :=
  (p.1, ⟨p.2.key, p.2.born, !p.2.gone && hasAlive store p.2.key p.2.born⟩)

def abs (σ : State) : SetSpec.State :=
  { nwriters := σ.writers.length
    alive := absAlive σ.store
    epoch := σ.currSn
    items := σ.itemsCount
    snaps := σ.snaps.map absSnap
    iters := σ.iters.map absIter
    handles := σ.handles.map (absHandle σ.store) }

theorem state_ext {a b : SetSpec.State} (h1 : a.nwriters = b.nwriters) (h2 : a.alive = b.alive)
    (h3 : a.epoch = b.epoch) (h4 : a.items = b.items) (h5 : a.snaps = b.snaps)
    (h6 : a.iters = b.iters) (h7 : a.handles = b.handles) : a = b := by
  cases a; cases b
  cases h1; cases h2; cases h3; cases h4; cases h5; cases h6; cases h7
  rfl

theorem abs_init (n : Nat) : abs (init n) = SetSpec.init n := by
  simp [abs, init, SetSpec.init, absAlive]

theorem absAlive_length (s : List Ver) : (absAlive s).length = (s.filter isAlive).length := by
  simp [absAlive]

theorem absIter_fst (p : Nat × Iter) : (absIter p).1 = p.1 := rfl
theorem absHandle_fst (store : List Ver) (p : Nat × Handle) : (absHandle store p).1 = p.1 := rfl

theorem itersOn_abs (s : Nat) (l : List (Nat × Iter)) : SetSpec.itersOn s (l.map absIter) = itersOn s l := by
  unfold SetSpec.itersOn itersOn
  rw [List.filter_map, List.length_map]
  rfl

theorem findSnap_abs (σ : State) (s : Nat) :
    SetSpec.findSnap s (abs σ).snaps = (findSnap s σ.snaps).map absSnap :=
  List.find?_map ..

theorem updSnap_abs (s : Nat) (f : Snap → Snap) (f' : SetSpec.Snap → SetSpec.Snap)
    (hf : ∀ x, absSnap (f x) = f' (absSnap x)) (l : List Snap) :
    (updSnap s f l).map absSnap = SetSpec.updSnap s f' (l.map absSnap) := by
  unfold updSnap SetSpec.updSnap
  rw [List.map_map, List.map_map]
  apply List.map_congr_left
  intro x _
  simp only [Function.comp]
  have : (absSnap x).sn = x.sn := rfl
  rw [this]
  split
  · exact hf x
  · rfl

theorem contentOf_abs {σ : State} {s : Nat} {x : Snap} (hx : findSnap s σ.snaps = some x) :
    contentOf (abs σ) s = x.content.map Ver.item := by
  unfold contentOf
  rw [findSnap_abs, hx]
  rfl

theorem findKey_abs (store : List Ver) (k : Nat) :
    findKey k (absAlive store) = (aliveOf store k).map entryOf := by
  unfold findKey absAlive aliveOf
  rw [List.find?_map, List.find?_filter]
  congr 1
  apply find?_congr
  intro v _
  show decide ((v.dead == 0) = true ∧ (v.key == k) = true) = (v.key == k && v.dead == 0)
  rw [Bool.and_comm, Bool.eq_iff_iff, decide_eq_true_eq, Bool.and_eq_true]

theorem findKey_alive (σ : State) (k : Nat) : findKey k (abs σ).alive = (aliveOf σ.store k).map entryOf :=
  findKey_abs σ.store k

theorem norm_item (v : Ver) : v.norm.item = v.item := rfl

theorem view_item (store : List Ver) (sn : Nat) :
    (view store sn).map Ver.item = (vis store sn).map Ver.item := by
  rw [view_eq, List.map_map]
  rfl

theorem absAlive_items {cur : Nat} {store : List Ver} (hc : Chains cur store) :
    (absAlive store).map (fun e => (e.key, e.val)) = (view store cur).map Ver.item := by
  rw [view_item, vis, visible_cur_iff_alive hc]
  unfold absAlive
  rw [List.map_map]
  rfl

end NitroVerif.Mvcc
