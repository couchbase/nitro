import NitroVerif.Model.Barrier
import NitroVerif.Lemmas.BarrierAttr
import NitroVerif.Lemmas.ListFacts
/-!
  Every fact about "the threads" of M4 is phrased as a sum over the thread list (`cnt f st`).  A sum does not see the
  order of the list, so the thread that steps may be moved to the front (`SameSums`, `withThs`), where the sum is
  `f t + (sum over the others)` by unfolding.  Most of the file: the fields and `getS` after each update of the state.
-/
namespace NitroVerif.Barrier

/-- Bool as 0/1 (an opaque atom for `omega`) -/
def b2n (b : Bool) : Nat := if b then 1 else 0
@[simp, barsimp] theorem b2n_true : b2n true = 1 := rfl
@[simp, barsimp] theorem b2n_false : b2n false = 0 := rfl
theorem b2n_le (b : Bool) : b2n b ≤ 1 := by cases b <;> simp
theorem b2n_eq_one {b : Bool} : b2n b = 1 ↔ b = true := by cases b <;> simp
theorem b2n_eq_zero {b : Bool} : b2n b = 0 ↔ b = false := by cases b <;> simp

attribute [barsimp]
  List.map_cons List.sum_cons List.length_append List.length_cons List.length_nil Nat.zero_add if_true if_false
  and_true true_and false_and false_or

def cnt (f : Th → Nat) (st : St) : Nat := (st.ths.map f).sum

/-- `l'` has the sums of `l`, whatever the weight: all that is read of the thread list -/
def SameSums (l l' : List Th) : Prop := ∀ f : Th → Nat, (l'.map f).sum = (l.map f).sum

theorem SameSums.front {l : List Th} {i : Nat} {t : Th} (ht : l[i]? = some t) : SameSums l (t :: l.eraseIdx i) :=
  fun f => (sum_eraseIdx f l i t ht).symm

theorem SameSums.back {l : List Th} {i : Nat} {t : Th} (t' : Th) (ht : l[i]? = some t) :
    SameSums (t' :: l.eraseIdx i) (l.set i t') := fun f => by
  have := sum_map_set f l i t' t ht
  have := sum_eraseIdx f l i t ht
  simp only [List.map_cons, List.sum_cons]; omega

theorem cnt_le_cnt (f g : Th → Nat) (st : St) (h : ∀ u, f u ≤ g u) : cnt f st ≤ cnt g st :=
  sum_map_le f g st.ths h

theorem cnt_ge_mem (f : Th → Nat) (st : St) (i : Nat) (t : Th) (ht : st.ths[i]? = some t) :
    f t ≤ cnt f st := le_sum_map f (List.mem_of_getElem? ht)

theorem cnt_eq_zero_of (f : Th → Nat) (st : St) (h : ∀ u ∈ st.ths, f u = 0) : cnt f st = 0 :=
  sum_map_eq_zero h

theorem cnt_init (f : Th → Nat) (n : Nat) (hf : f {} = 0) : cnt f (init n) = 0 := by
  apply cnt_eq_zero_of
  intro u hu
  simp [init] at hu
  rw [hu.2]; exact hf

theorem getS_init (n s : Nat) : getS (init n) s = {} := by
  unfold getS init; cases s <;> simp

theorem quiescent_cnt {st : St} (hq : quiescent st = true) (f : Th → Nat)
    (hf : f { pc := .idle, toks := [] } = 0) : cnt f st = 0 := by
  apply cnt_eq_zero_of
  intro u hu
  unfold quiescent at hq
  rw [List.all_eq_true] at hq
  have := hq u hu
  simp at this
  obtain ⟨pc, toks⟩ := u
  simp at this
  obtain ⟨rfl, rfl⟩ := this
  exact hf

@[simp] theorem setT_sess (st : St) (i : Nat) (t : Th) : (setT st i t).sess = st.sess := rfl
@[simp] theorem setT_cur (st : St) (i : Nat) (t : Th) : (setT st i t).cur = st.cur := rfl
@[simp] theorem setT_activeSeqno (st : St) (i : Nat) (t : Th) : (setT st i t).activeSeqno = st.activeSeqno := rfl
@[simp] theorem setT_freeSeqno (st : St) (i : Nat) (t : Th) : (setT st i t).freeSeqno = st.freeSeqno := rfl
@[simp] theorem setT_freeq (st : St) (i : Nat) (t : Th) : (setT st i t).freeq = st.freeq := rfl
@[simp] theorem setT_flag (st : St) (i : Nat) (t : Th) : (setT st i t).flag = st.flag := rfl
@[simp] theorem setT_mutex (st : St) (i : Nat) (t : Th) : (setT st i t).mutex = st.mutex := rfl
@[simp] theorem setT_numAllocated (st : St) (i : Nat) (t : Th) : (setT st i t).numAllocated = st.numAllocated := rfl
@[simp] theorem setT_numFreed (st : St) (i : Nat) (t : Th) : (setT st i t).numFreed = st.numFreed := rfl
@[simp] theorem setT_panicked (st : St) (i : Nat) (t : Th) : (setT st i t).panicked = st.panicked := rfl
@[simp] theorem setT_log (st : St) (i : Nat) (t : Th) : (setT st i t).log = st.log := rfl
@[simp] theorem setT_tagged (st : St) (i : Nat) (t : Th) : (setT st i t).tagged = st.tagged := rfl
@[simp] theorem setT_flStarted (st : St) (i : Nat) (t : Th) : (setT st i t).flStarted = st.flStarted := rfl
@[simp] theorem setT_flDone (st : St) (i : Nat) (t : Th) : (setT st i t).flDone = st.flDone := rfl
@[simp, barsimp] theorem getS_setT (st : St) (i : Nat) (t : Th) (s : Nat) : getS (setT st i t) s = getS st s := rfl

def withThs (st : St) (l : List Th) : St := { st with ths := l }

@[simp, barsimp] theorem withThs_sess (st : St) (l : List Th) : (withThs st l).sess = st.sess := rfl
@[simp, barsimp] theorem withThs_cur (st : St) (l : List Th) : (withThs st l).cur = st.cur := rfl
@[simp, barsimp] theorem withThs_activeSeqno (st : St) (l : List Th) : (withThs st l).activeSeqno = st.activeSeqno := rfl
@[simp, barsimp] theorem withThs_freeSeqno (st : St) (l : List Th) : (withThs st l).freeSeqno = st.freeSeqno := rfl
@[simp, barsimp] theorem withThs_freeq (st : St) (l : List Th) : (withThs st l).freeq = st.freeq := rfl
@[simp, barsimp] theorem withThs_flag (st : St) (l : List Th) : (withThs st l).flag = st.flag := rfl
@[simp, barsimp] theorem withThs_mutex (st : St) (l : List Th) : (withThs st l).mutex = st.mutex := rfl
@[simp, barsimp] theorem withThs_numAllocated (st : St) (l : List Th) : (withThs st l).numAllocated = st.numAllocated := rfl
@[simp, barsimp] theorem withThs_numFreed (st : St) (l : List Th) : (withThs st l).numFreed = st.numFreed := rfl
@[simp, barsimp] theorem withThs_panicked (st : St) (l : List Th) : (withThs st l).panicked = st.panicked := rfl
@[simp, barsimp] theorem withThs_log (st : St) (l : List Th) : (withThs st l).log = st.log := rfl
@[simp, barsimp] theorem withThs_tagged (st : St) (l : List Th) : (withThs st l).tagged = st.tagged := rfl
@[simp, barsimp] theorem withThs_flStarted (st : St) (l : List Th) : (withThs st l).flStarted = st.flStarted := rfl
@[simp, barsimp] theorem withThs_flDone (st : St) (l : List Th) : (withThs st l).flDone = st.flDone := rfl
@[simp, barsimp] theorem withThs_ths (st : St) (l : List Th) : (withThs st l).ths = l := rfl
@[simp, barsimp] theorem getS_withThs (st : St) (l : List Th) (s : Nat) : getS (withThs st l) s = getS st s := rfl
theorem setT_eq_withThs (st : St) (i : Nat) (t : Th) : setT st i t = withThs st (st.ths.set i t) := rfl

@[simp, barsimp] theorem cnt_withThs (f : Th → Nat) (st : St) (l : List Th) : cnt f (withThs st l) = (l.map f).sum := rfl

@[simp, barsimp] theorem setS_ths (st : St) (a : Nat) (x : Sess) : (setS st a x).ths = st.ths := rfl
@[simp, barsimp] theorem setS_cur (st : St) (a : Nat) (x : Sess) : (setS st a x).cur = st.cur := rfl
@[simp, barsimp] theorem setS_activeSeqno (st : St) (a : Nat) (x : Sess) : (setS st a x).activeSeqno = st.activeSeqno := rfl
@[simp, barsimp] theorem setS_freeSeqno (st : St) (a : Nat) (x : Sess) : (setS st a x).freeSeqno = st.freeSeqno := rfl
@[simp, barsimp] theorem setS_freeq (st : St) (a : Nat) (x : Sess) : (setS st a x).freeq = st.freeq := rfl
@[simp, barsimp] theorem setS_flag (st : St) (a : Nat) (x : Sess) : (setS st a x).flag = st.flag := rfl
@[simp, barsimp] theorem setS_mutex (st : St) (a : Nat) (x : Sess) : (setS st a x).mutex = st.mutex := rfl
@[simp, barsimp] theorem setS_numAllocated (st : St) (a : Nat) (x : Sess) : (setS st a x).numAllocated = st.numAllocated := rfl
@[simp, barsimp] theorem setS_numFreed (st : St) (a : Nat) (x : Sess) : (setS st a x).numFreed = st.numFreed := rfl
@[simp, barsimp] theorem setS_panicked (st : St) (a : Nat) (x : Sess) : (setS st a x).panicked = st.panicked := rfl
@[simp, barsimp] theorem setS_log (st : St) (a : Nat) (x : Sess) : (setS st a x).log = st.log := rfl
@[simp, barsimp] theorem setS_tagged (st : St) (a : Nat) (x : Sess) : (setS st a x).tagged = st.tagged := rfl
@[simp, barsimp] theorem setS_flStarted (st : St) (a : Nat) (x : Sess) : (setS st a x).flStarted = st.flStarted := rfl
@[simp, barsimp] theorem setS_flDone (st : St) (a : Nat) (x : Sess) : (setS st a x).flDone = st.flDone := rfl
@[simp, barsimp] theorem setS_sess_length (st : St) (a : Nat) (x : Sess) : (setS st a x).sess.length = st.sess.length := by
  simp [setS]

theorem getS_setS (st : St) (a s : Nat) (x : Sess) (ha : a < st.sess.length) :
    getS (setS st a x) s = if a = s then x else getS st s :=
  (getD_set _ a s x {}).trans (by simp only [ha, and_true]; rfl)

theorem getS_setS_same (st : St) (a : Nat) (x : Sess) (ha : a < st.sess.length) :
    getS (setS st a x) a = x := getD_set_same ha

theorem getS_setS_ne (st : St) (a s : Nat) (x : Sess) (h : a ≠ s) :
    getS (setS st a x) s = getS st s := getD_set_ne h

theorem getS_default (st : St) (s : Nat) (h : st.sess.length ≤ s) : getS st s = {} := by
  unfold getS; simp [List.getElem?_eq_none h]

theorem getS_append (st st1 : St) (s : Nat) (h : st1.sess = st.sess ++ [({} : Sess)]) :
    getS st1 s = getS st s := by
  unfold getS; rw [h]
  simp only [List.getD_eq_getElem?_getD]
  by_cases hs : s < st.sess.length
  · simp [List.getElem?_append_left hs]
  · have h1 : st.sess.length ≤ s := Nat.le_of_not_lt hs
    rw [List.getElem?_eq_none h1]
    by_cases h2 : s = st.sess.length
    · subst h2; simp
    · have h3 : (st.sess ++ [({} : Sess)]).length ≤ s := by simp; omega
      rw [List.getElem?_eq_none h3]

@[simp, barsimp] theorem destruct_sess (st : St) (a : Nat) : (destruct st a).sess = st.sess := rfl
@[simp, barsimp] theorem destruct_ths (st : St) (a : Nat) : (destruct st a).ths = st.ths := rfl
@[simp, barsimp] theorem destruct_cur (st : St) (a : Nat) : (destruct st a).cur = st.cur := rfl
@[simp, barsimp] theorem destruct_activeSeqno (st : St) (a : Nat) : (destruct st a).activeSeqno = st.activeSeqno := rfl
@[simp, barsimp] theorem destruct_freeSeqno (st : St) (a : Nat) : (destruct st a).freeSeqno = st.freeSeqno + 1 := rfl
@[simp, barsimp] theorem destruct_freeq (st : St) (a : Nat) : (destruct st a).freeq = st.freeq.erase a := rfl
@[simp, barsimp] theorem destruct_flag (st : St) (a : Nat) : (destruct st a).flag = st.flag := rfl
@[simp, barsimp] theorem destruct_mutex (st : St) (a : Nat) : (destruct st a).mutex = st.mutex := rfl
@[simp, barsimp] theorem destruct_numAllocated (st : St) (a : Nat) : (destruct st a).numAllocated = st.numAllocated := rfl
@[simp, barsimp] theorem destruct_numFreed (st : St) (a : Nat) : (destruct st a).numFreed = st.numFreed + 1 := rfl
@[simp, barsimp] theorem destruct_panicked (st : St) (a : Nat) : (destruct st a).panicked = st.panicked := rfl
@[simp, barsimp] theorem destruct_log (st : St) (a : Nat) :
    (destruct st a).log = st.log ++ [((getS st a).seqno, (getS st a).obj)] := rfl
@[simp, barsimp] theorem destruct_tagged (st : St) (a : Nat) : (destruct st a).tagged = st.tagged := rfl
@[simp, barsimp] theorem destruct_flStarted (st : St) (a : Nat) : (destruct st a).flStarted = st.flStarted := rfl
@[simp, barsimp] theorem destruct_flDone (st : St) (a : Nat) : (destruct st a).flDone = st.flDone := rfl
@[simp, barsimp] theorem getS_destruct (st : St) (a s : Nat) : getS (destruct st a) s = getS st s := rfl

@[simp, barsimp] theorem tagGlobals_sess (st : St) (o : Nat) : (tagGlobals st o).sess = st.sess := rfl
@[simp, barsimp] theorem tagGlobals_ths (st : St) (o : Nat) : (tagGlobals st o).ths = st.ths := rfl
@[simp, barsimp] theorem tagGlobals_cur (st : St) (o : Nat) : (tagGlobals st o).cur = st.cur := rfl
@[simp, barsimp] theorem tagGlobals_activeSeqno (st : St) (o : Nat) : (tagGlobals st o).activeSeqno = st.activeSeqno + 1 := rfl
@[simp, barsimp] theorem tagGlobals_freeSeqno (st : St) (o : Nat) : (tagGlobals st o).freeSeqno = st.freeSeqno := rfl
@[simp, barsimp] theorem tagGlobals_freeq (st : St) (o : Nat) : (tagGlobals st o).freeq = st.freeq := rfl
@[simp, barsimp] theorem tagGlobals_flag (st : St) (o : Nat) : (tagGlobals st o).flag = st.flag := rfl
@[simp, barsimp] theorem tagGlobals_mutex (st : St) (o : Nat) : (tagGlobals st o).mutex = st.mutex := rfl
@[simp, barsimp] theorem tagGlobals_numAllocated (st : St) (o : Nat) : (tagGlobals st o).numAllocated = st.numAllocated + 1 := rfl
@[simp, barsimp] theorem tagGlobals_numFreed (st : St) (o : Nat) : (tagGlobals st o).numFreed = st.numFreed := rfl
@[simp, barsimp] theorem tagGlobals_panicked (st : St) (o : Nat) : (tagGlobals st o).panicked = st.panicked := rfl
@[simp, barsimp] theorem tagGlobals_log (st : St) (o : Nat) : (tagGlobals st o).log = st.log := rfl
@[simp, barsimp] theorem tagGlobals_tagged (st : St) (o : Nat) : (tagGlobals st o).tagged = st.tagged ++ [o] := rfl
@[simp, barsimp] theorem tagGlobals_flStarted (st : St) (o : Nat) : (tagGlobals st o).flStarted = st.flStarted := rfl
@[simp, barsimp] theorem tagGlobals_flDone (st : St) (o : Nat) : (tagGlobals st o).flDone = st.flDone := rfl
@[simp, barsimp] theorem getS_tagGlobals (st : St) (o s : Nat) : getS (tagGlobals st o) s = getS st s := rfl

@[simp, barsimp] theorem addLive_live (x : Sess) (d : Int) : (x.addLive d).live = x.live + d := rfl
@[simp, barsimp] theorem addLive_closed (x : Sess) (d : Int) : (x.addLive d).closed = x.closed := rfl
@[simp, barsimp] theorem addLive_seqno (x : Sess) (d : Int) : (x.addLive d).seqno = x.seqno := rfl
@[simp, barsimp] theorem addLive_obj (x : Sess) (d : Int) : (x.addLive d).obj = x.obj := rfl
@[simp, barsimp] theorem addLive_flushed (x : Sess) (d : Int) : (x.addLive d).flushed = x.flushed := rfl
@[simp, barsimp] theorem incClosed_live (x : Sess) : x.incClosed.live = x.live := rfl
@[simp, barsimp] theorem incClosed_closed (x : Sess) : x.incClosed.closed = x.closed + 1 := rfl
@[simp, barsimp] theorem incClosed_seqno (x : Sess) : x.incClosed.seqno = x.seqno := rfl
@[simp, barsimp] theorem incClosed_obj (x : Sess) : x.incClosed.obj = x.obj := rfl
@[simp, barsimp] theorem incClosed_flushed (x : Sess) : x.incClosed.flushed = x.flushed := rfl
@[simp, barsimp] theorem tag_live (x : Sess) (o a : Nat) : (x.tag o a).live = x.live := rfl
@[simp, barsimp] theorem tag_closed (x : Sess) (o a : Nat) : (x.tag o a).closed = x.closed := rfl
@[simp, barsimp] theorem tag_seqno (x : Sess) (o a : Nat) : (x.tag o a).seqno = a := rfl
@[simp, barsimp] theorem tag_obj (x : Sess) (o a : Nat) : (x.tag o a).obj = o := rfl
@[simp, barsimp] theorem tag_flushed (x : Sess) (o a : Nat) : (x.tag o a).flushed = x.flushed := rfl
@[simp, barsimp] theorem flush_live (x : Sess) : x.flush.live = x.live + Gen.flushAdd := rfl
@[simp, barsimp] theorem flush_closed (x : Sess) : x.flush.closed = x.closed := rfl
@[simp, barsimp] theorem flush_seqno (x : Sess) : x.flush.seqno = x.seqno := rfl
@[simp, barsimp] theorem flush_obj (x : Sess) : x.flush.obj = x.obj := rfl
@[simp, barsimp] theorem flush_flushed (x : Sess) : x.flush.flushed = true := rfl

@[simp, barsimp] theorem default_live : ({} : Sess).live = 0 := rfl
@[simp, barsimp] theorem default_closed : ({} : Sess).closed = 0 := rfl
@[simp, barsimp] theorem default_seqno : ({} : Sess).seqno = 0 := rfl
@[simp, barsimp] theorem default_obj : ({} : Sess).obj = 0 := rfl
@[simp, barsimp] theorem default_flushed : ({} : Sess).flushed = false := rfl

theorem mem_of_getElem? (l : List Nat) (i s : Nat) (h : l[i]? = some s) : s ∈ l :=
  List.mem_of_getElem? h

end NitroVerif.Barrier
