import NitroVerif.Lemmas.SkipSeqBuild
import NitroVerif.Lemmas.SkipSeqInsert
/-!
  `Segment.Add`: appending a freshly allocated node to the per-level chains of a segment.  The
  linking loop is the inner loop of `Assemble` for a one-node segment, restricted to the levels the
  node has.
-/
namespace NitroVerif.SkipSeq

/-- the one-node segment `[x]` of height `ht`, as `Assemble` would see it -/
def oneSeg (x ht : Nat) : Segment :=
  { head := (List.range (Gen.maxLevel + 1)).map fun l => if l ≤ ht then x else nilId
    tail := (List.range (Gen.maxLevel + 1)).map fun l => if l ≤ ht then x else nilId
    sts := Stats.zero }

theorem oneSeg_getD (x ht l : Nat) (hl : l ≤ Gen.maxLevel) :
    (oneSeg x ht).head.getD l nilId = (if l ≤ ht then x else nilId) ∧
    (oneSeg x ht).tail.getD l nilId = (if l ≤ ht then x else nilId) := by
  have : l < Gen.maxLevel + 1 := Nat.lt_succ_of_le hl
  simp [oneSeg, List.getD_eq_getElem?_getD, this]

theorem LL_single (h : Heap) (x l : Nat) : LL h [x] l = if l ≤ levelOf h x then [x] else [] := by
  rw [LL_cons]; simp [LL]

theorem oneSeg_ok (h : Heap) (x : Nat) : SegOK h (oneSeg x (levelOf h x)) [x] := by
  refine ⟨by simp [oneSeg], by simp [oneSeg], ?_, ?_⟩
  · intro l hl
    rw [(oneSeg_getD x _ l hl).1, (oneSeg_getD x _ l hl).2, LL_single]
    by_cases h1 : l ≤ levelOf h x <;> simp [h1]
  · intro l _
    rw [LL_single]
    by_cases h1 : l ≤ levelOf h x <;> simp [h1]

theorem segLink_step {h0 h : Heap} {seg : Segment} {xs : List Nat} {x l : Nat}
    (hnd : (xs ++ [x]).Nodup) (hlo : ∀ y ∈ xs ++ [x], 3 ≤ y)
    (hslot : ∀ y ∈ xs, nextLen h0 y = levelOf h0 y + 1) (hl : l ≤ Gen.maxLevel) (hlx : l ≤ levelOf h0 x)
    (inv : AsmInv h0 h (CfMid h0 xs [x] l) seg.head seg.tail xs) :
    AsmInv h0
      (if seg.tail.getD l nilId != nilId then setNext h (seg.tail.getD l nilId) l (x, false) else h)
      (CfMid h0 xs [x] (l + 1))
      (if seg.tail.getD l nilId != nilId then seg.head else seg.head.set l x)
      (seg.tail.set l x) xs := by
  have hx3 : 3 ≤ x := hlo x (by simp)
  have hxne : (x != nilId) = true := by simp [nilId]; exact ne_of_three_le hx3 (by decide)
  have key := asmSeg_step (oneSeg_ok h0 x) hnd hlo hslot hl inv
  rw [(oneSeg_getD x _ l hl).1, (oneSeg_getD x _ l hl).2, if_pos hlx] at key
  simp only [hxne, Bool.and_true, if_true] at key
  -- when the tail entry is nil the chain is empty, so the head entry is nil as well
  have hhead : (seg.tail.getD l nilId != nilId) = false → (seg.head.getD l nilId == nilId) = true := by
    intro ht
    have he := inv.chains.ends l hl
    have hC : CfMid h0 xs [x] l l = LL h0 xs l := CfMid_ge (Nat.lt_irrefl l)
    rw [hC] at he
    have hlo' : ∀ y ∈ LL h0 xs l, 3 ≤ y := fun y hy => hlo y (List.mem_append_left _ (mem_LL.mp hy).1)
    have h1 := getD_getLast?_ne_nil hlo'
    rw [← he.2, ht] at h1
    have hnil : LL h0 xs l = [] := by
      cases hc : LL h0 xs l with
      | nil => rfl
      | cons a r => rw [hc] at h1; simp at h1
    rw [he.1, hnil]; simp
  by_cases ht : (seg.tail.getD l nilId != nilId) = true
  · simp only [ht, if_true] at key ⊢
    exact key
  · have ht' : (seg.tail.getD l nilId != nilId) = false := by simpa using ht
    have := hhead ht'
    simp only [ht', Bool.false_eq_true, if_false, this, if_true] at key ⊢
    exact key

theorem segLink_spec {h0 : Heap} {xs : List Nat} {x : Nat}
    (hnd : (xs ++ [x]).Nodup) (hlo : ∀ y ∈ xs ++ [x], 3 ≤ y)
    (hslot : ∀ y ∈ xs, nextLen h0 y = levelOf h0 y + 1) (hxl : levelOf h0 x ≤ Gen.maxLevel) :
    ∀ (n l : Nat) (h : Heap) (seg : Segment), l + n = levelOf h0 x + 1 →
      AsmInv h0 h (CfMid h0 xs [x] l) seg.head seg.tail xs →
      AsmInv h0 (segLink x n l h seg).1 (fun l' => LL h0 (xs ++ [x]) l')
        (segLink x n l h seg).2.head (segLink x n l h seg).2.tail xs ∧
      (segLink x n l h seg).2.sts = seg.sts := by
  intro n
  induction n with
  | zero =>
    intro l h seg hl inv
    simp only [segLink]
    refine ⟨?_, trivial⟩
    apply inv.congr
    intro l' _
    by_cases h1 : l' < l
    · exact (CfMid_lt h1).symm
    · have : ¬ l' ≤ levelOf h0 x := by omega
      rw [CfMid_ge h1, LL_append, LL_single, if_neg this, List.append_nil]
  | succ n ih =>
    intro l h seg hl inv
    simp only [segLink]
    have := ih (l + 1) _ { seg with head := if seg.tail.getD l nilId != nilId then seg.head else seg.head.set l x,
                                    tail := seg.tail.set l x } (loop_step hl).2
      (segLink_step hnd hlo hslot (by omega) (by omega) inv)
    exact this

theorem segAdd_ok {s : SL} {L1 L2 : List (Segment × List Nat)} {seg : Segment} {xs : List Nat}
    (b : BuildOK s (L1 ++ (seg, xs) :: L2)) (k : Int) (req : Nat) :
    BuildOK (segAdd s seg (.item k) req).1
      (L1 ++ ((segAdd s seg (.item k) req).2, xs ++ [s.nodes.length]) :: L2) ∧
    ikey (segAdd s seg (.item k) req).1.nodes s.nodes.length = k ∧
    (∀ n, n < s.nodes.length → ikey (segAdd s seg (.item k) req).1.nodes n = ikey s.nodes n) := by
  -- `h0`: the heap after `newNode` (cell `x` appended).  `inv0`: the segment's `SegOK`, read in `h0`, is the
  -- `AsmInv` the linking loop starts from; `segLink_spec` carries it through the loop.  Then the six
  -- arguments of `BuildOK.of_nodeOK` in order: store, segments, nodup, nodes, size, statistics.
  have hr := b.rep
  have hnl := newLevel_spec s req hr.lvl
  rcases hs1 : newLevel s req with ⟨s1, ht⟩
  rw [hs1] at hnl
  simp only at hnl
  rcases hnl with ⟨nd1, st1, bf1, sk1, lv1, mx1, ht1⟩
  have hmem : (seg, xs) ∈ L1 ++ (seg, xs) :: L2 := by simp
  have hxsAll : ∀ y ∈ xs, y ∈ allNodes (L1 ++ (seg, xs) :: L2) := fun y hy => mem_allNodes.mpr ⟨_, hmem, hy⟩
  -- the new cell as a variable: `simp`/`rw` would otherwise unfold the record in every goal
  generalize hnd : ({ key := Key.item k, level := ht, next := List.replicate (ht + 1) (nilId, false) } : Node) = nd
  have hndk : nd.key = .item k := by rw [← hnd]
  have hndl : nd.level = ht := by rw [← hnd]
  have hndn : nd.next.length = ht + 1 := by rw [← hnd]; simp
  let h0 := s.nodes ++ [nd]
  let x := s.nodes.length
  have hxlvl : levelOf h0 x = ht := by rw [← hndl]; exact levelOf_append_new _ _
  have hxkey : keyOf h0 x = .item k := by rw [← hndk]; exact keyOf_append_new _ _
  have hxlen : nextLen h0 x = ht + 1 := by rw [← hndn]; exact nextLen_append_new _ _
  have hx3 : 3 ≤ x := hr.base.len
  have hxnot : x ∉ allNodes (L1 ++ (seg, xs) :: L2) := fun hy => Nat.lt_irrefl _ (b.hi x hy)
  have hso := b.segok _ hmem
  have hxsLt : ∀ y ∈ xs, y < s.nodes.length := fun y hy => b.hi y (hxsAll y hy)
  obtain ⟨sts', hsts⟩ : ∃ sts' : Stats, sts' = { seg.sts with nodeAllocs := seg.sts.nodeAllocs + 1, levelNodesCount := addAt seg.sts.levelNodesCount ht 1 } := ⟨_, rfl⟩
  have hso0 : SegOK h0 seg xs :=
    hso.congr (fun y hy => levelOf_append_old (hxsLt y hy)) (fun y hy l => getNext_append_old (hxsLt y hy) l)
  have inv0 : AsmInv h0 h0 (CfMid h0 xs [x] 0) ({ seg with sts := sts' } : Segment).head
      ({ seg with sts := sts' } : Segment).tail xs :=
    ⟨hso0.chains, SameShape.refl _, fun _ _ _ => rfl⟩
  have hndx : (xs ++ [x]).Nodup := by
    rw [List.nodup_append]
    refine ⟨?_, by simp, ?_⟩
    · have := b.nodup; rw [allNodes_mid] at this
      exact (List.nodup_append.mp (List.nodup_append.mp this).2.1).1
    · intro a ha c hc
      rw [List.mem_singleton.mp hc]
      exact fun e => hxnot (e ▸ hxsAll a ha)
  have hlox : ∀ y ∈ xs ++ [x], 3 ≤ y := by
    intro y hy
    rcases List.mem_append.mp hy with h1 | h1
    · exact b.lo y (hxsAll y h1)
    · rw [List.mem_singleton.mp h1]; exact hx3
  have hslx : ∀ y ∈ xs, nextLen h0 y = levelOf h0 y + 1 := fun y hy => by
    rw [nextLen_append_old (hxsLt y hy), levelOf_append_old (hxsLt y hy)]; exact b.slots y (hxsAll y hy)
  have hspec := segLink_spec hndx hlox hslx (by rw [hxlvl]; exact Nat.le_trans ht1 mx1) (ht + 1) 0 h0
    { seg with sts := sts' } (by rw [hxlvl, Nat.zero_add]) inv0
  have hres : segAdd s seg (.item k) req =
      ({ s1 with nodes := (segLink x (ht + 1) 0 h0 { seg with sts := sts' }).1 },
       (segLink x (ht + 1) 0 h0 { seg with sts := sts' }).2) := by
    unfold segAdd
    rw [hs1, hsts]
    simp only [newNode, nd1, hnd]
    rfl
  generalize hlk : segLink x (ht + 1) 0 h0 { seg with sts := sts' } = lk at hspec hres
  rcases hspec with ⟨inv, hstsF⟩
  rw [hres]
  simp only
  have sh := inv.shape
  have hlvF : ∀ n, n < s.nodes.length → levelOf lk.1 n = levelOf s.nodes n :=
    fun n hn => (sh.lvl n).trans (levelOf_append_old hn)
  have hnextF : ∀ n, n < s.nodes.length → n ∉ xs → ∀ l, getNext lk.1 n l = getNext s.nodes n l :=
    fun n hn hnx l => (inv.frame n l hnx).trans (getNext_append_old hn l)
  have hlenF : lk.1.length = s.nodes.length + 1 := by rw [sh.len]; simp [h0]
  have hikF : ∀ n, n < s.nodes.length → ikey lk.1 n = ikey s.nodes n :=
    fun n hn => (sh.ikey n).trans (ikey_congr (keyOf_append_old hn))
  have hokF : ∀ n, NodeOK s n → NodeOK { s1 with nodes := lk.1 } n := fun n o =>
    (o.of_append (s' := { s1 with nodes := h0 }) rfl lv1).of_shape sh (Nat.le_refl _)
  have hxF : keyOf lk.1 x = .item k := (sh.key x).trans hxkey
  have hperm : (allNodes (L1 ++ (lk.2, xs ++ [x]) :: L2)).Perm (x :: allNodes (L1 ++ (seg, xs) :: L2)) := by
    rw [allNodes_mid, allNodes_mid]
    simpa [List.append_assoc] using
      (List.perm_middle (a := x) (l₁ := allNodes L1 ++ xs) (l₂ := allNodes L2))
  have hold : ∀ e, e ∈ L1 ∨ e ∈ L2 → e ∈ L1 ++ (seg, xs) :: L2 ∧
      (∀ y ∈ e.2, levelOf lk.1 y = levelOf s.nodes y) ∧ ∀ y ∈ e.2, ∀ l, getNext lk.1 y l = getNext s.nodes y l := by
    intro e he
    have hin : e ∈ L1 ++ (seg, xs) :: L2 :=
      he.elim (List.mem_append_left _) (fun h => List.mem_append_right _ (List.mem_cons_of_mem _ h))
    have hlt : ∀ y ∈ e.2, y < s.nodes.length := fun y hy => b.hi y (mem_allNodes.mpr ⟨e, hin, hy⟩)
    exact ⟨hin, fun y hy => hlvF y (hlt y hy),
      fun y hy l => hnextF y (hlt y hy) (allNodes_disjoint b.nodup he hy) l⟩
  have hcase : ∀ e, e ∈ L1 ++ (lk.2, xs ++ [x]) :: L2 → e = (lk.2, xs ++ [x]) ∨ e ∈ L1 ∨ e ∈ L2 := by
    intro e he
    rcases List.mem_append.mp he with h1 | h1
    · exact Or.inr (Or.inl h1)
    · exact (List.mem_cons.mp h1).imp id Or.inr
  refine ⟨BuildOK.of_nodeOK ?_ ?_ ?_ ?_ ?_ ?_, ikey_of_keyOf hxF, hikF⟩
  · refine hr.congr (s' := { s1 with nodes := lk.1 }) (Nat.le_of_lt (hlenF ▸ Nat.lt_succ_self _)) (fun n hn => ?_)
      lv1 mx1 st1 (by rw [bf1]) (by rw [bf1]) sk1
    have hlt : n < s.nodes.length := hr.lt_length hn
    have hnx : n ∉ xs := by
      intro hm
      have := b.lo n (hxsAll n hm)
      rcases hn with h1 | h1 | h1
      · cases h1
      · exact absurd (h1 ▸ this) (by decide)
      · exact absurd (h1 ▸ this) (by decide)
    exact ⟨(sh.key n).trans (keyOf_append_old hlt), hlvF n hlt, (sh.nlen n).trans (nextLen_append_old hlt),
      hnextF n hlt hnx⟩
  · intro e he
    rcases hcase e he with rfl | h1
    · exact (inv.chains.congr (fun l _ => by rw [sh.LL_eq])).segOK
    · exact (b.segok e (hold e h1).1).congr (hold e h1).2.1 (hold e h1).2.2
  · exact hperm.nodup_iff.mpr (List.nodup_cons.mpr ⟨hxnot, b.nodup⟩)
  · intro y hy
    rcases List.mem_cons.mp (hperm.mem_iff.mp hy) with rfl | h1
    · exact ⟨hx3, hlenF ▸ Nat.lt_succ_self _, by rw [hxF, ikey_of_keyOf hxF],
        ((sh.lvl _).trans hxlvl).symm ▸ ht1, by rw [sh.nlen, sh.lvl, hxlen, hxlvl]⟩
    · exact hokF y (b.nodeOK h1)
  · rw [hperm.length_eq, hlenF, List.length_cons]; exact Nat.succ_le_succ b.size
  · intro e he
    rcases hcase e he with rfl | h1
    · have hst := b.stats _ hmem
      have hstsF' : lk.2.sts = sts' := hstsF
      have hht : ht ≤ Gen.maxLevel := Nat.le_trans ht1 mx1
      have hd := dist_addAt (h' := lk.1) (L' := xs ++ [x]) (v := 1) hst.len hht hst.dist (fun g => by
        rw [cntLevel_append, cntLevel_congr g (fun n hn => hlvF n (hxsLt n hn)), cntLevel_cons,
          (sh.lvl x).trans hxlvl]
        by_cases hgh : ht = g <;> simp [hgh, cntLevel])
      refine ⟨?_, ?_, ?_, ?_, ?_⟩ <;> simp only [hstsF', hsts]
      · exact hd.1
      · exact hd.2
      · exact hst.soft
      · exact hst.frees
      · rw [hst.allocs]; simp
    · exact (b.stats e (hold e h1).1).congr (hold e h1).2.1

theorem segLink_frame (x m : Nat) : ∀ (n l : Nat) (h : Heap) (seg : Segment),
    (∀ l', l ≤ l' → seg.tail.getD l' nilId ≠ m) → (segLink x n l h seg).1[m]? = h[m]? := by
  intro n
  induction n with
  | zero => intro l h seg _; rfl
  | succ n ih =>
    intro l h seg hm
    simp only [segLink]
    rw [ih]
    · by_cases ht : (seg.tail.getD l nilId != nilId) = true
      · rw [if_pos ht]; exact setNext_getElem?_ne _ _ _ _ _ (hm l (Nat.le_refl _))
      · rw [if_neg ht]
    · intro l' hl'
      simp only
      rw [getD_set_ne (Nat.ne_of_lt hl')]
      exact hm l' (Nat.le_of_succ_le hl')

theorem segAdd_frame (s : SL) (seg : Segment) (k : Key) (req m : Nat) (hm : m < s.nodes.length)
    (hnt : ∀ l, seg.tail.getD l nilId ≠ m) :
    (segAdd s seg k req).1.nodes[m]? = s.nodes[m]? := by
  unfold segAdd
  simp only
  refine Eq.trans (segLink_frame _ m _ _ _ _ ?_) ?_
  · intro l' _; exact hnt l'
  simp only [newNode]
  have hn : (newLevel s req).1.nodes = s.nodes := by
    unfold newLevel; simp only; split <;> rfl
  rw [hn, List.getElem?_append_left hm]

theorem segAdd_stats (s : SL) (seg : Segment) (k : Key) (req : Nat) : (segAdd s seg k req).1.stats = s.stats := by
  unfold segAdd newNode newLevel
  simp only
  split <;> rfl

end NitroVerif.SkipSeq
