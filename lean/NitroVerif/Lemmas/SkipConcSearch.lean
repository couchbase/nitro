import NitroVerif.Lemmas.SkipConcRefine
/-!
  The search invariant that closes the "miss" direction of the reads WITHOUT history variables.

  A node `n` is *stable for a search* (`Stable h L item n`) when it was published before the findPath call started
  (`n < L`, `L = FP.startLen` = heap length at the call's start — ghost), is still unmarked at level 0 now, and its
  key is not below the searched item.  Since marks are permanent, such a node was in the abstract set during the
  WHOLE call.  Invariant (`SPC`): every stable node is reachable, along level-0 successor words, from `prev` — and
  on level 0 also from `curr`.  It holds for every thread in every reachable state (`run_invS`).

  Consequence (`search_ends`, on the node `c` the last FIND_NEXT reads): when findPath ends at `c` (key ≥ item), every
  stable node is reachable from `c`, hence is `c` itself or has a larger key.  Hence a miss means: every node with that
  key that was published before the search started has been deleted by now — there was an instant during the call at
  which the item was absent (right after that node's mark, by `live_key_inj`, or at the start) — and `Seek x` lands on
  a position with no stable item between `x` and it.
-/
namespace NitroVerif.SkipConc

def Stable (h : Heap) (L item n : Nat) : Prop :=
  n < L ∧ unmarked0 h n ∧ ¬ Key.lt (keyOf h n) (.fin item)

/-- J1: every stable node is reachable from `prev`; J2: at level 0 also from `curr` -/
def J1 (h : Heap) (fp : FP) : Prop := ∀ n, Stable h fp.startLen fp.item n → Reach h fp.prev n
def J2 (h : Heap) (fp : FP) : Prop := fp.i = 0 → ∀ n, Stable h fp.startLen fp.item n → Reach h fp.curr n

/-- the search invariant, per program counter.  `startLen ≤ length` is carried along because it is what lets a node
    that is stable after another thread's step be stable before it (`Stable.back`) -/
def SPC (h : Heap) : PC → Prop
  | .findLevel fp => fp.startLen ≤ h.length ∧ J1 h fp
  | .findNext fp _ => fp.startLen ≤ h.length ∧ J1 h fp ∧ J2 h fp
  | .helpDelete fp _ => fp.startLen ≤ h.length ∧ J1 h fp ∧ J2 h fp
  | _ => True

def SInv (h : Heap) (th : Thread) : Prop := SPC h th.pc

theorem SInv.at {h : Heap} {th : Thread} {pc : PC} (hS : SInv h th) (hpc : th.pc = pc) : SPC h pc := hpc ▸ hS

theorem Stable.back {h h' : Heap} (e : Ext h h') {L item n : Nat} (hL : L ≤ h.length)
    (s : Stable h' L item n) : Stable h L item n := by
  have hn : n < h.length := Nat.lt_of_lt_of_le s.1 hL
  exact ⟨s.1, unmarkedAt_back e hn s.2.1, by rw [← e.key n hn]; exact s.2.2⟩

theorem SPC.stable {h h' : Heap} {ev : Event} (H : HInv h) (e : Ext h h') (s : HStep h ev h') {pc : PC}
    (b : SPC h pc) : SPC h' pc := by
  have key : ∀ fp : FP, fp.startLen ≤ h.length → ∀ a, (∀ n, Stable h fp.startLen fp.item n → Reach h a n) →
      ∀ n, Stable h' fp.startLen fp.item n → Reach h' a n := by
    intro fp hL a hr n hs
    exact s.reach_keep (hr n (hs.back e hL)) hs.2.1
  cases pc with
  | findLevel fp => exact ⟨Nat.le_trans b.1 e.len, key _ b.1 _ b.2⟩
  | findNext fp _ | helpDelete fp _ =>
    exact ⟨Nat.le_trans b.1 e.len, key _ b.1 _ b.2.1, fun hi => key _ b.1 _ (b.2.2 hi)⟩
  | _ => trivial

theorem SPC_fresh {h : Heap} (R : ReachInv h) (fp : FP) (hp : fp.prev = 0) (hL : fp.startLen ≤ h.length) :
    SPC h (.findLevel fp) := by
  refine ⟨hL, fun n hs => ?_⟩
  rw [hp]; exact R.2 n hs.2.1

theorem SInv_startFind {sh : Shared} (R : ReachInv sh.heap) (th : Thread) (item : Nat) (c : Cont) :
    SInv sh.heap (startFind sh th item c).2.1 :=
  SPC_fresh R _ rfl (Nat.le_refl _)

/-- `prev` has a key below the item, a stable node does not: they differ, so the path from `prev` takes a step -/
theorem reach_succ {h : Heap} {a n item : Nat} (r : Reach h a n) (ha : Key.lt (keyOf h a) (.fin item))
    (hn : ¬ Key.lt (keyOf h n) (.fin item)) : Reach h (getNext h a 0).1 n :=
  r.tail_of_ne fun e => hn (by rw [e]; exact ha)

theorem J2_cur {h : Heap} {fp : FP} (rr : Bool) (hk : Key.lt (keyOf h fp.prev) (.fin fp.item)) (j1 : J1 h fp)
    (j2 : J2 h fp) (hi0 : fp.i = 0) (n : Nat) (hs : Stable h fp.startLen fp.item n) :
    Reach h (readNode h fp rr) n := by
  cases rr with
  | true => show Reach h (getNext h fp.prev fp.i).1 n; rw [hi0]; exact reach_succ (j1 n hs) hk hs.2.2
  | false => exact j2 hi0 n hs

theorem J1_advance {h : Heap} (H : HInv h) (R : ReachInv h) {c item L : Nat} (hu : unmarked0 h c)
    (hklt : Key.lt (keyOf h c) (.fin item)) (n : Nat) (hs : Stable h L item n) : Reach h c n := by
  exact R.reach_of_le H hu hs.2.1 fun l => hs.2.2 (Key.lt_trans l hklt)

/-- program counters outside findPath, or a findPath that has just been (re)started from the head -/
def FreshPC (h : Heap) : PC → Prop
  | .findLevel fp => fp.prev = 0 ∧ fp.startLen ≤ h.length
  | .findNext _ _ => False
  | .helpDelete _ _ => False
  | _ => True

theorem SPC_of_fresh {h : Heap} (R : ReachInv h) {pc : PC} (f : FreshPC h pc) : SPC h pc := by
  cases pc with
  | findLevel fp => exact SPC_fresh R _ f.1 f.2
  | findNext _ _ | helpDelete _ _ => exact f.elim
  | _ => trivial

theorem fresh_startFind (sh : Shared) (th : Thread) (item : Nat) (c : Cont) :
    FreshPC (startFind sh th item c).1.heap (startFind sh th item c).2.1.pc := ⟨rfl, Nat.le_refl _⟩

theorem fresh_enterSoft (sh : Shared) (th : Thread) (item n i : Nat) (m : Bool) :
    FreshPC (enterSoft sh th item n i m).1.heap (enterSoft sh th item n i m).2.1.pc := by
  rcases enterSoft_cases sh th item n i m with ⟨_, _, h⟩ | ⟨_, h, _⟩ | ⟨_, h, _⟩ <;> rw [h] <;> trivial

theorem fresh_afterNext (sh : Shared) (th : Thread) (it : Nat) :
    FreshPC (afterNext sh th it).1.heap (afterNext sh th it).2.1.pc := by
  obtain ⟨v, _, _, h | ⟨_, h⟩⟩ := afterNext_cases sh th it <;> rw [h] <;> trivial

theorem fresh_insCheckSucc (sh : Shared) (th : Thread) (item x lvl i next : Nat) :
    FreshPC (insCheckSucc sh th item x lvl i next).1.heap (insCheckSucc sh th item x lvl i next).2.1.pc := by
  rcases insCheckSucc_cases sh th item x lvl i next with h | h <;> rw [h]
  · exact fresh_startFind ..
  · trivial

theorem fresh_finishFind (sh : Shared) (th : Thread) (item : Nat) (found : Bool) (c : Cont) :
    FreshPC (finishFind sh th item found c).1.heap (finishFind sh th item found c).2.1.pc := by
  have s := finishFind_cases sh th item found c
  generalize finishFind sh th item found c = r at s ⊢
  cases s with
  | delHit => exact fresh_enterSoft ..
  | iterDone => exact fresh_afterNext ..
  | _ => trivial

theorem Seg.spc {sh : Shared} {th : Thread} {pc : PC} {r : Res} {ev : Event} (s : Seg sh th pc r) (H : HInv sh.heap)
    (R : ReachInv sh.heap) (hp : PCInv sh.heap th pc) (hS : SPC sh.heap pc) (e : Ext sh.heap r.1.heap)
    (hs : HStep sh.heap ev r.1.heap) (R' : ReachInv r.1.heap) : SPC r.1.heap r.2.1.pc := by
  induction s with
  | idle h => rw [h]; trivial
  | findLevel =>
    -- `J2` speaks of level 0: there `getNext … fp.i` is the level-0 successor `reach_succ` speaks of
    exact ⟨hS.1, hS.2, fun hi0 n hn => by rw [show _ = 0 from hi0]; exact reach_succ (hS.2 n hn) (FPInv.key hp) hn.2.2⟩
  | readMarked hc => exact ⟨hS.1, hS.2.1, fun hi0 => hc ▸ J2_cur _ hp.1.key hS.2.1 hS.2.2 hi0⟩
  | @readAdvance fp rr c hc hm ha =>
    have hklt : Key.lt (keyOf sh.heap c) (.fin fp.item) := (compare_neg_iff _ _).mp ((Gen.findAdvance_iff _).mp ha)
    have hc1 : c ≠ 1 := fun h1 => by rw [h1, H.tailKey] at hklt; exact hklt
    -- `c` was read unmarked at its level, so it is unmarked at level 0 (H4) and every stable node lies behind it
    have j1' := J1_advance H R (L := fp.startLen) (unmarked0_of_level H hc1 (read_ok H hp.1 hp.2 hc).2 hm) hklt
    exact ⟨hS.1, j1', fun hi0 n hn => by rw [show fp.i = 0 from hi0]; exact reach_succ (j1' n hn) hklt hn.2.2⟩
  | readDown => exact ⟨hS.1, hS.2.1⟩
  | readEnd => exact SPC_of_fresh R' (fresh_finishFind ..)
  | helpOk => exact SPC.stable H e hs hS
  | helpFail => exact SPC_fresh R' _ rfl (SPC.stable H e hs hS).1
  | newLevelBump | newLevelKeep | publishFail | upLinkMarked | upLinkFail | delSearch | iterHelpFail | iterRefresh =>
    exact SPC_of_fresh R' (fresh_startFind ..)
  | publishUp | upLinkNext | iterNextMarked => trivial
  | publishDone | upReadMarked | upReadLost | upLinkDone => exact SPC_of_fresh R' trivial
  | upReadOwn | upReadSame => exact SPC_of_fresh R' (fresh_insCheckSucc ..)
  | softWin | softUp | softLost => exact SPC_of_fresh R' (fresh_enterSoft ..)
  | iterNextMove | iterHelpOk => exact SPC_of_fresh R' (fresh_afterNext ..)

def InvS (s : Sys) : Prop := InvR s ∧ ∀ th ∈ s.threads, SInv s.sh.heap th

theorem InvS.invR {s : Sys} (hI : InvS s) : InvR s := hI.1

theorem InvS.thread {s : Sys} (hI : InvS s) {t : Nat} {th : Thread} (hth : s.threads[t]? = some th) :
    HInv s.sh.heap ∧ ReachInv s.sh.heap ∧ TInv s.sh.heap th ∧ SInv s.sh.heap th :=
  ⟨hI.invR.heap, hI.invR.reach, hI.invR.inv.thread hth, hI.2 th (List.mem_of_getElem? hth)⟩

theorem InvS_init (n : Nat) : InvS (Sys.init n) := by
  refine ⟨InvR_init n, ?_⟩
  intro th hth
  rw [Sys.init_mem hth]; trivial

theorem fresh_startOp (sh : Shared) (th : Thread) (op : Op) (hidle : th.pc = .idle) :
    FreshPC (startOp sh th op).1.heap (startOp sh th op).2.1.pc := by
  have s := startOp_cases sh th op
  generalize startOp sh th op = r at s ⊢
  cases s with
  | insLevel | itNext | itRefresh => trivial
  | insFind | del | look | itSeek => exact fresh_startFind ..
  | itFirst | itClose | itInterval | nextRefused | closeRefused | intervalRefused | refreshRefused =>
    show FreshPC _ th.pc; rw [hidle]; trivial

theorem InvS.moved {s : Sys} {t : Nat} {th : Thread} {r : Res} (hI : InvS s) (hth : s.threads[t]? = some th)
    (m : Move s.sh th r) : InvS (s.moved t r) := by
  obtain ⟨H, R, hT, hS⟩ := hI.thread hth
  obtain ⟨_, e⟩ := hI.invR.inv.moved hth m
  obtain ⟨ev, hs⟩ := m.hstep hT
  have hR' := hI.invR.moved hth m
  refine ⟨hR', moved_all_mem (T := fun sh th => SInv sh.heap th) hI.2 ?_ (fun _ _ h => SPC.stable H e hs h)⟩
  cases m with
  | seg _ => exact (stepThread_seg s.sh th).spc H R hT.pc hS e hs hR'.reach
  | entry op hi => exact SPC_of_fresh hR'.reach (fresh_startOp s.sh th op hi)

theorem run_invS {s : Sys} (hI : InvS s) (as : List Action) : InvS (s.run as) :=
  run_of_act (act_of_move InvS.moved) hI as

theorem search_end_live {sh : Shared} {th : Thread} (H : HInv sh.heap) {fp : FP} {rr : Bool} {c : Nat}
    (hp : PCInv sh.heap th (.findNext fp rr))
    (hc : c = readNode sh.heap fp rr) (hi0 : fp.i = 0)
    (hm : (getNext sh.heap c 0).2 = false) : c < sh.heap.length ∧ (c = 1 ∨ unmarked0 sh.heap c) := by
  obtain ⟨h1, h2⟩ := read_ok H hp.1 hp.2 hc
  rw [hi0] at h2
  exact ⟨h1, (Classical.em (c = 1)).imp id fun hc1 => unmarked0_of_level H hc1 h2 hm⟩

theorem search_reach {sh : Shared} {th : Thread} {fp : FP} {rr : Bool} {c : Nat}
    (hp : PCInv sh.heap th (.findNext fp rr)) (hS : SPC sh.heap (.findNext fp rr))
    (hc : c = readNode sh.heap fp rr) (hi0 : fp.i = 0) :
    ∀ n, Stable sh.heap fp.startLen fp.item n → Reach sh.heap c n :=
  fun n hs => hc ▸ J2_cur rr hp.1.key hS.2.1 hS.2.2 hi0 n hs

theorem search_ends {sh : Shared} {th : Thread} {fp : FP} {rr : Bool} {c : Nat}
    (hp : PCInv sh.heap th (.findNext fp rr)) (hS : SPC sh.heap (.findNext fp rr))
    (hc : c = readNode sh.heap fp rr) (hi0 : fp.i = 0)
    (ha : ¬ Gen.findAdvance (compare (keyOf sh.heap c) (.fin fp.item)) = true) :
    ¬ Key.lt (keyOf sh.heap c) (.fin fp.item) ∧
    ∀ n, Stable sh.heap fp.startLen fp.item n → Reach sh.heap c n :=
  ⟨fun l => ha ((Gen.findAdvance_iff _).mpr ((compare_neg_iff _ _).mpr l)),
    search_reach hp hS hc hi0⟩

theorem search_end {sh : Shared} {th : Thread} (H : HInv sh.heap) {fp : FP} {rr : Bool} {c : Nat}
    (hp : PCInv sh.heap th (.findNext fp rr)) (hS : SPC sh.heap (.findNext fp rr))
    (hc : c = readNode sh.heap fp rr) (hi0 : fp.i = 0) :
    ∀ n, Stable sh.heap fp.startLen fp.item n → n = c ∨ Key.lt (keyOf sh.heap c) (keyOf sh.heap n) := by
  intro n hs
  rcases (search_reach hp hS hc hi0 n hs).key H with e | l
  · exact .inl e.symm
  · exact .inr l

theorem search_miss {sh : Shared} {th : Thread} (H : HInv sh.heap) {fp : FP} {rr : Bool} {c : Nat}
    (hp : PCInv sh.heap th (.findNext fp rr)) (hS : SPC sh.heap (.findNext fp rr))
    (hc : c = readNode sh.heap fp rr) (hi0 : fp.i = 0)
    (ha : ¬ Gen.findAdvance (compare (keyOf sh.heap c) (.fin fp.item)) = true)
    (hf : Gen.findFound (compare (keyOf sh.heap c) (.fin fp.item)) = false) :
    ∀ n, n < fp.startLen → keyOf sh.heap n = .fin fp.item → ¬ unmarked0 sh.heap n := by
  intro n hn hk hu
  rcases search_end H hp hS hc hi0 n ⟨hn, hu, by rw [hk]; exact Key.lt_irrefl _⟩ with e | l
  · rw [e] at hk
    rw [hk, (Gen.findFound_iff _).mpr ((compare_zero_iff _ _).mpr rfl)] at hf
    cases hf
  · rw [hk] at l; exact (search_ends hp hS hc hi0 ha).1 l

end NitroVerif.SkipConc
