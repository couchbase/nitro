import NitroVerif.Lemmas.SkipConcLevelsSys
/-!
  Quiescence of M5, system level.  On `InvL` alone stand `InvQ` and `InvP`, whose three clauses CHARGE a demand of the
  heap to a thread in flight: a deleted node still on a chain to a thread responsible for unlinking it
  (`InvQ.charged`), a node marked at some level but not at level 0 to a thread inside softDelete for it
  (`InvP.marks`), an unmarked index level of a node that is not on the chain to the node's inserter (`InvP.pend`).
  `InvQ.heights` is there for the first charge: the deleter's cleaning search starts at the list level, so it covers
  every level the node is linked at.  At quiescence nobody is in flight, so no demand is left.
-/
namespace NitroVerif.SkipConc

theorem not_charged_of_quiescent {s : Sys} (hq : s.quiescent = true) {W : PC → Prop}
    (c : ∃ (t : Nat) (th : Thread), s.threads[t]? = some th ∧ W th.pc) (h0 : ¬ W .idle) : False := by
  obtain ⟨t, th, hget, w⟩ := c
  have := List.all_eq_true.mp hq th (List.mem_of_getElem? hget)
  generalize th.pc = pc at w this
  cases pc with
  | idle => exact h0 w
  | _ => cases this

structure InvQ (s : Sys) : Prop where
  lv : InvL s
  /-- no node is higher than the current list level -/
  heights : ∀ n, 2 ≤ n → n < s.sh.heap.length → heightOf s.sh.heap n ≤ s.sh.level
  /-- every deleted node that is still linked at a level is charged to a responsible thread -/
  charged : ∀ d j, OnChain s.sh.heap j d → marked0 s.sh.heap d →
    ∃ (t : Nat) (th : Thread), s.threads[t]? = some th ∧ RespPC s.sh.heap d j th.pc

theorem stepThread_newHeight {sh : Shared} {th : Thread} (hL : TL sh.heap sh.level th) :
    ∀ n, sh.heap.length ≤ n → n < (stepThread sh th).1.heap.length →
      heightOf (stepThread sh th).1.heap n ≤ sh.level := by
  intro n h1 h2
  rcases (stepThread_seg sh th).wr.length with h | ⟨item, lvl, hpc, hh⟩
  · omega
  · have hl := hL.pcl
    rw [hpc] at hl
    rw [hh] at h2 ⊢
    have hn : n = sh.heap.length := by
      have : n < sh.heap.length + 1 := by simpa [length_setWord] using h2
      omega
    rw [hn, heightOf_publish]
    exact hl.1

theorem InvQ_init (n : Nat) : InvQ (Sys.init n) where
  lv := InvL_init n
  heights k h2 hl := by simp [Sys.init, Sys.initWith, Shared.init, initHeap] at hl; omega
  charged d j _ hm := by
    obtain ⟨q, hq⟩ := hm
    have := (word?_init hq).2.2.2
    simp at this

theorem InvQ.moved {s : Sys} {t : Nat} {th : Thread} {r : Res} (hI : InvQ s) (hth : s.threads[t]? = some th)
    (m : Move s.sh th r) : InvQ (s.moved t r) := by
  have hL := hI.lv
  obtain ⟨H, R, L⟩ := hL.chains
  obtain ⟨hT, hTL, ⟨H', e, _⟩, ⟨ev, hst, hev, _⟩, _, hlevel, _⟩ := hL.move hth m
  have L' := hst.lvInv H L
  refine ⟨hL.moved hth m, fun n h2 hlt => ?_,
    fun d j hd0 hm0 => moved_charged (O := fun sh d j => OnChain sh.heap j d ∧ marked0 sh.heap d)
      (W := fun sh d j th => RespPC sh.heap d j th.pc) hth (fun d j h => hI.charged d j h.1 h.2) ?_ d j ⟨hd0, hm0⟩⟩
  · by_cases hn : n < s.sh.heap.length
    · exact (e.height n hn).symm ▸ Nat.le_trans (hI.heights n h2 hn) hlevel
    · cases m with
      | entry op _ => exact absurd (by rw [← startOp_heap s.sh th op]; exact hlt) hn
      | seg _ => exact Nat.le_trans (stepThread_newHeight hTL n (Nat.le_of_not_lt hn) hlt) hlevel
  · intro d j ⟨hd', hm'⟩
    rcases hst.markedAt_back (marked0_iff.mp hm') with hm | hevm
    · rcases hst.onChain_back H hd' with hd | hevl | hdl
      · -- charged before: the responsible thread moves itself, or is not disturbed
        refine .inr ⟨⟨hd, hm⟩, fun w => ?_, fun t0 th0 _ h0 w => w.keep H R L hst (hL.threads t0 th0 h0) hd'⟩
        cases m with
        | entry op hi => rw [hi] at w; exact False.elim w
        | seg _ =>
          obtain ⟨k, hk⟩ := w.key
          have hd0 := ne_head_of_fin H hk
          have hd1 := ne_tail_of_fin H hk
          refine (stepThread_seg s.sh th).resp H R L hT.pc hTL.pcl w hd'
            (fun hc => markedAt_of_marked0 H hd0 hm hc) ?_
          -- `j` is at most the height of `d`, which is at most the list level
          obtain ⟨w', hw⟩ := Option.isSome_iff_exists.mp (hd.word H hd0 hd1)
          exact Nat.le_trans (H.wordLevel _ _ _ hw)
            (hI.heights d (Nat.lt_of_le_of_ne (Nat.pos_of_ne_zero hd0) (Ne.symm hd1)) (lt_of_keyOf_fin hk))
      · -- linked in this segment although marked: the inserter starts its unlinking search
        subst hevl
        obtain ⟨hins, hfp⟩ := hev
        obtain ⟨k, hk⟩ := insNode_key hT hins
        have hk' : keyOf r.1.heap d = .fin k := (e.key _ (lt_of_keyOf_fin hk)).trans hk
        exact .inl (hfp (markedAt_of_marked0 H' (ne_head_of_fin H' hk') hm' hd') hd')
      · -- a node published in this segment is not marked
        subst hdl
        obtain ⟨q, hq⟩ := hm
        rw [word?_ge (Nat.le_refl _)] at hq; cases hq
    · -- marked at level 0 in this segment: the winner is at DEL_SEARCH
      subst hevm
      exact .inl (hev j)

theorem run_invQ {s : Sys} (hI : InvQ s) (as : List Action) : InvQ (s.run as) :=
  run_of_act (act_of_move InvQ.moved) hI as

structure InvP (s : Sys) : Prop where
  marks : ∀ n l, markedAt s.sh.heap l n → marked0 s.sh.heap n ∨
    ∃ (t : Nat) (th : Thread), s.threads[t]? = some th ∧ SoftOn n th.pc
  pend : ∀ n l, 1 ≤ l → unmarkedAt s.sh.heap l n → ¬ OnChain s.sh.heap l n →
    ∃ (t : Nat) (th : Thread), s.threads[t]? = some th ∧ Pend n l th.pc

theorem InvP_init (n : Nat) : InvP (Sys.init n) where
  marks k l hm := by
    obtain ⟨q, hq⟩ := hm
    have := (word?_init hq).2.2.2
    simp at this
  pend k l _ hu hnc := by
    obtain ⟨p, hp⟩ := hu
    obtain ⟨rfl, _⟩ := word?_init hp
    exact absurd (.head _ l) hnc

theorem InvP.moved {s : Sys} {t : Nat} {th : Thread} {r : Res} (hL : InvL s) (hI : InvP s)
    (hth : s.threads[t]? = some th) (m : Move s.sh th r) : InvP (s.moved t r) := by
  have H := hL.base.heap
  obtain ⟨hT, _, ⟨H', e, _⟩, ⟨ev, hst, hev, _⟩, _⟩ := hL.move hth m
  have L' := hst.lvInv H hL.lv
  -- a mark that level 0 already shows is no demand
  refine ⟨fun n l hm => Classical.or_iff_not_imp_left.mpr fun hn =>
      moved_charged (O := fun sh n l => markedAt sh.heap l n ∧ ¬ marked0 sh.heap n) (W := fun _ n _ th => SoftOn n th.pc)
        hth (fun n l h => (hI.marks n l h.1).resolve_left h.2) ?_ n l ⟨hm, hn⟩,
    fun n l hl hu hnc =>
      moved_charged (O := fun sh n l => 1 ≤ l ∧ unmarkedAt sh.heap l n ∧ ¬ OnChain sh.heap l n)
        (W := fun _ n l th => Pend n l th.pc) hth (fun n l h => hI.pend n l h.1 h.2.1 h.2.2) ?_ n l ⟨hl, hu, hnc⟩⟩
  · intro n l ⟨hm', hn0⟩
    -- softDelete goes on at a level of the node, or has marked level 0
    have own : SoftOn n th.pc → SoftOn n r.2.1.pc := fun w => by
      cases m with
      | seg _ => exact (softMark_after w).resolve_right hn0
      | entry op hi => rw [hi] at w; exact w.elim
    rcases hst.markedAt_back hm' with hm | hevm
    · exact .inr ⟨⟨hm, fun ⟨q, hq⟩ => hn0 ⟨q, e.marked _ _ _ hq⟩⟩, own, fun _ _ _ _ w => w⟩
    · subst hevm
      cases l with
      | zero => exact absurd hst.mark0_marked hn0
      | succ l => exact .inl (own hev)
  · intro n l ⟨hl, hu', hnc'⟩
    by_cases hn : n < s.sh.heap.length
    · refine .inr ⟨⟨hl, unmarkedAt_back e hn hu', fun c => hnc' (OnChain.keep H hst c hu')⟩, fun w => ?_,
        fun _ _ _ _ w => w⟩
      cases m with
      | seg _ => exact (stepThread_seg s.sh th).pend H hT.pc H' L' e w hu' hnc'
      | entry op hi => rw [hi] at w; obtain ⟨_, h, _⟩ := w; cases h
    · -- a new node: the publish makes its inserter answer for every index level
      cases m with
      | seg _ =>
        obtain ⟨p, hp⟩ := hu'
        exact .inl (stepThread_newPend n l (Nat.le_of_not_lt hn) hl (by rw [hp]; rfl))
      | entry op hi =>
        rw [startOp_heap] at hu'
        exact absurd (unmarkedAt_lt hu') hn

theorem run_invP {s : Sys} (hL : InvL s) (hI : InvP s) (as : List Action) : InvP (s.run as) :=
  (run_of_act (I := fun s => InvL s ∧ InvP s)
    (act_of_move (I := fun s => InvL s ∧ InvP s) fun h hth m => ⟨h.1.moved hth m, h.2.moved h.1 hth m⟩) ⟨hL, hI⟩ as).2

end NitroVerif.SkipConc
