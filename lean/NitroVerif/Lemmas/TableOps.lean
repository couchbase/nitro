import NitroVerif.Lemmas.TableInv
import NitroVerif.Lemmas.TableGen
/-!
  Get / Update / Remove of the node table by cases over what `find` finds (`findCase`).  Every arm goes the same way: `hu` computes the call,
  `hB` the bucket the specification asks for as `bucketOf fe se`, `Uf`, `Us` how the two maps changed at `hash key`;
  `SInv.local` (arguments after `Uf Us`: not panicked; no slow list without a fast entry; conflict bit ⇔ slow list;
  slow list non-empty; the three counter equations) and `bucket_local` do the rest.
-/
namespace NitroVerif.Table
open GenLemmas

variable (hash : Key → Hash) (keyOf : Ptr → Key)

theorem get_eq_lookup {t : Table} (hI : SInv t) (key : Key) :
    get hash keyOf t key = lookupB keyOf key (bucket t (hash key)) := by
  cases findCase hash keyOf hI key with
  | noEntry hf hs hfind hb hl =>
    rw [hl]; unfold get; rw [hfind]; simp [ntIsFound_notFound]
  | inFast p c hf hk hfind hb hl =>
    rw [hl]; unfold get; rw [hfind]; simp [ntIsFound_fast]
  | inSlow p vs i hf hk hs hi hfind hb hl =>
    rw [hl, ← (slowPos_some keyOf hi).get]; unfold get; rw [hfind]
    simp [ntIsFound_slow, ntFoundInSlow_ne_fast]
  | missSlow p vs hf hk hs hi hfind hb hl =>
    rw [hl]; unfold get; rw [hfind]; simp [ntIsFound_notFound]
  | missNoConflict p hf hk hs hfind hb hl =>
    rw [hl]; unfold get; rw [hfind]; simp [ntIsFound_notFound]

def UpdateOk (t : Table) (key : Key) (np : Ptr) (r : Table × Bool × Option Ptr) : Prop :=
  SInv r.1 ∧
  (∀ h', bucket r.1 h' =
      if h' = hash key then updateB keyOf key np (bucket t (hash key)) else bucket t h') ∧
  r.2.1 = (lookupB keyOf key (bucket t (hash key))).isSome ∧
  r.2.2 = lookupB keyOf key (bucket t (hash key)) ∧
  itemsCount r.1 = itemsCount t + (if (lookupB keyOf key (bucket t (hash key))).isSome then 0 else 1)

theorem update_ok {t : Table} (hI : SInv t) (key : Key) (np : Ptr) :
    UpdateOk hash keyOf t key np (update hash keyOf t key np) := by
  cases findCase hash keyOf hI key with
  | noEntry hf hs hfind hb hl =>
    have hu : update hash keyOf t key np =
        ({ t with fastHT := AL.set t.fastHT (hash key) (np, false),
                  fastHTCount := t.fastHTCount + 1 }, false, none) := by
      unfold update
      rw [hfind]
      simp [ntIsFound_notFound, ntNewSlowValue_eq, ntInsertSlow_eq]
    have hB : updateB keyOf key np (bucket t (hash key)) = bucketOf (some (np, false)) none := by
      rw [hb]; rfl
    have Uf := AL.Upd.set hf (np, false)
    have Us := AL.Upd.same hs
    rw [hu, UpdateOk, hl, hB]
    exact ⟨hI.local Uf Us hI.notPanicked nofun (fun _ _ e => by cases e; exact ⟨nofun, nofun⟩) nofun
      rfl rfl rfl, bucket_local Uf Us, rfl, rfl, Nat.add_right_comm _ _ _⟩
  | inFast p c hf hk hfind hb hl =>
    have hu : update hash keyOf t key np =
        ({ t with fastHT := AL.set t.fastHT (hash key) (np, c) }, true, some p) := by
      unfold update
      rw [hfind]
      simp [ntIsFound_fast]
    have hB : updateB keyOf key np (bucket t (hash key)) =
        bucketOf (some (np, c)) (AL.get t.slowHT (hash key)) := by
      rw [hb]; simp [updateB, hk, bucketOf]
    have Uf := AL.Upd.set hf (np, c)
    have Us := AL.Upd.same (rfl : AL.get t.slowHT (hash key) = _)
    rw [hu, UpdateOk, hl, hB]
    refine ⟨hI.local Uf Us hI.notPanicked nofun ?_ (hI.slowNonempty _) rfl rfl rfl,
      bucket_local Uf Us, rfl, rfl, rfl⟩
    intro p' c' e; cases e; exact hI.conflictIff _ p c hf
  | inSlow p vs i hf hk hs hi hfind hb hl =>
    have hu : update hash keyOf t key np =
        ({ t with slowHT := AL.set t.slowHT (hash key) (vs.set i np) }, true, vs[i]?) := by
      unfold update
      rw [hfind]
      simp [ntIsFound_slow, ntFoundInSlow_ne_fast]
    have hp := slowPos_some keyOf hi
    have hB : updateB keyOf key np (bucket t (hash key)) =
        bucketOf (some (p, true)) (some (vs.set i np)) := by
      rw [hb]; simp [updateB, hk, hp.set_eq np, bucketOf]
    have Uf := AL.Upd.same hf
    have Us := AL.Upd.set hs (vs.set i np)
    rw [hu, UpdateOk, hl, hB]
    refine ⟨hI.local Uf Us hI.notPanicked nofun ?_ ?_ rfl ?_ rfl, bucket_local Uf Us,
      hp.found.symm, hp.get, ?_⟩
    · intro p' c' e; cases e; exact ⟨fun _ => rfl, fun _ => rfl⟩
    · intro ws e
      cases e
      intro hws
      have := congrArg List.length hws
      rw [List.length_set, List.length_nil] at this
      exact Nat.ne_of_gt (Nat.lt_of_le_of_lt (Nat.zero_le i) hp.lt) this
    · show _ + vs.length = _ + (vs.set i np).length; rw [List.length_set]
    · rw [hp.found]; rfl
  | missSlow p vs hf hk hs hi hfind hb hl =>
    have hu : update hash keyOf t key np =
        ({ t with slowHT := AL.set t.slowHT (hash key) (vs ++ [np]),
                  slowHTCount := t.slowHTCount + 1 }, false, none) := by
      unfold update
      rw [hfind]
      simp [ntIsFound_notFound, ntNewSlowValue_eq, ntInsertSlow_eq, hs]
    have hB : updateB keyOf key np (bucket t (hash key)) =
        bucketOf (some (p, true)) (some (vs ++ [np])) := by
      rw [updateB_of_none keyOf np hl, hb]; rfl
    have Uf := AL.Upd.same hf
    have Us := AL.Upd.set hs (vs ++ [np])
    rw [hu, UpdateOk, hl, hB]
    refine ⟨hI.local Uf Us hI.notPanicked nofun (fun _ _ e => by cases e; exact ⟨fun _ => rfl, fun _ => rfl⟩)
      (fun _ e => by cases e; simp) rfl ?_ rfl, bucket_local Uf Us, rfl, rfl, (Nat.add_assoc _ _ _).symm⟩
    show t.slowHTCount + 1 + vs.length = t.slowHTCount + (vs ++ [np]).length
    rw [List.length_append]; exact Nat.add_right_comm _ _ _
  | missNoConflict p hf hk hs hfind hb hl =>
    have hu : update hash keyOf t key np =
        ({ t with slowHT := AL.set t.slowHT (hash key) [np],
                  fastHT := AL.set t.fastHT (hash key) (p, true),
                  conflicts := t.conflicts + 1,
                  slowHTCount := t.slowHTCount + 1 }, false, none) := by
      unfold update
      rw [hfind]
      simp [ntIsFound_notFound, ntNewSlowValue_eq, ntInsertSlow_eq, hf, hs]
    have hB : updateB keyOf key np (bucket t (hash key)) = bucketOf (some (p, true)) (some [np]) := by
      rw [updateB_of_none keyOf np hl, hb]; rfl
    have Uf := AL.Upd.set hf (p, true)
    have Us := AL.Upd.set hs [np]
    rw [hu, UpdateOk, hl, hB]
    exact ⟨hI.local Uf Us hI.notPanicked nofun (fun _ _ e => by cases e; exact ⟨fun _ => rfl, fun _ => rfl⟩)
      (fun _ e => by cases e; nofun) rfl rfl rfl, bucket_local Uf Us, rfl, rfl, rfl⟩

def RemoveOk (t : Table) (key : Key) (r : Table × Bool × Option Ptr) : Prop :=
  SInv r.1 ∧
  (∀ h', bucket r.1 h' =
      if h' = hash key then (bucket t (hash key)).eraseP (keyOf · == key) else bucket t h') ∧
  r.2.1 = (lookupB keyOf key (bucket t (hash key))).isSome ∧
  r.2.2 = lookupB keyOf key (bucket t (hash key)) ∧
  itemsCount r.1 + (if (lookupB keyOf key (bucket t (hash key))).isSome then 1 else 0) = itemsCount t

theorem remove_notFound {t : Table} (hI : SInv t) {key : Key}
    (hfind : (find hash keyOf t key).status = Gen.ntNotFound)
    (hl : lookupB keyOf key (bucket t (hash key)) = none) :
    RemoveOk hash keyOf t key (remove hash keyOf t key) := by
  have hu : remove hash keyOf t key = (t, false, none) := by
    unfold remove
    simp [hfind, ntIsFound_notFound]
  rw [hu]
  refine ⟨hI, ?_, by simp [hl], by simp [hl], by simp [hl]⟩
  intro h'
  by_cases e : h' = hash key
  · simp [e, eraseP_of_lookupB_none keyOf hl]
  · simp [e]

/-- the two ways Remove builds the shortened slow list give the same list -/
theorem newSlowValue_eq (vs : List Ptr) (i : Nat) :
    (if i + 1 ≠ vs.length then vs.take i ++ vs.drop (i + 1) else vs.take i)
      = vs.take i ++ vs.drop (i + 1) := by
  by_cases h : i + 1 = vs.length
  · simp [h]
  · simp [h]

theorem remove_ok {t : Table} (hI : SInv t) (key : Key) :
    RemoveOk hash keyOf t key (remove hash keyOf t key) := by
  cases findCase hash keyOf hI key with
  | noEntry hf hs hfind hb hl =>
    exact remove_notFound hash keyOf hI (by rw [hfind]) hl
  | missSlow p vs hf hk hs hi hfind hb hl =>
    exact remove_notFound hash keyOf hI (by rw [hfind]) hl
  | missNoConflict p hf hk hs hfind hb hl =>
    exact remove_notFound hash keyOf hI (by rw [hfind]) hl
  | inFast p c hf hk hfind hb hl =>
    have hc := hI.conflictIff _ p c hf
    rw [RemoveOk, hl]
    cases hs : AL.get t.slowHT (hash key) with
    | none =>
      -- no slow list, so no conflict bit: the fast entry goes
      have hcf : c = false := by cases c <;> simp [hs] at hc ⊢
      subst hcf
      have hu : remove hash keyOf t key =
          ({ t with fastHT := AL.del t.fastHT (hash key), fastHTCount := t.fastHTCount - 1 },
            true, some p) := by
        unfold remove
        rw [hfind]
        simp [ntIsFound_fast]
      have hB : (bucket t (hash key)).eraseP (keyOf · == key) = bucketOf none none := by
        rw [hb, hs, eraseP_cons_self keyOf hk]; rfl
      have Uf := AL.Upd.del hf hI.fastNodup
      have Us := AL.Upd.same hs
      have hpos := hI.fast_pos hf
      rw [hu, hB]
      refine ⟨hI.local Uf Us hI.notPanicked (fun _ => rfl) nofun nofun (Nat.sub_add_cancel hpos) rfl rfl,
        bucket_local Uf Us, rfl, rfl, ?_⟩
      show t.fastHTCount - 1 + t.slowHTCount + 1 = t.fastHTCount + t.slowHTCount
      rw [Nat.add_right_comm, Nat.sub_add_cancel hpos]
    | some vs =>
      -- the head of the slow list moves into the fast entry
      have hct : c = true := hc.mpr (by rw [hs]; rfl)
      subst hct
      have hne := hI.slowNonempty _ vs hs
      obtain ⟨hle, hcp⟩ := hI.slow_le hs
      have Uf := AL.Upd.set hf
      cases vs with
      | nil => exact absurd rfl hne
      | cons v rest =>
        have hle' : 1 ≤ t.slowHTCount := Nat.le_trans (Nat.le_add_left 1 _) hle
        have hcnt : t.fastHTCount + (t.slowHTCount - 1) + 1 = t.fastHTCount + t.slowHTCount := by
          rw [Nat.add_assoc, Nat.sub_add_cancel hle']
        cases rest with
        | nil =>
          have hu : remove hash keyOf t key =
              ({ t with slowHTCount := t.slowHTCount - 1, slowHT := AL.del t.slowHT (hash key),
                        conflicts := t.conflicts - 1,
                        fastHT := AL.set t.fastHT (hash key) (v, false) }, true, some p) := by
            unfold remove
            rw [hfind]
            simp [ntIsFound_fast, hs]
          have hB : (bucket t (hash key)).eraseP (keyOf · == key) = bucketOf (some (v, false)) none := by
            rw [hb, hs, eraseP_cons_self keyOf hk]; rfl
          have Us := AL.Upd.del hs hI.slowNodup
          rw [hu, hB]
          exact ⟨hI.local (Uf _) Us hI.notPanicked nofun (fun _ _ e => by cases e; exact ⟨nofun, nofun⟩)
            nofun rfl (Nat.sub_add_cancel hle) (Nat.sub_add_cancel hcp), bucket_local (Uf _) Us,
            rfl, rfl, hcnt⟩
        | cons w ws =>
          have hu : remove hash keyOf t key =
              ({ t with slowHTCount := t.slowHTCount - 1,
                        slowHT := AL.set t.slowHT (hash key) (w :: ws),
                        fastHT := AL.set t.fastHT (hash key) (v, true) }, true, some p) := by
            unfold remove
            rw [hfind]
            simp [ntIsFound_fast, hs]
          have hB : (bucket t (hash key)).eraseP (keyOf · == key) =
              bucketOf (some (v, true)) (some (w :: ws)) := by
            rw [hb, hs, eraseP_cons_self keyOf hk]; rfl
          have Us := AL.Upd.set hs (w :: ws)
          rw [hu, hB]
          refine ⟨hI.local (Uf _) Us hI.notPanicked nofun
            (fun _ _ e => by cases e; exact ⟨fun _ => rfl, fun _ => rfl⟩) (fun _ e => by cases e; nofun)
            rfl ?_ rfl, bucket_local (Uf _) Us, rfl, rfl, hcnt⟩
          show t.slowHTCount - 1 + ((w :: ws).length + 1) = t.slowHTCount + (w :: ws).length
          rw [← Nat.add_assoc, Nat.add_right_comm, Nat.sub_add_cancel hle']
  | inSlow p vs i hf hk hs hi hfind hb hl =>
    have hp := slowPos_some keyOf hi
    have hE : (bucket t (hash key)).eraseP (keyOf · == key) = p :: vs.eraseP (keyOf · == key) := by
      rw [hb, eraseP_cons_ne keyOf hk]
    have hlenE := length_eraseP_of_lookupB keyOf hp.found
    have hnew := (newSlowValue_eq vs i).trans hp.erase_eq
    obtain ⟨hle, hcp⟩ := hI.slow_le hs
    have hle' : 1 ≤ t.slowHTCount := Nat.le_trans (hlenE ▸ Nat.le_add_left 1 _) hle
    have hcnt : t.fastHTCount + (t.slowHTCount - 1) + 1 = t.fastHTCount + t.slowHTCount := by
      rw [Nat.add_assoc, Nat.sub_add_cancel hle']
    rw [RemoveOk, hl, hp.found, hE]
    by_cases hEmpty : (vs.eraseP (keyOf · == key)).length = 0
    · have hu : remove hash keyOf t key =
          ({ t with slowHTCount := t.slowHTCount - 1, slowHT := AL.del t.slowHT (hash key),
                    fastHT := AL.set t.fastHT (hash key) (p, false),
                    conflicts := t.conflicts - 1 }, true, vs[i]?) := by
        unfold remove
        rw [hfind]
        simp only [ntIsFound_slow, ntFoundInSlow_ne_fast, if_true, if_false, hnew, hEmpty, hf]
        simp
      have Uf := AL.Upd.set hf (p, false)
      have Us := AL.Upd.del hs hI.slowNodup
      have hB : [p] = bucketOf (some (p, false)) none := rfl
      rw [hu, List.eq_nil_of_length_eq_zero hEmpty, hB]
      refine ⟨hI.local Uf Us hI.notPanicked nofun (fun _ _ e => by cases e; exact ⟨nofun, nofun⟩) nofun
        rfl ?_ (Nat.sub_add_cancel hcp), bucket_local Uf Us, rfl, hp.get, hcnt⟩
      show t.slowHTCount - 1 + vs.length = t.slowHTCount + 0
      rw [← hlenE, hEmpty]; exact Nat.sub_add_cancel hle'
    · have hu : remove hash keyOf t key =
          ({ t with slowHTCount := t.slowHTCount - 1,
                    slowHT := AL.set t.slowHT (hash key) (vs.eraseP (keyOf · == key)) }, true, vs[i]?) := by
        unfold remove
        rw [hfind]
        simp only [ntIsFound_slow, ntFoundInSlow_ne_fast, if_true, if_false, hnew, hEmpty]
      have Uf := AL.Upd.same hf
      have Us := AL.Upd.set hs (vs.eraseP (keyOf · == key))
      have hB : p :: vs.eraseP (keyOf · == key) =
          bucketOf (some (p, true)) (some (vs.eraseP (keyOf · == key))) := rfl
      rw [hu, hB]
      refine ⟨hI.local Uf Us hI.notPanicked nofun (fun _ _ e => by cases e; exact ⟨fun _ => rfl, fun _ => rfl⟩)
        ?_ rfl ?_ rfl, bucket_local Uf Us, rfl, hp.get, hcnt⟩
      · intro xs e
        cases e
        intro hx
        rw [hx] at hEmpty
        exact hEmpty rfl
      · show t.slowHTCount - 1 + vs.length = t.slowHTCount + (vs.eraseP (keyOf · == key)).length
        rw [← hlenE, ← Nat.add_assoc, Nat.add_right_comm, Nat.sub_add_cancel hle']

end NitroVerif.Table
