import NitroVerif.Lemmas.SkipSeqFind
/-!
  `findPath` as a whole on a quiescent list, and what its answer means for the set of keys.
-/
namespace NitroVerif.SkipSeq

/-- the search for `k` stops on a node that carries `k` -/
abbrev Hit (s : SL) (B : List Nat) (k : Int) : Prop :=
  compare (keyOf s.nodes (succAt s.nodes B 0)) (.item k) = 0

/-- `findPath(itm)` on a quiescent list split around the key (`A` below, `B` at or above).  The fuel
    `findFuel = (level+1) * (length+3)` suffices because one level costs at most one step per node of `A`
    plus the step that stops (`findLoop_levels`), and one more for `helpDelete` in the unlinking search:
    at most `A.length + 2 ≤ length + 3` per level. -/
theorem findPath_quiescent {s : SL} {A B : List Nat} {k : Int} (hr : Rep s (A ++ B))
    (hA : ∀ a ∈ A, ikey s.nodes a < k) (hB : ∀ b ∈ B, k ≤ ikey s.nodes b) :
    ∃ s', findPath s (.item k) =
        (s', if Hit s B k then succAt s.nodes B 0 else nilId) ∧
      SameBut s s' ∧ BufOK s' s.nodes A B s.level := by
  have htop : predAt s.nodes A (s.level + 1) = headId :=
    predAt_top (fun a ha => hr.nodes a (List.mem_append_left _ ha))
  have hfuel : (s.level + 1) * (A.length + 1) ≤ findFuel s :=
    le_findFuel (by have := hr.size; rw [List.length_append] at this; omega)
  rcases findLoop_quiescent s.level s (findFuel s) hr hA hB hr.lvl hfuel with ⟨s', he, hsb, hbuf⟩
  rw [htop] at he
  refine ⟨s', ?_, hsb, hbuf⟩
  unfold findPath
  rw [he]
  simp only
  have h0 := hbuf 0 (Nat.zero_le _)
  by_cases hc : Hit s B k
  · rw [if_pos ((Gen.findFound_iff _).mpr hc), if_pos hc, h0.2]
  · rw [if_neg (fun h => hc ((Gen.findFound_iff _).mp h)), if_neg hc]

theorem Rep.hit_head {s : SL} {A B : List Nat} {k : Int} (hr : Rep s (A ++ B)) (hc : Hit s B k) :
    ∃ B', B = succAt s.nodes B 0 :: B' ∧ ikey s.nodes (succAt s.nodes B 0) = k := by
  unfold Hit at hc
  rw [succAt_zero] at hc ⊢
  cases B with
  | nil =>
    simp only [List.head?_nil, Option.getD_none] at hc
    rw [hr.base.tailKey, compare_max_item] at hc
    exact absurd hc (by decide)
  | cons d B' =>
    simp only [List.head?_cons, Option.getD_some] at hc ⊢
    have hd : d ∈ A ++ d :: B' := by simp
    rw [(hr.nodes d hd).key, compare_item_item] at hc
    exact ⟨B', rfl, Int.eq_of_sub_eq_zero hc⟩

theorem Rep.hit_mem {s : SL} {A B : List Nat} {k : Int} (hr : Rep s (A ++ B)) (hc : Hit s B k) :
    succAt s.nodes B 0 ∈ A ++ B ∧ ikey s.nodes (succAt s.nodes B 0) = k := by
  rcases hr.hit_head hc with ⟨B', hB', hk⟩
  exact ⟨List.mem_append_right _ (hB' ▸ List.mem_cons_self), hk⟩

theorem Rep.miss_gt {s : SL} {A B : List Nat} {k : Int} (hr : Rep s (A ++ B))
    (hB : ∀ b ∈ B, k ≤ ikey s.nodes b) (hc : ¬ Hit s B k) :
    ∀ b ∈ B, k < ikey s.nodes b := by
  unfold Hit at hc
  rw [succAt_zero] at hc
  cases B with
  | nil => simp
  | cons d B' =>
    simp only [List.head?_cons, Option.getD_some] at hc
    have hd : d ∈ A ++ d :: B' := by simp
    rw [(hr.nodes d hd).key, compare_item_item] at hc
    have hdk := hB d (by simp)
    intro b hb
    rcases List.mem_cons.mp hb with rfl | hb'
    · exact Int.lt_iff_le_and_ne.mpr ⟨hdk, fun e => hc (e ▸ Int.sub_self _)⟩
    · exact Int.lt_of_le_of_lt hdk ((pairwise_mid hr.sorted).2 b hb')

theorem Rep.hit_iff {s : SL} {A B : List Nat} {k : Int} (hr : Rep s (A ++ B))
    (hA : ∀ a ∈ A, ikey s.nodes a < k) (hB : ∀ b ∈ B, k ≤ ikey s.nodes b) :
    Hit s B k ↔ k ∈ (A ++ B).map (ikey s.nodes) := by
  constructor
  · intro hc
    exact List.mem_map.mpr ⟨_, hr.hit_mem hc⟩
  · intro hm
    apply Classical.byContradiction
    intro hc
    have hgt := hr.miss_gt hB hc
    rcases List.mem_map.mp hm with ⟨n, hn, hnk⟩
    rcases List.mem_append.mp hn with h1 | h1
    · exact Int.lt_irrefl k (hnk ▸ hA n h1)
    · exact Int.lt_irrefl k (hnk ▸ hgt n h1)

theorem Rep.succ_ne_nil {s : SL} {A B : List Nat} {k : Int} (hr : Rep s (A ++ B)) (hc : Hit s B k) :
    succAt s.nodes B 0 ≠ nilId :=
  ne_of_three_le (hr.nodes _ (hr.hit_mem hc).1).lo (by decide)

theorem found_iff_mem {s : SL} {A B : List Nat} {k : Int} (hr : Rep s (A ++ B))
    (hA : ∀ a ∈ A, ikey s.nodes a < k) (hB : ∀ b ∈ B, k ≤ ikey s.nodes b) :
    ((if Hit s B k then succAt s.nodes B 0 else nilId) != nilId) = decide (k ∈ (A ++ B).map (ikey s.nodes)) := by
  by_cases hc : Hit s B k
  · rw [if_pos hc, decide_eq_true ((hr.hit_iff hA hB).mp hc)]
    simp [hr.succ_ne_nil hc]
  · rw [if_neg hc, decide_eq_false (fun h => hc ((hr.hit_iff hA hB).mpr h))]
    simp

/-- the opening of every operation on a quiescent list: the list split around the key, the search run,
    `succs[0]` read -/
theorem Rep.find {s : SL} {L0 : List Nat} (hr : Rep s L0) (k : Int) :
    ∃ A B s', L0 = A ++ B ∧ (∀ a ∈ A, ikey s.nodes a < k) ∧ (∀ b ∈ B, k ≤ ikey s.nodes b) ∧
      findPath s (.item k) =
        (s', if Hit s B k then succAt s.nodes B 0 else nilId) ∧
      SameBut s s' ∧ s'.buf.succs.getD 0 0 = succAt s.nodes B 0 := by
  rcases hr.split k with ⟨A, B, rfl, hA, hB⟩
  rcases findPath_quiescent hr hA hB with ⟨s', he, hsb, hbuf⟩
  exact ⟨A, B, s', rfl, hA, hB, he, hsb, (hbuf 0 (Nat.zero_le _)).2⟩

end NitroVerif.SkipSeq
