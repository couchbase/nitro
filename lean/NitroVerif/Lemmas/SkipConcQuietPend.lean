import NitroVerif.Lemmas.SkipConcLevelsThread
/-!
  The two charges that do not read the heap.  `SoftOn n`: the thread is inside softDelete of node `n`; a segment of
  softDelete stays inside it or has marked level 0 (`softMark_after`).  `Pend n l`: the thread is the inserter of the
  published node `n` and has not passed level `l`; its own segment keeps that while the node is unmarked at level `l`
  and not on that chain (`Seg.pend`), and the publish starts it for every index level of the new node
  (`stepThread_newPend`).
-/
namespace NitroVerif.SkipConc

def SoftOn (n : Nat) : PC → Prop
  | .softMark _ n' _ _ _ => n' = n
  | _ => False

theorem SoftOn.pc {n : Nat} {pc : PC} (r : SoftOn n pc) : ∃ item i next m, pc = .softMark item n i next m := by
  cases pc with
  | softMark item n' i next m => cases r; exact ⟨_, _, _, _, rfl⟩
  | _ => exact r.elim

theorem softMark_after {sh : Shared} {th : Thread} {n : Nat} (w : SoftOn n th.pc) :
    SoftOn n (stepThread sh th).2.1.pc ∨ marked0 (stepThread sh th).1.heap n := by
  obtain ⟨item, i, next, m, hpc⟩ := w.pc
  have key : ∀ (sh1 : Shared) (j : Nat) (m' : Bool),
      SoftOn n (enterSoft sh1 th item n j m').2.1.pc ∨ marked0 (enterSoft sh1 th item n j m').1.heap n := by
    intro sh1 j m'
    rcases enterSoft_cases sh1 th item n j m' with ⟨j', nx, h⟩ | ⟨_, h, h3⟩ | ⟨_, h, h3⟩ <;> rw [h]
    · exact .inl rfl
    · exact .inr ⟨_, word?_of_getNext_marked h3⟩
    · exact .inr ⟨_, word?_of_getNext_marked h3⟩
  have s := stepThread_seg sh th
  rw [hpc] at s
  generalize stepThread sh th = r at s ⊢
  cases s <;> exact key ..

def Pend (n l : Nat) (pc : PC) : Prop := ∃ i, insAt pc = some (n, i) ∧ i ≤ l

theorem Seg.pend {sh : Shared} {th : Thread} {pc : PC} {r : Res} {n l : Nat} (s : Seg sh th pc r) (H : HInv sh.heap)
    (hp : PCInv sh.heap th pc) (H' : HInv r.1.heap) (L' : LvInv r.1.heap) (e : Ext sh.heap r.1.heap)
    (p : Pend n l pc) (hu : unmarkedAt r.1.heap l n) (hnc : ¬ OnChain r.1.heap l n) : Pend n l r.2.1.pc := by
  obtain ⟨i0, hi0, hle⟩ := p
  -- a word of level `l` pointing to the node would put it on that chain
  have linked : ∀ {a i : Nat}, word? r.1.heap a i = some (n, false) → 1 ≤ i → l ≠ i := fun hwp h1 c =>
    hnc (c ▸ L'.pointed hwp _ h1 (Nat.le_refl _) (c ▸ hu))
  cases s with
  | findLevel | readMarked _ _ | readAdvance _ _ _ | readDown _ _ _ _ | helpOk _ | helpFail _ =>
    exact ⟨i0, hi0, hle⟩
  | readEnd _ _ _ _ => exact ⟨i0, by rw [insAt_finishFind]; exact hi0, hle⟩
  | upReadMarked hm =>
    cases hi0
    exact absurd hu (not_unmarkedAt_of_marked H' ⟨_, word?_of_getNext_marked hm⟩ hle)
  | upReadOwn _ _ _ | upReadSame _ _ => cases hi0; exact ⟨_, insAt_insCheckSucc .., hle⟩
  | @upReadLost _ _ lvl _ hm _ hw =>
    -- the node has a word at level `i`, read unmarked: its own compare-and-swap cannot fail
    cases hi0
    obtain ⟨hx, hkx, _, hil, _, hhx⟩ := hp
    have hx1 := ne_tail_of_fin H hkx
    obtain ⟨⟨q, mq⟩, hwq⟩ := Option.isSome_iff_exists.mp (H.full n i0 hx hx1 (by rw [hhx]; exact hil))
    rw [getNext_of_word hwq] at hm hw
    cases hm
    exact absurd hwq hw
  | upLinkMarked _ hmk =>
    cases hi0
    exact absurd hu (not_unmarkedAt_of_marked H' ⟨_, word?_of_getNext_marked hmk⟩ hle)
  | upLinkNext hw _ _ =>
    cases hi0
    exact ⟨i0 + 1, rfl, Nat.lt_of_le_of_ne hle (Ne.symm (linked (setWord_at hw _) hp.2.2.1))⟩
  | upLinkDone hw _ hl =>
    cases hi0
    exfalso
    -- linked at `i0` = its height, so `l` is above it; but unmarked at `l` means a word there
    have hne := linked (setWord_at hw _) hp.2.2.1
    obtain ⟨q, hq⟩ := hu
    obtain ⟨hx, _, _, _, _, _, hhx⟩ := hp
    have hwl := H'.wordLevel _ _ _ hq
    rw [e.height _ hx, hhx] at hwl
    omega
  | upLinkFail _ => cases hi0; exact ⟨_, rfl, hle⟩
  | _ => cases hi0

theorem stepThread_newPend {sh : Shared} {th : Thread} :
    ∀ n l, sh.heap.length ≤ n → 1 ≤ l → (word? (stepThread sh th).1.heap n l).isSome →
      Pend n l (stepThread sh th).2.1.pc := by
  intro n l h1 hl1 h2
  obtain ⟨w, hw⟩ := Option.isSome_iff_exists.mp h2
  have h2' := word?_lt hw
  have s := stepThread_seg sh th
  rcases s.wr.length with h | ⟨item, lvl, hpc, hh⟩
  · omega
  · -- the only new node is the published one, and it has the words of `newNode`
    rw [hh] at hw h2'
    have hn : n = (setWord sh.heap (th.pred 0) 0 (sh.heap.length, false)).length := by
      have : n < sh.heap.length + 1 := by simpa [length_setWord] using h2'
      rw [length_setWord]; omega
    rw [hn, word?_append_new] at hw
    have hle : 1 ≤ lvl := Nat.le_trans hl1 (newNode_getElem? _ _ _ _ hw).1
    -- so the publish went on to the first index level
    rw [hpc] at s
    generalize stepThread sh th = r at s hh ⊢
    cases s with
    | publishUp _ _ => exact ⟨1, by rw [hn, length_setWord]; rfl, hl1⟩
    | publishDone _ hl => exact absurd hle hl
    | publishFail _ =>
      have := congrArg List.length hh
      rw [List.length_append, length_setWord] at this
      exact absurd this (Nat.ne_of_lt (Nat.lt_succ_self _))

end NitroVerif.SkipConc
