import NitroVerif.Lemmas.SkipSeqFind
import NitroVerif.Lemmas.SkipSeqSoft
import NitroVerif.Lemmas.SkipSeqHalf
/-!
  `deleteNode`: after a successful `softDelete` the search for the key of the marked node `d` unlinks it
  on every level it reaches (one `helpDelete` each, `Half.down`) and accounts it once, on level 0.  `mkd d` flags `d` only.
-/
namespace NitroVerif.SkipSeq

def mkd (d : Nat) : Nat → Bool := fun n => n == d

theorem mkd_self (d : Nat) : mkd d d = true := by simp [mkd]
theorem mkd_ne {d n : Nat} (h : n ≠ d) : mkd d n = false := by simp [mkd, h]

/-- the list `A ++ d :: B` with `d` marked on all its levels and still linked everywhere -/
structure DelCtx (s1 : SL) (A B : List Nat) (d : Nat) : Prop where
  base : Base s1.nodes
  lvl : s1.level ≤ Gen.maxLevel
  nodes : ∀ n ∈ A ++ d :: B, NodeOK s1 n
  sorted : (A ++ d :: B).Pairwise (fun a b => ikey s1.nodes a < ikey s1.nodes b)
  paths : ∀ l, l ≤ Gen.maxLevel →
    Path s1.nodes (mkd d) l (headId :: LL s1.nodes (A ++ d :: B) l ++ [tailId])

namespace DelCtx
variable {s1 : SL} {A B : List Nat} {d : Nat} (c : DelCtx s1 A B d)
include c

theorem site : Site s1 A d B := ⟨c.base, c.lvl, c.nodes, c.sorted⟩

theorem half {j : Nat} (hj : levelOf s1.nodes d < j) : Half s1 (mkd d) A d B j s1.nodes :=
  Half.full c.site (fun _ hn => mkd_ne hn) hj c.paths

theorem pred_link_hi {l : Nat} (hl : l ≤ Gen.maxLevel) (hd : ¬ l ≤ levelOf s1.nodes d) :
    getNext s1.nodes (predAt s1.nodes A l) l = (succAt s1.nodes B l, false) :=
  (c.half (Nat.lt_succ_self _)).pred_off c.site hl (Or.inr hd)

end DelCtx

/-- the statistics after unlinking, on level `i`, a node of height `top` -/
def delStats (st : Stats) (top i : Nat) : Stats :=
  if i = 0 then { st with softDeletes := st.softDeletes - 1,
                          levelNodesCount := addAt st.levelNodesCount top (-1) }
  else st

theorem helpDelete_ok {s : SL} {l prev curr next : Nat} (hp : getNext s.nodes prev l = (curr, false)) :
    helpDelete s l prev curr next =
      ({ s with nodes := setNext s.nodes prev l (next, false),
                stats := delStats s.stats (levelOf s.nodes curr) l }, true) := by
  unfold helpDelete delStats
  rw [dcasNext_ok hp]
  by_cases hl : l = 0
  · subst hl
    have : Gen.helpAccounts true 0 = true := (Gen.helpAccounts_iff _ _).mpr ⟨rfl, rfl⟩
    simp [this, levelOf_setNext]
  · have : Gen.helpAccounts true l = false := by
      rw [Bool.eq_false_iff]; intro h; exact hl ((Gen.helpAccounts_iff _ _).mp h).2
    simp [this, hl]

theorem del_level {s1 : SL} {mk : Nat → Bool} {A B : List Nat} {d : Nat} (c : Site s1 A d B)
    (hmd : mk d = true) {s : SL} {i f : Nat}
    (hinv : Half s1 mk A d B (i + 1) s.nodes) (hi : i ≤ Gen.maxLevel) (hf : A.length + 1 ≤ f) :
    ∃ s' f', f ≤ f' + (A.length + 1) ∧
      findLoop (.item (ikey s1.nodes d)) f s i (predAt s1.nodes A (i + 1))
          (getNext s.nodes (predAt s1.nodes A (i + 1)) i).1
        = findLoop (.item (ikey s1.nodes d)) f' s' i (predAt s1.nodes A i) (succAt s1.nodes B i) ∧
      Half s1 mk A d B i s'.nodes ∧ Kept s s' ∧
      s'.stats = (if i ≤ levelOf s1.nodes d then delStats s.stats (levelOf s1.nodes d) i else s.stats) := by
  have sh := hinv.shape
  have hkA : ∀ p ∈ A, mk p = false ∧ compare (keyOf s.nodes p) (.item (ikey s1.nodes d)) < 0 := by
    intro p hp
    refine ⟨hinv.flag p (fun e => c.z_notin_A (e ▸ hp)), ?_⟩
    rw [sh.key, (c.nodes p (List.mem_append_left _ hp)).key, compare_item_item]
    exact Int.sub_neg_of_lt (c.key_lt p hp)
  have hpath := hinv.paths i hi
  rw [if_pos (Nat.lt_succ_self i), LL_mid, ← sh.LL_eq] at hpath
  rw [← sh.predAt_eq, ← sh.succAt_eq]
  by_cases hd : i ≤ levelOf s1.nodes d
  · -- `d` is on this level: walk to it, unlink it
    rw [if_pos hd, ← List.cons_append, List.append_assoc, List.cons_append] at hpath
    rcases level_walk hpath hkA (Nat.le_of_succ_le hf) with ⟨f1, hf1, he⟩
    obtain ⟨f2, rfl⟩ : ∃ g, f1 = g + 1 := ⟨f1 - 1, by omega⟩
    have hdl := hinv.zlink i hd
    have hpl := (hinv.pred_on c hi (Nat.lt_succ_self i) hd).1
    rw [hmd] at hdl
    rw [← sh.predAt_eq] at hpl
    rw [← sh.succAt_eq] at hdl
    have hslot : i < nextLen s.nodes (predAt s.nodes A i) := by
      rw [sh.nlen, sh.predAt_eq]; exact c.pred_slot hi
    refine ⟨{ s with nodes := setNext s.nodes (predAt s.nodes A i) i (succAt s.nodes B i, false),
                     stats := delStats s.stats (levelOf s.nodes d) i },
      f2, by omega, ?_, ?_, ⟨rfl, rfl, rfl⟩, ?_⟩
    · rw [he, findLoop]
      simp only [hdl, if_true]
      rw [helpDelete_ok hpl]
      simp only [if_true, getNext_setNext_same hslot]
    · have := hinv.down c hi hd
      rwa [← sh.predAt_eq, ← sh.succAt_eq] at this
    · rw [if_pos hd, sh.lvl]
  · -- `d` does not reach this level
    rw [if_neg hd, LL_append] at hpath
    rcases succ_split s.nodes B i with ⟨R, hR⟩
    rcases level_walk (R := R) (by rw [← hR, ← List.append_assoc]; exact hpath)
      hkA (Nat.le_of_succ_le hf) with ⟨f2, hf2, he⟩
    exact ⟨s, f2, Nat.le_succ_of_le hf2, he, hinv.skip hd, Kept.refl s, by rw [if_neg hd]⟩

theorem findLoop_delete {s1 : SL} {mk : Nat → Bool} {A B : List Nat} {d : Nat} (c : Site s1 A d B)
    (hmd : mk d = true) (i : Nat) (s : SL) (f : Nat)
    (hinv : Half s1 mk A d B (i + 1) s.nodes) (hi : i ≤ Gen.maxLevel)
    (hf : (i + 1) * (A.length + 1 + 1) ≤ f) :
    ∃ s' cv, findLoop (.item (ikey s1.nodes d)) f s i (predAt s1.nodes A (i + 1))
          (getNext s.nodes (predAt s1.nodes A (i + 1)) i).1 = (s', cv) ∧
      Half s1 mk A d B 0 s'.nodes ∧ s'.level = s.level ∧ s'.stuck = s.stuck ∧
      s'.buf.preds.length = s.buf.preds.length ∧ s'.buf.succs.length = s.buf.succs.length ∧
      s'.stats = delStats s.stats (levelOf s1.nodes d) 0 := by
  let J : Nat → SL → Prop := fun j t => Half s1 mk A d B j t.nodes ∧ t.level = s.level ∧
    t.stuck = s.stuck ∧ t.stats = if j = 0 then delStats s.stats (levelOf s1.nodes d) 0 else s.stats
  have hstep : ∀ j t g, J (j + 1) t → j ≤ Gen.maxLevel → A.length + 1 ≤ g →
      ∃ t' g', g ≤ g' + (A.length + 1) ∧ J j t' ∧ t'.buf = t.buf ∧
        findLoop (.item (ikey s1.nodes d)) g t j (predAt s1.nodes A (j + 1))
            (getNext t.nodes (predAt s1.nodes A (j + 1)) j).1
          = findLoop (.item (ikey s1.nodes d)) g' t' j (predAt s1.nodes A j) (succAt s1.nodes B j) ∧
        (getNext t'.nodes (succAt s1.nodes B j) j).2 = false ∧
        ¬ compare (keyOf t'.nodes (succAt s1.nodes B j)) (.item (ikey s1.nodes d)) < 0 := by
    rintro j t g ⟨hin, h1, h2, h3⟩ hj hg
    rw [if_neg (Nat.succ_ne_zero j)] at h3
    rcases del_level (f := g) c hmd hin hj hg with ⟨t', g', hg', he, hin', kt, e4⟩
    refine ⟨t', g', hg', ⟨hin', kt.level.trans h1, kt.stuck.trans h2, ?_⟩, kt.buf, he,
      hin'.succ_unmarked c hj, ?_⟩
    · rw [e4, h3]
      by_cases h0 : j = 0
      · rw [if_pos h0, if_pos (h0 ▸ Nat.zero_le _), h0]
      · rw [if_neg h0, delStats, if_neg h0, ite_self]
    · rw [hin'.shape.key]
      exact succ_ge c.base (fun b hb => c.nodes b (List.mem_append_right _ (List.mem_cons_of_mem _ hb)))
        (fun b hb => Int.le_of_lt (c.key_gt b hb)) j
  rcases findLoop_levels (J := J) (fun _ _ _ _ _ h => h) hstep i s f
    ⟨hinv, rfl, rfl, (if_neg (Nat.succ_ne_zero i)).symm⟩ hi hf with ⟨s', he, ⟨h1, h2, h3, h4⟩, hl1, hl2, _, _⟩
  exact ⟨s', _, he, h1, h2, h3, hl1, hl2, h4⟩

/-- `deleteNode(n)` of a node in the list: `softDelete` marks all its link words (`MarkInv`); the marked
    list has the same pointers with the flags changed (`path_reflag`), i.e. is `Half` with `d` linked on
    every level (`Half.full`); the `findPath` for its key unlinks it level by level down to `Half … 0`, which is `Rep`
    for the list without `d`.  The node stays in the heap with all its words marked (`Dead`), which is
    what makes a second `deleteNode` on the same handle fail. -/
theorem deleteNode_live {s : SL} {A B : List Nat} {d : Nat} (hr : Rep s (A ++ d :: B)) :
    ∃ s', deleteNode s d = (s', true) ∧ Rep s' (A ++ B) ∧ Dead s'.nodes d ∧ Ext s s' (A ++ d :: B) ∧
      s'.stats.nodeAllocs = s.stats.nodeAllocs := by
  have hdm : d ∈ A ++ d :: B := by simp
  have hd := hr.nodes d hdm
  rcases softDelete_live (s := s) (d := d) (fun l hl => hr.unmarked hdm hl) (by rw [hd.len]; exact Nat.lt_succ_self _)
    with ⟨s1, hs1, hmark, k1, e4⟩
  have sh1 := hmark.shape
  have hd3 : 3 ≤ d := hd.lo
  have c : Site s1 A d B := hr.static.of_shape sh1 (fun l => by
    rw [hmark.links, if_neg (fun h => absurd (h.1 ▸ hd3) (by decide))]; exact hr.base.tailFlag l) k1.level
  have hhalf := Half.full c (fun _ hn => mkd_ne hn) (Nat.lt_succ_of_le (c.nodes d hdm).lvl) fun l hl => by
    rw [sh1.LL_eq]
    apply path_reflag _ _ (hr.paths l hl)
    intro a ha
    rw [hmark.links]
    by_cases had : a = d
    · subst had
      rw [if_pos ⟨rfl, Nat.zero_le _, ((mem_level hd3).mp ha).2⟩, mkd_self]
    · rw [if_neg (fun h => had h.1), mkd_ne had]
      refine Prod.ext rfl ?_
      rcases List.mem_append.mp ha with h | h
      · exact path_mem_flag _ (hr.paths l hl) a h
      · rw [List.mem_singleton.mp h]; exact hr.base.tailFlag l
  have htop : predAt s1.nodes A (s1.level + 1) = headId :=
    predAt_top (fun a ha => c.nodes a (List.mem_append_left _ ha))
  have hfuel : (s1.level + 1) * (A.length + 1 + 1) ≤ findFuel s1 :=
    le_findFuel (by have := hr.size; rw [List.length_append, List.length_cons] at this; rw [sh1.len]; omega)
  rcases findLoop_delete c (mkd_self d) s1.level s1 (findFuel s1) hhalf c.lvl hfuel
    with ⟨s', cv, he, hinv, f1, f2, f3, f4, f5⟩
  rw [htop] at he
  have hkd : keyOf s.nodes d = .item (ikey s1.nodes d) := by rw [sh1.ikey]; exact hd.key
  have hres : deleteNode s d = (s', true) := by
    unfold deleteNode
    rw [hs1]
    simp only [if_true]
    unfold findPath
    rw [hkd, he]
  have hlvd : levelOf s1.nodes d = levelOf s.nodes d := sh1.lvl d
  have sh := sh1.trans hinv.shape
  refine ⟨s', hres, ?_, ?_, ?_, by rw [f5]; simp [delStats, e4]⟩
  · refine Half.rep_out c hinv f1 ?_ (by have := hr.size; rw [sh1.len]; simp at this ⊢; omega)
      (by rw [f3, k1.buf]; exact hr.bufP) (by rw [f4, k1.buf]; exact hr.bufS) (by rw [f2, k1.stuck]; exact hr.live)
    refine hr.stats.move (t := levelOf s.nodes d) (v := -1) (Nat.le_trans hd.lvl hr.lvl)
      (by rw [f5]; simp [delStats, e4, hlvd]) (by rw [f5]; simp [delStats, e4, hr.stats.soft])
      (by rw [f5]; simp [delStats, e4, hr.stats.frees]) (fun g => ?_)
    rw [sh.cntLevel_eq, cntLevel_mid]
    split <;> omega
  · intro l hl
    rw [hinv.shape.lvl] at hl
    rw [hinv.zlink l hl, mkd_self]
  · refine ⟨Nat.le_of_eq sh.len.symm, fun n _ => sh.key n, fun n _ => sh.lvl n, ?_⟩
    intro n _ hnot hh l
    rw [hinv.frame n (fun hm => (List.mem_cons.mp hm).elim hh (fun e => hnot (List.mem_append_left _ e))),
      hmark.links, if_neg (fun h : n = d ∧ _ => hnot (h.1 ▸ hdm))]

theorem deleteNode_dead {s : SL} {d : Nat} (hd : Dead s.nodes d) : deleteNode s d = (s, false) := by
  unfold deleteNode
  rw [softDelete_dead hd]
  simp

end NitroVerif.SkipSeq
