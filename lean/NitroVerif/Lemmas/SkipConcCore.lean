import NitroVerif.Lemmas.SkipConcReach
/-!
  The LEVEL-0 CORE of M5 (DESIGN Appendix A.3): the heap transitions the full model can make, seen from level 0
  (`HStep`: nothing / an upper-level write / an unlink / a mark / a publish), and the chain invariant in reachability
  form (`ReachInv`: the tail and every node unmarked at level 0 are reachable from the head; H1 + H2 of the design,
  sortedness of the path is `Reach.key`, from H5).  Every core transition keeps it (`HStep.reachInv`); what each does
  to the abstract set, the nodes unmarked at level 0: `HStep.frame`, `HStep.mark_spec`, `HStep.publish_spec`; read as a
  set of items (`absOf`): `UnmSame.abs`, `PublishEff.abs`, `MarkEff.abs`.
-/
namespace NitroVerif.SkipConc

/-- reachability along level-0 successor words (marks ignored) -/
inductive Reach (h : Heap) : Nat → Nat → Prop
  | refl (a : Nat) : Reach h a a
  | step {a b c : Nat} {m : Bool} : word? h a 0 = some (b, m) → Reach h b c → Reach h a c

/-- `Reach` is `ReachL` at `l = 0`; the lemmas below are those of `SkipConcReach` read there -/
theorem reachL_zero_iff {h : Heap} {a b : Nat} : ReachL h 0 a b ↔ Reach h a b := by
  constructor
  · intro r
    induction r with
    | refl => exact .refl _
    | step hw _ ih => exact .step hw ih
  · intro r
    induction r with
    | refl => exact .refl _
    | step hw _ ih => exact .step hw ih

theorem Reach.trans {h : Heap} {a b c : Nat} (r1 : Reach h a b) (r2 : Reach h b c) : Reach h a c :=
  reachL_zero_iff.mp ((reachL_zero_iff.mpr r1).trans (reachL_zero_iff.mpr r2))

theorem Reach.tail_of_ne {h : Heap} {a c : Nat} (r : Reach h a c) (hne : c ≠ a) : Reach h (getNext h a 0).1 c :=
  reachL_zero_iff.mp (reachL_succ (reachL_zero_iff.mpr r) hne.symm)

theorem Reach.single {h : Heap} {a b : Nat} {m : Bool} (hw : word? h a 0 = some (b, m)) : Reach h a b :=
  .step hw (.refl b)

theorem Reach.det {h : Heap} {a b c : Nat} (r1 : Reach h a b) (r2 : Reach h a c) : Reach h b c ∨ Reach h c b :=
  ((reachL_zero_iff.mpr r1).det (reachL_zero_iff.mpr r2)).imp reachL_zero_iff.mp reachL_zero_iff.mp

/-- H1: keys strictly increase along the level-0 path (from H5) -/
theorem Reach.key {h : Heap} (H : HInv h) {a b : Nat} (r : Reach h a b) :
    a = b ∨ Key.lt (keyOf h a) (keyOf h b) := by
  induction r with
  | refl => exact .inl rfl
  | step hw _ ih =>
    have h1 := H.h5 _ _ _ hw
    rcases ih with rfl | h2
    · exact .inr h1
    · exact .inr (Key.lt_trans h1 h2)

def unmarked0 (h : Heap) (n : Nat) : Prop := ∃ p, word? h n 0 = some (p, false)
def marked0 (h : Heap) (n : Nat) : Prop := ∃ p, word? h n 0 = some (p, true)

theorem unmarked0_iff {h : Heap} {n : Nat} : unmarked0 h n ↔ unmarkedAt h 0 n := Iff.rfl

theorem marked0_iff {h : Heap} {n : Nat} : marked0 h n ↔ markedAt h 0 n := Iff.rfl

theorem not_unmarked0_of_marked0 {h : Heap} {n : Nat} (hm : marked0 h n) : ¬ unmarked0 h n := by
  obtain ⟨p, hp⟩ := hm
  rintro ⟨q, hq⟩
  rw [hp] at hq; cases hq

theorem marked0.ext {h h' : Heap} (e : Ext h h') {n : Nat} (m : marked0 h n) : marked0 h' n := by
  obtain ⟨p, hp⟩ := m
  exact ⟨p, e.marked _ _ _ hp⟩

/-- the chain invariant in reachability form -/
def ReachInv (h : Heap) : Prop := Reach h 0 1 ∧ ∀ n, unmarked0 h n → Reach h 0 n

theorem ReachInv.tail {h : Heap} (R : ReachInv h) : Reach h 0 1 := R.1
theorem ReachInv.live {h : Heap} (R : ReachInv h) {n : Nat} (hu : unmarked0 h n) : Reach h 0 n := R.2 n hu

/-- what a segment does to the heap, seen from level 0 -/
inductive Event where
  | none
  /-- a write to a word of a level ≥ 1 -/
  | upper
  /-- level-0 unlink of the marked node `curr` -/
  | unlink (curr : Nat)
  /-- level-0 mark of node `n` -/
  | mark (n : Nat)
  /-- publish of the new node `x` with item `k` -/
  | publish (x k : Nat)
deriving Repr, DecidableEq

/-- the transitions of the level-0 core -/
inductive HStep (h : Heap) : Event → Heap → Prop
  | none : HStep h .none h
  | upper {n l e : Nat} (w : Nat × Bool) : 1 ≤ l → word? h n l = some (e, false) → HStep h .upper (setWord h n l w)
  | unlink {prev curr next : Nat} : word? h prev 0 = some (curr, false) → word? h curr 0 = some (next, true) →
      HStep h (.unlink curr) (setWord h prev 0 (next, false))
  | mark {n e : Nat} : word? h n 0 = some (e, false) → HStep h (.mark n) (setWord h n 0 (e, true))
  | publish {p c : Nat} (k : Nat) (nd : Node) : word? h p 0 = some (c, false) → nd.next[0]? = some (c, false) →
      nd.key = .fin k → Key.lt (keyOf h p) (.fin k) → Key.lt (.fin k) (keyOf h c) →
      HStep h (.publish h.length k) (setWord h p 0 (h.length, false) ++ [nd])

theorem word0_publish (h : Heap) {p c : Nat} {m : Bool} (hw : word? h p 0 = some (c, m)) (nd : Node) (a : Nat) :
    word? (setWord h p 0 (h.length, false) ++ [nd]) a 0 =
      if a = p then some (h.length, false) else if a = h.length then nd.next[0]? else word? h a 0 := by
  have hp := word?_lt hw
  rw [setWord_append h nd hp, word?_setWord_of (by rw [word?_append_lt h nd hp]; exact hw)]
  by_cases ha : a = p
  · rw [if_pos ⟨ha, rfl⟩, if_pos ha]
  · rw [if_neg (fun hc => ha hc.1), if_neg ha]
    by_cases hx : a = h.length
    · rw [if_pos hx, hx, word?_append_new]
    · rw [if_neg hx]
      by_cases hl : a < h.length
      · exact word?_append_lt h nd hl 0
      · rw [word?_ge (by rw [List.length_append, List.length_singleton]; omega), word?_ge (by omega)]

theorem HStep.reach {h h' : Heap} {ev : Event} (s : HStep h ev h') {a n : Nat} (r : Reach h a n)
    (hn : ev ≠ .unlink n) : Reach h' a n := by
  have rl := reachL_zero_iff.mpr r
  refine reachL_zero_iff.mp ?_
  cases s with
  | none => exact rl
  | upper w hl hw => exact (reachL_setWord_level w (Nat.ne_of_lt hl)).mpr rl
  | unlink hp hc => exact unlink_reachL hp hc rl (fun e => hn (by rw [e]))
  | mark hw => exact (reachL_setWord_mark hw).mpr rl
  | publish k nd hw hnd _ _ _ => exact publish_reach0 nd hw hnd rl

theorem HStep.unmarked0_old {h h' : Heap} {ev : Event} (s : HStep h ev h') {n : Nat} (hu : unmarked0 h' n) :
    (unmarked0 h n ∧ ev ≠ .unlink n) ∨ ∃ k, ev = .publish n k := by
  obtain ⟨q, hq⟩ := hu
  cases s with
  | none => exact .inl ⟨⟨q, hq⟩, fun e => by cases e⟩
  | upper w hl hw => rw [word?_setWord_level w (Nat.ne_of_lt hl)] at hq; exact .inl ⟨⟨q, hq⟩, fun e => by cases e⟩
  | @unlink prev curr next hp hc =>
    rw [word?_setWord_same hp] at hq
    by_cases hnp : n = prev
    · subst hnp; exact .inl ⟨⟨_, hp⟩, fun e => by cases e; rw [hp] at hc; cases hc⟩
    · rw [if_neg hnp] at hq; exact .inl ⟨⟨q, hq⟩, fun e => by cases e; rw [hc] at hq; cases hq⟩
  | @mark n' e hw =>
    rw [word?_setWord_same hw] at hq
    by_cases hn : n = n'
    · rw [if_pos hn] at hq; cases hq
    · rw [if_neg hn] at hq; exact .inl ⟨⟨q, hq⟩, fun e => by cases e⟩
  | @publish p c k nd hw hnd hk hk1 hk2 =>
    rw [word0_publish h hw] at hq
    by_cases hnp : n = p
    · subst hnp; exact .inl ⟨⟨_, hw⟩, fun e => by cases e⟩
    · rw [if_neg hnp] at hq
      by_cases hnx : n = h.length
      · subst hnx; exact .inr ⟨k, rfl⟩
      · rw [if_neg hnx] at hq; exact .inl ⟨⟨q, hq⟩, fun e => by cases e⟩

theorem HStep.reach_keep {h h' : Heap} {ev : Event} (s : HStep h ev h') {a n : Nat}
    (r : Reach h a n) (hu : unmarked0 h' n) : Reach h' a n := by
  rcases s.unmarked0_old hu with ⟨_, hne⟩ | ⟨k, rfl⟩
  · exact s.reach r hne
  · exact s.reach r (fun e => by cases e)

theorem HStep.reachInv {h h' : Heap} {ev : Event} (H : HInv h) (R : ReachInv h) (s : HStep h ev h') :
    ReachInv h' := by
  refine ⟨s.reach R.1 ?_, fun n hn => ?_⟩
  · -- the tail has no word, so it is not the node being unlinked
    intro e; subst e; cases s with
    | unlink _ hc => rw [H.tailNoWord] at hc; cases hc
  · rcases s.unmarked0_old hn with ⟨ho, hne⟩ | ⟨k, rfl⟩
    · exact s.reach (R.2 n ho) hne
    · cases s with
      | publish k nd hw hnd hk hk1 hk2 =>
        exact ((HStep.publish k nd hw hnd hk hk1 hk2).reach (R.2 _ ⟨_, hw⟩) (fun e => by cases e)).trans
          (.single (m := false) (by rw [word0_publish h hw, if_pos rfl]))

theorem Reach.not_lt {h : Heap} (H : HInv h) {c a : Nat} (r : Reach h c a) : ¬ Key.lt (keyOf h a) (keyOf h c) := by
  rcases r.key H with e | l
  · rw [← e]; exact Key.lt_irrefl _
  · exact Key.lt_asymm l

/-- of two live nodes the one whose key is not the larger reaches the other (both lie on the path from the head) -/
theorem ReachInv.reach_of_le {h : Heap} (H : HInv h) (R : ReachInv h) {a b : Nat} (ha : unmarked0 h a)
    (hb : unmarked0 h b) (hk : ¬ Key.lt (keyOf h b) (keyOf h a)) : Reach h a b := by
  rcases (R.live ha).det (R.live hb) with r | r
  · exact r
  · rcases r.key H with e | l
    · rw [e]; exact .refl _
    · exact absurd l hk

theorem live_key_inj {h : Heap} (H : HInv h) (R : ReachInv h) {a b : Nat} (ha : unmarked0 h a) (hb : unmarked0 h b)
    (hk : keyOf h a = keyOf h b) : a = b := by
  rcases (R.reach_of_le H ha hb (by rw [hk]; exact Key.lt_irrefl _)).key H with e | l
  · exact e
  · rw [hk] at l; exact absurd l (Key.lt_irrefl _)

/-- H6: the gap between an unmarked node and its level-0 successor holds no live node:
    this is why a successful publish CAS adds a key that was ABSENT -/
theorem gap_empty {h : Heap} (H : HInv h) (R : ReachInv h) {p c : Nat} (hw : word? h p 0 = some (c, false))
    {n : Nat} (hn : unmarked0 h n) (h1 : Key.lt (keyOf h p) (keyOf h n)) (h2 : Key.lt (keyOf h n) (keyOf h c)) :
    False := by
  have r := (R.reach_of_le H ⟨_, hw⟩ hn (Key.lt_asymm h1)).tail_of_ne (fun e => Key.lt_irrefl _ (e ▸ h1))
  rw [getNext_of_word hw] at r
  exact r.not_lt H h2

theorem reach_first {h : Heap} (H : HInv h) : Reach h 0 (getNext h headId 0).1 := by
  obtain ⟨⟨p, m⟩, hw⟩ := Option.isSome_iff_exists.mp (H.word0 0 (by have := H.len; omega) (by omega))
  show Reach h 0 (getNext h 0 0).1
  rw [getNext_of_word hw]
  exact .single hw

/-- `hlv` is what a reader of a level-`i` word knows about the node it got (the tail has no words); `hc1` excludes the
    tail -/
theorem unmarked0_of_level {h : Heap} (H : HInv h) {c i : Nat} (hc1 : c ≠ 1)
    (hlv : c = 1 ∨ (word? h c i).isSome) (hm : (getNext h c i).2 = false) : unmarked0 h c :=
  unmarkedAt_down H (unmarkedAt_of_read hlv hc1 hm) (Nat.zero_le i)

/-- the level-0 marks are where they were -/
def UnmSame (h h' : Heap) : Prop := h'.length = h.length ∧ ∀ m, unmarked0 h' m ↔ unmarked0 h m

/-- a successful publish of item `k`: the new node `h.length` joins, `k` was carried by no live node -/
def PublishEff (h h' : Heap) (k : Nat) : Prop :=
  h'.length = h.length + 1 ∧ keyOf h' h.length = .fin k ∧ unmarked0 h' h.length ∧
  (∀ m, m ≠ h.length → (unmarked0 h' m ↔ unmarked0 h m)) ∧ (∀ m, unmarked0 h m → keyOf h m ≠ .fin k)

/-- a successful level-0 mark of node `nd` -/
def MarkEff (h h' : Heap) (nd : Nat) : Prop :=
  h'.length = h.length ∧ unmarked0 h nd ∧ marked0 h' nd ∧ ∀ m, m ≠ nd → (unmarked0 h' m ↔ unmarked0 h m)

section
variable {h h' : Heap} {k nd : Nat}
theorem UnmSame.len (u : UnmSame h h') : h'.length = h.length := u.1
theorem UnmSame.iff (u : UnmSame h h') (m : Nat) : unmarked0 h' m ↔ unmarked0 h m := u.2 m
theorem PublishEff.len (u : PublishEff h h' k) : h'.length = h.length + 1 := u.1
theorem PublishEff.others (u : PublishEff h h' k) {m : Nat} (hm : m ≠ h.length) : unmarked0 h' m ↔ unmarked0 h m :=
  u.2.2.2.1 m hm
theorem MarkEff.was (u : MarkEff h h' nd) : unmarked0 h nd := u.2.1
theorem MarkEff.now (u : MarkEff h h' nd) : marked0 h' nd := u.2.2.1
theorem MarkEff.others (u : MarkEff h h' nd) {m : Nat} (hm : m ≠ nd) : unmarked0 h' m ↔ unmarked0 h m :=
  u.2.2.2 m hm
end

theorem HStep.frame {h h' : Heap} {ev : Event} (s : HStep h ev h')
    (hev : ev = .none ∨ ev = .upper ∨ ∃ c, ev = .unlink c) :
    UnmSame h h' := by
  cases s with
  | none => exact ⟨rfl, fun _ => Iff.rfl⟩
  | upper w hl hw =>
    refine ⟨length_setWord .., fun n => ?_⟩
    simp only [unmarked0, word?_setWord_level w (Nat.ne_of_lt hl)]
  | @unlink prev curr next hp hc =>
    refine ⟨length_setWord .., fun n => ?_⟩
    simp only [unmarked0, word?_setWord_same hp]
    by_cases hn : n = prev
    · subst hn; simp [hp]
    · simp [hn]
  | mark hw => simp at hev
  | publish k nd hw => simp at hev

theorem HStep.mark_spec {h h' : Heap} {n : Nat} (s : HStep h (.mark n) h') :
    MarkEff h h' n := by
  cases s with
  | @mark _ e hw =>
    refine ⟨length_setWord .., ⟨e, hw⟩, ⟨e, by rw [word?_setWord_same hw]; simp⟩, fun m hm => ?_⟩
    simp only [unmarked0, word?_setWord_same hw, if_neg hm]

theorem HStep.publish_spec {h h' : Heap} {x k : Nat} (H : HInv h) (R : ReachInv h) (s : HStep h (.publish x k) h') :
    x = h.length ∧ PublishEff h h' k := by
  cases s with
  | @publish p c _ nd hw hnd hk hk1 hk2 =>
    have hp := word?_lt hw
    refine ⟨rfl, by simp [length_setWord], ?_, ?_, ?_, ?_⟩
    · have := keyOf_append_new (setWord h p 0 (h.length, false)) nd
      rw [length_setWord] at this
      rw [this, hk]
    · exact ⟨c, by rw [word0_publish h hw, if_neg (by omega), if_pos rfl]; exact hnd⟩
    · intro n hn
      simp only [unmarked0, word0_publish h hw, if_neg hn]
      by_cases hnp : n = p
      · subst hnp; simp [hw]
      · simp [hnp]
    · intro n hn hkn
      exact gap_empty H R hw hn (by rw [hkn]; exact hk1) (by rw [hkn]; exact hk2)

/-- item `k` is in the abstract set of `h`: a node that is unmarked at level 0 carries it -/
def absOf (h : Heap) (k : Nat) : Prop := ∃ n, unmarked0 h n ∧ keyOf h n = .fin k

theorem marked0_lt {h : Heap} {m : Nat} (hu : marked0 h m) : m < h.length := by
  obtain ⟨p, hp⟩ := hu; exact word?_lt hp

theorem marked0_of_not_unmarked0 {h : Heap} (H : HInv h) {m : Nat} (hm : m < h.length) (h1 : m ≠ 1)
    (hu : ¬ unmarked0 h m) : marked0 h m := by
  obtain ⟨⟨q, b⟩, hq⟩ := Option.isSome_iff_exists.mp (H.word0 m hm h1)
  cases b with
  | false => exact absurd ⟨q, hq⟩ hu
  | true => exact ⟨q, hq⟩

theorem UnmSame.refl (h : Heap) : UnmSame h h := ⟨rfl, fun _ => Iff.rfl⟩

theorem UnmSame.upper {h : Heap} {n l e : Nat} (w : Nat × Bool) (hl : 1 ≤ l) (hw : word? h n l = some (e, false)) :
    UnmSame h (setWord h n l w) :=
  (HStep.upper w hl hw).frame (.inr (.inl rfl))

theorem UnmSame.unlink {h : Heap} {prev curr next i : Nat} (hp : word? h prev i = some (curr, false))
    (hw : word? h curr i = some (next, true)) : UnmSame h (setWord h prev i (next, false)) := by
  cases i with
  | zero => exact (HStep.unlink hp hw).frame (.inr (.inr ⟨_, rfl⟩))
  | succ i => exact .upper _ (Nat.succ_pos i) hp

theorem UnmSame.abs {h h' : Heap} (e : Ext h h') (u : UnmSame h h') (k : Nat) : absOf h' k ↔ absOf h k := by
  constructor
  · rintro ⟨m, hm, hk⟩
    have hu := (u.iff m).mp hm
    exact ⟨m, hu, by rw [← e.key m (unmarkedAt_lt hu)]; exact hk⟩
  · rintro ⟨m, hm, hk⟩
    exact ⟨m, (u.iff m).mpr hm, by rw [e.key m (unmarkedAt_lt hm)]; exact hk⟩

theorem PublishEff.abs {h h' : Heap} {k : Nat} (e : Ext h h') (u : PublishEff h h' k) :
    ¬ absOf h k ∧ ∀ k', absOf h' k' ↔ (absOf h k' ∨ k' = k) := by
  obtain ⟨_, hkey, hnew, hoth, habs⟩ := u
  refine ⟨fun ⟨m, hm, hk⟩ => habs m hm hk, fun k' => ⟨?_, ?_⟩⟩
  · rintro ⟨m, hm, hk⟩
    by_cases hml : m = h.length
    · subst hml; rw [hkey] at hk; simp at hk; exact .inr hk.symm
    · have hu := (hoth m hml).mp hm
      exact .inl ⟨m, hu, by rw [← e.key m (unmarkedAt_lt hu)]; exact hk⟩
  · rintro (⟨m, hm, hk⟩ | rfl)
    · have hml : m ≠ h.length := Nat.ne_of_lt (unmarkedAt_lt hm)
      exact ⟨m, (hoth m hml).mpr hm, by rw [e.key m (unmarkedAt_lt hm)]; exact hk⟩
    · exact ⟨h.length, hnew, hkey⟩

theorem MarkEff.abs {h h' : Heap} {nd k : Nat} (H : HInv h) (R : ReachInv h) (e : Ext h h') (u : MarkEff h h' nd)
    (hk : keyOf h nd = .fin k) : absOf h k ∧ ∀ k', absOf h' k' ↔ (absOf h k' ∧ k' ≠ k) := by
  obtain ⟨_, hun, hma, hoth⟩ := u
  refine ⟨⟨nd, hun, hk⟩, fun k' => ⟨?_, ?_⟩⟩
  · rintro ⟨m, hm, hkm⟩
    have hmn : m ≠ nd := by
      intro e'; subst e'; exact not_unmarked0_of_marked0 hma hm
    have hu := (hoth m hmn).mp hm
    have hkm' : keyOf h m = .fin k' := by rw [← e.key m (unmarkedAt_lt hu)]; exact hkm
    refine ⟨⟨m, hu, hkm'⟩, ?_⟩
    intro e'; subst e'
    exact hmn (live_key_inj H R hu hun (by rw [hkm', hk]))
  · rintro ⟨⟨m, hm, hkm⟩, hne⟩
    have hmn : m ≠ nd := by
      intro e'; subst e'; rw [hk] at hkm; simp at hkm; exact hne hkm.symm
    exact ⟨m, (hoth m hmn).mpr hm, by rw [e.key m (unmarkedAt_lt hm)]; exact hkm⟩

end NitroVerif.SkipConc
