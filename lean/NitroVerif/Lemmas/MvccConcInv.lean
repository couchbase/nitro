/-
  The state invariant of the small-step M6 model (`Model/MvccConc.lean`).  Every part is stated on
  the components of the state it talks about, so that a step which leaves those components alone
  preserves it trivially.
  * `StoreInv`  V1, V2 of the sequential model on the projected store and the item count; node ids unique, below
                the allocation frontier and not a parked Put's; the ids of unlinked nodes are never linked again nor
                a parked Put's; snapshot numbers increase, below the epoch; a snapshot that is not live has no
                reference
  * `PcInv`     what a parked thread knows about the node it holds (key, epoch; at DEL_NODE_CAS: an unlinked
                node of that id carries a death mark), the collector flag
  * `GarbInv`   every node named by a garbage list (of a writer, of a snapshot not yet collected, of a
                collection job's remaining work) is named once, is linked and carries a death mark
  * `OwnInv`    every live block belongs to exactly one owner: the store, a parked Put (item only),
                a Delete2 between unlink and flush, a collection job before its flush, a session not
                yet destructed, a free job before it frees — and every block that is not live and was
                handed out has been freed exactly once; nothing was ever freed wrongly (`bad = []`)
  * `TokInv`    barrier tokens: who holds what and, conversely (`conv`), every listed holder is a real one, listed
                once; destructed sessions hold nothing, `cleanup` is at its fixpoint
  * `ProtInv`   safe memory reclamation: a node a token holder can still reach is linked, or on its
                way to a session, or attached to a session that is not older than the holder's —
                `0 < protC`, the part of the owner count that a token protects
-/
import NitroVerif.Lemmas.MvccConcStore

namespace NitroVerif.MvccConc
open NitroVerif.Mvcc (Sorted Chains isAlive)

def pcOwn : Pc → List Nat
  | .putInsert n _ _ _ => [n]
  | .delFlush n _ _ => [n]
  | _ => []

def gcOwn (j : GcJob) : List Nat :=
  match j.pc with
  | .recv | .node | .flush => j.done
  | _ => []

def frOwn (j : FrJob) : List Nat :=
  match j.pc with
  | .recv => j.list
  | _ => []

def thrOwned (threads : List Pc) : List Nat := threads.flatMap pcOwn
def gcOwned (gcJobs : List GcJob) : List Nat := gcJobs.flatMap gcOwn
def sessOwned (sess : List Sess) (freeSeq : Nat) : List Nat := (sess.drop freeSeq).flatMap (·.list)
def frOwned (frJobs : List FrJob) : List Nat := frJobs.flatMap frOwn

/-- nodes attached to undestructed sessions or queued for a free job (`cleanup` moves lists from the first
    to the second) -/
def sessfr (sess : List Sess) (freeSeq : Nat) (frJobs : List FrJob) (n : Nat) : Nat :=
  (sessOwned sess freeSeq).count n + (frOwned frJobs).count n

/-- how many owners node `n` has -/
def ownC (store : List Node) (threads : List Pc) (gcJobs : List GcJob) (sess : List Sess) (freeSeq : Nat)
    (frJobs : List FrJob) (n : Nat) : Nat :=
  (storeIds store).count n + (thrOwned threads).count n + (gcOwned gcJobs).count n + sessfr sess freeSeq frJobs n

def own (σ : State) (n : Nat) : Nat := ownC σ.store σ.threads σ.gcJobs σ.sess σ.freeSeq σ.frJobs n

/-- a Put is parked with item `n` allocated and the node not yet -/
def reserved (threads : List Pc) (n : Nat) : Prop := ∃ k v b, Pc.putInsert n k v b ∈ threads

def snapGarb (s : Snap) : List Nat := if s.st = .collected then [] else s.gclist

def garbW (writers : List Writer) : List Nat := writers.flatMap (·.gc)
def garbS (snaps : List Snap) : List Nat := snaps.flatMap snapGarb
def garbJ (gcJobs : List GcJob) : List Nat := gcJobs.flatMap (·.todo)

def garbC (writers : List Writer) (snaps : List Snap) (gcJobs : List GcJob) (n : Nat) : Nat :=
  (garbW writers).count n + (garbS snaps).count n + (garbJ gcJobs).count n

def garb (σ : State) (n : Nat) : Nat := garbC σ.writers σ.snaps σ.gcJobs n

structure StoreInv (store unlinked : List Node) (cur : Nat) (items : Int) (writers : List Writer)
    (snaps : List Snap) (threads : List Pc) (nextId : Nat) : Prop where
  sorted : Sorted (vers store)
  chains : Chains cur (vers store)
  cnt : items + (writers.map (·.count)).sum = (((vers store).filter isAlive).length : Nat)
  cur_pos : 0 < cur
  ids : (storeIds store).Nodup
  unl : ∀ x ∈ unlinked, x.id ∉ storeIds store ∧ x.id < nextId ∧ ¬ reserved threads x.id
  id_lt : ∀ x ∈ store, x.id < nextId ∧ ¬ reserved threads x.id
  snaps_inc : snaps.Pairwise (fun a b => a.sn < b.sn)
  snaps_lt : ∀ s ∈ snaps, s.sn < cur
  rc_dead : ∀ s ∈ snaps, s.st ≠ .live → s.rc ≤ 0

/-- what the entry `pc` of thread `t` knows about the node it stands on, and the collector about its snapshot.
    `n < nextId ∧ ¬ reserved threads n` follows from the other parts of `Inv` and is carried here so that
    `PcAt.mono` can tell the node a parked Put is about to link from the ones deletes stand on. -/
def PcAt (nw cur : Nat) (store unl : List Node) (nextId : Nat) (gcFlag : Bool) (snaps : List Snap)
    (threads : List Pc) (t : Nat) : Pc → Prop
  | .putInsert _ _ _ b => t < nw ∧ b = cur
  | .delPhys n _ k => t < nw ∧ n < nextId ∧ ¬ reserved threads n ∧
      ∀ x ∈ store, x.id = n → x.ver.key = k ∧ x.ver.born = cur
  | .delCas n _ k => t < nw ∧ n < nextId ∧ ¬ reserved threads n ∧
      (∀ x ∈ store, x.id = n → x.ver.key = k ∧ x.ver.born < cur) ∧ (∀ x ∈ unl, x.id = n → x.ver.dead ≠ 0)
  | .collectSend sn _ => gcFlag = true ∧ ∃ x ∈ snaps, x.sn = sn ∧ x.st = .retired
  | _ => True

structure PcInv (threads : List Pc) (nw : Nat) (cur : Nat) (store unlinked : List Node) (nextId : Nat)
    (gcFlag : Bool) (snaps : List Snap) : Prop where
  «at» : ∀ {t : Nat} {pc : Pc}, threads[t]? = some pc → PcAt nw cur store unlinked nextId gcFlag snaps threads t pc
  excl : ∀ (t1 t2 s1 : Nat) (a1 : Option Nat) (s2 : Nat) (a2 : Option Nat),
           threads[t1]? = some (Pc.collectSend s1 a1) → threads[t2]? = some (Pc.collectSend s2 a2) → t1 = t2

structure GarbInv (writers : List Writer) (snaps : List Snap) (gcJobs : List GcJob) (store : List Node)
    (cur : Nat) : Prop where
  le : ∀ n, garbC writers snaps gcJobs n ≤ 1
  linked : ∀ n, 0 < garbC writers snaps gcJobs n →
             ∃ x ∈ store, x.id = n ∧ x.ver.dead ≠ 0 ∧ x.ver.born < cur
  jobs : ∀ j ∈ gcJobs, (j.pc = .flush ∨ j.pc = .done ∨ j.pc = .finished) → j.todo = []

/-- the books of node id `n`, which has `c` owners and is (`r`) or is not reserved by a parked Put: fresh,
    reserved, owned or dead -/
structure NodeOK (N : Nat) (A F : List Blk) (n c : Nat) (r : Prop) : Prop where
  le : c ≤ 1
  lt : 0 < c → n < N
  res : r → 0 < c
  a_item : Blk.item n ∈ A ↔ n < N
  a_node : Blk.node n ∈ A ↔ n < N ∧ ¬ r
  f_item : Blk.item n ∈ F ↔ n < N ∧ c = 0
  f_node : Blk.node n ∈ F ↔ n < N ∧ c = 0

/-- the allocator's books as a function of the owner count `c` and of `r` ("a Put is parked on this id") -/
structure OwnBooks (c : Nat → Nat) (r : Nat → Prop) (N : Nat) (A F : List Blk) : Prop where
  node : ∀ n, NodeOK N A F n (c n) (r n)
  sent : Blk.head ∈ A ∧ Blk.tail ∈ A ∧ Blk.head ∉ F ∧ Blk.tail ∉ F
  a_nodup : A.Nodup
  f_nodup : F.Nodup

theorem OwnBooks.congr {c c' : Nat → Nat} {r r' : Nat → Prop} {N : Nat} {A F : List Blk} (h : OwnBooks c r N A F)
    (hc : ∀ n, c' n = c n) (hr : ∀ n, r' n ↔ r n) : OwnBooks c' r' N A F := by
  have e1 : c' = c := funext hc
  have e2 : r' = r := funext fun n => propext (hr n)
  rw [e1, e2]; exact h

structure OwnInv (store : List Node) (threads : List Pc) (gcJobs : List GcJob) (sess : List Sess)
    (freeSeq : Nat) (frJobs : List FrJob) (nextId : Nat) (allocd freed bad : List Blk) : Prop
    extends OwnBooks (ownC store threads gcJobs sess freeSeq frJobs) (reserved threads) nextId allocd freed where
  bad : bad = []

/-- the session of the token a parked `Delete2` holds -/
def Pc.tok : Pc → Option Nat
  | .delPhys _ tok _ => some tok
  | .delFlush _ tok _ => some tok
  | .delCas _ tok _ => some tok
  | _ => none

/-- holder `h` really holds a token of session `i` -/
def claims (threads : List Pc) (iters : List ((Nat × Nat) × Iter)) (i : Nat) : Holder → Prop
  | .thr t => ∃ pc, threads[t]? = some pc ∧ pc.tok = some i
  | .it t j => ∃ it, ((t, j), it) ∈ iters ∧ it.tok = i

/-- the token invariant before `cleanup` has run -/
structure TokPre (threads : List Pc) (sess : List Sess) (iters : List ((Nat × Nat) × Iter)) (freeSeq : Nat) :
    Prop where
  thr : ∀ (t : Nat) (pc : Pc) (tok : Nat), threads[t]? = some pc → pc.tok = some tok →
          ∃ s : Sess, sess[tok]? = some s ∧ Holder.thr t ∈ s.holders
  it : ∀ (t j : Nat) (it : Iter), ((t, j), it) ∈ iters →
          ∃ s : Sess, sess[it.tok]? = some s ∧ Holder.it t j ∈ s.holders
  keys : iters.Pairwise (fun a b => a.1 ≠ b.1)
  destr : ∀ (i : Nat) (s : Sess), i < freeSeq → sess[i]? = some s → s.holders = []
  lt : freeSeq < sess.length
  flushed : ∀ (i : Nat) (s : Sess), sess[i]? = some s → (s.flushed = true ↔ i + 1 < sess.length)
  nolist : ∀ (i : Nat) (s : Sess), sess[i]? = some s → s.flushed = false → s.list = []
  conv : ∀ (i : Nat) (s : Sess), sess[i]? = some s → s.holders.Nodup ∧ ∀ h ∈ s.holders, claims threads iters i h

structure TokInv (threads : List Pc) (sess : List Sess) (iters : List ((Nat × Nat) × Iter)) (freeSeq : Nat) :
    Prop extends TokPre threads sess iters freeSeq where
  fix : ∀ (s : Sess), sess[freeSeq]? = some s → s.terminated = false

def putOwn : Pc → List Nat
  | .putInsert n _ _ _ => [n]
  | _ => []

def flushOwn : Pc → List Nat
  | .delFlush n _ _ => [n]
  | _ => []

def putOwned (threads : List Pc) : List Nat := threads.flatMap putOwn
def flushOwned (threads : List Pc) : List Nat := threads.flatMap flushOwn

/-- the protected part of the owner count `ownC`: the store, the `Delete2`s parked before their flush, the
    collection jobs, the sessions from `tok` on -/
def protC (store : List Node) (threads : List Pc) (gcJobs : List GcJob) (sess : List Sess) (tok n : Nat) : Nat :=
  (storeIds store).count n + (flushOwned threads).count n + (gcOwned gcJobs).count n + (sessOwned sess tok).count n

/-- node `n` cannot have been handed to a free job as long as a token of session `tok` is out -/
def Prot (threads : List Pc) (store : List Node) (gcJobs : List GcJob) (sess : List Sess) (n tok : Nat) : Prop :=
  0 < protC store threads gcJobs sess tok n

/-- the node a parked `Delete2` stands on, with its token -/
def Pc.ref : Pc → Option (Nat × Nat)
  | .delPhys n tok _ => some (n, tok)
  | .delCas n tok _ => some (n, tok)
  | _ => none

theorem Pc.tok_of_ref {pc : Pc} {n tok : Nat} (h : pc.ref = some (n, tok)) : pc.tok = some tok := by
  cases pc <;> cases h <;> rfl

structure ProtInv (threads : List Pc) (store : List Node) (gcJobs : List GcJob) (sess : List Sess)
    (iters : List ((Nat × Nat) × Iter)) : Prop where
  thr : ∀ (t : Nat) (pc : Pc) (n tok : Nat), threads[t]? = some pc → pc.ref = some (n, tok) →
          Prot threads store gcJobs sess n tok
  it : ∀ (key : Nat × Nat) (it : Iter) (c : Cur), (key, it) ∈ iters → it.cur = some c →
         Prot threads store gcJobs sess c.id it.tok

structure Inv (σ : State) : Prop where
  store : StoreInv σ.store σ.unlinked σ.currSn σ.itemsCount σ.writers σ.snaps σ.threads σ.nextId
  pc : PcInv σ.threads σ.writers.length σ.currSn σ.store σ.unlinked σ.nextId σ.gcFlag σ.snaps
  garb : GarbInv σ.writers σ.snaps σ.gcJobs σ.store σ.currSn
  own : OwnInv σ.store σ.threads σ.gcJobs σ.sess σ.freeSeq σ.frJobs σ.nextId σ.allocd σ.freed σ.bad
  tok : TokInv σ.threads σ.sess σ.iters σ.freeSeq
  prot : ProtInv σ.threads σ.store σ.gcJobs σ.sess σ.iters

/-- as a conjunction, so that `simp only [mvcc_fields]` rewrites the fields inside the six parts -/
theorem inv_iff {σ : State} : Inv σ ↔
    StoreInv σ.store σ.unlinked σ.currSn σ.itemsCount σ.writers σ.snaps σ.threads σ.nextId ∧
    PcInv σ.threads σ.writers.length σ.currSn σ.store σ.unlinked σ.nextId σ.gcFlag σ.snaps ∧
    GarbInv σ.writers σ.snaps σ.gcJobs σ.store σ.currSn ∧
    OwnInv σ.store σ.threads σ.gcJobs σ.sess σ.freeSeq σ.frJobs σ.nextId σ.allocd σ.freed σ.bad ∧
    TokInv σ.threads σ.sess σ.iters σ.freeSeq ∧
    ProtInv σ.threads σ.store σ.gcJobs σ.sess σ.iters :=
  ⟨fun h => ⟨h.store, h.pc, h.garb, h.own, h.tok, h.prot⟩, fun ⟨a, b, c, d, e, f⟩ => ⟨a, b, c, d, e, f⟩⟩

end NitroVerif.MvccConc
