/-!
  Facts about `List` alone (no notion of a model; imports nothing) that core does not state in this form. In this order:
  positions, the last element and quantifiers over the members; one entry replaced, by `set` (read by position, by
  `getD`, through `count`), then by `modify` (as a `set`, read by position, at the end of a list, under `flatMap`); one
  entry taken out (`eraseIdx`); sums of a weight (`(l.map f).sum`); `takeWhile`, `filter`, `countP`; lists that a relation
  makes pairwise distinct or sorts (with `Nodup` and a member counted once); prefixes and `mapIdx`.
-/
namespace NitroVerif

variable {α β : Type}


/-! ### positions, the last element, quantifiers over the members -/

theorem lt_length_of_getElem? {l : List α} {i : Nat} {x : α} (h : l[i]? = some x) : i < l.length :=
  (List.getElem?_eq_some_iff.mp h).1

theorem exists_getElem_ne {l₁ l₂ : List α} (hlen : l₁.length = l₂.length) (hne : l₁ ≠ l₂) :
    ∃ i, ∃ (h1 : i < l₁.length) (h2 : i < l₂.length), l₁[i] ≠ l₂[i] := by
  apply Classical.byContradiction
  intro hno
  apply hne
  apply List.ext_getElem hlen
  intro i h1 h2
  apply Classical.byContradiction
  intro hd
  exact hno ⟨i, h1, h2, hd⟩

theorem range_map_getElem? (cs : List α) :
    (List.range cs.length).map (fun i => cs[i]?) = cs.map some := by
  apply List.ext_getElem?
  intro i
  by_cases hi : i < cs.length
  · simp [hi]
  · simp [hi]

theorem exists_not_of_not_forall {p : α → Prop} {l : List α} (h : ¬ ∀ x ∈ l, p x) : ∃ x ∈ l, ¬ p x :=
  Classical.byContradiction fun hno => h fun x hx =>
    Classical.byContradiction fun hp => hno ⟨x, hx, hp⟩

theorem forall_mem_snoc {p : α → Prop} {l : List α} {a : α} (h1 : ∀ x ∈ l, p x) (h2 : p a) :
    ∀ x ∈ l ++ [a], p x :=
  List.forall_mem_append.mpr ⟨h1, List.forall_mem_singleton.mpr h2⟩

theorem mem_append_cons_iff {a x : α} {A B : List α} :
    a ∈ A ++ x :: B ↔ a = x ∨ a ∈ A ++ B := by
  simp only [List.mem_append, List.mem_cons, or_left_comm]

theorem getLast?_cons_getD (a x : α) (P : List α) :
    ((a :: P).getLast?).getD x = (P.getLast?).getD a := by
  rw [List.getLast?_cons, Option.getD_some]

theorem dropLast_append_getLast (l : List α) (c : α) (h : l.getLast? = some c) : l.dropLast ++ [c] = l := by
  obtain ⟨ys, rfl⟩ := List.getLast?_eq_some_iff.mp h
  rw [List.dropLast_concat]

theorem getLast?_drop_of_lt : ∀ (l : List α) (k : Nat), k < l.length → (l.drop k).getLast? = l.getLast? :=
  fun _ _ h => by rw [List.getLast?_drop, if_neg (Nat.not_le.mpr h)]

/-! ### one entry replaced -/

/-- the list cut at an entry, and the same cut after that entry is replaced: every fact about sums, counts and
    `flatMap`s after `set` is `List.sum_append`, `List.count_append`, … on the two sides -/
theorem set_split {l : List α} {i : Nat} {a : α} (h : l[i]? = some a) :
    l = l.take i ++ a :: l.drop (i + 1) ∧ ∀ b, l.set i b = l.take i ++ b :: l.drop (i + 1) := by
  obtain ⟨hi, rfl⟩ := List.getElem?_eq_some_iff.mp h
  exact ⟨by rw [List.getElem_cons_drop, List.take_append_drop],
    fun b => by rw [List.set_eq_take_append_cons_drop, if_pos hi]⟩

/-- an entry read after `set` is the new one at the position, an old one elsewhere -/
theorem getElem?_set_cases {l : List α} {i j : Nat} {a b : α} (h : (l.set i a)[j]? = some b) :
    (i = j ∧ b = a) ∨ (i ≠ j ∧ l[j]? = some b) := by
  by_cases e : i = j
  · subst e
    rw [List.getElem?_set_self (by rw [← List.length_set (a := a)]; exact lt_length_of_getElem? h)] at h
    exact Or.inl ⟨rfl, (Option.some.inj h).symm⟩
  · rw [List.getElem?_set_ne e] at h
    exact Or.inr ⟨e, h⟩

theorem getElem?_set_same {l : List α} {t : Nat} {a b : α} (h : l[t]? = some a) : (l.set t b)[t]? = some b :=
  List.getElem?_set_self (lt_length_of_getElem? h)

theorem getD_set (l : List α) (i j : Nat) (v d : α) :
    (l.set i v).getD j d = if i = j ∧ i < l.length then v else l.getD j d := by
  rw [List.getD_eq_getElem?_getD, List.getD_eq_getElem?_getD, List.getElem?_set]
  by_cases h : i = j
  · subst h
    by_cases h2 : i < l.length
    · rw [if_pos rfl, if_pos h2, if_pos ⟨rfl, h2⟩]; rfl
    · rw [if_pos rfl, if_neg h2, if_neg (fun c => h2 c.2), List.getElem?_eq_none (Nat.le_of_not_lt h2)]
  · rw [if_neg h, if_neg (fun c => h c.1)]

theorem getD_set_same {l : List α} {i : Nat} {v d : α} (hi : i < l.length) : (l.set i v).getD i d = v := by
  rw [getD_set, if_pos ⟨rfl, hi⟩]

theorem getD_set_ne {l : List α} {i j : Nat} {v d : α} (hij : i ≠ j) : (l.set i v).getD j d = l.getD j d := by
  rw [getD_set, if_neg (fun h => hij h.1)]

theorem getD_set_lt {l : List α} {i : Nat} (hi : i < l.length) (v d : α) (j : Nat) :
    (l.set i v).getD j d = if i = j then v else l.getD j d := by
  rw [getD_set]
  by_cases hij : i = j
  · rw [if_pos ⟨hij, hi⟩, if_pos hij]
  · rw [if_neg (fun h => hij h.1), if_neg hij]

theorem getD_set_self (l : List α) (i : Nat) (d : α) (hi : i < l.length) :
    l.set i (l.getD i d) = l := by
  rw [List.getD_eq_getElem?_getD, List.getElem?_eq_getElem hi]
  exact List.set_getElem_self hi

theorem getD_set_lt_bound {l : List Nat} {i v n : Nat} (hv : v < n) (hl : ∀ j, l.getD j 0 < n) (j : Nat) :
    (l.set i v).getD j 0 < n := by
  rw [getD_set]; split
  · exact hv
  · exact hl j

theorem count_set_of [DecidableEq α] {l : List α} {w : Nat} {x y z : α} (h : l[w]? = some y) :
    (l.set w x).count z = (l.count z - if y = z then 1 else 0) + if x = z then 1 else 0 := by
  have hw := lt_length_of_getElem? h
  rw [List.count_set hw]
  have : l[w] = y := by
    rw [List.getElem?_eq_getElem hw] at h
    exact Option.some.inj h
  rw [this]
  simp only [beq_iff_eq]

theorem modify_eq_set (f : α → α) {l : List α} {i : Nat} {a : α} (h : l[i]? = some a) :
    l.modify i f = l.set i (f a) := by
  obtain ⟨hi, rfl⟩ := List.getElem?_eq_some_iff.mp h
  rw [List.modify_eq_take_cons_drop hi, List.set_eq_take_append_cons_drop, if_pos hi]

theorem getElem?_modify_some {f : α → α} {l : List α} {j i : Nat} {a' : α}
    (h : (l.modify j f)[i]? = some a') : ∃ a, l[i]? = some a ∧ a' = if j = i then f a else a := by
  rw [List.getElem?_modify] at h
  cases hs : l[i]? with
  | none => rw [hs] at h; cases h
  | some a => rw [hs] at h; exact ⟨a, rfl, (Option.some.inj h).symm⟩

theorem modify_append_left (f : α → α) (l : List α) (n : Nat) (r : List α) (h : n < l.length) :
    l.modify n f ++ r = (l ++ r).modify n f := by
  induction l generalizing n with
  | nil => exact absurd h (Nat.not_lt_zero _)
  | cons a l ih =>
    cases n with
    | zero => rfl
    | succ n =>
      rw [List.modify_succ_cons, List.cons_append, List.cons_append, List.modify_succ_cons,
        ih n (Nat.lt_of_succ_lt_succ h)]

theorem modify_at_length (f : α → α) : ∀ (ini : List α) (la : α),
    (ini ++ [la]).modify ini.length f = ini ++ [f la] := by
  intro ini
  induction ini with
  | nil => intro la; simp
  | cons x xs ih => intro la; simp [ih]

theorem drop_modify_last (f : α → α) : ∀ (l : List α) (k : Nat) (c : α), k < l.length →
    l.getLast? = some c →
    (l.modify (l.length - 1) f).drop k = (l.drop k).dropLast ++ [f c] := by
  intro l k c hk hc
  have hci : l[l.length - 1]? = some c := by rw [← List.getLast?_eq_getElem?]; exact hc
  obtain ⟨e1, e2⟩ := set_split hci
  have e2 := e2 (f c)
  have hd : l.drop (l.length - 1 + 1) = [] := by rw [Nat.sub_add_cancel (by omega)]; exact List.drop_length
  rw [hd] at e1 e2
  have hk' : k ≤ (l.take (l.length - 1)).length := by rw [List.length_take]; omega
  rw [modify_eq_set f hci, e2, List.drop_append_of_le_length hk']
  conv => rhs; rw [e1, List.drop_append_of_le_length hk', List.dropLast_concat]

/-- a change of one entry that `g` does not see is not seen by `flatMap g` of any tail -/
theorem flatMap_drop_modify (g : α → List β) (f : α → α) (hf : ∀ a, g (f a) = g a) (l : List α) (i k : Nat) :
    ((l.modify i f).drop k).flatMap g = (l.drop k).flatMap g := by
  induction l generalizing i k with
  | nil => rw [List.modify_nil]
  | cons x xs ih =>
    cases i with
    | zero =>
      cases k with
      | zero => rw [List.modify_zero_cons, List.drop_zero, List.drop_zero, List.flatMap_cons, List.flatMap_cons, hf]
      | succ k => rw [List.modify_zero_cons, List.drop_succ_cons, List.drop_succ_cons]
    | succ i =>
      cases k with
      | zero =>
        have := ih i 0
        rw [List.drop_zero, List.drop_zero] at this
        rw [List.modify_succ_cons, List.drop_zero, List.drop_zero, List.flatMap_cons, List.flatMap_cons, this]
      | succ k => rw [List.modify_succ_cons, List.drop_succ_cons, List.drop_succ_cons]; exact ih i k

/-! ### one entry taken out -/

theorem sum_eraseIdx (f : α → Nat) (l : List α) (i : Nat) (t : α) (h : l[i]? = some t) :
    (l.map f).sum = f t + ((l.eraseIdx i).map f).sum := by
  rw [List.eraseIdx_eq_take_drop_succ]
  conv => lhs; rw [(set_split h).1]
  simp only [List.map_append, List.map_cons, List.sum_append_nat, List.sum_cons]
  omega

theorem count_eraseIdx (l : List Nat) (i s x : Nat) (h : l[i]? = some s) :
    (l.eraseIdx i).count x + (if s = x then 1 else 0) = l.count x := by
  rw [List.eraseIdx_eq_take_drop_succ]
  conv => rhs; rw [(set_split h).1]
  simp only [List.count_append, List.count_cons, beq_iff_eq]
  omega

/-! ### sums of a weight

  `sum_map_set` and `sum_map_eq_zero` hold in any commutative monoid as core's `Std` classes state one (`Nat`, `Int`). -/
section
variable {γ : Type} [Add γ] [Zero γ] [Std.Associative (α := γ) (· + ·)] [Std.Commutative (α := γ) (· + ·)]
  [Std.LawfulLeftIdentity (α := γ) (· + ·) 0]


theorem sum_map_set (f : α → γ) (l : List α) (i : Nat) (x y : α) (h : l[i]? = some y) :
    ((l.set i x).map f).sum + f y = (l.map f).sum + f x := by
  obtain ⟨e1, e2⟩ := set_split h
  rw [e2 x]
  conv => rhs; rw [e1]
  simp only [List.map_append, List.map_cons, List.sum_append, List.sum_cons]
  ac_rfl

omit [Std.Associative (α := γ) (· + ·)] [Std.Commutative (α := γ) (· + ·)] in
theorem sum_map_eq_zero {f : α → γ} {l : List α} (h : ∀ u ∈ l, f u = 0) : (l.map f).sum = 0 := by
  induction l with
  | nil => rfl
  | cons x xs ih =>
    rw [List.map_cons, List.sum_cons, h x List.mem_cons_self, ih fun a ha => h a (List.mem_cons_of_mem _ ha)]
    exact Std.LawfulLeftIdentity.left_id 0

end

/-- an entry replaced by a lighter one lowers the sum -/
theorem sum_map_set_lt (f : α → Nat) {l : List α} {i : Nat} {x y : α} (h : l[i]? = some y) (hxy : f x < f y) :
    ((l.set i x).map f).sum < (l.map f).sum :=
  Nat.lt_of_add_lt_add_right ((sum_map_set f l i x y h).symm ▸ Nat.add_lt_add_left hxy _ :
    ((l.set i x).map f).sum + f y < (l.map f).sum + f y)

theorem sum_map_replicate (f : α → Nat) (x : α) (c : Nat) : ((List.replicate c x).map f).sum = c * f x := by
  rw [List.map_replicate, List.sum_replicate_nat]

theorem sum_map_le (f g : α → Nat) (l : List α) (h : ∀ u, f u ≤ g u) : (l.map f).sum ≤ (l.map g).sum := by
  induction l with
  | nil => exact Nat.le_refl _
  | cons x xs ih => exact Nat.add_le_add (h x) ih

theorem le_sum_map (f : α → Nat) {l : List α} {x : α} (h : x ∈ l) : f x ≤ (l.map f).sum := by
  induction l with
  | nil => cases h
  | cons y ys ih =>
    rcases List.mem_cons.mp h with rfl | h
    · exact Nat.le_add_right _ _
    · exact Nat.le_trans (ih h) (Nat.le_add_left _ _)

theorem sum_zero_of_zero (f g : α → Nat) (l : List α) (hfg : ∀ u, f u = 0 → g u = 0)
    (h : (l.map f).sum = 0) : (l.map g).sum = 0 := by
  induction l with
  | nil => rfl
  | cons a l ih => simp at h ⊢; exact ⟨hfg a h.1, ih h.2⟩

theorem sum_map_eq_countP (f : α → Nat) (p : α → Bool) (hf : ∀ a, f a = if p a then 1 else 0) (l : List α) :
    (l.map f).sum = l.countP p := by
  induction l with
  | nil => rfl
  | cons x xs ih =>
    rw [List.map_cons, List.sum_cons, List.countP_cons, ih, hf x, Nat.add_comm]

theorem foldl_add_eq (l : List Int) (a : Int) : l.foldl (· + ·) a = a + l.foldl (· + ·) 0 := by
  simpa using List.foldl_assoc (op := (· + · : Int → Int → Int)) (l := l) (a₁ := a) (a₂ := 0)

/-! ### `takeWhile`, `filter`, `countP` -/

theorem drop_length_takeWhile (p : α → Bool) (l : List α) : l.drop (l.takeWhile p).length = l.dropWhile p := by
  have := List.drop_left (l₁ := l.takeWhile p) (l₂ := l.dropWhile p)
  rwa [List.takeWhile_append_dropWhile] at this

/-- the entry at which `takeWhile` stopped fails the test -/
theorem takeWhile_stop (p : α → Bool) {l : List α} {s : α} (h : l[(l.takeWhile p).length]? = some s) :
    p s = false := by
  induction l with
  | nil => cases h
  | cons x xs ih =>
    rw [List.takeWhile_cons] at h
    by_cases hx : p x = true
    · rw [if_pos hx, List.length_cons, List.getElem?_cons_succ] at h
      exact ih h
    · rw [if_neg hx, List.length_nil, List.getElem?_cons_zero] at h
      rw [← Option.some.inj h]; exact Bool.eq_false_iff.mpr hx

theorem takeWhile_snoc_len (p : α → Bool) (x : α) (hx : p x = false) :
    ∀ a : List α, ((a ++ [x]).takeWhile p).length ≤ a.length := by
  intro a
  induction a with
  | nil => simp [hx]
  | cons y ys ih =>
    by_cases hy : p y = true
    · simp only [List.cons_append, List.takeWhile_cons, hy, if_true, List.length_cons]; omega
    · simp [hy]

theorem filter_filter_of_imp (p q : α → Bool) (l : List α)
    (h : ∀ a ∈ l, q a = false → p a = false) : (l.filter q).filter p = l.filter p := by
  rw [List.filter_filter]
  apply List.filter_congr
  intro a ha
  cases hq : q a
  · simp [h a ha hq]
  · simp

theorem takeWhile_length_lt (p : α → Bool) : ∀ (l : List α) (c : α), l.getLast? = some c → p c = false →
    (l.takeWhile p).length < l.length := by
  intro l c h hp
  induction l with
  | nil => cases h
  | cons x xs ih =>
    rw [List.takeWhile_cons]
    split
    · rename_i hx
      cases xs with
      | nil =>
        rw [List.getLast?_singleton] at h
        rw [Option.some.inj h, hp] at hx
        cases hx
      | cons y r =>
        rw [List.getLast?_cons_cons] at h
        exact Nat.succ_lt_succ (ih h)
    · exact Nat.succ_pos _

theorem takeWhile_all (p : α → Bool) : ∀ (l : List α) (i : Nat) (s : α),
    i < (l.takeWhile p).length → l[i]? = some s → p s = true := by
  intro l
  induction l with
  | nil => intro i s h; exact absurd h (Nat.not_lt_zero _)
  | cons x xs ih =>
    intro i s h hg
    rw [List.takeWhile_cons] at h
    by_cases hx : p x = true
    · rw [if_pos hx, List.length_cons] at h
      cases i with
      | zero => rw [List.getElem?_cons_zero] at hg; rw [← Option.some.inj hg]; exact hx
      | succ i => rw [List.getElem?_cons_succ] at hg; exact ih i s (Nat.lt_of_succ_lt_succ h) hg
    · rw [if_neg hx] at h; exact absurd h (Nat.not_lt_zero _)

/-- `A ++ y :: B` filtered by `v` and a bound `leY` that `A` and `y` pass and `B` fails, against the same with a bound
    `le` that `A` passes, `B` fails and `y` fails if it passes `v`: the difference is `y` -/
theorem filter_split_at (v le leY : α → Bool) (A B : List α) (y : α)
    (hA : ∀ a ∈ A, le a = true ∧ leY a = true) (hy : v y = true → le y = false) (hyy : leY y = true)
    (hB : ∀ b ∈ B, le b = false ∧ leY b = false) :
    (A ++ y :: B).filter (fun x => v x && leY x) =
      (A ++ y :: B).filter (fun x => v x && le x) ++ (if v y then [y] else []) := by
  have hAe : A.filter (fun x => v x && leY x) = A.filter (fun x => v x && le x) :=
    List.filter_congr (fun a ha => by rw [(hA a ha).1, (hA a ha).2])
  have hB1 : B.filter (fun x => v x && leY x) = [] :=
    List.filter_eq_nil_iff.mpr (fun b hb => by simp [(hB b hb).2])
  have hB2 : B.filter (fun x => v x && le x) = [] :=
    List.filter_eq_nil_iff.mpr (fun b hb => by simp [(hB b hb).1])
  rw [List.filter_append, List.filter_append, List.filter_cons, List.filter_cons, hAe, hB1, hB2]
  cases hv : v y
  · simp
  · simp [hyy, hy hv]

theorem countP_filter_le (P P' q : α → Bool) (l : List α)
    (h : ∀ p ∈ l, q p = true → P' p = true → P p = true) : (l.filter q).countP P' ≤ l.countP P := by
  rw [List.countP_filter]
  apply List.countP_mono_left
  intro p hp hpq
  simp only [Bool.and_eq_true] at hpq
  exact h p hp hpq.2 hpq.1

theorem countP_filter_lt (P P' q : α → Bool) (e : α) (l : List α)
    (h : ∀ p ∈ l, q p = true → P' p = true → P p = true) (he : e ∈ l) (hP : P e = true)
    (hn : q e = false ∨ P' e = false) : (l.filter q).countP P' + 1 ≤ l.countP P := by
  rw [List.countP_filter]
  obtain ⟨l1, l2, rfl⟩ := List.append_of_mem he
  simp only [List.countP_append, List.countP_cons, hP, if_true]
  have h1 := List.countP_mono_left (l := l1) (p := fun a => P' a && q a) (q := P) (fun p hp hpq => by
    simp only [Bool.and_eq_true] at hpq
    exact h p (List.mem_append_left _ hp) hpq.2 hpq.1)
  have h2 := List.countP_mono_left (l := l2) (p := fun a => P' a && q a) (q := P) (fun p hp hpq => by
    simp only [Bool.and_eq_true] at hpq
    exact h p (List.mem_append_right _ (List.mem_cons_of_mem _ hp)) hpq.2 hpq.1)
  have h3 : (P' e && q e) = false := by rcases hn with hn | hn <;> simp [hn]
  simp only [h3, Bool.false_eq_true, if_false]
  omega

theorem countP_lt_imp (P P' : α → Bool) (e : α) (l : List α) (h : ∀ p ∈ l, P' p = true → P p = true)
    (he : e ∈ l) (hP : P e = true) (hn : P' e = false) : l.countP P' + 1 ≤ l.countP P := by
  have := countP_filter_lt P P' (fun _ => true) e l (fun p hp _ hP => h p hp hP) he hP (Or.inr hn)
  rwa [List.filter_eq_self.mpr (fun _ _ => rfl)] at this

/-! ### lists a relation makes pairwise distinct or sorts; `Nodup`, a member counted once -/

theorem pairwise_mem_trichotomy {R : α → α → Prop} {l : List α} (h : l.Pairwise R) {a b : α}
    (ha : a ∈ l) (hb : b ∈ l) : a = b ∨ R a b ∨ R b a := by
  induction l with
  | nil => exact absurd ha List.not_mem_nil
  | cons x xs ih =>
    have hxs := List.pairwise_cons.mp h
    rcases List.mem_cons.mp ha with rfl | ha' <;> rcases List.mem_cons.mp hb with rfl | hb'
    · exact Or.inl rfl
    · exact Or.inr (Or.inl (hxs.1 b hb'))
    · exact Or.inr (Or.inr (hxs.1 a ha'))
    · exact ih hxs.2 ha' hb'

/-- where related entries have different keys, the key determines the entry -/
theorem eq_of_key_eq {κ : Type} {key : α → κ} {R : α → α → Prop} {l : List α} (h : l.Pairwise R)
    (hR : ∀ a b, R a b → key a ≠ key b) {a b : α} (ha : a ∈ l) (hb : b ∈ l) (hk : key a = key b) : a = b := by
  rcases pairwise_mem_trichotomy h ha hb with h | h | h
  · exact h
  · exact absurd hk (hR a b h)
  · exact absurd hk.symm (hR b a h)

theorem takeWhile_eq_filter (R : α → α → Prop) (p : α → Bool) (l : List α) (h : l.Pairwise R)
    (hm : ∀ a b, R a b → p a = false → p b = false) : l.takeWhile p = l.filter p := by
  induction l with
  | nil => rfl
  | cons x xs ih =>
    have hxs := List.pairwise_cons.mp h
    rw [List.takeWhile_cons]
    cases hx : p x
    · have hnone : ∀ y ∈ xs, ¬ p y = true := fun y hy => by rw [hm x y (hxs.1 y hy) hx]; nofun
      rw [if_neg Bool.false_ne_true, List.filter_cons_of_neg (by rw [hx]; nofun),
        List.filter_eq_nil_iff.mpr hnone]
    · rw [if_pos rfl, ih hxs.2, List.filter_cons_of_pos hx]

theorem dropWhile_eq_filter (R : α → α → Prop) (p : α → Bool) (l : List α) (h : l.Pairwise R)
    (hm : ∀ a b, R a b → p a = false → p b = false) : l.dropWhile p = l.filter (fun x => !p x) := by
  induction l with
  | nil => rfl
  | cons x xs ih =>
    have hxs := List.pairwise_cons.mp h
    rw [List.dropWhile_cons]
    cases hx : p x
    · have hall : ∀ y ∈ xs, (fun x => !p x) y = true := fun y hy => by
        show (!p y) = true
        rw [hm x y (hxs.1 y hy) hx]; rfl
      rw [if_neg Bool.false_ne_true, List.filter_cons_of_pos (p := fun x => !p x) (by show (!p x) = true; rw [hx]; rfl),
        List.filter_eq_self.mpr hall]
    · rw [if_pos rfl, ih hxs.2, List.filter_cons_of_neg (p := fun x => !p x) (by show ¬ (!p x) = true; rw [hx]; nofun)]

/-- the sorted list is the entries that pass followed by those that fail -/
theorem filter_append_filter_not (R : α → α → Prop) (p : α → Bool) (l : List α) (h : l.Pairwise R)
    (hm : ∀ a b, R a b → p a = false → p b = false) : l.filter p ++ l.filter (fun x => !p x) = l := by
  rw [← takeWhile_eq_filter R p l h hm, ← dropWhile_eq_filter R p l h hm, List.takeWhile_append_dropWhile]

theorem head_le_of_sorted (a : Nat) (r : List Nat) (hs : (a :: r).Pairwise (· < ·)) (x : Nat)
    (hx : x ∈ a :: r) : a ≤ x := by
  rw [List.pairwise_cons] at hs
  rcases List.mem_cons.mp hx with rfl | hx
  · exact Nat.le_refl _
  · exact Nat.le_of_lt (hs.1 x hx)

theorem mem_erase_sorted {l : List Nat} (h : l.Pairwise (· < ·)) (s x : Nat) :
    x ∈ l.erase s ↔ x ≠ s ∧ x ∈ l :=
  List.Nodup.mem_erase_iff (h.imp Nat.ne_of_lt)

theorem head_of_mem {l : List Nat} {L : Nat} (hs : l.Pairwise (· < ·)) (hgt : ∀ x ∈ l, L < x)
    (hm : L + 1 ∈ l) : ∃ tl, l = (L + 1) :: tl := by
  cases l with
  | nil => simp at hm
  | cons y ys =>
    rcases List.mem_cons.mp hm with h | h
    · exact ⟨ys, by rw [h]⟩
    · have h1 := (List.pairwise_cons.mp hs).1 _ h
      have h2 := hgt y (by simp)
      omega

/-- in a list sorted by a key, the first entry whose key is at least that of a member is the member -/
theorem find_ge_self {f : α → Nat} {l : List α} (h : l.Pairwise (fun a b => f a < f b)) {w : α} (hw : w ∈ l) :
    l.find? (fun x => decide (f w ≤ f x)) = some w := by
  induction l with
  | nil => exact absurd hw List.not_mem_nil
  | cons x xs ih =>
    have hx := List.pairwise_cons.mp h
    rcases List.mem_cons.mp hw with rfl | hw'
    · exact List.find?_cons_of_pos (by rw [decide_eq_true_eq]; exact Nat.le_refl _)
    · rw [List.find?_cons_of_neg (by rw [decide_eq_true_eq]; exact Nat.not_le.mpr (hx.1 w hw'))]
      exact ih hx.2 hw'

/-- …and the first entry whose key is above that of a member is the member's successor -/
theorem find_gt_split {f : α → Nat} {pre : List α} {v : α} {rest : List α}
    (h : (pre ++ v :: rest).Pairwise (fun a b => f a < f b)) :
    (pre ++ v :: rest).find? (fun x => decide (f v < f x)) = rest.head? := by
  induction pre with
  | nil =>
    have hx := List.pairwise_cons.mp h
    rw [List.nil_append, List.find?_cons_of_neg (by rw [decide_eq_true_eq]; exact Nat.lt_irrefl _)]
    cases rest with
    | nil => rfl
    | cons y ys => exact List.find?_cons_of_pos (by rw [decide_eq_true_eq]; exact hx.1 y (List.mem_cons_self ..))
  | cons x pre ih =>
    have hx := List.pairwise_cons.mp h
    have hlt : f x < f v := hx.1 v (List.mem_append_right _ (List.mem_cons_self ..))
    rw [List.cons_append, List.find?_cons_of_neg (by rw [decide_eq_true_eq]; exact Nat.lt_asymm hlt)]
    exact ih hx.2

theorem sublist_of_sorted_subset {R : α → α → Prop} (asym : ∀ a b, R a b → ¬ R b a) :
    ∀ (B A : List α), A.Pairwise R → B.Pairwise R → (∀ x ∈ A, x ∈ B) → A.Sublist B
  | [], A, _, _, hsub => by
    cases A with
    | nil => exact .slnil
    | cons a A' => exact absurd (hsub a (by simp)) (by simp)
  | b :: B', A, hA, hB, hsub => by
    cases A with
    | nil => exact List.nil_sublist _
    | cons a A' =>
      obtain ⟨hb1, hb2⟩ := List.pairwise_cons.mp hB
      obtain ⟨ha1, ha2⟩ := List.pairwise_cons.mp hA
      by_cases e : a = b
      · subst e
        refine .cons_cons _ (sublist_of_sorted_subset asym B' A' ha2 hb2 (fun x hx => ?_))
        have := hsub x (by simp [hx])
        simp at this
        rcases this with rfl | h
        · exact absurd (ha1 x hx) (fun h => asym _ _ h h)
        · exact h
      · refine .cons _ (sublist_of_sorted_subset asym B' (a :: A') hA hb2 (fun x hx => ?_))
        have haB : a ∈ B' := by
          have := hsub a (by simp)
          simp at this
          rcases this with h | h
          · exact absurd h e
          · exact h
        have := hsub x hx
        simp at this
        rcases this with rfl | h
        · -- `x = b` is below everything in `B'`, in particular below `a`, which is the least element of `A`
          exfalso
          have h1 := hb1 a haB
          simp at hx
          rcases hx with rfl | hx
          · exact e rfl
          · exact asym _ _ h1 (ha1 x hx)
        · exact h

theorem length_le_of_nodup_lt {N : Nat} {l : List Nat} (hn : l.Nodup) (hl : ∀ x ∈ l, x < N) : l.length ≤ N := by
  have := hn.length_le_of_subset (l₂ := List.range N) (fun x hx => List.mem_range.mpr (hl x hx))
  simpa using this

/-- a second component counted once belongs to exactly one pair -/
theorem unique_of_count_snd_eq_one (l : List (Nat × Nat)) (s : Nat) (h : (l.map Prod.snd).count s = 1) :
    ∃ w, (w, s) ∈ l ∧ ∀ w', (w', s) ∈ l → w' = w := by
  induction l with
  | nil => simp at h
  | cons e r ih =>
    obtain ⟨a, b⟩ := e
    simp only [List.map_cons, List.count_cons, beq_iff_eq] at h
    by_cases hb : b = s
    · subst hb
      simp only [if_true] at h
      have h0 : (r.map Prod.snd).count b = 0 := by omega
      rw [List.count_eq_zero] at h0
      refine ⟨a, by simp, ?_⟩
      intro w' hw'
      simp only [List.mem_cons, Prod.mk.injEq] at hw'
      rcases hw' with ⟨h1, _⟩ | h1
      · exact h1
      · exact absurd (List.mem_map.mpr ⟨(w', b), h1, rfl⟩) h0
    · simp only [hb, if_false, Nat.add_zero] at h
      obtain ⟨w, hw, hu⟩ := ih h
      refine ⟨w, List.mem_cons_of_mem _ hw, ?_⟩
      intro w' hw'
      simp only [List.mem_cons, Prod.mk.injEq] at hw'
      rcases hw' with ⟨_, h1⟩ | h1
      · exact absurd h1.symm hb
      · exact hu w' h1

theorem pairwise_mid {R : α → α → Prop} {A B : List α} {d : α} (h : (A ++ d :: B).Pairwise R) :
    (∀ a ∈ A, R a d) ∧ (∀ b ∈ B, R d b) :=
  ⟨fun a ha => (List.pairwise_append.mp h).2.2 a ha d List.mem_cons_self,
   (List.pairwise_cons.mp (List.pairwise_append.mp h).2.1).1⟩

theorem nodup_mid {A B : List α} {d : α} (h : (A ++ d :: B).Nodup) : d ∉ A ++ B :=
  (List.nodup_cons.mp (List.perm_middle.nodup_iff.mp h)).1

theorem nodup_concat {l : List α} {a : α} (hl : l.Nodup) (ha : a ∉ l) : (l ++ [a]).Nodup := by
  rw [List.nodup_append]
  refine ⟨hl, List.pairwise_singleton _ a, fun x hx y hy he => ?_⟩
  rw [List.mem_singleton.mp hy] at he
  exact ha (he ▸ hx)

theorem pairwise_lt_nodup {L : List α} {f : α → Int} (h : L.Pairwise (fun a b => f a < f b)) : L.Nodup := by
  unfold List.Nodup
  apply List.Pairwise.imp _ h
  intro a b hab e; subst e; exact Int.lt_irrefl _ hab

theorem sorted_split {f : α → Int} {L : List α} (hs : L.Pairwise (fun a b => f a < f b)) (k : Int) :
    L = L.filter (fun a => decide (f a < k)) ++ L.filter (fun a => !decide (f a < k)) :=
  (filter_append_filter_not _ (fun a => decide (f a < k)) L hs fun _ _ hab ha =>
    decide_eq_false (fun hb => of_decide_eq_false ha (Int.lt_trans hab hb))).symm

/-! ### prefixes, `mapIdx` -/

theorem prefix_append_cases {p l₁ l₂ : List α} (h : p <+: l₁ ++ l₂) :
    p <+: l₁ ∨ ∃ q, p = l₁ ++ q ∧ q <+: l₂ := by
  induction l₁ generalizing p with
  | nil => exact Or.inr ⟨p, rfl, h⟩
  | cons a r ih =>
    rw [List.cons_append] at h
    rcases List.prefix_cons_iff.1 h with rfl | ⟨t, rfl, ht⟩
    · exact Or.inl List.nil_prefix
    · rcases ih ht with h1 | ⟨q, rfl, hq⟩
      · exact Or.inl (List.cons_prefix_cons.2 ⟨rfl, h1⟩)
      · exact Or.inr ⟨q, rfl, hq⟩

/-- appending `bs` to entry `k`, then `f i` to every entry `i` -/
theorem mapIdx_append_modify (cs : List (List α)) (k : Nat) (bs : List α) (f : Nat → List α) :
    (cs.modify k (· ++ bs)).mapIdx (fun i c => c ++ f i)
      = cs.mapIdx (fun i c => c ++ if k = i then bs ++ f i else f i) := by
  apply List.ext_getElem (by simp)
  intro i h1 h2
  rw [List.getElem_mapIdx, List.getElem_mapIdx, List.getElem_modify]
  split <;> simp

theorem mapIdx_replicate_nil (n : Nat) (f : Nat → List α) :
    (List.replicate n ([] : List α)).mapIdx (fun i c => c ++ f i) = (List.range n).map f := by
  apply List.ext_getElem (by simp)
  intro i h1 h2
  simp

end NitroVerif
