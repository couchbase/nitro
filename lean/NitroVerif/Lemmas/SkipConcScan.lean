import NitroVerif.Lemmas.SkipConcStep
import NitroVerif.Lemmas.SkipConcFindReturn
import NitroVerif.Lemmas.KeyedList
/-!
  One segment seen from an iterator of M5 (no history variables): which iterator it works for (`pcIter`), that it
  touches no other iterator (`Seg.frame`), the three phases of a call (`AtCursor`, ITER_REFRESH, a findPath for it), and
  what a segment of a call on iterator `it` does (`IterSeg`).
-/
namespace NitroVerif.SkipConc

/-- the iterator whose call (Seek / Next with the Refresh inside it / the explicit Refresh) the thread is executing -/
def pcIter : PC → Option Nat
  | .findLevel fp => contIter fp.cont
  | .findNext fp _ => contIter fp.cont
  | .helpDelete fp _ => contIter fp.cont
  | .iterNext it => some it
  | .iterHelp it _ => some it
  | .iterRefresh it => some it
  | _ => none

def opIter : Op → Option Nat
  | .itFirst it => some it
  | .itSeek it _ => some it
  | .itNext it => some it
  | .itClose it => some it
  | .itInterval it _ => some it
  | .itRefresh it => some it
  | _ => none

theorem iter?_of_iters_setIter {th th' : Thread} {it it' : Nat} {v : Iter}
    (h : th'.iters = SkipConc.setIter th.iters it' v) (hne : some it' ≠ some it) : th'.iter? it = th.iter? it := by
  have hne : it ≠ it' := fun e => hne (by rw [e])
  simp [Thread.iter?, h, find?_setIter, hne]

theorem iter?_of_iters {th th' : Thread} (h : th'.iters = th.iters) (it : Nat) : th'.iter? it = th.iter? it := by
  simp [Thread.iter?, h]

theorem iter_of_iter? {th th' : Thread} {it : Nat} (h : th'.iter? it = th.iter? it) : th'.iter it = th.iter it := by
  simp [Thread.iter, h]

/-- `r` is the result of a segment of thread `th` that works for iterator `o` (`none`: for no iterator) -/
def FrameR (it : Nat) (o : Option Nat) (th : Thread) (r : Res) : Prop :=
  (pcIter r.2.1.pc = none ∨ pcIter r.2.1.pc = o) ∧ (o ≠ some it → r.2.1.iter? it = th.iter? it)

theorem FrameR.mono {it : Nat} {o : Option Nat} {th1 th : Thread} {r : Res} (h : FrameR it o th1 r)
    (e : o ≠ some it → th1.iter? it = th.iter? it) : FrameR it o th r :=
  ⟨h.1, fun ho => (h.2 ho).trans (e ho)⟩

theorem startFind_frame (it : Nat) (sh : Shared) (th : Thread) (item : Nat) (c : Cont) :
    FrameR it (contIter c) th (startFind sh th item c) := ⟨.inr rfl, fun _ => rfl⟩

theorem insFinished_frame (it : Nat) (o : Option Nat) (sh : Shared) (th : Thread) (lvl : Nat) :
    FrameR it o th (insFinished sh th lvl) := ⟨.inl rfl, fun _ => rfl⟩

theorem enterSoft_frame (it : Nat) (o : Option Nat) (sh : Shared) (th : Thread) (item n i : Nat) (m : Bool) :
    FrameR it o th (enterSoft sh th item n i m) := by
  rcases enterSoft_cases sh th item n i m with ⟨j, next, h⟩ | ⟨_, h, _⟩ | ⟨_, h, _⟩ <;>
    exact ⟨.inl (by rw [h]; rfl), fun _ => by rw [h]; rfl⟩

theorem afterNext_pc (sh : Shared) (th : Thread) (it : Nat) :
    (afterNext sh th it).2.1.pc = .idle ∨ (afterNext sh th it).2.1.pc = .iterRefresh it := by
  obtain ⟨v, _, _, h | ⟨_, h⟩⟩ := afterNext_cases sh th it
  · exact .inl (by rw [h])
  · exact .inr (by rw [h])

theorem afterNext_frame (it : Nat) (sh : Shared) (th : Thread) (it' : Nat) :
    FrameR it (some it') th (afterNext sh th it') := by
  refine ⟨?_, fun ho => ?_⟩
  · rcases afterNext_pc sh th it' with h | h
    · exact .inl (by rw [h]; rfl)
    · exact .inr (by rw [h]; rfl)
  · obtain ⟨v, _, _, h | ⟨_, h⟩⟩ := afterNext_cases sh th it' <;>
      exact iter?_of_iters_setIter (th := th) (by rw [h]; rfl) ho

theorem moveIter_iter?_ne (th : Thread) {it it' : Nat} (p c : Nat) (hne : some it' ≠ some it) :
    (th.moveIter it' p c).iter? it = th.iter? it :=
  iter?_of_iters_setIter (th := th) rfl hne

theorem finishFind_frame (it : Nat) (sh : Shared) (th : Thread) (item : Nat) (found : Bool) (c : Cont) :
    FrameR it (contIter c) th (finishFind sh th item found c) := by
  have s := finishFind_cases sh th item found c
  generalize finishFind sh th item found c = r at s ⊢
  cases s with
  | insUnlink => exact insFinished_frame ..
  | delHit => exact enterSoft_frame ..
  | iterAgain _ => exact ⟨.inr rfl, fun ho => moveIter_iter?_ne th _ _ ho⟩
  | iterDone => exact (afterNext_frame it sh _ _).mono (fun ho => moveIter_iter?_ne th _ _ ho)
  | iterSeek | iterRefresh => exact ⟨.inl rfl, fun ho => moveIter_iter?_ne th _ _ ho⟩
  | _ => exact ⟨.inl rfl, fun _ => rfl⟩

theorem insCheckSucc_frame (it : Nat) (sh : Shared) (th : Thread) (item x lvl i next : Nat) :
    FrameR it none th (insCheckSucc sh th item x lvl i next) := by
  unfold insCheckSucc
  split
  · exact startFind_frame ..
  · exact ⟨.inl rfl, fun _ => rfl⟩

theorem Seg.frame (it : Nat) {sh : Shared} {th : Thread} {pc : PC} {r : Res} (s : Seg sh th pc r) :
    FrameR it (pcIter pc) th r := by
  cases s with
  | idle hpc => exact ⟨.inl (by rw [hpc]; rfl), fun _ => rfl⟩
  | publishUp _ _ | upLinkNext _ _ _ => exact ⟨.inl rfl, fun _ => rfl⟩
  | findLevel | readMarked _ _ | readAdvance _ _ _ | readDown _ _ _ _ | helpOk _ | helpFail _ | iterNextMarked _ =>
    exact ⟨.inr rfl, fun _ => rfl⟩
  | readEnd _ _ _ _ => exact (finishFind_frame it sh _ _ _ _).mono (fun _ => rfl)
  | newLevelBump _ | newLevelKeep _ | publishFail _ | upLinkMarked _ _ | upLinkFail _ | delSearch | iterHelpFail _
  | iterRefresh => exact startFind_frame ..
  | publishDone _ _ | upReadMarked _ | upReadLost _ _ _ | upLinkDone _ _ _ => exact insFinished_frame ..
  | upReadOwn _ _ _ | upReadSame _ _ => exact insCheckSucc_frame ..
  | softWin _ | softUp _ _ | softLost _ => exact enterSoft_frame ..
  | iterNextMove _ | iterHelpOk _ =>
    exact (afterNext_frame it _ _ _).mono (fun ho => moveIter_iter?_ne th _ _ ho)

variable {it : Nat} {sh : Shared} {th : Thread} {pc : PC} {fp : FP}

theorem step_other (h : pcIter th.pc ≠ some it) :
    pcIter (stepThread sh th).2.1.pc ≠ some it ∧ (stepThread sh th).2.1.iter? it = th.iter? it := by
  obtain ⟨h1, h2⟩ := (stepThread_seg sh th).frame it
  refine ⟨?_, h2 h⟩
  rcases h1 with h1 | h1
  · rw [h1]; simp
  · rw [h1]; exact h

theorem StartR.other {op : Op} {r : Res} (s : StartR sh th op r)
    (hidle : th.pc = .idle) (h : opIter op ≠ some it) :
    pcIter r.2.1.pc ≠ some it ∧ r.2.1.iter? it = th.iter? it := by
  have hid : pcIter th.pc ≠ some it := by rw [hidle]; exact nofun
  cases s with
  | insLevel _ | insFind _ | del | look => exact ⟨nofun, rfl⟩
  | itSeek | itNext _ _ | itRefresh _ _ => exact ⟨h, rfl⟩
  | itFirst => exact ⟨hid, moveIter_iter?_ne th _ _ h⟩
  | @itClose it' _ _ =>
    refine ⟨hid, ?_⟩
    show ((th.iters.filter fun p => p.1 != it').find? (fun p => p.1 == it)).map (·.2) =
      (th.iters.find? fun p => p.1 == it).map (·.2)
    rw [find?_key_filter_ne (key := Prod.fst), if_neg (fun e => h (by rw [e]; rfl))]
  | itInterval _ _ => exact ⟨hid, iter?_of_iters_setIter (th := th) rfl h⟩
  | nextRefused | closeRefused | intervalRefused | refreshRefused => exact ⟨hid, rfl⟩

theorem afterNext_move (sh : Shared) (th : Thread) (it p c : Nat) :
    (afterNext sh (th.moveIter it p c) it).1 = sh ∧
    ((afterNext sh (th.moveIter it p c) it).2.1.iter it).curr = c ∧
    ((afterNext sh (th.moveIter it p c) it).2.1.pc = .idle ∨
     (afterNext sh (th.moveIter it p c) it).2.1.pc = .iterRefresh it) := by
  refine ⟨afterNext_sh .., ?_, afterNext_pc ..⟩
  have := (afterNext_pos sh (th.moveIter it p c) it).2
  rw [moveIter_iter] at this
  exact this

def searchOf : PC → Option FP
  | .findLevel fp => some fp
  | .findNext fp _ => some fp
  | .helpDelete fp _ => some fp
  | _ => none

theorem pcIter_of_searchOf (h : searchOf pc = some fp) : pcIter pc = contIter fp.cont := by
  cases pc with
  | findLevel _ | findNext _ _ | helpDelete _ _ => cases h; rfl
  | _ => cases h

/-- the program counters at which the cursor of iterator `it` rests on the last position returned -/
abbrev AtCursor (it : Nat) (pc : PC) : Prop := pcIter pc ≠ some it ∨ pc = .iterNext it ∨ ∃ n, pc = .iterHelp it n

theorem AtCursor.not_refresh (c : AtCursor it pc) : pc ≠ .iterRefresh it := by
  rcases c with h | h | ⟨n, h⟩
  · exact fun e => h (by rw [e]; rfl)
  · rw [h]; nofun
  · rw [h]; nofun

theorem AtCursor.not_search (c : AtCursor it pc) (hf : searchOf pc = some fp) :
    contIter fp.cont ≠ some it := by
  rcases c with h | h | ⟨n, h⟩
  · exact fun e => h ((pcIter_of_searchOf hf).trans e)
  · rw [h] at hf; cases hf
  · rw [h] at hf; cases hf

theorem isIdle_of_searchOf (h : searchOf pc = some fp) : isIdle pc = false :=
  Bool.eq_false_iff.mpr fun hi => by rw [(isIdle_iff _).mp hi] at h; cases h

theorem searchOf_ne (h : searchOf pc = some fp) (it : Nat) :
    ¬ (pc = .idle ∨ pc = .iterRefresh it) := by
  rintro (e | e) <;> rw [e] at h <;> cases h

theorem AtCursor.not_own_search (c : AtCursor it pc) (hf : searchOf pc = some fp) :
    pcIter pc ≠ some it := fun hown => c.not_search hf ((pcIter_of_searchOf hf).symm.trans hown)

/-- `r` is the result of a segment from `pc` of a thread `th` that is inside a call on iterator `it` -/
inductive IterSeg (it : Nat) (sh : Shared) (th : Thread) : PC → Res → Prop
  | search {pc : PC} {r : Res} {fp fp' : FP} : searchOf pc = some fp → searchOf r.2.1.pc = some fp' →
      fp'.item = fp.item → fp'.startLen = fp.startLen → fp'.cont = fp.cont → r.2.1.iters = th.iters →
      IterSeg it sh th pc r
  /-- findPath returns to its caller from level 0 at `c`, whose word was read unmarked and whose key is not below the
      item; the call returns, parks before the automatic refresh, or (Next, on the node it started from) goes on -/
  | found {fp : FP} {rr : Bool} {c : Nat} {r : Res} :
      c = readNode sh.heap fp rr → fp.i = 0 →
      (getNext sh.heap c 0).2 = false → ¬ Gen.findAdvance (compare (keyOf sh.heap c) (.fin fp.item)) = true →
      r.1 = sh → (r.2.1.iter it).curr = c →
      (r.2.1.pc = .idle ∨ (fp.cont = .iterNext it ∧ (r.2.1.pc = .iterRefresh it ∨
        (r.2.1.pc = .iterNext it ∧ c = (th.iter it).curr)))) →
      IterSeg it sh th (.findNext fp rr) r
  | nextMarked :
      IterSeg it sh th (.iterNext it)
        (sh, { th with pc := .iterHelp it (getNext sh.heap (th.iter it).curr 0).1 }, "at HELP_DELETE")
  | nextMove {r : Res} : (getNext sh.heap (th.iter it).curr 0).2 = false → r.1 = sh →
      (r.2.1.iter it).curr = (getNext sh.heap (th.iter it).curr 0).1 →
      (r.2.1.pc = .idle ∨ r.2.1.pc = .iterRefresh it) → IterSeg it sh th (.iterNext it) r
  | helpOk {next : Nat} {r : Res} : word? sh.heap (th.iter it).prev 0 = some ((th.iter it).curr, false) →
      r.1.heap = setWord sh.heap (th.iter it).prev 0 (next, false) → (r.2.1.iter it).curr = next →
      (r.2.1.pc = .idle ∨ r.2.1.pc = .iterRefresh it) → IterSeg it sh th (.iterHelp it next) r
  | helpFail {next : Nat} :
      IterSeg it sh th (.iterHelp it next)
        (startFind (bumpReadConflicts sh) th (itemOfKey (keyOf sh.heap (th.iter it).curr)) (.iterNext it))
  | refresh :
      IterSeg it sh th (.iterRefresh it)
        (startFind sh th (itemOfKey (keyOf sh.heap (th.iter it).curr)) (.iterRefresh it))

/-- `hs`: the buffer has an entry 0, so that `succs.set 0 c` is read back as `c` when findPath returns -/
theorem Seg.iter {r : Res} (s : Seg sh th pc r)
    (hown : pcIter pc = some it) (hs : 0 < th.succs.length) : IterSeg it sh th pc r := by
  cases s with
  | findLevel | readMarked _ _ | readAdvance _ _ _ | readDown _ _ _ _ | helpOk _ | helpFail _ =>
    exact .search rfl rfl rfl rfl rfl rfl
  | @readEnd fp rr c hc hm ha hi =>
    obtain ⟨f1, _, f2, f3⟩ := finishFind_own sh { th with preds := th.preds.set 0 fp.prev, succs := th.succs.set 0 c }
      fp.item (Gen.findFound (compare (keyOf sh.heap c) (.fin fp.item))) it fp.cont hown
    have hsucc : ({ th with preds := th.preds.set 0 fp.prev, succs := th.succs.set 0 c } : Thread).succ 0 = c :=
      getD_set_same hs
    rw [hsucc] at f2 f3
    exact .found hc hi hm ha f1 f2 f3
  | iterNextMarked _ => cases hown; exact .nextMarked
  | iterNextMove hm =>
    cases hown
    obtain ⟨h1, h2, h3⟩ := afterNext_move sh th it (th.iter it).curr (getNext sh.heap (th.iter it).curr 0).1
    exact .nextMove hm h1 h2 h3
  | @iterHelpOk _ next hw =>
    cases hown
    obtain ⟨h1, h2, h3⟩ := afterNext_move
      (helpStats sh (setWord sh.heap (th.iter it).prev 0 (next, false)) true 0 (th.iter it).curr) th it
      (th.iter it).prev next
    exact .helpOk hw (by rw [h1]; exact helpStats_heap ..) h2 h3
  | iterHelpFail _ => cases hown; exact .helpFail
  | iterRefresh => cases hown; exact .refresh
  | idle _ | newLevelBump _ | newLevelKeep _ | publishUp _ _ | publishDone _ _ | publishFail _ | upReadMarked _
  | upReadOwn _ _ _ | upReadLost _ _ _ | upReadSame _ _ | upLinkMarked _ _ | upLinkNext _ _ _ | upLinkDone _ _ _
  | upLinkFail _ | softWin _ | softUp _ _ | softLost _ | delSearch => cases hown

theorem stepThread_iter (hown : pcIter th.pc = some it)
    (hs : 0 < th.succs.length) : IterSeg it sh th th.pc (stepThread sh th) :=
  (stepThread_seg sh th).iter hown hs

end NitroVerif.SkipConc
