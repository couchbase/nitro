import NitroVerif.Lemmas.SkipSeqMerge
/-!
  `MergeIterator.SeekFirst` / `Seek`: from ANY state of the merge iterator they rebuild a consistent
  state (this is where `Gen.mergeSeekFirstResets` / `Gen.mergeSeekResets` are needed: the heap is
  emptied first, so no stale entry of an earlier scan survives).
-/
namespace NitroVerif.SkipSeq
open NitroVerif.OrdSet

/-- the loops of `SeekFirst` / `Seek` started in `m0`: the iterators `< k` are positioned at their target
    suffix, the lists are those of `m0` up to their action buffers -/
structure LoopInv (m0 m : MergeIt) (Ls target : List (List Nat)) (k : Nat) : Prop where
  inv : MInvK k m Ls target
  same : SameLists m0 m

theorem LoopInv.push {m0 m m' : MergeIt} {Ls target : List (List Nat)} {i : Nat} {s' : SL} {it' : Iter}
    (inv : LoopInv m0 m Ls target i) (hi : i < m.sls.length)
    (hsl : m'.sls = m.sls.set i s') (hsb : SameBut (slAt m i) s')
    (hits : m'.iters = m.iters.set i it')
    (hc : it'.curr = ((target.getD i []).head?).getD tailId) (hd : it'.deleted = false)
    (hh : m'.h = m.h ++ (((target.getD i []).head?).map (Prod.mk i)).toList) :
    LoopInv m0 m' Ls target (i + 1) := by
  have hset := inv.inv.set hi (fun _ => Nat.lt_succ_iff_lt_or_eq) hsl hsb hits (inv.inv.suf i hi) hc hd
    inv.inv.hnd (fun e => ⟨fun h => ⟨h, Nat.ne_of_lt ((inv.inv.hmem e.1 e.2).mp h).1⟩, fun h => h.1⟩) hh
  rw [getD_set_self target i [] (inv.inv.lenR ▸ hi)] at hset
  refine ⟨hset, ⟨by rw [hsl, List.length_set]; exact inv.same.len, fun j => ?_⟩⟩
  rw [slAt_set hi hsl]
  split
  · rename_i e; rw [hsb.nodes, e]; exact inv.same.nodes j
  · exact inv.same.nodes j

theorem LoopInv.start {k : Nat} {m : MergeIt} {Ls rem target : List (List Nat)} (st : MInvK k m Ls rem)
    (hT : target.length = m.sls.length)
    (hsuf : ∀ i, i < m.sls.length → ∃ P, Ls.getD i [] = P ++ target.getD i []) :
    LoopInv m { m with h := [] } Ls target 0 :=
  ⟨⟨st.lenI, st.lenL, hT, st.reps, hsuf, st.del, fun i h => absurd h (Nat.not_lt_zero i), List.nodup_nil,
    fun i n => by simp⟩, ⟨rfl, fun _ => rfl⟩⟩

theorem seekFirstLoop_spec {m0 : MergeIt} {Ls : List (List Nat)} :
    ∀ (n i : Nat) (m : MergeIt), i + n = m.sls.length → LoopInv m0 m Ls Ls i →
      LoopInv m0 (mergeSeekFirstLoop n i m) Ls Ls (mergeSeekFirstLoop n i m).sls.length := by
  intro n
  induction n with
  | zero =>
    intro i m hn inv
    simp only [mergeSeekFirstLoop]
    have : i = m.sls.length := hn
    rw [← this]; exact inv
  | succ n ih =>
    intro i m hn inv
    simp only [mergeSeekFirstLoop]
    have hi : i < m.sls.length := (loop_step hn).1
    have hr := inv.inv.reps i hi
    have hp := hr.paths 0 (Nat.zero_le _)
    rw [LL_zero] at hp
    have hlink : getNext (slAt m i).nodes headId 0 = (((Ls.getD i []).head?).getD tailId, nomk headId) :=
      path_head_link hp
    have hdel := inv.inv.del i hi
    apply ih (i + 1) _ (by simp only; exact (loop_step hn).2)
    have hv := iterValid_head (it := iterSeekFirst (slAt m i) (itAt m i)) (T := Ls.getD i []) rfl
      (by simp only [iterSeekFirst, hlink]) (fun a ha => hr.ne_tail ha) i m.h
    exact inv.push (s' := slAt m i) hi (getD_set_self m.sls i SL.init hi).symm (SameBut.refl _) rfl
      hv.1 (hv.2.1.trans hdel) hv.2.2

/-- `SeekFirst` at any point: the result is one `Next` away from the state in which every iterator
    stands at the start of its list -/
theorem mergeSeekFirst_spec {k : Nat} {m : MergeIt} {Ls rem : List (List Nat)} (st : MInvK k m Ls rem) :
    ∃ m1, mergeSeekFirst m = mergeNext m1 ∧ MInv m1 Ls Ls ∧ SameLists m m1 := by
  have hstart := LoopInv.start (target := Ls) st st.lenL (fun i _ => ⟨[], rfl⟩)
  have hloop := seekFirstLoop_spec (m0 := m) (Ls := Ls) m.iters.length 0 { m with h := [] }
    (by simp [st.lenI]) hstart
  refine ⟨mergeSeekFirstLoop m.iters.length 0 { m with h := [] }, ?_, hloop.inv, hloop.same⟩
  unfold mergeSeekFirst
  simp [mergeSeekFirstResets_eq]

/-- the target suffixes of `Seek x`, list by list -/
def seekTarget (m : MergeIt) (Ls : List (List Nat)) (x : Int) : List (List Nat) :=
  List.zipWith (fun s L => geX s L x) m.sls Ls

theorem seekTarget_getD (m : MergeIt) (Ls : List (List Nat)) (x : Int) (i : Nat)
    (hi : i < m.sls.length) (hL : Ls.length = m.sls.length) :
    (seekTarget m Ls x).getD i [] = geX (slAt m i) (Ls.getD i []) x := by
  unfold seekTarget slAt
  have h2 : i < Ls.length := hL ▸ hi
  simp [List.getD_eq_getElem?_getD, List.getElem?_zipWith, List.getElem?_eq_getElem hi,
    List.getElem?_eq_getElem h2]

/-- the body of the loop of `Seek` -/
def seekStep (k : Key) (i : Nat) (m : MergeIt) : MergeIt × Bool :=
  let r := iterSeek (slAt m i) (itAt m i) k
  let v := iterValid r.2.1
  ({ m with sls := m.sls.set i r.1, iters := m.iters.set i v.1,
            h := if v.2 then m.h ++ [(i, v.1.curr)] else m.h }, r.2.2)

theorem mergeSeekLoop_succ (k : Key) (n i : Nat) (m : MergeIt) (fnd : Bool) :
    mergeSeekLoop k (n + 1) i m fnd
      = mergeSeekLoop k n (i + 1) (seekStep k i m).1 (fnd || (seekStep k i m).2) := rfl

theorem seekStep_spec {m0 m : MergeIt} {Ls : List (List Nat)} {x : Int} {i : Nat}
    (inv : LoopInv m0 m Ls (seekTarget m0 Ls x) i) (hi : i < m.sls.length) :
    LoopInv m0 (seekStep (.item x) i m).1 Ls (seekTarget m0 Ls x) (i + 1) ∧
    (seekStep (.item x) i m).1.sls.length = m.sls.length ∧
    (seekStep (.item x) i m).2 = decide (x ∈ (Ls.getD i []).map (ikey (slAt m0 i).nodes)) := by
  have hi0 : i < m0.sls.length := by rw [← inv.same.len]; exact hi
  have hL0 : Ls.length = m0.sls.length := by rw [inv.inv.lenL, inv.same.len]
  have hr := inv.inv.reps i hi
  have hdel := inv.inv.del i hi
  rcases iterSeek_pos hr x (itAt m i) with ⟨s', p, he, hsb⟩
  have htar : (seekTarget m0 Ls x).getD i [] = geX (slAt m i) (Ls.getD i []) x := by
    rw [seekTarget_getD m0 Ls x i hi0 hL0]
    unfold geX; rw [inv.same.nodes i]
  refine ⟨?_, by simp [seekStep], by simp only [seekStep, he]; rw [inv.same.nodes i]⟩
  rw [← htar] at he
  have hv := iterValid_head
    (it := { itAt m i with valid := true, prev := p, curr := (((seekTarget m0 Ls x).getD i []).head?).getD tailId })
    rfl rfl (fun a ha => hr.ne_tail (mem_of_mem_geX (htar ▸ ha))) i m.h
  refine inv.push (s' := s') hi ?_ hsb ?_ hv.1 (hv.2.1.trans hdel) ?_
  · simp only [seekStep, he]
  · simp only [seekStep, he]
  · simp only [seekStep, he]; exact hv.2.2

theorem seekLoop_spec {m0 : MergeIt} {Ls : List (List Nat)} {x : Int} :
    ∀ (n i : Nat) (m : MergeIt) (fnd : Bool), i + n = m.sls.length →
      LoopInv m0 m Ls (seekTarget m0 Ls x) i →
      LoopInv m0 (mergeSeekLoop (.item x) n i m fnd).1 Ls (seekTarget m0 Ls x)
        (mergeSeekLoop (.item x) n i m fnd).1.sls.length ∧
      ((mergeSeekLoop (.item x) n i m fnd).2 = true ↔
        (fnd = true ∨ ∃ j, i ≤ j ∧ j < m.sls.length ∧ x ∈ (Ls.getD j []).map (ikey (slAt m0 j).nodes))) := by
  intro n
  induction n with
  | zero =>
    intro i m fnd hn inv
    simp only [mergeSeekLoop]
    have : i = m.sls.length := hn
    refine ⟨by rw [← this]; exact inv, ?_⟩
    constructor
    · intro h; exact Or.inl h
    · rintro (h | ⟨j, h1, h2, _⟩)
      · exact h
      · exact absurd (Nat.lt_of_le_of_lt h1 h2) (this ▸ Nat.lt_irrefl _)
  | succ n ih =>
    intro i m fnd hn inv
    rw [mergeSeekLoop_succ]
    have hi : i < m.sls.length := (loop_step hn).1
    rcases seekStep_spec inv hi with ⟨hpush, hlen, hf⟩
    rcases ih (i + 1) _ (fnd || (seekStep (.item x) i m).2) (by rw [hlen]; exact (loop_step hn).2) hpush with ⟨h1, h2⟩
    refine ⟨h1, ?_⟩
    rw [h2, hlen, hf]
    simp only [Bool.or_eq_true, decide_eq_true_eq]
    constructor
    · rintro ((h | h) | ⟨j, hj1, hj2, hj3⟩)
      · exact Or.inl h
      · exact Or.inr ⟨i, Nat.le_refl _, hi, h⟩
      · exact Or.inr ⟨j, Nat.le_of_succ_le hj1, hj2, hj3⟩
    · rintro (h | ⟨j, hj1, hj2, hj3⟩)
      · exact Or.inl (Or.inl h)
      · by_cases hij : j = i
        · subst hij; exact Or.inl (Or.inr hj3)
        · exact Or.inr ⟨j, Nat.lt_of_le_of_ne hj1 (Ne.symm hij), hj2, hj3⟩

/-- `Seek x` at any point: the result is one `Next` away from the state in which every iterator
    stands at its first node `≥ x` -/
theorem mergeSeek_spec {k : Nat} {m : MergeIt} {Ls rem : List (List Nat)} (st : MInvK k m Ls rem) (x : Int) :
    ∃ m1, (mergeSeek m (.item x)).1 = mergeNext m1 ∧ MInv m1 Ls (seekTarget m Ls x) ∧
      SameLists m m1 ∧
      ((mergeSeek m (.item x)).2 = true ↔
        ∃ j, j < m.sls.length ∧ x ∈ (Ls.getD j []).map (ikey (slAt m j).nodes)) := by
  have hsuf : ∀ i, i < m.sls.length → ∃ P, Ls.getD i [] = P ++ (seekTarget m Ls x).getD i [] := by
    intro i hi
    rw [seekTarget_getD m Ls x i hi st.lenL]
    exact ((st.reps i hi).split_ge x).imp fun _ h => h.1
  have hT : (seekTarget m Ls x).length = m.sls.length := by
    simp [seekTarget, st.lenL]
  have hstart := LoopInv.start (target := seekTarget m Ls x) st hT hsuf
  rcases seekLoop_spec (m0 := m) (Ls := Ls) (x := x) m.iters.length 0 { m with h := [] } false
    (by simp [st.lenI]) hstart with ⟨h1, h2⟩
  refine ⟨(mergeSeekLoop (.item x) m.iters.length 0 { m with h := [] } false).1, ?_, h1.inv, h1.same, ?_⟩
  · unfold mergeSeek; simp [mergeSeekResets_eq]
  · have : (mergeSeek m (.item x)).2 = (mergeSeekLoop (.item x) m.iters.length 0 { m with h := [] } false).2 := by
      unfold mergeSeek; simp [mergeSeekResets_eq]
    rw [this, h2]
    constructor
    · rintro (h | ⟨j, _, hj2, hj3⟩)
      · simp at h
      · exact ⟨j, hj2, hj3⟩
    · rintro ⟨j, hj2, hj3⟩
      exact Or.inr ⟨j, Nat.zero_le _, hj2, hj3⟩

theorem keysOf_seekTarget (m : MergeIt) (Ls : List (List Nat)) (x : Int) :
    keysOf m.sls (seekTarget m Ls x) = (keysOf m.sls Ls).map fun l => l.filter fun k => decide (x ≤ k) := by
  unfold keysOf seekTarget
  generalize m.sls = sls
  induction sls generalizing Ls with
  | nil => simp
  | cons s ss ih =>
    cases Ls with
    | nil => simp
    | cons L Lr =>
      simp only [List.zipWith_cons_cons, List.map_cons]
      rw [ih]
      congr 1
      rw [geX_eq, List.filter_map]
      rfl

end NitroVerif.SkipSeq
