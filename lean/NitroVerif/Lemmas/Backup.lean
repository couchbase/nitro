import NitroVerif.Model.Backup
import NitroVerif.Lemmas.BackupGen
import NitroVerif.Lemmas.Codec
import NitroVerif.Lemmas.ListFacts
-- `Nat.repr_injective`, for `shardName_inj`
import Std.Data.String.ToNat
/-!
  The backup model (M7) layer by layer: a directory `filesOf 0 cs` listed by `shardNames` ("canonical" in
  the lemma names) is the list `cs`, on which `loadShards` is one `allSome` over the shards' results; a side of the backup is one
  function `sideShards`, and `load` is what its two sides decode to (`load_eq`).
-/
namespace NitroVerif.Backup
open NitroVerif.Codec NitroVerif.Backup.GenLemmas

def allSome {α : Type} : List (Option α) → Option (List α)
  | [] => some []
  | none :: _ => none
  | some a :: r =>
    match allSome r with
    | none => none
    | some l => some (a :: l)

theorem allSome_eq_some_iff {α : Type} (l : List (Option α)) (r : List α) :
    allSome l = some r ↔ l = r.map some := by
  induction l generalizing r with
  | nil => cases r <;> simp [allSome]
  | cons a t ih =>
    cases a with
    | none => cases r <;> simp [allSome]
    | some a =>
      cases r with
      | nil => simp only [allSome]; cases allSome t <;> simp
      | cons b r' =>
        simp only [allSome, List.map_cons, List.cons.injEq, Option.some.injEq, ← ih r']
        cases allSome t <;> simp

theorem allSome_map_ite {α β : Type} (P : α → Prop) [DecidablePred P] (f : α → β) (l : List α) :
    allSome (l.map fun a => if P a then some (f a) else none)
      = if ∀ a ∈ l, P a then some (l.map f) else none := by
  induction l with
  | nil => simp [allSome]
  | cons a r ih =>
    rw [List.map_cons]
    by_cases ha : P a
    · rw [if_pos ha, allSome, ih]
      by_cases hr : ∀ x ∈ r, P x
      · rw [if_pos hr, if_pos (List.forall_mem_cons.2 ⟨ha, hr⟩), List.map_cons]
      · rw [if_neg hr, if_neg (fun hc => hr (List.forall_mem_cons.1 hc).2)]
    · rw [if_neg ha, allSome, if_neg (fun hc => ha (List.forall_mem_cons.1 hc).1)]

theorem allSome_map_inv {α β : Type} (f : α → Option β) (zs : List α) (l : List β)
    (h : allSome (zs.map f) = some l) :
    l.length = zs.length ∧ ∀ i (hz : i < zs.length) (hl : i < l.length), f zs[i] = some l[i] := by
  have he := (allSome_eq_some_iff _ _).1 h
  have hlen : l.length = zs.length := by
    have := congrArg List.length he
    simpa using this.symm
  refine ⟨hlen, fun i hz hl => ?_⟩
  have := congrArg (fun x => x[i]?) he
  simpa [hz, hl] using this

theorem shardName_inj {i j : Nat} (h : shardName i = shardName j) : i = j := by
  unfold shardName at h
  exact Nat.repr_injective ((String.append_right_inj _).1 h)

theorem lookup_filesOf_lt (k j : Nat) (cs : List Bytes) (h : j < k) :
    lookup (shardName j) (filesOf k cs) = none := by
  induction cs generalizing k with
  | nil => rfl
  | cons c r ih =>
    simp only [filesOf, lookup]
    rw [if_neg (fun he => absurd (shardName_inj he) (Nat.ne_of_gt h))]
    exact ih (k + 1) (Nat.lt_succ_of_lt h)

theorem lookup_filesOf (k i : Nat) (cs : List Bytes) :
    lookup (shardName (k + i)) (filesOf k cs) = cs[i]? := by
  induction cs generalizing k i with
  | nil => rfl
  | cons c r ih =>
    simp only [filesOf, lookup]
    cases i with
    | zero => simp
    | succ i =>
      rw [if_neg (fun he => absurd (shardName_inj he) (Nat.ne_of_lt (Nat.lt_add_of_pos_right (Nat.succ_pos i)))),
        show k + (i + 1) = k + 1 + i by rw [Nat.add_assoc, Nat.add_comm 1 i], ih]
      rfl

theorem lookup_filesOf_zero (i : Nat) (cs : List Bytes) :
    lookup (shardName i) (filesOf 0 cs) = cs[i]? := by
  simpa using lookup_filesOf 0 i cs

theorem lookup_filesOf_some {name : String} {k : Nat} {cs : List Bytes} {b : Bytes}
    (h : lookup name (filesOf k cs) = some b) : ∃ i, name = shardName (k + i) ∧ cs[i]? = some b := by
  induction cs generalizing k with
  | nil => simp [filesOf, lookup] at h
  | cons c r ih =>
    simp only [filesOf, lookup] at h
    split at h
    · rename_i hn
      exact ⟨0, hn.symm, by simpa using h⟩
    · obtain ⟨i, hn, hb⟩ := ih h
      exact ⟨i + 1, by rw [hn, Nat.add_assoc, Nat.add_comm 1 i], hb⟩

theorem lookup_removeFile_self (name : String) (fs : List (String × Bytes)) :
    lookup name (removeFile name fs) = none := by
  induction fs with
  | nil => rfl
  | cons p r ih =>
    obtain ⟨n, b⟩ := p
    simp only [removeFile, List.filter_cons] at ih ⊢
    split
    · rename_i hn
      simp only [lookup]
      rw [if_neg (by simpa using hn)]
      exact ih
    · exact ih

theorem lookup_removeFile_ne {name n : String} (h : n ≠ name) (fs : List (String × Bytes)) :
    lookup n (removeFile name fs) = lookup n fs := by
  induction fs with
  | nil => rfl
  | cons p r ih =>
    obtain ⟨m, b⟩ := p
    simp only [removeFile, List.filter_cons] at ih ⊢
    split
    · simp only [lookup]
      rw [ih]
    · rename_i hm
      have hmn : m = name := by simpa using hm
      simp only [lookup]
      rw [if_neg (by rw [hmn]; exact fun e => h e.symm)]
      exact ih

theorem openAll_eq (fs : List (String × Bytes)) (names : List String) :
    openAll fs names = allSome (names.map (fun n => lookup n fs)) := by
  induction names with
  | nil => rfl
  | cons n r ih =>
    simp only [openAll, List.map_cons]
    cases hl : lookup n fs with
    | none => simp [allSome]
    | some b =>
      simp only [allSome, ih]
      cases allSome (List.map (fun n => lookup n fs) r) <;> rfl

theorem openAll_congr {fs fs' : List (String × Bytes)} {names : List String}
    (h : ∀ n ∈ names, lookup n fs = lookup n fs') : openAll fs names = openAll fs' names := by
  rw [openAll_eq, openAll_eq]
  congr 1
  exact List.map_congr_left h

theorem openAll_shardNames (cs : List Bytes) :
    openAll (filesOf 0 cs) (shardNames cs.length) = some cs := by
  rw [openAll_eq, allSome_eq_some_iff, shardNames, List.map_map, ← range_map_getElem?]
  exact List.map_congr_left fun i _ => lookup_filesOf_zero i cs

/-- a listed file that does not exist: LoadFromDisk fails at `r.Open` -/
theorem openAll_missing {fs : List (String × Bytes)} {names : List String} {n : String}
    (hn : n ∈ names) (hl : lookup n fs = none) : openAll fs names = none := by
  induction names with
  | nil => cases hn
  | cons m r ih =>
    unfold openAll
    rcases List.mem_cons.1 hn with rfl | hr
    · rw [hl]
    · rw [ih hr]
      cases lookup m fs <;> rfl

theorem mem_shardNames {n i : Nat} (h : i < n) : shardName i ∈ shardNames n :=
  List.mem_map.2 ⟨i, List.mem_range.2 h, rfl⟩

@[simp] theorem length_shardNames (n : Nat) : (shardNames n).length = n := by
  simp [shardNames]

/-- items a writer can have been given: non-empty, shorter than 2^32 bytes.  The Props spell it out; the
    two are interchangeable by unfolding. -/
def ValidItems (items : List Bytes) : Prop := ∀ d ∈ items, 0 < d.length ∧ d.length < 2 ^ 32

instance (items : List Bytes) : Decidable (ValidItems items) := by
  unfold ValidItems; infer_instance

theorem validItems_of_content {parts : List (List Bytes)} {content : List Bytes}
    (hit : ∀ d ∈ content, 0 < d.length ∧ d.length < 2 ^ 32) (hparts : parts.flatten = content) :
    ValidItems parts.flatten :=
  hparts ▸ hit

theorem ValidItems.sublist {l l' : List Bytes} (h : ∀ d ∈ l, 0 < d.length ∧ d.length < 2 ^ 32)
    (hs : l'.Sublist l) : ValidItems l' :=
  fun d hd => h d (hs.subset hd)

theorem validItems_of_flatten {parts : List (List Bytes)} (h : ValidItems parts.flatten)
    {p : List Bytes} (hp : p ∈ parts) : ValidItems p :=
  fun d hd => h d (List.mem_flatten.2 ⟨p, hp, hd⟩)

/-- outcome of one shard: decode, then the checksum test -/
def shardResult (h : Bytes → Nat) (ver : Nat) (mm : Nat → Nat → Bool) (z : Nat × Bytes) :
    Option (List Bytes) :=
  match readFile h ver z.2 with
  | .err _ => none
  | .ok items sum _ => if mm z.1 sum then none else some items

theorem readShards_eq (h : Bytes → Nat) (ver : Nat) (mm : Nat → Nat → Bool) (zs : List (Nat × Bytes)) :
    readShards h ver mm zs = allSome (zs.map (shardResult h ver mm)) := by
  induction zs with
  | nil => rfl
  | cons z r ih =>
    obtain ⟨s, b⟩ := z
    simp only [readShards, List.map_cons, shardResult]
    cases hr : readFile h ver b with
    | err before => simp [allSome]
    | ok items sum rest =>
      simp only
      by_cases hm : mm s sum = true
      · simp [hm, allSome]
      · simp only [hm, Bool.false_eq_true, if_false, allSome, ih]
        cases allSome (List.map (shardResult h ver mm) r) <;> rfl

theorem shardResult_of_read {h : Bytes → Nat} {ver : Nat} {mm : Nat → Nat → Bool} {s : Nat} {b : Bytes}
    {items : List Bytes} {sum : Nat} {rest : Bytes} (hr : readFile h ver b = .ok items sum rest) :
    shardResult h ver mm (s, b) = if mm s sum then none else some items := by
  simp only [shardResult, hr]

theorem shardResult_some {h : Bytes → Nat} {ver : Nat} {mm : Nat → Nat → Bool} {s : Nat} {b : Bytes}
    {items : List Bytes} (hr : shardResult h ver mm (s, b) = some items) :
    ∃ sum rest, readFile h ver b = .ok items sum rest ∧ mm s sum = false := by
  cases hf : readFile h ver b with
  | err before => simp only [shardResult, hf] at hr; cases hr
  | ok its sum rest =>
    rw [shardResult_of_read hf] at hr
    cases hm : mm s sum with
    | true => rw [hm, if_pos rfl] at hr; cases hr
    | false =>
      rw [hm, if_neg Bool.false_ne_true] at hr
      cases hr
      exact ⟨sum, rest, rfl, hm⟩

theorem loadShards_canonical (h : Bytes → Nat) (ver : Nat) (mm : Bool → Nat → Nat → Bool)
    (sums : Manifest (List Nat)) (cs : List Bytes) :
    loadShards h ver mm (shardNames cs.length) sums (filesOf 0 cs) =
      match sumsOf sums cs.length with
      | none => none
      | some (has, ss) => allSome ((ss.zip cs).map (shardResult h ver (mm has))) := by
  unfold loadShards
  rw [length_shardNames, openAll_shardNames cs]
  cases sumsOf sums cs.length with
  | none => rfl
  | some p => obtain ⟨has, ss⟩ := p; simp only [readShards_eq]

theorem sumsOf_parsed {cs : List Nat} {n : Nat} (h : cs.length = n) :
    sumsOf (.parsed cs) n = some (true, cs) := by
  simp [sumsOf, h]

theorem sumsOf_parsed_ne {cs : List Nat} {n : Nat} (h : cs.length ≠ n) : sumsOf (.parsed cs) n = none :=
  if_pos h

theorem sumsOf_parsed_inv {cs ss : List Nat} {n : Nat} {has : Bool}
    (h : sumsOf (.parsed cs) n = some (has, ss)) : cs.length = n ∧ has = true ∧ ss = cs := by
  by_cases hl : cs.length = n
  · rw [sumsOf_parsed hl] at h
    cases h
    exact ⟨hl, rfl, rfl⟩
  · rw [sumsOf_parsed_ne hl] at h
    cases h

theorem sumsOf_length {m : Manifest (List Nat)} {n : Nat} {has : Bool} {ss : List Nat}
    (h : sumsOf m n = some (has, ss)) : ss.length = n := by
  cases m with
  | absent => cases h; exact List.length_replicate
  | unparsable => cases h
  | parsed cs =>
    obtain ⟨hl, -, rfl⟩ := sumsOf_parsed_inv h
    exact hl

theorem sumsOf_absent (n : Nat) : sumsOf .absent n = some (false, List.replicate n 0) := rfl

theorem allSome_written (h : Bytes → Nat) {ver : Nat} (hv : ver ≠ 0) (mm : Nat → Nat → Bool)
    (ss : List Nat) (parts : List (List Bytes)) (hval : ValidItems parts.flatten)
    (hlen : ss.length = parts.length)
    (hm : ∀ i (h1 : i < ss.length) (h2 : i < parts.length), mm ss[i] (writerChecksum h parts[i]) = false) :
    allSome ((ss.zip (parts.map writeFile)).map (shardResult h ver mm)) = some parts := by
  rw [allSome_eq_some_iff]
  apply List.ext_getElem
  · simp [hlen]
  · intro i h1 h2
    have hi : i < parts.length := List.length_map some ▸ h2
    have hs : i < ss.length := hlen ▸ hi
    have := shardResult_of_read (mm := mm) (s := ss[i])
      (readFile_written h hv parts[i] (validItems_of_flatten hval (List.getElem_mem hi)) [])
    simpa [hm i hs hi] using this

theorem loadShards_shardFiles (h : Bytes → Nat) {ver : Nat} (hv : ver ≠ 0) (mm : Bool → Nat → Nat → Bool)
    (parts : List (List Bytes)) (hval : ValidItems parts.flatten) {sums : Manifest (List Nat)}
    {has : Bool} {ss : List Nat} (hs : sumsOf sums parts.length = some (has, ss))
    (hm : ∀ i (h1 : i < ss.length) (h2 : i < parts.length),
      mm has ss[i] (writerChecksum h parts[i]) = false) :
    loadShards h ver mm (shardNames parts.length) sums (shardFiles 0 parts) = some parts := by
  have hc := loadShards_canonical h ver mm sums (parts.map writeFile)
  rw [List.length_map] at hc
  rw [shardFiles, hc, hs]
  exact allSome_written h hv (mm has) ss parts hval (sumsOf_length hs) hm

theorem loadShards_sums_none {h : Bytes → Nat} {ver : Nat} {mm : Bool → Nat → Nat → Bool}
    {files : List String} {sums : Manifest (List Nat)} {fs : List (String × Bytes)}
    (hs : sumsOf sums files.length = none) : loadShards h ver mm files sums fs = none := by
  rw [loadShards, hs]

theorem loadShards_missing {h : Bytes → Nat} {ver : Nat} {mm : Bool → Nat → Nat → Bool}
    {files : List String} {sums : Manifest (List Nat)} {fs : List (String × Bytes)} {n : String}
    (hn : n ∈ files) (hl : lookup n fs = none) : loadShards h ver mm files sums fs = none := by
  rw [loadShards, openAll_missing hn hl]
  cases sumsOf sums files.length with
  | none => rfl
  | some p => rfl

/-- data/files.json as an option (`dfilesOf` is its delta counterpart: there a missing file is `[]`) -/
def parsedOf : Manifest (List String) → Option (List String)
  | .parsed fs => some fs
  | _ => none

/-- what a side decodes to: `load` applies it to data/ and to delta/ (`load_eq`; the checksum test of
    delta/ is the data one, `deltaChecksumMismatch_eq`) -/
def sideShards (h : Bytes → Nat) (version : Manifest Nat) (files : Option (List String))
    (sums : Manifest (List Nat)) (dir : List (String × Bytes)) : Option (List (List Bytes)) :=
  match versionOf version with
  | none => none
  | some v =>
    match files with
    | none => none
    | some fs => loadShards h v Gen.checksumMismatch fs sums dir

section
variable {h : Bytes → Nat} {version : Manifest Nat} {files : Option (List String)}
  {sums : Manifest (List Nat)} {dir : List (String × Bytes)}

theorem sideShards_eq {v : Nat} {fs : List String} (hv : versionOf version = some v) (hf : files = some fs) :
    sideShards h version files sums dir = loadShards h v Gen.checksumMismatch fs sums dir := by
  simp only [sideShards, hv, hf]

theorem sideShards_some {shards : List (List Bytes)} (hd : sideShards h version files sums dir = some shards) :
    ∃ v fs, versionOf version = some v ∧ files = some fs ∧
      loadShards h v Gen.checksumMismatch fs sums dir = some shards := by
  unfold sideShards at hd
  cases hv : versionOf version with
  | none => rw [hv] at hd; cases hd
  | some v =>
    rw [hv] at hd
    cases files with
    | none => cases hd
    | some fs => exact ⟨v, fs, rfl, rfl, hd⟩

theorem sideShards_none
    (hd : ∀ v fs, versionOf version = some v → files = some fs →
      loadShards h v Gen.checksumMismatch fs sums dir = none) :
    sideShards h version files sums dir = none := by
  unfold sideShards
  cases hv : versionOf version with
  | none => rfl
  | some v =>
    cases files with
    | none => rfl
    | some fs => exact hd v fs hv rfl

end

/-- a side as StoreToDisk left it (checksums manifest as stored, or removed: `(hs := .inr rfl)`).
    The facts about the arguments hold by `rfl` on `storeImage …` and its `{ … with … }` damages of
    other fields, hence the defaults. -/
theorem sideShards_stored (h : Bytes → Nat) {version : Manifest Nat} {files : Option (List String)}
    {sums : Manifest (List Nat)} {dir : List (String × Bytes)} {ver : Nat} {parts : List (List Bytes)}
    (hv : ver ≠ 0) (hval : ValidItems parts.flatten)
    (hver : version = .parsed ver := by rfl)
    (hf : files = some (shardNames parts.length) := by rfl)
    (hd : dir = shardFiles 0 parts := by rfl)
    (hs : sums = .parsed (parts.map (writerChecksum h)) ∨ sums = .absent := by exact .inl rfl) :
    sideShards h version files sums dir = some parts := by
  subst hver hf hd
  rcases hs with rfl | rfl
  · exact loadShards_shardFiles h hv _ parts hval (sumsOf_parsed (List.length_map _))
      fun i _ _ => by rw [List.getElem_map]; exact checksumMismatch_self _ _
  · exact loadShards_shardFiles h hv _ parts hval (sumsOf_absent _)
      fun _ _ _ => checksumMismatch_unchecked _ _

theorem sideShards_no_manifests (h : Bytes → Nat) {version : Manifest Nat} {dfiles : Manifest (List String)}
    {dsums : Manifest (List Nat)} {dir : List (String × Bytes)} {ver : Nat}
    (hv : versionOf version = some ver := by rfl) (hf : dfiles = .absent := by rfl)
    (hs : dsums = .absent := by rfl) : sideShards h version (dfilesOf dfiles) dsums dir = some [] := by
  subst hf hs
  exact (sideShards_eq hv rfl).trans rfl

theorem load_eq (h : Bytes → Nat) (cmp : Bytes → Bytes → Int) (useDelta : Bool) (img : Image) :
    load h cmp useDelta img =
      match sideShards h img.version (parsedOf img.files) img.sums img.data with
      | none => .err
      | some shards =>
        match useDelta with
        | false => .ok shards.flatten
        | true =>
          match sideShards h img.version (dfilesOf img.dfiles) img.dsums img.delta with
          | none => .err
          | some ds => .ok (insertAll cmp shards.flatten ds.flatten) := by
  have e : Gen.deltaChecksumMismatch = Gen.checksumMismatch :=
    funext fun _ => funext fun _ => funext fun _ => deltaChecksumMismatch_eq _ _ _
  unfold load sideShards
  rw [e]
  cases versionOf img.version with
  | none => rfl
  | some ver =>
    cases img.files with
    | absent => rfl
    | unparsable => rfl
    | parsed files =>
      dsimp only [parsedOf]
      cases loadShards h ver Gen.checksumMismatch files img.sums img.data with
      | none => rfl
      | some shards =>
        cases useDelta with
        | false => rfl
        | true => cases dfilesOf img.dfiles <;> rfl

theorem load_err_of_dataSide {h : Bytes → Nat} {cmp : Bytes → Bytes → Int} {img : Image}
    (hd : sideShards h img.version (parsedOf img.files) img.sums img.data = none) (useDelta : Bool) :
    load h cmp useDelta img = .err := by
  rw [load_eq, hd]

theorem load_err_of_deltaSide {h : Bytes → Nat} {cmp : Bytes → Bytes → Int} {img : Image}
    (hd : sideShards h img.version (dfilesOf img.dfiles) img.dsums img.delta = none) :
    load h cmp true img = .err := by
  rw [load_eq, hd]
  cases sideShards h img.version (parsedOf img.files) img.sums img.data <;> rfl

theorem dataSide_of_load_ok {h : Bytes → Nat} {cmp : Bytes → Bytes → Int} {img : Image}
    {items : List Bytes} (hok : load h cmp false img = .ok items) :
    ∃ shards, sideShards h img.version (parsedOf img.files) img.sums img.data = some shards ∧
      items = shards.flatten := by
  rw [load_eq] at hok
  cases hd : sideShards h img.version (parsedOf img.files) img.sums img.data with
  | none => rw [hd] at hok; cases hok
  | some shards => rw [hd] at hok; cases hok; exact ⟨shards, rfl, rfl⟩

theorem load_err_of_base_err {h : Bytes → Nat} {cmp : Bytes → Bytes → Int} {img : Image}
    (he : load h cmp false img = .err) (useDelta : Bool) : load h cmp useDelta img = .err := by
  rw [load_eq] at he
  cases hd : sideShards h img.version (parsedOf img.files) img.sums img.data with
  | none => exact load_err_of_dataSide hd useDelta
  | some shards => rw [hd] at he; cases he

theorem load_err_of_files_none {h : Bytes → Nat} {cmp : Bytes → Bytes → Int} {img : Image}
    (hf : parsedOf img.files = none) (useDelta : Bool) : load h cmp useDelta img = .err := by
  refine load_err_of_dataSide ?_ useDelta
  rw [hf, sideShards]
  cases versionOf img.version <;> rfl

theorem load_storeImage (h : Bytes → Nat) (cmp : Bytes → Bytes → Int) (parts : List (List Bytes))
    (hval : ValidItems parts.flatten) {ver : Nat} (hv : ver ≠ 0) :
    load h cmp false (storeImage h parts ver) = .ok parts.flatten := by
  rw [load_eq, sideShards_stored h hv hval]

theorem load_storeImageDelta (h : Bytes → Nat) (keyCmp : Bytes → Bytes → Int)
    (parts dparts : List (List Bytes)) (hval : ValidItems parts.flatten)
    (hdval : ValidItems dparts.flatten) (ver : Nat) (hv : ver ≠ 0) :
    load h keyCmp true (storeImageDelta h parts dparts ver)
      = .ok (insertAll keyCmp parts.flatten dparts.flatten) := by
  rw [load_eq, sideShards_stored h hv hval, sideShards_stored h hv hdval]

end NitroVerif.Backup
