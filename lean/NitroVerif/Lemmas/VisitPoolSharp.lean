import NitroVerif.Lemmas.VisitPool
/-!
  The Visitor's worker pool, the sharp bound: with a buffered channel (`1 ≤ cap`) the pool cannot deadlock as
  soon as `n ≤ cap + c`, because each of the `c` workers takes one index out of the buffer before it can leave
  (`progress_sharp`, with the bookkeeping invariant `Acct`).
-/
namespace NitroVerif.VisitPool

def busyW : WState → Nat
  | .busy _ => 1
  | _ => 0

def doneW : WState → Nat
  | .done => 1
  | _ => 0

/-- every index sent is in the buffer, with a busy worker or in the log; while the channel is open a worker
    has returned only by logging a shard -/
structure Acct (st : State) : Prop where
  acct : st.chan.length + (st.workers.map busyW).sum + st.log.length = st.next
  left : st.closed = false → (st.workers.map doneW).sum ≤ st.log.length

theorem acct_init (n c : Nat) : Acct (init n c) where
  acct := by simp only [init, sum_map_replicate, busyW, List.length_nil, Nat.mul_zero]
  left := by intro _; simp only [init, sum_map_replicate, doneW, Nat.mul_zero]; exact Nat.zero_le _

theorem acct_step {fails : Nat → Bool} {n cap : Nat} {st st' : State} {a : Action}
    (hi : Acct st) (h : step fails n cap st a = some st') : Acct st' := by
  obtain ⟨h1, h2⟩ := hi
  cases step_iff.mp h with
  | send _ _ _ =>
    refine ⟨?_, h2⟩
    simp only [List.length_append, List.length_cons, List.length_nil]
    omega
  | recv w s rest hch hw =>
    have hb := sum_map_set busyW st.workers w (.busy s) .idle hw
    have hd := sum_map_set doneW st.workers w (.busy s) .idle hw
    simp only [busyW, doneW, hch, List.length_cons] at hb hd h1 h2
    refine ⟨?_, ?_⟩
    · simp only; omega
    · intro hc; have := h2 hc; simp only; omega
  | finish w s hw =>
    have hb := sum_map_set busyW st.workers w (after (fails s)) (.busy s) hw
    have hd := sum_map_set doneW st.workers w (after (fails s)) (.busy s) hw
    obtain ⟨hb0, hd1⟩ : busyW (after (fails s)) = 0 ∧ doneW (after (fails s)) ≤ 1 := by
      cases fails s <;> decide
    rw [hb0, show busyW (.busy s) = 1 from rfl] at hb
    rw [show doneW (.busy s) = 0 from rfl] at hd
    refine ⟨?_, ?_⟩
    · simp only [List.length_append, List.length_cons, List.length_nil]; omega
    · intro hc; have := h2 hc; simp only [List.length_append, List.length_cons, List.length_nil]; omega
  | close _ _ => exact ⟨h1, fun hc => by cases hc⟩
  | exit w hcl _ hw =>
    have hb := sum_map_set busyW st.workers w .done .idle hw
    simp only [busyW] at hb
    refine ⟨by simp only; omega, ?_⟩
    intro hc
    simp only at hc
    rw [hcl] at hc; cases hc

theorem acct_run {fails : Nat → Bool} {n cap : Nat} (sched : List Action) (st st' : State)
    (hi : Acct st) (h : run fails n cap st sched = some st') : Acct st' :=
  run_ind (fun _ _ _ => acct_step) sched st st' hi h

theorem sum_all_done (l : List WState) (h : ∀ w ∈ l, w = .done) : (l.map doneW).sum = l.length := by
  induction l with
  | nil => rfl
  | cons a r ih =>
    have ha := h a (by simp)
    subst ha
    simp only [List.map_cons, List.sum_cons, List.length_cons, doneW,
      ih (fun w hw => h w (List.mem_cons_of_mem _ hw))]
    omega

theorem progress_sharp {fails : Nat → Bool} {n cap c : Nat} (hcap1 : 0 < cap) (hcap : n ≤ cap + c) {st : State}
    (hi : Inv fails n c st) (ha : Acct st) : final n st ∨ ∃ a st', step fails n cap st a = some st' := by
  rcases final_or_enabled_or_full (cap := cap) hi with h | h | ⟨hcl, hlt, hfull, hch | hall⟩
  · exact Or.inl h
  · exact Or.inr h
  · rw [hch] at hfull; exact absurd (Nat.lt_of_lt_of_le hcap1 hfull) (Nat.lt_irrefl 0)
  · -- every worker has returned, each on a logged shard; with the full buffer that is `cap + c ≥ n` indexes
    have h1 := sum_all_done _ hall
    have h2 := ha.left hcl
    have h3 := ha.acct
    have h4 := hi.nworkers
    omega

end NitroVerif.VisitPool
