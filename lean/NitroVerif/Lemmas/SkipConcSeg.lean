import NitroVerif.Lemmas.SkipConcHeap
import NitroVerif.Lemmas.GuardsGen
/-!
  The model M5 by cases.
  `Seg sh th pc r`: `r` is the result of the segment a thread `th` parked at `pc` executes.  One constructor per way
    through the code between two yield points.  A compare-and-swap that succeeds is the hypothesis "the word holds the
    expected unmarked value", one that fails is its negation and leaves the heap alone.  `stepThread_seg` is its
    inversion; a fact about all segments is proved by `induction` on `Seg` (not recursive: it is the case split, and
    makes the index `pc` a variable, so whatever is computed from it reduces in every case).
  Likewise `FinR` (`finishFind_cases`: findPath returns to its caller) and `StartR` (`startOp_cases`: the call entries);
    `FindEnds` / `Seg.ends` (the search ends in this segment); `Wr`, a segment's heap effect by kind of write (`Seg.wr`).
-/
namespace NitroVerif.SkipConc

section
variable {sh : Shared} {th : Thread}

theorem stepThread_idle (h : th.pc = .idle) : stepThread sh th = (sh, th, "bad-op") := by
  unfold stepThread; rw [h]

theorem stepThread_newLevel {item req level : Nat} (h : th.pc = .newLevel item req level) :
    stepThread sh th = stepNewLevel sh th item req level := by
  unfold stepThread; rw [h]

theorem stepThread_findLevel {fp : FP} (h : th.pc = .findLevel fp) : stepThread sh th = stepFindLevel sh th fp := by
  unfold stepThread; rw [h]

theorem stepThread_findNext {fp : FP} {rr : Bool} (h : th.pc = .findNext fp rr) :
    stepThread sh th = stepFindNext sh th fp rr := by
  unfold stepThread; rw [h]

theorem stepThread_helpDelete {fp : FP} {next : Nat} (h : th.pc = .helpDelete fp next) :
    stepThread sh th = stepHelpDelete sh th fp next := by
  unfold stepThread; rw [h]

theorem stepThread_insPublish {item lvl : Nat} (h : th.pc = .insPublish item lvl) :
    stepThread sh th = stepInsPublish sh th item lvl := by
  unfold stepThread; rw [h]

theorem stepThread_insUpRead {item x lvl i : Nat} (h : th.pc = .insUpRead item x lvl i) :
    stepThread sh th = stepInsUpRead sh th item x lvl i := by
  unfold stepThread; rw [h]

theorem stepThread_insUpLink {item x lvl i next : Nat} (h : th.pc = .insUpLink item x lvl i next) :
    stepThread sh th = stepInsUpLink sh th item x lvl i next := by
  unfold stepThread; rw [h]

theorem stepThread_softMark {item n i next : Nat} {marked : Bool} (h : th.pc = .softMark item n i next marked) :
    stepThread sh th = stepSoftMark sh th item n i next marked := by
  unfold stepThread; rw [h]

theorem stepThread_delSearch {item : Nat} (h : th.pc = .delSearch item) :
    stepThread sh th = startFind sh th item .delClean := by
  unfold stepThread; rw [h]

theorem stepThread_iterNext {it : Nat} (h : th.pc = .iterNext it) : stepThread sh th = stepIterNext sh th it := by
  unfold stepThread; rw [h]

theorem stepThread_iterHelp {it next : Nat} (h : th.pc = .iterHelp it next) :
    stepThread sh th = stepIterHelp sh th it next := by
  unfold stepThread; rw [h]

theorem stepThread_iterRefresh {it : Nat} (h : th.pc = .iterRefresh it) :
    stepThread sh th = stepIterRefresh sh th it := by
  unfold stepThread; rw [h]

end

/-- the node FIND_NEXT reads: `curr`, or at the point inside `for deleted` (`rr`) the successor of `prev` read again -/
@[reducible] def readNode (h : Heap) (fp : FP) (rr : Bool) : Nat :=
  if rr = true then (getNext h fp.prev fp.i).1 else fp.curr

theorem stepFindNext_read (sh : Shared) (th : Thread) (fp : FP) (rr : Bool) :
    stepFindNext sh th fp rr =
      afterRead sh th { fp with curr := readNode sh.heap fp rr }
        (getNext sh.heap (readNode sh.heap fp rr) fp.i).1
        (getNext sh.heap (readNode sh.heap fp rr) fp.i).2 := by
  cases rr <;> rfl

theorem startFind_level (sh : Shared) (th : Thread) (item : Nat) (c : Cont) :
    (startFind sh th item c).1.level = sh.level := rfl

theorem find?_setIter (l : List (Nat × Iter)) (it : Nat) (v : Iter) (it' : Nat) :
    ((SkipConc.setIter l it v).find? fun p => p.1 == it') =
      if it' = it then some (it, v) else l.find? fun p => p.1 == it' := by
  induction l with
  | nil =>
    simp only [SkipConc.setIter, List.find?_cons, List.find?_nil]
    by_cases h : it' = it
    · subst h; simp
    · have : (it == it') = false := by simp; exact fun e => h e.symm
      simp [h, this]
  | cons a r ih =>
    unfold SkipConc.setIter
    by_cases ha : (a.1 == it) = true
    · rw [if_pos ha]
      have ha' : a.1 = it := by simpa using ha
      simp only [List.find?_cons]
      by_cases h : it' = it
      · subst h; simp
      · have h1 : (it == it') = false := by simp; exact fun e => h e.symm
        have h2 : (a.1 == it') = false := by rw [ha']; exact h1
        simp [h, h1, h2]
    · rw [if_neg ha]
      simp only [List.find?_cons]
      by_cases h : it' = it
      · subst h
        have : (a.1 == it') = false := by simpa using ha
        rw [this, ih]
      · cases hh : (a.1 == it')
        · simp only []; rw [ih, if_neg h]
        · simp [h]

theorem iter_setIter_self (th : Thread) (it : Nat) (v : Iter) : (th.setIter it v).iter it = v := by
  simp [Thread.iter, Thread.iter?, Thread.setIter, find?_setIter]

theorem moveIter_iter (th : Thread) (it p c : Nat) :
    (th.moveIter it p c).iter it = { (th.iter it) with prev := p, curr := c, valid := true } :=
  iter_setIter_self th it _

theorem newNode_getElem? (th : Thread) (item lvl l : Nat) {w : Nat × Bool}
    (hw : (newNode th item lvl).next[l]? = some w) : l ≤ lvl ∧ w = (th.succ l, false) := by
  simp only [newNode, List.getElem?_map] at hw
  by_cases hl : l < lvl + 1
  · simp [List.getElem?_range hl] at hw; exact ⟨by omega, hw.symm⟩
  · have : (List.range (lvl + 1))[l]? = none := by simp; omega
    simp [this] at hw

theorem newNode_isSome (th : Thread) (item lvl l : Nat) (hl : l ≤ lvl) : ((newNode th item lvl).next[l]?).isSome := by
  simp only [newNode, List.getElem?_map]
  have : l < lvl + 1 := by omega
  simp [List.getElem?_range this]

theorem newNode_next0 (th : Thread) (item lvl : Nat) : (newNode th item lvl).next[0]? = some (th.succ 0, false) := by
  simp [newNode]

theorem mem_of_iter? {th : Thread} {it : Nat} {I : Iter} (hI : th.iter? it = some I) : (it, I) ∈ th.iters := by
  unfold Thread.iter? at hI
  cases hf : th.iters.find? (fun p => p.1 == it) with
  | none => rw [hf] at hI; cases hI
  | some p =>
    rw [hf] at hI
    have h2 : p.1 = it := by simpa using List.find?_some hf
    have h3 : p.2 = I := Option.some.inj hI
    rw [← h2, ← h3]; exact List.mem_of_find?_eq_some hf

theorem heightOf_publish (h : Heap) (p : Nat) (nd : Node) :
    heightOf (setWord h p 0 (h.length, false) ++ [nd]) h.length = nd.height := by
  have := heightOf_append_new (setWord h p 0 (h.length, false)) nd
  rwa [length_setWord] at this

theorem softScan_none {h : Heap} {n : Nat} (i : Nat) (hs : softScan h n i = none) : (getNext h n 0).2 = true := by
  induction i with
  | zero =>
    simp only [softScan] at hs
    split at hs
    · assumption
    · cases hs
  | succ i ih =>
    simp only [softScan] at hs
    split at hs
    · exact ih hs
    · cases hs

theorem softScan_spec (h : Heap) (n : Nat) : ∀ i j next, softScan h n i = some (j, next) →
    j ≤ i ∧ next = (getNext h n j).1 ∧ ∀ l, j < l → l ≤ i → (getNext h n l).2 = true := by
  intro i
  induction i with
  | zero =>
    intro j next hs
    simp only [softScan] at hs
    split at hs
    · cases hs
    · cases hs; exact ⟨Nat.le_refl _, rfl, fun l h1 h2 => absurd h1 (Nat.not_lt.mpr h2)⟩
  | succ i ih =>
    intro j next hs
    simp only [softScan] at hs
    split at hs
    · rename_i hm
      obtain ⟨h1, h2, h3⟩ := ih j next hs
      refine ⟨Nat.le_succ_of_le h1, h2, fun l hl1 hl2 => ?_⟩
      rcases Nat.lt_or_eq_of_le hl2 with hl | rfl
      · exact h3 l hl1 (Nat.le_of_lt_succ hl)
      · exact hm
    · cases hs; exact ⟨Nat.le_refl _, rfl, fun l h1 h2 => absurd h1 (Nat.not_lt.mpr h2)⟩

theorem enterSoft_cases (sh : Shared) (th : Thread) (item n i : Nat) (m : Bool) :
    (∃ j next, enterSoft sh th item n i m = (sh, { th with pc := .softMark item n j next m }, "at SOFT_MARK")) ∨
    (m = true ∧ enterSoft sh th item n i m = (sh, { th with pc := .delSearch item }, "at DEL_SEARCH") ∧
      (getNext sh.heap n 0).2 = true) ∨
    (m = false ∧ enterSoft sh th item n i m = (sh, { th with pc := .idle }, "ret false") ∧
      (getNext sh.heap n 0).2 = true) := by
  unfold enterSoft
  split
  · exact .inl ⟨_, _, rfl⟩
  · rename_i hsc
    cases m with
    | true => exact .inr (.inl ⟨rfl, rfl, softScan_none _ hsc⟩)
    | false => exact .inr (.inr ⟨rfl, rfl, softScan_none _ hsc⟩)

theorem enterSoft_sh (sh : Shared) (th : Thread) (item n i : Nat) (m : Bool) :
    (enterSoft sh th item n i m).1 = sh := by
  rcases enterSoft_cases sh th item n i m with ⟨j, next, h⟩ | ⟨_, h, _⟩ | ⟨_, h, _⟩ <;> rw [h]

theorem afterNext_cases (sh : Shared) (th : Thread) (it : Nat) :
    ∃ v : Iter, v.prev = (th.iter it).prev ∧ v.curr = (th.iter it).curr ∧
      (afterNext sh th it = (sh, { th.setIter it v with pc := .idle }, retKey sh.heap (th.iter it).curr) ∨
       (∃ k, keyOf sh.heap (th.iter it).curr = .fin k) ∧
         afterNext sh th it = (sh, { th.setIter it v with pc := .iterRefresh it }, "at ITER_REFRESH")) := by
  unfold afterNext
  simp only []
  split
  · split
    · rename_i k hk
      exact ⟨{ (th.iter it) with count := (th.iter it).count + 1 }, rfl, rfl, .inr ⟨⟨k, hk⟩, rfl⟩⟩
    · exact ⟨{ (th.iter it) with count := (th.iter it).count + 1, valid := false }, rfl, rfl, .inl rfl⟩
  · exact ⟨{ (th.iter it) with count := (th.iter it).count + 1 }, rfl, rfl, .inl rfl⟩

theorem afterNext_sh (sh : Shared) (th : Thread) (it : Nat) : (afterNext sh th it).1 = sh := by
  obtain ⟨v, _, _, h | ⟨_, h⟩⟩ := afterNext_cases sh th it <;> rw [h]

theorem helpStats_heap (sh : Shared) (h' : Heap) (ok : Bool) (l c : Nat) : (helpStats sh h' ok l c).heap = h' := by
  unfold helpStats; split <;> rfl

theorem helpStats_level (sh : Shared) (h' : Heap) (ok : Bool) (l c : Nat) :
    (helpStats sh h' ok l c).level = sh.level := by
  unfold helpStats; split <;> rfl

theorem helpStats_fixed (sh : Shared) (h' : Heap) (ok : Bool) (l c : Nat) :
    (helpStats sh h' ok l c).fixedSucc = sh.fixedSucc := by
  unfold helpStats; split <;> rfl

theorem insCheckSucc_cases (sh : Shared) (th : Thread) (item x lvl i next : Nat) :
    insCheckSucc sh th item x lvl i next = startFind sh th item (.insSuccDeleted x lvl i) ∨
    insCheckSucc sh th item x lvl i next = (sh, { th with pc := .insUpLink item x lvl i next }, "at INS_UP_LINK") := by
  unfold insCheckSucc
  split
  · exact .inl rfl
  · exact .inr rfl

theorem insCheckSucc_sh (sh : Shared) (th : Thread) (item x lvl i next : Nat) :
    (insCheckSucc sh th item x lvl i next).1 = sh := by
  rcases insCheckSucc_cases sh th item x lvl i next with h | h <;> rw [h] <;> rfl

/-- The index `pc` is the yield point the segment starts from.  It is NOT tied to `th.pc`: the step functions do not
    read `th.pc` (only the refusal of an idle thread does, hence the hypothesis of `idle`); a lemma that starts from
    `TInv h th` (`Seg.tinv`) asks for `th.pc = pc`. -/
inductive Seg (sh : Shared) (th : Thread) : PC → Res → Prop
  | idle : th.pc = .idle → Seg sh th .idle (sh, th, "bad-op")
  | newLevelBump {item req level : Nat} : sh.level = level →
      Seg sh th (.newLevel item req level)
        (startFind { sh with level := level + 1 } th item (.insFirst (level + 1)))
  | newLevelKeep {item req level : Nat} : sh.level ≠ level →
      Seg sh th (.newLevel item req level) (startFind sh th item (.insFirst level))
  | findLevel {fp : FP} :
      Seg sh th (.findLevel fp)
        (sh, { th with pc := .findNext { fp with curr := (getNext sh.heap fp.prev fp.i).1 } false }, "at FIND_NEXT")
  | readMarked {fp : FP} {rr : Bool} {c : Nat} :
      c = readNode sh.heap fp rr → (getNext sh.heap c fp.i).2 = true →
      Seg sh th (.findNext fp rr)
        (sh, { th with pc := .helpDelete { fp with curr := c } (getNext sh.heap c fp.i).1 }, "at HELP_DELETE")
  | readAdvance {fp : FP} {rr : Bool} {c : Nat} :
      c = readNode sh.heap fp rr → (getNext sh.heap c fp.i).2 = false →
      Gen.findAdvance (compare (keyOf sh.heap c) (.fin fp.item)) = true →
      Seg sh th (.findNext fp rr)
        (sh,
         { th with pc := .findNext { fp with cmpVal := compare (keyOf sh.heap c) (.fin fp.item), prev := c,
                                             curr := (getNext sh.heap c fp.i).1 } false },
         "at FIND_NEXT")
  | readDown {fp : FP} {rr : Bool} {c i : Nat} :
      c = readNode sh.heap fp rr → (getNext sh.heap c fp.i).2 = false →
      ¬ Gen.findAdvance (compare (keyOf sh.heap c) (.fin fp.item)) = true → fp.i = i + 1 →
      Seg sh th (.findNext fp rr)
        (sh,
         { th with
           preds := th.preds.set (i + 1) fp.prev, succs := th.succs.set (i + 1) c,
           pc := .findLevel { fp with curr := c, cmpVal := compare (keyOf sh.heap c) (.fin fp.item), i := i } },
         "at FIND_LEVEL")
  | readEnd {fp : FP} {rr : Bool} {c : Nat} :
      c = readNode sh.heap fp rr → (getNext sh.heap c 0).2 = false →
      ¬ Gen.findAdvance (compare (keyOf sh.heap c) (.fin fp.item)) = true → fp.i = 0 →
      Seg sh th (.findNext fp rr)
        (finishFind sh { th with preds := th.preds.set 0 fp.prev, succs := th.succs.set 0 c } fp.item
          (Gen.findFound (compare (keyOf sh.heap c) (.fin fp.item))) fp.cont)
  | helpOk {fp : FP} {next : Nat} : word? sh.heap fp.prev fp.i = some (fp.curr, false) →
      Seg sh th (.helpDelete fp next)
        (helpStats sh (setWord sh.heap fp.prev fp.i (next, false)) true fp.i fp.curr,
         { th with pc := .findNext fp true }, "at FIND_NEXT")
  | helpFail {fp : FP} {next : Nat} : word? sh.heap fp.prev fp.i ≠ some (fp.curr, false) →
      Seg sh th (.helpDelete fp next)
        (bumpReadConflicts sh, { th with pc := .findLevel { fp with prev := headId, i := sh.level } }, "at FIND_LEVEL")
  | publishUp {item lvl : Nat} : word? sh.heap (th.pred 0) 0 = some (th.succ 0, false) → 1 ≤ lvl →
      Seg sh th (.insPublish item lvl)
        ({ sh with heap := setWord sh.heap (th.pred 0) 0 (sh.heap.length, false) ++ [newNode th item lvl] },
         { th with pc := .insUpRead item sh.heap.length lvl 1 }, "at INS_UP_READ")
  | publishDone {item lvl : Nat} : word? sh.heap (th.pred 0) 0 = some (th.succ 0, false) → ¬ 1 ≤ lvl →
      Seg sh th (.insPublish item lvl)
        (insFinished
          { sh with heap := setWord sh.heap (th.pred 0) 0 (sh.heap.length, false) ++ [newNode th item lvl] } th lvl)
  | publishFail {item lvl : Nat} : word? sh.heap (th.pred 0) 0 ≠ some (th.succ 0, false) →
      Seg sh th (.insPublish item lvl)
        (startFind { sh with stats := { sh.stats with insertConflicts := sh.stats.insertConflicts + 1 } } th item
          (.insRetry lvl))
  | upReadMarked {item x lvl i : Nat} : (getNext sh.heap x i).2 = true →
      Seg sh th (.insUpRead item x lvl i) (insFinished sh th lvl)
  | upReadOwn {item x lvl i : Nat} : (getNext sh.heap x i).2 = false → (getNext sh.heap x i).1 ≠ th.succ i →
      word? sh.heap x i = some ((getNext sh.heap x i).1, false) →
      Seg sh th (.insUpRead item x lvl i)
        (insCheckSucc { sh with heap := setWord sh.heap x i (th.succ i, false) } th item x lvl i (th.succ i))
  | upReadLost {item x lvl i : Nat} : (getNext sh.heap x i).2 = false → (getNext sh.heap x i).1 ≠ th.succ i →
      word? sh.heap x i ≠ some ((getNext sh.heap x i).1, false) →
      Seg sh th (.insUpRead item x lvl i) (insFinished sh th lvl)
  | upReadSame {item x lvl i : Nat} : (getNext sh.heap x i).2 = false → (getNext sh.heap x i).1 = th.succ i →
      Seg sh th (.insUpRead item x lvl i) (insCheckSucc sh th item x lvl i (th.succ i))
  | upLinkMarked {item x lvl i next : Nat} : word? sh.heap (th.pred i) i = some (next, false) →
      (getNext (setWord sh.heap (th.pred i) i (x, false)) x i).2 = true →
      Seg sh th (.insUpLink item x lvl i next)
        (startFind { sh with heap := setWord sh.heap (th.pred i) i (x, false) } th item (.insUnlink x lvl))
  | upLinkNext {item x lvl i next : Nat} : word? sh.heap (th.pred i) i = some (next, false) →
      (getNext (setWord sh.heap (th.pred i) i (x, false)) x i).2 = false → i + 1 ≤ lvl →
      Seg sh th (.insUpLink item x lvl i next)
        ({ sh with heap := setWord sh.heap (th.pred i) i (x, false) },
         { th with pc := .insUpRead item x lvl (i + 1) }, "at INS_UP_READ")
  | upLinkDone {item x lvl i next : Nat} : word? sh.heap (th.pred i) i = some (next, false) →
      (getNext (setWord sh.heap (th.pred i) i (x, false)) x i).2 = false → ¬ i + 1 ≤ lvl →
      Seg sh th (.insUpLink item x lvl i next)
        (insFinished { sh with heap := setWord sh.heap (th.pred i) i (x, false) } th lvl)
  | upLinkFail {item x lvl i next : Nat} : word? sh.heap (th.pred i) i ≠ some (next, false) →
      Seg sh th (.insUpLink item x lvl i next) (startFind sh th item (.insRelink x lvl i))
  | softWin {item n next : Nat} {marked : Bool} : word? sh.heap n 0 = some (next, false) →
      Seg sh th (.softMark item n 0 next marked)
        (enterSoft
          { sh with heap := setWord sh.heap n 0 (next, true), stats := { sh.stats with soft := sh.stats.soft + 1 } }
          th item n 0 true)
  | softUp {item n i next : Nat} {marked : Bool} : word? sh.heap n i = some (next, false) → i ≠ 0 →
      Seg sh th (.softMark item n i next marked)
        (enterSoft { sh with heap := setWord sh.heap n i (next, true) } th item n i marked)
  | softLost {item n i next : Nat} {marked : Bool} : word? sh.heap n i ≠ some (next, false) →
      Seg sh th (.softMark item n i next marked) (enterSoft sh th item n i marked)
  | delSearch {item : Nat} : Seg sh th (.delSearch item) (startFind sh th item .delClean)
  | iterNextMarked {it : Nat} : (getNext sh.heap (th.iter it).curr 0).2 = true →
      Seg sh th (.iterNext it)
        (sh, { th with pc := .iterHelp it (getNext sh.heap (th.iter it).curr 0).1 }, "at HELP_DELETE")
  | iterNextMove {it : Nat} : (getNext sh.heap (th.iter it).curr 0).2 = false →
      Seg sh th (.iterNext it)
        (afterNext sh (th.moveIter it (th.iter it).curr (getNext sh.heap (th.iter it).curr 0).1) it)
  | iterHelpOk {it next : Nat} : word? sh.heap (th.iter it).prev 0 = some ((th.iter it).curr, false) →
      Seg sh th (.iterHelp it next)
        (afterNext (helpStats sh (setWord sh.heap (th.iter it).prev 0 (next, false)) true 0 (th.iter it).curr)
          (th.moveIter it (th.iter it).prev next) it)
  | iterHelpFail {it next : Nat} : word? sh.heap (th.iter it).prev 0 ≠ some ((th.iter it).curr, false) →
      Seg sh th (.iterHelp it next)
        (startFind (bumpReadConflicts sh) th (itemOfKey (keyOf sh.heap (th.iter it).curr)) (.iterNext it))
  | iterRefresh {it : Nat} :
      Seg sh th (.iterRefresh it) (startFind sh th (itemOfKey (keyOf sh.heap (th.iter it).curr)) (.iterRefresh it))

theorem stepFindNext_seg (sh : Shared) (th : Thread) (fp : FP) (rr : Bool) :
    Seg sh th (.findNext fp rr) (stepFindNext sh th fp rr) := by
  rw [stepFindNext_read]
  generalize hc : readNode sh.heap fp rr = c
  unfold afterRead
  by_cases hd : (getNext sh.heap c fp.i).2 = true
  · rw [if_pos hd]; exact .readMarked hc.symm hd
  · rw [if_neg hd]
    by_cases ha : Gen.findAdvance (compare (keyOf sh.heap c) (.fin fp.item)) = true
    · simp only [ha, if_true]; exact .readAdvance hc.symm (Bool.of_not_eq_true hd) ha
    · simp only [ha, Bool.false_eq_true, if_false]
      cases hi : fp.i with
      | succ i => rw [hi] at hd; exact .readDown hc.symm (by rw [hi]; exact Bool.of_not_eq_true hd) ha hi
      | zero => rw [hi] at hd; exact .readEnd hc.symm (Bool.of_not_eq_true hd) ha hi

theorem stepThread_seg (sh : Shared) (th : Thread) : Seg sh th th.pc (stepThread sh th) := by
  cases hpc : th.pc with
  | idle => rw [stepThread_idle hpc]; exact .idle hpc
  | newLevel item req level =>
    rw [stepThread_newLevel hpc]
    unfold stepNewLevel
    by_cases h : sh.level = level
    · rw [if_pos h]; exact .newLevelBump h
    · rw [if_neg h]; exact .newLevelKeep h
  | findLevel fp => rw [stepThread_findLevel hpc]; exact .findLevel
  | findNext fp rr => rw [stepThread_findNext hpc]; exact stepFindNext_seg sh th fp rr
  | helpDelete fp next =>
    rw [stepThread_helpDelete hpc]
    unfold stepHelpDelete
    rcases dcas_cases sh.heap fp.prev fp.i fp.curr next false with ⟨hw, hd⟩ | ⟨hw, hd⟩
    · rw [hd]; exact .helpOk hw
    · rw [hd]; exact .helpFail hw
  | insPublish item lvl =>
    rw [stepThread_insPublish hpc]
    unfold stepInsPublish
    simp only []
    rcases dcas_cases sh.heap (th.pred 0) 0 (th.succ 0) sh.heap.length false with ⟨hw, hd⟩ | ⟨hw, hd⟩
    · rw [hd]
      by_cases hl : 1 ≤ lvl
      · simp only [if_true, hl]; exact .publishUp hw hl
      · simp only [if_true, hl, if_false]; exact .publishDone hw hl
    · rw [hd]; exact .publishFail hw
  | insUpRead item x lvl i =>
    rw [stepThread_insUpRead hpc]
    unfold stepInsUpRead
    by_cases hm : (getNext sh.heap x i).2 = true
    · simp only [hm, if_true]; exact .upReadMarked hm
    · by_cases hn : (getNext sh.heap x i).1 = th.succ i
      · simp only [hm, hn, Bool.false_eq_true, if_false, ne_eq]
        exact .upReadSame (Bool.of_not_eq_true hm) hn
      · rcases dcas_cases sh.heap x i (getNext sh.heap x i).1 (th.succ i) false with ⟨hw, hd⟩ | ⟨hw, hd⟩
        · simp only [hm, hn, Bool.false_eq_true, if_false, ne_eq, not_false_eq_true, if_true, hd]
          exact .upReadOwn (Bool.of_not_eq_true hm) hn hw
        · simp only [hm, hn, Bool.false_eq_true, if_false, ne_eq, not_false_eq_true, if_true, hd]
          exact .upReadLost (Bool.of_not_eq_true hm) hn hw
  | insUpLink item x lvl i next =>
    rw [stepThread_insUpLink hpc]
    unfold stepInsUpLink
    rcases dcas_cases sh.heap (th.pred i) i next x false with ⟨hw, hd⟩ | ⟨hw, hd⟩
    · rw [hd]
      by_cases hm : (getNext (setWord sh.heap (th.pred i) i (x, false)) x i).2 = true
      · simp only [if_true, hm]; exact .upLinkMarked hw hm
      · by_cases hl : i + 1 ≤ lvl
        · simp only [if_true, hm, Bool.false_eq_true, if_false, hl]
          exact .upLinkNext hw (Bool.of_not_eq_true hm) hl
        · simp only [if_true, hm, Bool.false_eq_true, if_false, hl]
          exact .upLinkDone hw (Bool.of_not_eq_true hm) hl
    · rw [hd]; exact .upLinkFail hw
  | softMark item n i next marked =>
    rw [stepThread_softMark hpc]
    unfold stepSoftMark
    rcases dcas_cases sh.heap n i next next true with ⟨hw, hd⟩ | ⟨hw, hd⟩
    · rw [hd]
      by_cases hi : i = 0
      · subst hi
        have hwin : Gen.softDeleteWins true 0 = true := (Gen.softDeleteWins_iff _ _).mpr ⟨rfl, rfl⟩
        simp only [hwin, if_true, Bool.or_true]
        exact .softWin hw
      · have hwin : Gen.softDeleteWins true i = false :=
          Bool.of_not_eq_true fun c => hi ((Gen.softDeleteWins_iff _ _).mp c).2
        simp only [hwin, Bool.false_eq_true, if_false, Bool.or_false]
        exact .softUp hw hi
    · rw [hd]
      have hwin : Gen.softDeleteWins false i = false :=
        Bool.of_not_eq_true fun c => Bool.noConfusion ((Gen.softDeleteWins_iff _ _).mp c).1
      simp only [hwin, Bool.false_eq_true, if_false, Bool.or_false]
      exact .softLost hw
  | delSearch item => rw [stepThread_delSearch hpc]; exact .delSearch
  | iterNext it =>
    rw [stepThread_iterNext hpc]
    unfold stepIterNext
    by_cases hm : (getNext sh.heap (th.iter it).curr 0).2 = true
    · simp only [hm, if_true]; exact .iterNextMarked hm
    · simp only [hm, Bool.false_eq_true, if_false]; exact .iterNextMove (Bool.of_not_eq_true hm)
  | iterHelp it next =>
    rw [stepThread_iterHelp hpc]
    unfold stepIterHelp
    simp only []
    rcases dcas_cases sh.heap (th.iter it).prev 0 (th.iter it).curr next false with ⟨hw, hd⟩ | ⟨hw, hd⟩
    · rw [hd]; exact .iterHelpOk hw
    · rw [hd]; exact .iterHelpFail hw
  | iterRefresh it => rw [stepThread_iterRefresh hpc]; exact .iterRefresh

/-- findPath returns to its caller: `FinR sh th item found c r`, `r` is the rest of the segment for the caller `c`
    (`iterDone` has no negated guard: it overlaps `iterAgain`; unlike `Seg`, an over-approximation) -/
inductive FinR (sh : Shared) (th : Thread) (item : Nat) : Bool → Cont → Res → Prop
  | insFirstHit {lvl : Nat} : FinR sh th item true (.insFirst lvl) (sh, { th with pc := .idle }, retBool false)
  | insFirstMiss {lvl : Nat} :
      FinR sh th item false (.insFirst lvl) (sh, { th with pc := .insPublish item lvl }, "at INS_PUBLISH")
  | insRetryHit {lvl : Nat} : FinR sh th item true (.insRetry lvl) (sh, { th with pc := .idle }, retBool false)
  | insRetryMiss {lvl : Nat} :
      FinR sh th item false (.insRetry lvl) (sh, { th with pc := .insPublish item lvl }, "at INS_PUBLISH")
  | insRelink {found : Bool} {x lvl i : Nat} :
      FinR sh th item found (.insRelink x lvl i) (sh, { th with pc := .insUpRead item x lvl i }, "at INS_UP_READ")
  | insSuccDeleted {found : Bool} {x lvl i : Nat} :
      FinR sh th item found (.insSuccDeleted x lvl i) (sh, { th with pc := .insUpRead item x lvl i }, "at INS_UP_READ")
  | insUnlink {found : Bool} {x lvl : Nat} : FinR sh th item found (.insUnlink x lvl) (insFinished sh th lvl)
  | delHit :
      FinR sh th item true .delSearch (enterSoft sh th item (th.succ 0) (heightOf sh.heap (th.succ 0)) false)
  | delMiss : FinR sh th item false .delSearch (sh, { th with pc := .idle }, retBool false)
  | delClean {found : Bool} : FinR sh th item found .delClean (sh, { th with pc := .idle }, retBool true)
  | lookup {found : Bool} : FinR sh th item found .lookup (sh, { th with pc := .idle }, retBool found)
  /- Next has found the item of the node it started from on that very node: it goes on from there -/
  | iterAgain {it : Nat} : th.succ 0 = (th.iter it).curr →
      FinR sh th item true (.iterNext it)
        (sh, { th.moveIter it (th.pred 0) (th.succ 0) with pc := .iterNext it }, "at ITER_NEXT")
  | iterDone {found : Bool} {it : Nat} :
      FinR sh th item found (.iterNext it) (afterNext sh (th.moveIter it (th.pred 0) (th.succ 0)) it)
  | iterSeek {found : Bool} {it : Nat} :
      FinR sh th item found (.iterSeek it)
        (sh, { th.moveIter it (th.pred 0) (th.succ 0) with pc := .idle }, retKey sh.heap (th.succ 0))
  | iterRefresh {found : Bool} {it : Nat} :
      FinR sh th item found (.iterRefresh it)
        (sh, { th.moveIter it (th.pred 0) (th.succ 0) with pc := .idle }, retKey sh.heap (th.succ 0))

theorem finishFind_cases (sh : Shared) (th : Thread) (item : Nat) (found : Bool) (c : Cont) :
    FinR sh th item found c (finishFind sh th item found c) := by
  cases c with
  | insFirst lvl => cases found <;> constructor
  | insRetry lvl => cases found <;> constructor
  | insRelink x lvl i => exact .insRelink
  | insSuccDeleted x lvl i => exact .insSuccDeleted
  | insUnlink x lvl => exact .insUnlink
  | delSearch => cases found <;> constructor
  | delClean => exact .delClean
  | lookup => exact .lookup
  | iterNext it =>
    unfold finishFind
    by_cases h : (found && (th.iter it).curr == th.succ 0) = true
    · simp only [h, if_true]
      rw [Bool.and_eq_true, beq_iff_eq] at h
      rw [h.1]
      exact .iterAgain h.2.symm
    · simp only [h]; exact .iterDone
  | iterSeek it => exact .iterSeek
  | iterRefresh it => exact .iterRefresh

theorem finishFind_shared (sh : Shared) (th : Thread) (item : Nat) (found : Bool) (c : Cont) :
    (finishFind sh th item found c).1.heap = sh.heap ∧ (finishFind sh th item found c).1.level = sh.level := by
  have s := finishFind_cases sh th item found c
  generalize finishFind sh th item found c = r at s ⊢
  cases s with
  | delHit => rw [enterSoft_sh]; exact ⟨rfl, rfl⟩
  | iterDone => rw [afterNext_sh]; exact ⟨rfl, rfl⟩
  | _ => exact ⟨rfl, rfl⟩

/-- the printed line is none of findPath's own: the search has ended in this segment -/
def FindEnds (out : String) : Prop := out ≠ "at HELP_DELETE" ∧ out ≠ "at FIND_NEXT" ∧ out ≠ "at FIND_LEVEL"

/-- a FIND_NEXT segment whose printed line is none of findPath's own: what the last read saw, and `FinR` for the rest -/
theorem Seg.ends {sh : Shared} {th : Thread} {fp : FP} {rr : Bool} {r : Res} (s : Seg sh th (.findNext fp rr) r)
    (hret : FindEnds r.2.2) :
    ∃ c, c = readNode sh.heap fp rr ∧ fp.i = 0 ∧
      (getNext sh.heap c 0).2 = false ∧ ¬ Gen.findAdvance (compare (keyOf sh.heap c) (.fin fp.item)) = true ∧
      r = finishFind sh { th with preds := th.preds.set 0 fp.prev, succs := th.succs.set 0 c } fp.item
            (Gen.findFound (compare (keyOf sh.heap c) (.fin fp.item))) fp.cont := by
  cases s with
  | readMarked => exact absurd rfl hret.1
  | readAdvance => exact absurd rfl hret.2.1
  | readDown => exact absurd rfl hret.2.2
  | readEnd hc hm ha hi => exact ⟨_, hc, hi, hm, ha, rfl⟩

theorem finishFind_fixed (sh : Shared) (th : Thread) (item : Nat) (found : Bool) (c : Cont) :
    (finishFind sh th item found c).1.fixedSucc = sh.fixedSucc := by
  have s := finishFind_cases sh th item found c
  generalize finishFind sh th item found c = r at s ⊢
  cases s with
  | delHit => rw [enterSoft_sh]
  | iterDone => rw [afterNext_sh]
  | _ => rfl

/-- what a segment of a thread parked at `pc` does to the heap: nothing, or the compare-and-swap of that yield point -/
inductive Wr (h : Heap) (th : Thread) : PC → Heap → Prop
  | none {pc : PC} : Wr h th pc h
  | unlink {fp : FP} {next : Nat} : word? h fp.prev fp.i = some (fp.curr, false) →
      Wr h th (.helpDelete fp next) (setWord h fp.prev fp.i (next, false))
  | iterUnlink {it next : Nat} : word? h (th.iter it).prev 0 = some ((th.iter it).curr, false) →
      Wr h th (.iterHelp it next) (setWord h (th.iter it).prev 0 (next, false))
  | publish {item lvl : Nat} : word? h (th.pred 0) 0 = some (th.succ 0, false) →
      Wr h th (.insPublish item lvl) (setWord h (th.pred 0) 0 (h.length, false) ++ [newNode th item lvl])
  | own {item x lvl i e : Nat} : word? h x i = some (e, false) →
      Wr h th (.insUpRead item x lvl i) (setWord h x i (th.succ i, false))
  | link {item x lvl i next : Nat} : word? h (th.pred i) i = some (next, false) →
      Wr h th (.insUpLink item x lvl i next) (setWord h (th.pred i) i (x, false))
  | mark {item n i next : Nat} {marked : Bool} : word? h n i = some (next, false) →
      Wr h th (.softMark item n i next marked) (setWord h n i (next, true))

theorem Seg.wr {sh : Shared} {th : Thread} {pc : PC} {r : Res} (s : Seg sh th pc r) : Wr sh.heap th pc r.1.heap := by
  induction s with
  | readEnd => rw [(finishFind_shared ..).1]; exact .none
  | helpOk hw => rw [helpStats_heap]; exact .unlink hw
  | publishUp hw | publishDone hw => exact .publish hw
  | upReadOwn _ _ hw => rw [insCheckSucc_sh]; exact .own hw
  | upReadSame => rw [insCheckSucc_sh]; exact .none
  | upLinkMarked hw | upLinkNext hw | upLinkDone hw => exact .link hw
  | softWin hw | softUp hw => rw [enterSoft_sh]; exact .mark hw
  | softLost => rw [enterSoft_sh]; exact .none
  | iterNextMove => rw [afterNext_sh]; exact .none
  | iterHelpOk hw => rw [afterNext_sh, helpStats_heap]; exact .iterUnlink hw
  | _ => exact .none

theorem Wr.length {h h' : Heap} {th : Thread} {pc : PC} (w : Wr h th pc h') :
    h'.length = h.length ∨ ∃ item lvl, pc = .insPublish item lvl ∧
      h' = setWord h (th.pred 0) 0 (h.length, false) ++ [newNode th item lvl] := by
  cases w with
  | none => exact .inl rfl
  | publish => exact .inr ⟨_, _, rfl, rfl⟩
  | _ => exact .inl (length_setWord ..)

theorem Seg.config {sh : Shared} {th : Thread} {pc : PC} {r : Res} (s : Seg sh th pc r) :
    r.1.fixedSucc = sh.fixedSucc ∧
    (r.1.level = sh.level ∨ ∃ item req, pc = .newLevel item req sh.level ∧ r.1.level = sh.level + 1) := by
  induction s with
  | newLevelBump hl => subst hl; exact ⟨rfl, .inr ⟨_, _, rfl, rfl⟩⟩
  | readEnd _ _ _ _ => exact ⟨finishFind_fixed .., .inl (finishFind_shared ..).2⟩
  | helpOk _ => exact ⟨helpStats_fixed .., .inl (helpStats_level ..)⟩
  | upReadOwn _ _ _ | upReadSame _ _ => rw [insCheckSucc_sh]; exact ⟨rfl, .inl rfl⟩
  | softWin _ | softUp _ _ | softLost _ => rw [enterSoft_sh]; exact ⟨rfl, .inl rfl⟩
  | iterNextMove _ => rw [afterNext_sh]; exact ⟨rfl, .inl rfl⟩
  | iterHelpOk _ => rw [afterNext_sh]; exact ⟨helpStats_fixed .., .inl (helpStats_level ..)⟩
  | _ => exact ⟨rfl, .inl rfl⟩


/-- the call entries: `StartR sh th op r`, `r` is the result of entering `op` (by an idle thread) -/
inductive StartR (sh : Shared) (th : Thread) : Op → Res → Prop
  | insLevel {k lvl : Nat} : Gen.newLevelBump (Gen.newLevelClamp lvl) sh.level = true →
      StartR sh th (.ins k lvl) (sh, { th with pc := .newLevel k (Gen.newLevelClamp lvl) sh.level }, "at NEW_LEVEL")
  | insFind {k lvl : Nat} : ¬ Gen.newLevelBump (Gen.newLevelClamp lvl) sh.level = true →
      StartR sh th (.ins k lvl) (startFind sh th k (.insFirst (Gen.newLevelClamp lvl)))
  | del {k : Nat} : StartR sh th (.del k) (startFind sh th k .delSearch)
  | look {k : Nat} : StartR sh th (.look k) (startFind sh th k .lookup)
  | itFirst {it : Nat} :
      StartR sh th (.itFirst it)
        (sh, th.moveIter it headId (getNext sh.heap headId 0).1, retKey sh.heap (getNext sh.heap headId 0).1)
  | itSeek {it k : Nat} : StartR sh th (.itSeek it k) (startFind sh th k (.iterSeek it))
  | itNext {it k : Nat} {I : Iter} : th.iter? it = some I → keyOf sh.heap I.curr = .fin k →
      StartR sh th (.itNext it) (sh, { th with pc := .iterNext it }, "at ITER_NEXT")
  | itClose {it : Nat} {I : Iter} : th.iter? it = some I →
      StartR sh th (.itClose it) (sh, { th with iters := th.iters.filter fun p => p.1 != it }, "ret")
  | itInterval {it n : Nat} {I : Iter} : th.iter? it = some I → 1 ≤ n →
      StartR sh th (.itInterval it n) (sh, th.setIter it { I with interval := n }, "ret")
  | itRefresh {it k : Nat} {I : Iter} : th.iter? it = some I → keyOf sh.heap I.curr = .fin k →
      StartR sh th (.itRefresh it) (sh, { th with pc := .iterRefresh it }, "at ITER_REFRESH")
  | nextRefused {it : Nat} : StartR sh th (.itNext it) (sh, th, "bad-op")
  | closeRefused {it : Nat} : StartR sh th (.itClose it) (sh, th, "bad-op")
  | intervalRefused {it n : Nat} : StartR sh th (.itInterval it n) (sh, th, "bad-op")
  | refreshRefused {it : Nat} : StartR sh th (.itRefresh it) (sh, th, "bad-op")

theorem startOp_cases (sh : Shared) (th : Thread) (op : Op) : StartR sh th op (startOp sh th op) := by
  cases op with
  | ins k lvl =>
    simp only [startOp]
    by_cases h : Gen.newLevelBump (Gen.newLevelClamp lvl) sh.level = true
    · simp only [h, if_true]; exact .insLevel h
    · simp only [h, Bool.false_eq_true, if_false]; exact .insFind h
  | del k => exact .del
  | look k => exact .look
  | itFirst it => exact .itFirst
  | itSeek it k => exact .itSeek
  | itNext it =>
    simp only [startOp]
    cases hI : th.iter? it with
    | none => exact .nextRefused
    | some I =>
      cases hk : keyOf sh.heap I.curr with
      | fin k => simp only [hk]; exact .itNext hI hk
      | neg => simp only [hk]; exact .nextRefused
      | pos => simp only [hk]; exact .nextRefused
  | itClose it =>
    simp only [startOp]
    cases hI : th.iter? it with
    | none => exact .closeRefused
    | some I => exact .itClose hI
  | itInterval it n =>
    simp only [startOp]
    cases hI : th.iter? it with
    | none => exact .intervalRefused
    | some I =>
      by_cases hn : 1 ≤ n
      · simp only [hn, if_true]; exact .itInterval hI hn
      · simp only [hn, if_false]; exact .intervalRefused
  | itRefresh it =>
    simp only [startOp]
    cases hI : th.iter? it with
    | none => exact .refreshRefused
    | some I =>
      cases hk : keyOf sh.heap I.curr with
      | fin k => simp only [hk]; exact .itRefresh hI hk
      | neg => simp only [hk]; exact .refreshRefused
      | pos => simp only [hk]; exact .refreshRefused

theorem startOp_shared (sh : Shared) (th : Thread) (op : Op) :
    (startOp sh th op).1.heap = sh.heap ∧ (startOp sh th op).1.level = sh.level := by
  have s := startOp_cases sh th op
  generalize startOp sh th op = r at s ⊢
  cases s <;> exact ⟨rfl, rfl⟩

theorem startOp_heap (sh : Shared) (th : Thread) (op : Op) : (startOp sh th op).1.heap = sh.heap :=
  (startOp_shared sh th op).1

theorem startOp_level (sh : Shared) (th : Thread) (op : Op) : (startOp sh th op).1.level = sh.level :=
  (startOp_shared sh th op).2

theorem isIdle_iff (pc : PC) : isIdle pc = true ↔ pc = .idle := by
  cases pc with
  | idle => exact ⟨fun _ => rfl, fun _ => rfl⟩
  | _ => exact ⟨nofun, nofun⟩

theorem isIdle_false_iff (pc : PC) : isIdle pc = false ↔ pc ≠ .idle := by
  cases pc with
  | idle => exact ⟨nofun, fun h => absurd rfl h⟩
  | _ => exact ⟨fun _ => nofun, fun _ => rfl⟩

end NitroVerif.SkipConc
