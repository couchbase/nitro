import NitroVerif.Model.Codec
import NitroVerif.Lemmas.CodecGen
/-!
  The codec model read through one notion, the `frame` of an item with a `w`-byte big-endian length:
  `decodeItem_header` is one decode step over a complete header (terminator / short / item), the
  reader loop over framed items returns them with the checksum fold (`readFile_framed`, any width),
  and the two formats are the widths 4 (every non-zero version, `readFile_written`) and 2.
-/
namespace NitroVerif.Codec
open NitroVerif.Codec.GenLemmas

@[simp] theorem length_beBytes (w n : Nat) : (beBytes w n).length = w := by
  induction w with
  | zero => rfl
  | succ w ih => simp [beBytes, ih]

theorem beBytes_add (a b n : Nat) : beBytes (a + b) n = beBytes a (n / 256 ^ b) ++ beBytes b n := by
  induction a with
  | zero => rw [Nat.zero_add]; rfl
  | succ a ih =>
    rw [Nat.add_right_comm, beBytes, beBytes, ih, Nat.div_div_eq_div_mul, ← Nat.pow_add,
      Nat.add_comm b a]
    rfl

theorem foldl_beBytes (w n acc : Nat) :
    (beBytes w n).foldl (fun acc (b : UInt8) => acc * 256 + b.toNat) acc
      = acc * 256 ^ w + n % 256 ^ w := by
  induction w generalizing acc with
  | zero => simp [beBytes, Nat.mod_one]
  | succ w ih =>
    have h1 : (UInt8.ofNat (n / 256 ^ w % 256)).toNat = n / 256 ^ w % 256 := by
      simp
    rw [beBytes, List.foldl_cons, ih, h1, Nat.mod_pow_succ, Nat.add_mul, Nat.pow_succ, Nat.mul_assoc,
      Nat.mul_comm 256 (256 ^ w), Nat.mul_comm (n / 256 ^ w % 256), Nat.add_assoc,
      Nat.add_comm (n % 256 ^ w)]

theorem beVal_beBytes (w n : Nat) : beVal (beBytes w n) = n % 256 ^ w := by
  simp [beVal, foldl_beBytes]

/-- EncodeItem's length field: 4 bytes, big endian -/
theorem encodeLen_eq (n : Nat) : encodeLen n = beBytes 4 n := by
  have hbig := encodeBigEndian_eq
  have hw := encodeLenWidth_eq
  simp [encodeLen, lenEnc, hbig, hw]

/-- DecodeItem reads the length field big endian -/
theorem lenDec_decode (bs : Bytes) : lenDec Gen.decodeBigEndian bs = beVal bs := by
  have hbig := decodeBigEndian_eq
  simp [lenDec, hbig]

/-- the v0 length field: 2 bytes, big endian -/
theorem lenEnc_v0 (n : Nat) : lenEnc Gen.decodeBigEndian Gen.decodeLenWidthV0 n = beBytes 2 n := by
  have hbig := decodeBigEndian_eq
  have hw := decodeLenWidthV0_eq
  simp [lenEnc, hbig, hw]

/-- every non-zero version selects the 4-byte framing (`if ver == 0 … else …` in DecodeItem) -/
theorem lenWidth_of_ne_zero {ver : Nat} (hv : ver ≠ 0) : lenWidth ver = 4 := by
  simp [lenWidth, hv, decodeLenWidthV1_eq]

theorem lenWidth_zero : lenWidth 0 = 2 := by
  simp [lenWidth, decodeLenWidthV0_eq]

theorem decodeItem_header {ver w : Nat} (hw : lenWidth ver = w) (L : Nat) (hL : L < 256 ^ w)
    (body : Bytes) :
    decodeItem ver (beBytes w L ++ body) =
      if L = 0 then .terminator body
      else if body.length < L then .short
      else .item (beBytes w L) (body.take L) (body.drop L) := by
  have htake : (beBytes w L ++ body).take w = beBytes w L := List.take_left' (length_beBytes _ _)
  have hdrop : (beBytes w L ++ body).drop w = body := List.drop_left' (length_beBytes _ _)
  have hval : beVal (beBytes w L) = L := (beVal_beBytes w L).trans (Nat.mod_eq_of_lt hL)
  unfold decodeItem
  simp only [hw, htake, hdrop, lenDec_decode, hval, List.length_append, length_beBytes]
  rw [if_neg (Nat.not_lt.2 (Nat.le_add_right _ _))]
  by_cases h0 : L = 0
  · rw [if_pos h0, h0, (decodeHasItem_false_iff 0).2 rfl]
    rfl
  · rw [if_neg h0, (decodeHasItem_iff L).2 (Nat.pos_of_ne_zero h0)]
    rfl

/-- the frame of one item with a `w`-byte length -/
def frame (w : Nat) (d : Bytes) : Bytes := beBytes w d.length ++ d

theorem encodeItem_eq_frame (d : Bytes) : encodeItem d = frame 4 d := by
  simp [encodeItem, frame, encodeLen_eq]

theorem encodeItemV0_eq_frame (d : Bytes) : encodeItemV0 d = frame 2 d := by
  simp [encodeItemV0, frame, lenEnc_v0]

theorem length_frame (w : Nat) (d : Bytes) : (frame w d).length = w + d.length := by
  simp [frame]

theorem decodeItem_framed {ver w : Nat} (hw : lenWidth ver = w) (d rest : Bytes)
    (hpos : 0 < d.length) (hlt : d.length < 256 ^ w) :
    decodeItem ver (frame w d ++ rest) = .item (beBytes w d.length) d rest := by
  rw [frame, List.append_assoc, decodeItem_header hw _ hlt, if_neg (Nat.ne_of_gt hpos),
    if_neg (by rw [List.length_append]; exact Nat.not_lt.2 (Nat.le_add_right _ _)),
    List.take_left, List.drop_left]

theorem decodeItem_terminator {ver w : Nat} (hw : lenWidth ver = w) (rest : Bytes) :
    decodeItem ver (frame w [] ++ rest) = .terminator rest := by
  rw [frame, List.append_nil, List.length_nil, decodeItem_header hw 0 (Nat.pow_pos (by decide)), if_pos rfl]

theorem decodeItem_short_header {ver : Nat} {bs : Bytes} (h : bs.length < lenWidth ver) :
    decodeItem ver bs = .short := by
  unfold decodeItem; simp [h]

/-- the checksum the reader accumulates over `items` when the length field has `w` bytes -/
def sumFrom (h : Bytes → Nat) (w : Nat) (s : Nat) (items : List Bytes) : Nat :=
  items.foldl (fun acc d => acc ^^^ itemSum h (beBytes w d.length) d) s

theorem writerChecksum_eq (h : Bytes → Nat) (items : List Bytes) :
    writerChecksum h items = sumFrom h 4 0 items := by
  simp [writerChecksum, sumFrom, encodeLen_eq]

/-- the items a read has decoded: all of them, or those before the error -/
def ReadResult.items : ReadResult → List Bytes
  | .ok items _ _ => items
  | .err before => before

theorem readLoop_acc_prefix (h : Bytes → Nat) (ver f : Nat) (bs : Bytes) (acc : List Bytes) (s : Nat) :
    acc.reverse <+: (readLoop h ver f bs acc s).items := by
  induction f generalizing bs acc s with
  | zero => exact List.prefix_refl _
  | succ f ih =>
    unfold readLoop
    cases hd : decodeItem ver bs with
    | short => exact List.prefix_refl _
    | terminator r => exact List.prefix_refl _
    | item lb d r =>
      have := ih r (d :: acc) (s ^^^ itemSum h lb d)
      rw [List.reverse_cons] at this
      exact (List.prefix_append _ _).trans this

theorem readLoop_framed (h : Bytes → Nat) {ver w : Nat} (hw : lenWidth ver = w)
    (items : List Bytes) (hit : ∀ d ∈ items, 0 < d.length ∧ d.length < 256 ^ w)
    (rest : Bytes) (fuel : Nat) (hf : items.length < fuel) (acc : List Bytes) (s : Nat) :
    readLoop h ver fuel (items.flatMap (frame w) ++ frame w [] ++ rest) acc s
      = .ok (acc.reverse ++ items) (sumFrom h w s items) rest := by
  induction items generalizing fuel acc s with
  | nil =>
    cases fuel with
    | zero => simp at hf
    | succ fuel =>
      rw [List.flatMap_nil, List.nil_append]
      unfold readLoop
      rw [decodeItem_terminator hw]
      simp [sumFrom]
  | cons d ds ih =>
    cases fuel with
    | zero => simp at hf
    | succ fuel =>
      have hd := hit d (List.mem_cons_self)
      have hds : ∀ x ∈ ds, 0 < x.length ∧ x.length < 256 ^ w :=
        fun x hx => hit x (List.mem_cons_of_mem _ hx)
      rw [List.flatMap_cons, List.append_assoc, List.append_assoc, ← List.append_assoc _ _ rest]
      unfold readLoop
      rw [decodeItem_framed hw d _ hd.1 hd.2]
      simp only
      rw [ih hds fuel (by simpa using hf)]
      simp [sumFrom]

theorem length_le_flatMap_frame (w : Nat) (items : List Bytes)
    (hit : ∀ d ∈ items, 0 < d.length) : items.length ≤ (items.flatMap (frame w)).length := by
  induction items with
  | nil => simp
  | cons d ds ih =>
    have hd := hit d List.mem_cons_self
    have := ih (fun x hx => hit x (List.mem_cons_of_mem _ hx))
    rw [List.flatMap_cons, List.length_append, length_frame, List.length_cons]
    omega

theorem readFile_framed (h : Bytes → Nat) {ver w : Nat} (hw : lenWidth ver = w)
    (items : List Bytes) (hit : ∀ d ∈ items, 0 < d.length ∧ d.length < 256 ^ w) (rest : Bytes) :
    readFile h ver (items.flatMap (frame w) ++ frame w [] ++ rest)
      = .ok items (sumFrom h w 0 items) rest := by
  unfold readFile
  rw [readLoop_framed h hw items hit rest]
  · simp
  · have := length_le_flatMap_frame w items (fun d hd => (hit d hd).1)
    simp only [List.length_append]
    omega

theorem writeFile_eq_frames (items : List Bytes) :
    writeFile items = items.flatMap (frame 4) ++ frame 4 [] := by
  have : encodeItem = frame 4 := funext encodeItem_eq_frame
  unfold writeFile
  rw [this]

/-- `2 ^ 32` is `256 ^ 4`, the bound `readFile_framed` asks for at width 4: `hit` is passed as it is
    and the two literals are identified by evaluation -/
theorem readFile_written (h : Bytes → Nat) {ver : Nat} (hv : ver ≠ 0) (items : List Bytes)
    (hit : ∀ d ∈ items, 0 < d.length ∧ d.length < 2 ^ 32) (rest : Bytes) :
    readFile h ver (writeFile items ++ rest) = .ok items (writerChecksum h items) rest := by
  rw [writeFile_eq_frames, writerChecksum_eq]
  exact readFile_framed h (lenWidth_of_ne_zero hv) items hit rest

theorem readFile_written_eq (h : Bytes → Nat) {ver : Nat} (hv : ver ≠ 0) {items : List Bytes}
    (hit : ∀ d ∈ items, 0 < d.length ∧ d.length < 2 ^ 32) {items' : List Bytes} {sum : Nat} {rest : Bytes}
    (hr : readFile h ver (writeFile items) = .ok items' sum rest) :
    items' = items ∧ sum = writerChecksum h items := by
  have := readFile_written h hv items hit []
  rw [List.append_nil, hr] at this
  cases this
  exact ⟨rfl, rfl⟩

theorem writeFile_not_prefix_frames (part : List Bytes) :
    ¬ writeFile part <+: part.flatMap encodeItem := by
  intro hp
  -- the file is its frames and the terminator's frame: four bytes longer
  have := hp.length_le
  rw [writeFile, List.length_append, encodeItem_eq_frame, length_frame] at this
  exact absurd this (Nat.not_le.2 (Nat.lt_add_of_pos_right (by decide)))

theorem writeFileV0_eq_frames (items : List Bytes) :
    writeFileV0 items = items.flatMap (frame 2) ++ frame 2 [] := by
  have : encodeItemV0 = frame 2 := funext encodeItemV0_eq_frame
  unfold writeFileV0
  rw [this]

end NitroVerif.Codec
