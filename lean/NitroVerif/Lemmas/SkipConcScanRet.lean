import NitroVerif.Lemmas.SkipConcScanMono
/-!
  Whole scans: every position a call of the scan returns is on the level-0 chain from the head in
  the state of the return (`actG_return_reach`, behind `C15_present_partial`), and how an explicit refresh that
  returns is recorded in the history variables (`actG_refresh_return`, behind `C15_refresh_return`).
-/
namespace NitroVerif.SkipConc

theorem actG_return_reach {t it : Nat} {s : Sys} {g : Ghost} (hI : InvS s) (a : Action)
    (hr : (ghostAct t it s g a).returns = g.returns + 1) :
    ∃ c ps0, (ghostAct t it s g a).positions = ps0 ++ [c] ∧ c < (s.act a).sh.heap.length ∧
      Reach (s.act a).sh.heap 0 c ∧
      (∀ th, s.threads[t]? = some th → (searchOf th.pc).isSome → c = 1 ∨ unmarked0 (s.act a).sh.heap c) := by
  have hI' := act_of_move InvS.moved hI a
  have c := actG_cases t it s g a
  generalize s.act a = s' at c hI' ⊢
  generalize ghostAct t it s g a = g' at c hr ⊢
  have H := hI.invR.heap
  cases c with
  | same | startOther _ _ | stepOther _ _ => omega
  | @startOwn op th hth hidle =>
    have htl := (List.getElem?_eq_some_iff.mp hth).1
    have hT' : TInv s.sh.heap (startOp s.sh th op).2.1 :=
      startOp_heap s.sh th op ▸ (hI'.thread (List.getElem?_set_self htl)).2.2.1
    show ∃ c ps0, _ ∧ c < (startOp s.sh th op).1.heap.length ∧ Reach (startOp s.sh th op).1.heap 0 c ∧
      ∀ th0, _ → _ → c = 1 ∨ unmarked0 (startOp s.sh th op).1.heap c
    rw [startOp_heap]
    by_cases ho : opIter op = some it
    rotate_left
    · rw [g.onStart_other _ _ ho] at hr; omega
    have hlt := hT'.curr_lt H it
    have e := startOp_iter (sh := s.sh) (th := th) g ho
    generalize (startOp s.sh th op).2.1 = th' at e hlt ⊢
    generalize g.onStart it s.sh th op = g' at e hr ⊢
    -- of the entries on the iterator only SeekFirst returns a position
    cases e with
    | first =>
      rw [moveIter_iter] at hlt
      refine ⟨_, [], rfl, hlt, reach_first H, fun th0 h0 hsr => ?_⟩
      rw [hth] at h0
      cases h0
      rw [hidle] at hsr
      cases hsr
    | seek | next | refresh | close | same _ _ => exact absurd hr (Nat.ne_of_lt (Nat.lt_succ_self _))
  | @stepOwn th hth =>
    by_cases hc : pcIter th.pc = some it ∧ isIdle (stepThread s.sh th).2.1.pc = true
    · obtain ⟨hown, hidle⟩ := hc
      obtain ⟨_, R, hT, _⟩ := hI.thread hth
      obtain ⟨H', R', hT', _⟩ := hI'.thread (List.getElem?_set_self (List.getElem?_eq_some_iff.mp hth).1)
      obtain ⟨h1, h2⟩ := arrive_reach H R hT R' hown (.inl ((isIdle_iff _).mp hidle))
      obtain ⟨ps0, hps⟩ := g.onStep_last it th (stepThread s.sh th) hown hidle
      refine ⟨_, ps0, hps, hT'.curr_lt H' it, h1, fun th0 h0 hsr => ?_⟩
      rw [hth] at h0
      cases h0
      exact h2 hsr
    · rw [g.onStep_eq it th _ hc] at hr; omega

theorem actG_refresh_return {t it : Nat} {s : Sys} {g : Ghost} (t' : Nat) (hrf : g.refreshing = true)
    (hr : (ghostAct t it s g (.step t')).returns = g.returns + 1) :
    t' = t ∧ (ghostAct t it s g (.step t')).refreshing = false ∧
    ∃ th' c, (s.act (.step t')).threads[t]? = some th' ∧ (th'.iter it).curr = c ∧
      (((ghostAct t it s g (.step t')).positions = g.positions ∧ g.positions.getLast? = some c) ∨
       ((ghostAct t it s g (.step t')).positions = g.positions ++ [c] ∧ g.positions.getLast? ≠ some c)) := by
  have c := actG_cases t it s g (.step t')
  generalize s.act (.step t') = s' at c ⊢
  generalize ghostAct t it s g (.step t') = g' at c hr ⊢
  cases c with
  | same | stepOther _ _ => omega
  | @stepOwn th hth =>
    by_cases hc : pcIter th.pc = some it ∧ isIdle (stepThread s.sh th).2.1.pc = true
    · obtain ⟨hown, hidle⟩ := hc
      obtain ⟨_, _, hpos⟩ := g.onStep_ret it th (stepThread s.sh th) hown hidle
      have htl := (List.getElem?_eq_some_iff.mp hth).1
      refine ⟨rfl, ?_, (stepThread s.sh th).2.1, _, List.getElem?_set_self htl, rfl, ?_⟩
      · exact g.onStep_refreshing it th _ hown hidle
      · rcases hpos with ⟨e1, _, hl⟩ | ⟨e1, _, hn⟩
        · exact .inl ⟨e1, hl⟩
        · exact .inr ⟨e1, fun hl => hn ⟨hrf, hl⟩⟩
    · rw [g.onStep_eq it th _ hc] at hr; omega

end NitroVerif.SkipConc
