/-
  C01 along concurrent histories: the collection frontier.  Snapshots are collected strictly in the order of
  their numbers; what a collection job may still unlink died at or below `lastGCSn`; every snapshot numbered
  at or below `lastGCSn` is collected.
-/
import NitroVerif.Lemmas.MvccConcAct

namespace NitroVerif.MvccConc

/-- the part of the frontier invariant that does not mention the threads -/
structure FrontS (lg cur : Nat) (snaps : List Snap) (store : List Node) (gcJobs : List GcJob) : Prop where
  gclt : lg < cur
  coll : ∀ s ∈ snaps, s.sn ≤ lg → s.st = .collected
  sgc : ∀ s ∈ snaps, ∀ n ∈ snapGarb s, ∀ x ∈ store, x.id = n → x.ver.dead ≤ s.sn
  jgc : ∀ n ∈ garbJ gcJobs, ∀ x ∈ store, x.id = n → x.ver.dead ≤ lg

/-- a collector parked at COLLECT_SEND is about to send snapshot `lastGCSn + 1` -/
def SendInv (threads : List Pc) (lg : Nat) : Prop :=
  ∀ (t sn : Nat) (a : Option Nat), threads[t]? = some (Pc.collectSend sn a) → sn = lg + 1

def SendEx (threads : List Pc) (lg : Nat) (t : Nat) : Prop :=
  ∀ (t' sn : Nat) (a : Option Nat), t' ≠ t → threads[t']? = some (Pc.collectSend sn a) → sn = lg + 1

structure FrontInv (σ : State) : Prop where
  s : FrontS σ.lastGCSn σ.currSn σ.snaps σ.store σ.gcJobs
  send : SendInv σ.threads σ.lastGCSn

theorem frontInv_init (nw nr : Nat) (fx : Bool) : FrontInv (init nw nr fx) := by
  refine ⟨⟨by simp [init], by simp [init], by simp [init], by simp [init, garbJ]⟩, ?_⟩
  intro t sn a hg
  have := List.eq_of_mem_replicate (List.mem_of_getElem? hg); cases this

theorem SendInv.ex {threads : List Pc} {lg : Nat} (h : SendInv threads lg) (t : Nat) : SendEx threads lg t :=
  fun t' sn a _ hg => h t' sn a hg

theorem SendEx.set {threads : List Pc} {lg t : Nat} {pc' : Pc} (h : SendEx threads lg t)
    (hpc : ∀ sn a, pc' = Pc.collectSend sn a → sn = lg + 1) : SendInv (threads.set t pc') lg := by
  intro t' sn a hg
  rcases getElem?_set_cases hg with ⟨_, he⟩ | ⟨hne, hg'⟩
  · exact hpc sn a he.symm
  · exact h t' sn a (fun e => hne e.symm) hg'

theorem FrontInv.of_fields {σ σ' : State} {t : Nat} {pc' : Pc} (e1 : σ'.lastGCSn = σ.lastGCSn)
    (e2 : σ'.currSn = σ.currSn) (e3 : σ'.snaps = σ.snaps) (e4 : σ'.store = σ.store) (e5 : σ'.gcJobs = σ.gcJobs)
    (e6 : σ'.threads = σ.threads.set t pc') (hs : FrontS σ.lastGCSn σ.currSn σ.snaps σ.store σ.gcJobs)
    (hse : SendEx σ.threads σ.lastGCSn t) (hpc : ∀ sn a, pc' = Pc.collectSend sn a → sn = σ.lastGCSn + 1) :
    FrontInv σ' := by
  refine ⟨by rw [e1, e2, e3, e4, e5]; exact hs, ?_⟩
  rw [e1, e6]; exact hse.set hpc

/-- a store change that touches the death mark only of nodes that carry none -/
theorem FrontS.store {lg cur : Nat} {writers : List Writer} {snaps : List Snap} {store store' : List Node}
    {gcJobs : List GcJob} (h : FrontS lg cur snaps store gcJobs) (hg : GarbInv writers snaps gcJobs store cur)
    (hids : (storeIds store).Nodup)
    (hst : ∀ x' ∈ store', x'.ver.dead = 0 ∨ x' ∈ store ∨ ∃ x ∈ store, x.id = x'.id ∧ x.ver.dead = 0) :
    FrontS lg cur snaps store' gcJobs := by
  have key : ∀ n, 0 < garbC writers snaps gcJobs n → ∀ (B : Nat), (∀ x ∈ store, x.id = n → x.ver.dead ≤ B) →
      ∀ x' ∈ store', x'.id = n → x'.ver.dead ≤ B := by
    intro n hpos B hB x' hx' hid
    rcases hst x' hx' with h0 | hm | ⟨x, hx, hxid, hxd⟩
    · rw [h0]; exact Nat.zero_le B
    · exact hB x' hm hid
    · exfalso
      obtain ⟨y, hy, hyid, hyd, _⟩ := hg.linked n hpos
      have : y = x := id_unique hids hy hx (hyid.trans (hid.symm.trans hxid.symm))
      subst this; exact hyd hxd
  refine ⟨h.gclt, h.coll, ?_, ?_⟩
  · intro s hs n hn
    exact key n (garbC_pos_of_snap hs hn) s.sn (h.sgc s hs n hn)
  · intro n hn
    exact key n (garbC_pos_of_job hn) lg (h.jgc n hn)

theorem FrontS.jobs {lg cur : Nat} {snaps : List Snap} {store : List Node} {gcJobs gcJobs' : List GcJob}
    (h : FrontS lg cur snaps store gcJobs) (hsub : ∀ n, n ∈ garbJ gcJobs' → n ∈ garbJ gcJobs) :
    FrontS lg cur snaps store gcJobs' :=
  ⟨h.gclt, h.coll, h.sgc, fun n hn => h.jgc n (hsub n hn)⟩

theorem storeCh_dead {σ : State} {store' unlinked' : List Node} (hi : Inv σ) (hs : StoreCh σ store' unlinked') :
    ∀ x' ∈ store', x'.ver.dead = 0 ∨ x' ∈ σ.store ∨ ∃ x ∈ σ.store, x.id = x'.id ∧ x.ver.dead = 0 := by
  intro x' hx'
  rcases hs with ⟨h, _⟩ | ⟨n, k, v, _, h, _⟩ | ⟨n, x, hf, _, h, _⟩ | ⟨n, x, hf, hd0, h, _⟩
  · rw [h] at hx'; exact Or.inr (Or.inl hx')
  · rw [h] at hx'
    rcases mem_insertN.mp hx' with rfl | hm
    · exact Or.inl rfl
    · exact Or.inr (Or.inl hm)
  · rw [h] at hx'
    exact Or.inr (Or.inl (mem_removeNode.mp hx').1)
  · rw [h] at hx'
    obtain ⟨y, hy, hid, _, _, _, hc⟩ := mem_markDeadNode hx'
    rcases hc with ⟨hyn, _⟩ | ⟨_, he⟩
    · have ⟨hxm, hxid⟩ := findNode_some hf
      have : y = x := id_unique hi.store.ids hy hxm (hyn.trans hxid.symm)
      subst this
      exact Or.inr (Or.inr ⟨y, hy, hid.symm, hd0⟩)
    · rw [he]; exact Or.inr (Or.inl hy)

theorem ThrQuiet.send {threads threads' : List Pc} {lg : Nat} (h : ThrQuiet threads threads')
    (hs : SendInv threads lg) : SendInv threads' lg := by
  rcases h with h | ⟨t, pc0, pc', _, _, hp, h⟩
  · rw [h]; exact hs
  · rw [h]
    refine (hs.ex t).set ?_
    intro sn a he; subst he; cases hp

theorem front_qstep {σ σ' : State} (hi : Inv σ) (hv : FrontInv σ) (hq : QStep σ σ') : FrontInv σ' := by
  refine ⟨?_, ?_⟩
  · rw [hq.currSn, hq.lastGCSn, hq.snaps]
    exact (hv.s.store hi.garb hi.store.ids (storeCh_dead hi hq.store)).jobs hq.garb
  · rw [hq.lastGCSn]; exact hq.thr.send hv.send

theorem FrontS.updSnap {lg cur : Nat} {snaps : List Snap} {store : List Node} {gcJobs : List GcJob} {s : Nat}
    {f : Snap → Snap} (h : FrontS lg cur snaps store gcJobs) (hsn : ∀ x, (f x).sn = x.sn)
    (hgl : ∀ x, (f x).gclist = x.gclist)
    (hst : ∀ x ∈ snaps, x.sn = s → x.st = .collected → (f x).st = .collected) :
    FrontS lg cur (updSnap s f snaps) store gcJobs := by
  refine ⟨h.gclt, ?_, ?_, h.jgc⟩
  · intro y hy hle
    obtain ⟨x, hx, rfl⟩ := mem_updSnap hy
    by_cases hxs : x.sn = s
    · simp only [hxs, if_true] at hle ⊢
      rw [hsn] at hle
      exact hst x hx hxs (h.coll x hx (by omega))
    · simp only [hxs, if_false] at hle ⊢
      exact h.coll x hx hle
  · intro y hy n hn
    obtain ⟨x, hx, rfl⟩ := mem_updSnap hy
    by_cases hxs : x.sn = s
    · simp only [hxs, if_true] at hn ⊢
      rw [hsn]
      have := h.sgc x hx n (snapGarb_sub (hgl x) (hst x hx hxs) n hn)
      intro x' hx' hid; have := this x' hx' hid; omega
    · simp only [hxs, if_false] at hn ⊢
      exact h.sgc x hx n hn

theorem front_snap {σ : State} (hi : Inv σ) (hv : FrontInv σ) : FrontInv (snap σ).1 := by
  refine ⟨?_, hv.send⟩
  show FrontS σ.lastGCSn (σ.currSn + 1) (σ.snaps ++ [_]) σ.store σ.gcJobs
  refine ⟨Nat.lt_succ_of_lt hv.s.gclt, ?_, ?_, hv.s.jgc⟩
  · intro s hs hle
    rcases List.mem_append.mp hs with hs | hs
    · exact hv.s.coll s hs hle
    · simp at hs; subst hs
      exact absurd hv.s.gclt (Nat.not_lt.mpr hle)
  · intro s hs n hn x hx hid
    rcases List.mem_append.mp hs with hs | hs
    · exact hv.s.sgc s hs n hn x hx hid
    · simp at hs; subst hs
      simp only
      have hxv : x.ver ∈ vers σ.store := List.mem_map.mpr ⟨x, hx, rfl⟩
      have := hi.store.chains.1 x.ver hxv
      by_cases hd : x.ver.dead = 0
      · rw [hd]; exact Nat.zero_le _
      · exact (this.2 hd).2

theorem CloseTail.front {σ : State} {t : Nat} {after : Option Nat} {p : State × Resp} (h : CloseTail σ t after p)
    (hs : FrontS σ.lastGCSn σ.currSn σ.snaps σ.store σ.gcJobs) (hse : SendEx σ.threads σ.lastGCSn t) :
    FrontInv p.1 := by
  cases h with
  | idle g => exact FrontInv.of_fields (σ := σ) (t := t) (pc' := .idle) rfl rfl rfl rfl rfl rfl hs hse nofun
  | iter g =>
    exact FrontInv.of_fields (σ := σ) (t := t) (pc' := .idle) (by simp only [mvcc_fields]) (by simp only [mvcc_fields])
      (by simp only [mvcc_fields]) (by simp only [mvcc_fields]) (by simp only [mvcc_fields])
      (by simp only [mvcc_fields]) hs hse nofun
  | @send s hc =>
    refine FrontInv.of_fields (σ := σ) (t := t) (pc' := .collectSend s.sn after) rfl rfl rfl rfl rfl rfl hs hse ?_
    intro sn a he; injection he with he _; rw [← he]; exact (collectable_some hc).2.2

theorem live_of_last_ref {σ : State} (hi : Inv σ) {s : Nat} {x : Snap} (hf : findSnap s σ.snaps = some x)
    (hr : Gen.closeRetire (x.rc - 1) = true) : ∀ y ∈ σ.snaps, y.sn = s → y.st ≠ .collected := by
  intro y hy hys hc
  have ⟨hxm, hxs⟩ := findSnap_some hf
  have : y = x := snap_unique hi.store.snaps_inc hy hxm (hys.trans hxs.symm)
  subst this
  have := hi.store.rc_dead y hy (by rw [hc]; simp)
  unfold Gen.closeRetire at hr
  simp at hr; omega

theorem front_eff {σ : State} {a : Act} {t : Nat} {p : State × Resp} (hi : Inv σ) (hv : FrontInv σ)
    (h : REff σ a t p) : FrontInv p.1 := by
  cases h with
  | land i it land pc' _ _ hpc he =>
    rw [he]
    exact FrontInv.of_fields (σ := σ) (t := t) (pc' := pc') rfl rfl rfl rfl rfl rfl hv.s (hv.send.ex t)
      (fun sn a h => by rcases hpc with rfl | rfl <;> cases h)
  | open_ i s x _ _ _ _ he =>
    rw [he]; exact ⟨hv.s.updSnap (fun _ => rfl) (fun _ => rfl) (fun x _ _ hc => hc), hv.send⟩
  | close s x f after _ hs _ hf htl =>
    refine htl.front (hv.s.updSnap hf.sn hf.gclist (fun y hy hys hc => ?_))
      (hv.send.ex t)
    rcases hf.st y with h | ⟨hr, _⟩
    · rw [h]; exact hc
    · exact absurd hc (live_of_last_ref hi hs hr y hy hys)
  | collect sn x after _ hg hf htl =>
    have ⟨hxm, hxs⟩ := findSnap_some hf
    have hnext : sn = σ.lastGCSn + 1 := hv.send t sn after hg
    obtain ⟨y, hym, hys, hyst⟩ := (hi.pc.at hg).2
    have hyx : y = x := snap_unique hi.store.snaps_inc hym hxm (hys.trans hxs.symm)
    subst hyx
    have hxg : snapGarb y = y.gclist := by unfold snapGarb; simp [hyst]
    refine htl.front ?_ (fun t' sn' a' hne hg' => absurd (hi.pc.excl t' t sn' a' sn after hg' hg) hne)
    show FrontS sn σ.currSn (updSnap sn (fun z => { z with st := .collected }) σ.snaps) σ.store
      (σ.gcJobs ++ [⟨[], y.gclist, .recv⟩])
    refine ⟨hys ▸ hi.store.snaps_lt y hym, ?_, ?_, ?_⟩
    · intro z hz hle
      obtain ⟨w, hw, rfl⟩ := mem_updSnap hz
      by_cases hws : w.sn = sn
      · simp only [hws, if_true]
      · simp only [hws, if_false] at hle ⊢
        have hlt : w.sn < σ.lastGCSn + 1 := by rw [← hnext]; exact Nat.lt_of_le_of_ne hle hws
        exact hv.s.coll w hw (Nat.le_of_lt_succ hlt)
    · intro z hz n hn
      obtain ⟨w, hw, rfl⟩ := mem_updSnap hz
      by_cases hws : w.sn = sn
      · simp only [hws, if_true] at hn
        simp [snapGarb] at hn
      · simp only [hws, if_false] at hn ⊢
        exact hv.s.sgc w hw n hn
    · intro n hn x' hx' hid
      unfold garbJ at hn
      rw [List.flatMap_append] at hn
      rcases List.mem_append.mp hn with hn | hn
      · exact Nat.le_trans (hv.s.jgc n hn x' hx' hid) (hnext ▸ Nat.le_succ _)
      · simp at hn
        exact hys ▸ hv.s.sgc y hym n (by rw [hxg]; exact hn) x' hx' hid

end NitroVerif.MvccConc
