import NitroVerif.Lemmas.SkipSeqIter
import NitroVerif.Lemmas.OrdSetLemmas
/-!
  The merge iterator over quiescent skiplists.  `MInvK k m Ls rem`: list `i` represents the node list
  `Ls[i]`, `rem[i]` is a suffix of it, the iterators `< k` stand at the head of their suffix, and the
  heap holds exactly one entry `(i, head of rem[i])` for each of them that is not exhausted.  `k = 0`
  constrains the heap only to be empty, `k` = the number of lists (`MInv`) is a consistent state, in
  between lie the loops of `SeekFirst` / `Seek`.
-/
namespace NitroVerif.SkipSeq
open NitroVerif.OrdSet

/-- the scan: keys under the cursor while the merge iterator is valid -/
def mergeScan : Nat → MergeIt → List Key
  | 0, _ => []
  | f + 1, m =>
    match m.key with
    | some k => k :: mergeScan f (mergeNext m)
    | none => []

/-- the lists of `m'` are those of `m` up to their action buffers -/
structure SameLists (m m' : MergeIt) : Prop where
  len : m'.sls.length = m.sls.length
  nodes : ∀ i, (slAt m' i).nodes = (slAt m i).nodes

theorem SameLists.refl (m : MergeIt) : SameLists m m := ⟨rfl, fun _ => rfl⟩

theorem SameLists.trans {a b c : MergeIt} (h1 : SameLists a b) (h2 : SameLists b c) : SameLists a c :=
  ⟨h2.len.trans h1.len, fun i => (h2.nodes i).trans (h1.nodes i)⟩

structure MInvK (k : Nat) (m : MergeIt) (Ls rem : List (List Nat)) : Prop where
  lenI : m.iters.length = m.sls.length
  lenL : Ls.length = m.sls.length
  lenR : rem.length = m.sls.length
  reps : ∀ i, i < m.sls.length → Rep (slAt m i) (Ls.getD i [])
  suf : ∀ i, i < m.sls.length → ∃ P, Ls.getD i [] = P ++ rem.getD i []
  del : ∀ i, i < m.sls.length → (itAt m i).deleted = false
  pos : ∀ i, i < k → i < m.sls.length → (itAt m i).curr = ((rem.getD i []).head?).getD tailId
  hnd : m.h.Nodup
  hmem : ∀ i n, (i, n) ∈ m.h ↔ (i < k ∧ i < m.sls.length ∧ (rem.getD i []).head? = some n)

/-- every iterator is positioned -/
abbrev MInv (m : MergeIt) (Ls rem : List (List Nat)) : Prop := MInvK m.sls.length m Ls rem

def entryInt (sls : List SL) (e : Nat × Nat) : Int := ikey (sls.getD e.1 SL.init).nodes e.2

theorem minEntry_mem (sls : List SL) : ∀ (r : List (Nat × Nat)) (m : Nat × Nat), minEntry sls m r ∈ m :: r := by
  intro r
  induction r with
  | nil => intro m; simp [minEntry]
  | cons e r ih =>
    intro m
    simp only [minEntry]
    split
    · have := ih e; exact List.mem_cons_of_mem _ this
    · have := ih m
      rcases List.mem_cons.mp this with h | h
      · rw [h]; simp
      · exact List.mem_cons_of_mem _ (List.mem_cons_of_mem _ h)

theorem minEntry_le (sls : List SL) : ∀ (r : List (Nat × Nat)) (m : Nat × Nat),
    (∀ e ∈ m :: r, entryKey sls e = .item (entryInt sls e)) →
    ∀ e ∈ m :: r, entryInt sls (minEntry sls m r) ≤ entryInt sls e := by
  intro r
  induction r with
  | nil => intro m _ e he; simp at he; subst he; simp [minEntry]
  | cons e r ih =>
    intro m hk e' he'
    have hkm := hk m (by simp)
    have hke := hk e (by simp)
    have hless : entryLess sls e m = decide (entryInt sls e < entryInt sls m) := by
      unfold entryLess; rw [hkm, hke, compare_item_item]
      by_cases h : entryInt sls e < entryInt sls m
      · have : entryInt sls e - entryInt sls m < 0 := Int.sub_neg_of_lt h
        simp [h, this]
      · have : ¬ entryInt sls e - entryInt sls m < 0 := fun h' => h (Int.lt_of_sub_neg h')
        simp [h, this]
    simp only [minEntry, hless]
    by_cases h : entryInt sls e < entryInt sls m
    · simp only [h, decide_true, if_true]
      have hih := ih e (fun x hx => hk x (List.mem_cons_of_mem _ hx))
      rcases List.mem_cons.mp he' with h1 | h1
      · subst h1; exact Int.le_trans (hih e (by simp)) (Int.le_of_lt h)
      · exact hih e' h1
    · simp only [h, decide_false, Bool.false_eq_true, if_false]
      have hih := ih m (fun x hx => hk x (by
        rcases List.mem_cons.mp hx with h1 | h1
        · rw [h1]; simp
        · exact List.mem_cons_of_mem _ (List.mem_cons_of_mem _ h1)))
      rcases List.mem_cons.mp he' with h1 | h1
      · subst h1; exact hih e' (by simp)
      · rcases List.mem_cons.mp h1 with h2 | h2
        · subst h2; exact Int.le_trans (hih m (by simp)) (Int.not_lt.mp h)
        · exact hih e' (List.mem_cons_of_mem _ h2)

theorem iterValid_head {it : Iter} {T : List Nat} (hv : it.valid = true)
    (hc : it.curr = (T.head?).getD tailId) (hT : ∀ a ∈ T, a ≠ tailId) (i : Nat) (H : List (Nat × Nat)) :
    (iterValid it).1.curr = (T.head?).getD tailId ∧ (iterValid it).1.deleted = it.deleted ∧
    (if (iterValid it).2 then H ++ [(i, (iterValid it).1.curr)] else H)
      = H ++ ((T.head?).map (Prod.mk i)).toList := by
  cases T with
  | nil =>
    simp only [List.head?_nil, Option.getD_none] at hc
    simp [iterValid, hv, hc]
  | cons a T' =>
    have := hT a List.mem_cons_self
    simp only [List.head?_cons, Option.getD_some] at hc
    simp [iterValid, hv, hc, this]

namespace MInvK
variable {k : Nat} {m : MergeIt} {Ls rem : List (List Nat)} (inv : MInvK k m Ls rem)
include inv

theorem entry_key {i n : Nat} (hi : i < m.sls.length) (hn : n ∈ rem.getD i []) :
    entryKey m.sls (i, n) = .item (entryInt m.sls (i, n)) :=
  (inv.suf i hi).elim fun _ hP =>
    ((inv.reps i hi).nodes n (hP ▸ List.mem_append_right _ hn)).key

theorem rem_sorted {i : Nat} (hi : i < m.sls.length) :
    (rem.getD i []).Pairwise (fun a b => ikey (slAt m i).nodes a < ikey (slAt m i).nodes b) := by
  rcases inv.suf i hi with ⟨P, hP⟩
  have := (inv.reps i hi).sorted
  rw [hP] at this
  exact (List.pairwise_append.mp this).2.1

end MInvK

theorem MInvK.mem_heap {m : MergeIt} {Ls rem : List (List Nat)} (inv : MInv m Ls rem) (i n : Nat) :
    (i, n) ∈ m.h ↔ (i < m.sls.length ∧ (rem.getD i []).head? = some n) := by
  rw [inv.hmem]; exact ⟨fun h => ⟨h.1, h.2.2⟩, fun h => ⟨h.1, h.1, h.2⟩⟩

theorem mergeNext_empty {m : MergeIt} (h : m.h = []) : mergeNext m = { m with curr := none } := by
  unfold mergeNext; rw [h]

theorem slAt_set {m m' : MergeIt} {i : Nat} {s' : SL} (hi : i < m.sls.length) (hsl : m'.sls = m.sls.set i s')
    (j : Nat) : slAt m' j = if i = j then s' else slAt m j := by
  simp only [slAt, hsl]; exact getD_set_lt hi _ _ j

/-- `h0`: the heap without the old entry of iterator `i`.  `k'` is `k` for an iterator that was positioned,
    `k + 1` for iterator `k`. -/
theorem MInvK.set {k k' : Nat} {m m' : MergeIt} {Ls rem : List (List Nat)} {i : Nat} {T : List Nat} {s' : SL}
    {it' : Iter} {h0 : List (Nat × Nat)} (inv : MInvK k m Ls rem) (hi : i < m.sls.length)
    (hk : ∀ j, j < k' ↔ j < k ∨ j = i)
    (hsl : m'.sls = m.sls.set i s') (hsb : SameBut (slAt m i) s') (hits : m'.iters = m.iters.set i it')
    (hT : ∃ P, Ls.getD i [] = P ++ T) (hc : it'.curr = (T.head?).getD tailId) (hd : it'.deleted = false)
    (hnd0 : h0.Nodup) (hold : ∀ e, e ∈ h0 ↔ e ∈ m.h ∧ e.1 ≠ i)
    (hh : m'.h = h0 ++ ((T.head?).map (Prod.mk i)).toList) :
    MInvK k' m' Ls (rem.set i T) := by
  have hlen : m'.sls.length = m.sls.length := by rw [hsl, List.length_set]
  have hslAt := slAt_set hi hsl
  have hrem : ∀ j, (rem.set i T).getD j [] = if i = j then T else rem.getD j [] :=
    getD_set_lt (inv.lenR ▸ hi) _ _
  have hit : ∀ j, itAt m' j = if i = j then it' else itAt m j := fun j => by
    simp only [itAt, hits]; exact getD_set_lt (inv.lenI ▸ hi) _ _ j
  refine ⟨by rw [hits, hlen, List.length_set]; exact inv.lenI, hlen ▸ inv.lenL,
    by rw [hlen, List.length_set]; exact inv.lenR, fun j hj => ?_, fun j hj => ?_, fun j hj => ?_,
    fun j hjk hj => ?_, ?_, fun j n => ?_⟩
  · rw [hslAt]
    by_cases e : i = j
    · rw [if_pos e]; exact e ▸ (inv.reps i hi).of_sameBut hsb
    · rw [if_neg e]; exact inv.reps j (hlen ▸ hj)
  · rw [hrem]
    by_cases e : i = j
    · rw [if_pos e]; exact e ▸ hT
    · rw [if_neg e]; exact inv.suf j (hlen ▸ hj)
  · rw [hit]
    by_cases e : i = j
    · rw [if_pos e]; exact hd
    · rw [if_neg e]; exact inv.del j (hlen ▸ hj)
  · rw [hit, hrem]
    by_cases e : i = j
    · rw [if_pos e, if_pos e]; exact hc
    · rw [if_neg e, if_neg e]
      exact inv.pos j (((hk j).mp hjk).resolve_right (Ne.symm e)) (hlen ▸ hj)
  · -- no entry of iterator `i` is left in `h0`
    rw [hh]
    cases T.head? with
    | none => rw [Option.map_none, Option.toList_none, List.append_nil]; exact hnd0
    | some a =>
      refine List.nodup_append.mpr ⟨hnd0, by simp, fun x hx y hy => ?_⟩
      rw [List.mem_singleton.mp hy]
      rintro rfl
      exact ((hold _).mp hx).2 rfl
  · have hnew : (j, n) ∈ m'.h ↔ (j, n) ∈ h0 ∨ (j = i ∧ T.head? = some n) := by
      rw [hh]
      cases T.head? with
      | none => simp
      | some a => simp [List.mem_append, eq_comm]
    rw [hnew, hold, inv.hmem, hlen, hrem, hk]
    by_cases e : i = j
    · subst e
      rw [if_pos rfl]
      exact ⟨fun h => h.elim (fun h1 => absurd rfl h1.2) (fun h1 => ⟨Or.inr rfl, hi, h1.2⟩),
        fun h => Or.inr ⟨rfl, h.2.2⟩⟩
    · rw [if_neg e]
      exact ⟨fun h => h.elim (fun h1 => ⟨Or.inl h1.1.1, h1.1.2⟩) (fun h1 => absurd h1.1.symm e),
        fun h => Or.inl ⟨⟨h.1.resolve_right (Ne.symm e), h.2⟩, Ne.symm e⟩⟩

theorem MInvK.pop {m m' : MergeIt} {Ls rem : List (List Nat)} {i n : Nat} {T : List Nat} {it' : Iter}
    (inv : MInv m Ls rem) (hi : i < m.sls.length) (hT : rem.getD i [] = n :: T)
    (hs : m'.sls = m.sls) (hits : m'.iters = m.iters.set i it')
    (hc : it'.curr = (T.head?).getD tailId) (hd : it'.deleted = false)
    (hh : m'.h = m.h.erase (i, n) ++ ((T.head?).map (Prod.mk i)).toList) :
    MInv m' Ls (rem.set i T) := by
  rcases inv.suf i hi with ⟨P, hP⟩
  show MInvK m'.sls.length m' Ls (rem.set i T)
  rw [hs]
  refine inv.set (m' := m') hi (fun j => ⟨Or.inl, fun h => h.elim id (fun e => e ▸ hi)⟩)
    (hs.trans (getD_set_self m.sls i SL.init hi).symm) (SameBut.refl _) hits
    ⟨P ++ [n], by rw [hP, hT, List.append_assoc]; rfl⟩ hc hd (inv.hnd.erase _) (fun e => ?_) hh
  -- the popped entry was the only one of iterator `i`
  rw [inv.hnd.mem_erase_iff]
  refine ⟨fun h => ⟨h.2, fun e1 => h.1 ?_⟩, fun h => ⟨fun e1 => h.2 (e1 ▸ rfl), h.1⟩⟩
  have h3 := ((inv.mem_heap e.1 e.2).mp h.2).2
  rw [e1, hT] at h3
  exact Prod.ext e1 (Option.some.inj h3).symm

theorem MInvK.curr_none {k : Nat} {m : MergeIt} {Ls rem : List (List Nat)} (inv : MInvK k m Ls rem) :
    MInvK k { m with curr := none } Ls rem :=
  ⟨inv.lenI, inv.lenL, inv.lenR, inv.reps, inv.suf, inv.del, inv.pos, inv.hnd, inv.hmem⟩

theorem mergeNext_step {m : MergeIt} {Ls rem : List (List Nat)} (inv : MInv m Ls rem) (hne : m.h ≠ []) :
    ∃ i n T, i < m.sls.length ∧ rem.getD i [] = n :: T ∧ (mergeNext m).curr = some (i, n) ∧
      (mergeNext m).sls = m.sls ∧ MInv (mergeNext m) Ls (rem.set i T) ∧
      ∀ j, j < m.sls.length → ∀ y ∈ rem.getD j [],
        ikey (slAt m i).nodes n ≤ ikey (slAt m j).nodes y := by
  obtain ⟨e, r, her⟩ : ∃ e r, m.h = e :: r := by
    cases hh : m.h with
    | nil => exact absurd hh hne
    | cons e r => exact ⟨e, r, rfl⟩
  have hmemMin : minEntry m.sls e r ∈ m.h := by rw [her]; exact minEntry_mem m.sls r e
  obtain ⟨i, n, hin⟩ : ∃ i n, minEntry m.sls e r = (i, n) := ⟨_, _, rfl⟩
  rw [hin] at hmemMin
  have hi := ((inv.mem_heap i n).mp hmemMin).1
  have hhead := ((inv.mem_heap i n).mp hmemMin).2
  obtain ⟨T, hT⟩ : ∃ T, rem.getD i [] = n :: T := by
    cases hr : rem.getD i [] with
    | nil => rw [hr] at hhead; simp at hhead
    | cons a T => rw [hr] at hhead; simp at hhead; subst hhead; exact ⟨T, rfl⟩
  have hkeys : ∀ x ∈ e :: r, entryKey m.sls x = .item (entryInt m.sls x) := by
    intro x hx
    rw [← her] at hx
    have := (inv.mem_heap x.1 x.2).mp hx
    exact inv.entry_key this.1 (List.mem_of_head? this.2)
  have hmin := minEntry_le m.sls r e hkeys
  rw [hin] at hmin
  rcases inv.suf i hi with ⟨P, hP⟩
  rw [hT] at hP
  have hrep := inv.reps i hi
  rw [hP] at hrep
  have hit := And.intro (inv.pos i hi hi) (inv.del i hi)
  rw [hT] at hit
  simp only [List.head?_cons, Option.getD_some] at hit
  have hlink := hrep.next_of_split
  have hun : (getNext (slAt m i).nodes (itAt m i).curr 0).2 = false := by rw [hit.1, hlink]
  have hnext := iterNext_plain (s := slAt m i) hit.2 hun
  rw [hit.1, hlink] at hnext
  simp only at hnext
  have hTlo : ∀ y ∈ T, y ≠ tailId := by
    intro y hy
    have := (hrep.nodes y (List.mem_append_right _ (List.mem_cons_of_mem _ hy))).lo
    exact ne_of_three_le this (by decide)
  have hsls : m.sls.set i (slAt m i) = m.sls := getD_set_self m.sls i SL.init hi
  have hcurr : (mergeNext m).curr = some (i, n) := by
    unfold mergeNext; rw [her]; simp only [hin]
  have hslsN : (mergeNext m).sls = m.sls := by
    unfold mergeNext; rw [her]; simp only [hin, hnext, hsls]
  refine ⟨i, n, T, hi, hT, hcurr, hslsN, ?_, ?_⟩
  · have hv := iterValid_head (it := { itAt m i with valid := true, prev := n, curr := (T.head?).getD tailId })
      (T := T) rfl rfl hTlo i (m.h.erase (i, n))
    refine inv.pop hi hT hslsN ?_ hv.1 (hv.2.1.trans hit.2) ?_
    · unfold mergeNext; rw [her]; simp only [hin, hnext]
    · unfold mergeNext; rw [her]; simp only [hin, hnext]; rw [← her]; exact hv.2.2
  · -- the popped key is minimal among everything that remains
    intro j hj y hy
    cases hr : rem.getD j [] with
    | nil => rw [hr] at hy; simp at hy
    | cons b Tj =>
      have hbm : (j, b) ∈ m.h := (inv.mem_heap j b).mpr ⟨hj, by rw [hr]; rfl⟩
      have h1 := hmin (j, b) (by rw [← her]; exact hbm)
      simp only [entryInt] at h1
      have hs := inv.rem_sorted hj
      rw [hr] at hs hy
      have h2 : ikey (slAt m j).nodes b ≤ ikey (slAt m j).nodes y := by
        rcases List.mem_cons.mp hy with e' | e'
        · rw [e']; exact Int.le_refl _
        · exact Int.le_of_lt ((List.pairwise_cons.mp hs).1 y e')
      simp only [slAt] at h2 ⊢
      exact Int.le_trans h1 h2

/-- keys of the remaining node lists, list by list -/
def keysOf (sls : List SL) (rem : List (List Nat)) : List (List Int) :=
  List.zipWith (fun s R => R.map (ikey s.nodes)) sls rem

theorem mem_keysOf_iff {sls : List SL} {rem : List (List Nat)} (hl : rem.length = sls.length) (l : List Int) :
    l ∈ keysOf sls rem ↔
      ∃ j, j < sls.length ∧ l = (rem.getD j []).map (ikey (sls.getD j SL.init).nodes) := by
  have hget : ∀ j, j < sls.length →
      (keysOf sls rem)[j]? = some ((rem.getD j []).map (ikey (sls.getD j SL.init).nodes)) := by
    intro j hj
    unfold keysOf
    rw [List.getElem?_zipWith, List.getD_eq_getElem?_getD, List.getD_eq_getElem?_getD,
      List.getElem?_eq_getElem hj, List.getElem?_eq_getElem (hl ▸ hj)]
    rfl
  have hlen : (keysOf sls rem).length = sls.length := by
    unfold keysOf; rw [List.length_zipWith, hl, Nat.min_self]
  rw [List.mem_iff_getElem?]
  constructor
  · rintro ⟨j, he⟩
    have hj : j < sls.length := hlen ▸ (List.getElem?_eq_some_iff.mp he).1
    exact ⟨j, hj, Option.some.inj (he.symm.trans (hget j hj))⟩
  · rintro ⟨j, hj, rfl⟩
    exact ⟨j, hget j hj⟩

theorem keysOf_pop : ∀ (sls : List SL) (rem : List (List Nat)) (i n : Nat) (T : List Nat),
    i < sls.length → rem.length = sls.length → rem.getD i [] = n :: T →
    (keysOf sls rem).flatten.Perm
      (ikey (sls.getD i SL.init).nodes n :: (keysOf sls (rem.set i T)).flatten) := by
  intro sls
  induction sls with
  | nil => intro rem i n T hi; simp at hi
  | cons s ss ih =>
    intro rem i n T hi hl hT
    cases rem with
    | nil => simp at hl
    | cons R rs =>
      cases i with
      | zero =>
        simp at hT; subst hT
        simp [keysOf]
      | succ i =>
        simp only [List.getD_cons_succ] at hT ⊢
        simp only [List.set_cons_succ, keysOf, List.zipWith_cons_cons, List.flatten_cons]
        have := ih rs i n T (by simpa using hi) (by simpa using hl) hT
        exact (List.Perm.append (List.Perm.refl _) this).trans List.perm_middle

theorem mem_keysOf {sls : List SL} {rem : List (List Nat)} (hl : rem.length = sls.length) {y : Int}
    (hy : y ∈ (keysOf sls rem).flatten) :
    ∃ j y', j < sls.length ∧ y' ∈ rem.getD j [] ∧ y = ikey (sls.getD j SL.init).nodes y' := by
  rcases List.mem_flatten.mp hy with ⟨l, hl', hyl⟩
  rcases (mem_keysOf_iff hl l).mp hl' with ⟨j, hj, rfl⟩
  rcases List.mem_map.mp hyl with ⟨y', hy', rfl⟩
  exact ⟨j, y', hj, hy', rfl⟩

theorem keysOf_sorted {m : MergeIt} {Ls rem : List (List Nat)} (inv : MInv m Ls rem) :
    ∀ l ∈ keysOf m.sls rem, AscLe l := by
  intro l hl
  rcases (mem_keysOf_iff inv.lenR l).mp hl with ⟨j, hj, rfl⟩
  unfold AscLe
  rw [List.pairwise_map]
  exact List.Pairwise.imp (fun h => Int.le_of_lt h) (inv.rem_sorted hj)

theorem mergeScan_done {Ls : List (List Nat)} {m : MergeIt} {rem : List (List Nat)} (inv : MInv m Ls rem)
    (hh : m.h = []) (N : Nat) :
    mergeScan (N + 1) (mergeNext m) = [] ∧ (keysOf m.sls rem).flatten = [] := by
  refine ⟨by rw [mergeNext_empty hh]; simp [mergeScan, MergeIt.key], ?_⟩
  apply List.eq_nil_iff_forall_not_mem.mpr
  intro y hy
  rcases mem_keysOf inv.lenR hy with ⟨j, y', hj, hy', _⟩
  cases hr : rem.getD j [] with
  | nil => rw [hr] at hy'; simp at hy'
  | cons b Tj =>
    have : (j, b) ∈ m.h := (inv.mem_heap j b).mpr ⟨hj, by rw [hr]; rfl⟩
    rw [hh] at this; simp at this

theorem mergeScan_spec {Ls : List (List Nat)} : ∀ (N : Nat) (m : MergeIt) (rem : List (List Nat)),
    MInv m Ls rem → (keysOf m.sls rem).flatten.length ≤ N →
    ∃ O, mergeScan (N + 1) (mergeNext m) = O.map Key.item ∧ AscLe O ∧
      O.Perm (keysOf m.sls rem).flatten := by
  intro N
  induction N with
  | zero =>
    intro m rem inv hN
    have hnil : (keysOf m.sls rem).flatten = [] := List.length_eq_zero_iff.mp (Nat.le_zero.mp hN)
    have hh : m.h = [] := by
      cases hh : m.h with
      | nil => rfl
      | cons e r =>
        rcases mergeNext_step inv (by rw [hh]; simp) with ⟨i, n, T, hi, hT, _, _, _, _⟩
        have := (keysOf_pop m.sls rem i n T hi inv.lenR hT).length_eq
        rw [hnil, List.length_cons] at this; simp at this
    exact ⟨[], (mergeScan_done inv hh 0).1, by simp [AscLe], by rw [hnil]⟩
  | succ N ih =>
    intro m rem inv hN
    by_cases hh : m.h = []
    · rcases mergeScan_done inv hh (N + 1) with ⟨e1, e2⟩
      exact ⟨[], e1, by simp [AscLe], by rw [e2]⟩
    · rcases mergeNext_step inv hh with ⟨i, n, T, hi, hT, hcurr, hsls, inv', hmin⟩
      have hpop := keysOf_pop m.sls rem i n T hi inv.lenR hT
      have hlen' : (keysOf (mergeNext m).sls (rem.set i T)).flatten.length ≤ N := by
        rw [hsls]
        have := hpop.length_eq
        rw [List.length_cons] at this; omega
      rcases ih (mergeNext m) (rem.set i T) inv' hlen' with ⟨O', hO1, hO2, hO3⟩
      rw [hsls] at hO3
      have hk : (mergeNext m).key = some (.item (ikey (slAt m i).nodes n)) := by
        simp only [MergeIt.key, hcurr, Option.map_some, hsls]
        rw [inv.entry_key hi (by rw [hT]; simp)]
        rfl
      refine ⟨ikey (slAt m i).nodes n :: O', ?_, ?_, ?_⟩
      · rw [mergeScan, hk]
        simp only [List.map_cons]
        rw [hO1]
      · unfold AscLe at hO2 ⊢
        rw [List.pairwise_cons]
        refine ⟨?_, hO2⟩
        intro y hy
        have hy1 : y ∈ (keysOf m.sls (rem.set i T)).flatten := hO3.mem_iff.mp hy
        have hy2 : y ∈ (keysOf m.sls rem).flatten := hpop.mem_iff.mpr (List.mem_cons_of_mem _ hy1)
        rcases mem_keysOf inv.lenR hy2 with ⟨j, y', hj, hy', rfl⟩
        exact hmin j hj y' hy'
      · exact (List.Perm.cons _ hO3).trans hpop.symm

theorem keysOf_congr {a b : List SL} (hl : a.length = b.length)
    (hn : ∀ i, (a.getD i SL.init).nodes = (b.getD i SL.init).nodes) (rem : List (List Nat)) :
    keysOf a rem = keysOf b rem := by
  induction a generalizing b rem with
  | nil => cases b with
    | nil => rfl
    | cons _ _ => simp at hl
  | cons s ss ih =>
    cases b with
    | nil => simp at hl
    | cons t ts =>
      cases rem with
      | nil => simp [keysOf]
      | cons R rs =>
        have h0 := hn 0
        simp at h0
        simp only [keysOf, List.zipWith_cons_cons, h0]
        congr 1
        exact ih (by simpa using hl) (fun i => by have := hn (i + 1); simpa using this) rs

theorem mergeScan_head (f : Nat) (m : MergeIt) : (mergeScan (f + 1) m).head? = m.key := by
  simp only [mergeScan]
  cases m.key <;> simp

theorem scan_of_inv {m1 : MergeIt} {Ls rem : List (List Nat)} (inv : MInv m1 Ls rem) :
    mergeScan ((keysOf m1.sls rem).flatten.length + 1) (mergeNext m1)
      = (mergeAll (keysOf m1.sls rem)).map Key.item ∧
    (mergeNext m1).key = ((mergeAll (keysOf m1.sls rem)).head?).map Key.item := by
  rcases mergeScan_spec _ m1 rem inv (Nat.le_refl _) with ⟨O, h1, h2, h3⟩
  -- two `≤`-sorted permutations of each other are equal
  obtain rfl : O = mergeAll (keysOf m1.sls rem) := List.Perm.eq_of_pairwise (fun _ _ _ _ => Int.le_antisymm) h2
    (mergeAll_sorted _ (keysOf_sorted inv)) (h3.trans (mergeAll_perm _).symm)
  refine ⟨h1, ?_⟩
  have := mergeScan_head (keysOf m1.sls rem).flatten.length (mergeNext m1)
  rw [h1] at this
  rw [← this, List.head?_map]

end NitroVerif.SkipSeq
