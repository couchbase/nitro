/-
  C09 Iterator positioning is exact and refresh-independent.
  "On any snapshot, Seek(k) positions the iterator at the smallest visible item whose key is >= k
   (SeekFirst at the smallest visible item), Next advances to the next larger visible item, and Valid
   becomes false exactly after the last one.  The sequence of items observed is independent of the
   refresh rate and of explicit Refresh() calls, and of how many invisible older or newer versions of
   keys are physically present."

  Model M6 iterators (`Model/MvccIter.lean`): a cursor over the physical store, `skipUnwanted`,
  automatic and explicit `Refresh` (the fixed code: re-seek by key, then `skipUnwanted`).
  The specification iterator (`Spec/SetSpec.lean`) walks the recorded content of the snapshot and
  knows neither refresh rates nor physical versions.
-/
import NitroVerif.Props.C01
import NitroVerif.Props.C02

namespace NitroVerif.Props
open NitroVerif NitroVerif.Mvcc
open NitroVerif.SetSpec (Op Out Item)

/-- **C09 (per call)** In every reachable state, for every registered iterator `i` (its snapshot is
    then open) with `c` the content of its snapshot as items, strictly sorted by key:
    * `SeekFirst` reports the first item of `c`,
    * `Seek k` reports the first item of `c` with key ≥ `k`,
    * `Next` from a valid position `v` reports the first item of `c` with key > `v.key` (the successor,
      see `C09_next_is_successor`; `end` exactly when there is none), and `Next` is refused when invalid,
    * `Refresh` reports the current position unchanged,
    whatever the iterator's refresh rate and step counter are and whatever invisible versions the
    physical store contains. -/
theorem C09_iterator_exact {n : Nat} {σ : Mvcc.State} (hr : Reachable n σ) {i : Nat} {it : Iter}
    (hi : SetSpec.alookup i σ.iters = some it) :
    ∃ x, findSnap it.sn σ.snaps = some x ∧ 0 < x.rc ∧
      (x.content.map Ver.item).Pairwise ItemLt ∧
      (Mvcc.step σ (.itFirst i)).2 = .cursor (x.content.map Ver.item).head? ∧
      (∀ k, (Mvcc.step σ (.itSeek i k)).2 =
          .cursor ((x.content.map Ver.item).find? (fun e => decide (k ≤ e.1)))) ∧
      (∀ v, it.cur = some v → v.item ∈ x.content.map Ver.item ∧
          (Mvcc.step σ (.itNext i)).2 =
            .cursor ((x.content.map Ver.item).find? (fun e => decide (v.key < e.1)))) ∧
      (it.cur = none → (Mvcc.step σ (.itNext i)).2 = .bad) ∧
      (Mvcc.step σ (.itRefresh i)).2 = .cursor (it.cur.map Ver.item) := by
  have h := inv_reachable hr
  obtain ⟨x, c⟩ := iter_ctx h hi
  have hcont := c.contentOf h
  have hci := content_items h c.find (Int.ne_of_gt c.rc)
  have hsorted : ((vis σ.store it.sn).map Ver.item).Pairwise ItemLt :=
    List.pairwise_map.mpr (vis_keySorted h.sorted h.chains it.sn)
  have hout : ∀ op, (Mvcc.step σ op).2 = (SetSpec.step (abs σ) op).2 := by
    intro op; have := step_refines h op; unfold Refines at this; rw [this]
  refine ⟨x, c.find, c.rc, by rw [hci]; exact hsorted, ?_, ?_, ?_, ?_, ?_⟩
  · rw [hout, hci]
    simp only [SetSpec.step, alookup_iters, hi, Option.map_some, hcont]
  · intro k
    rw [hout, hci]
    simp only [SetSpec.step, alookup_iters, hi, Option.map_some, hcont, SetSpec.seekIn]
  · intro v hv
    obtain ⟨v', hv', hn⟩ := c.cur v hv
    constructor
    · rw [hci]
      exact List.mem_map.mpr ⟨v', hv', (congrArg Ver.item hn : v'.norm.item = v.norm.item)⟩
    · rw [hout, hci]
      simp only [SetSpec.step, alookup_iters, hi, Option.map_some, hcont, hv, SetSpec.nextIn, Ver.item]
  · intro hv
    rw [hout]
    simp only [SetSpec.step, alookup_iters, hi, Option.map_some, hv, Option.map_none]
  · rw [hout]
    simp only [SetSpec.step, alookup_iters, hi, Option.map_some]

/-- in a strictly key-sorted content, "the first item with a larger key" is the successor, and
    there is none exactly at the last item -/
theorem C09_next_is_successor {c : List Item} (hc : c.Pairwise ItemLt) {p : Nat} (hp : p < c.length) :
    c.find? (fun e => decide ((c[p]).1 < e.1)) = c[p + 1]? :=
  nextIn_getElem hc hp

/-- the position reported by a positioning call is the position the iterator keeps: other
    operations (not naming the iterator) leave its cursor alone, and the content of its snapshot
    never changes (`C01_content_fixed`) -/
theorem C09_frame {σ : Mvcc.State} (i : Nat) (op : Op) (hn : namesIter i op = false) :
    SetSpec.alookup i (Mvcc.step σ op).1.iters = SetSpec.alookup i σ.iters :=
  step_frame σ i op hn

/-- **C09 (whole runs)** for every operation sequence (iterator calls interleaved with anything
    else) every observed `(Valid, Get)` equals the one of the specification iterator, which walks the
    snapshot content and has no refresh rate, no `Refresh` and no physical versions -/
theorem C09_runs_exact {n : Nat} {σ : Mvcc.State} (hr : Reachable n σ) (ops : List Op) :
    Mvcc.run σ ops = SetSpec.run (abs σ) ops :=
  C02_refines_set_from hr ops

/-- independence of the refresh rate: changing every refresh rate in a script (of `SetRefreshRate`,
    of the scans, of the Visitor configuration) by an arbitrary function changes no output -/
theorem C09_rate_independent {n : Nat} {σ : Mvcc.State} (hr : Reachable n σ) (f : Int → Int)
    (ops : List Op) : Mvcc.run σ (ops.map (rerate f)) = Mvcc.run σ ops := by
  rw [run_refines _ (inv_reachable hr), run_refines _ (inv_reachable hr), spec_run_rerate]

/-- independence of explicit `Refresh()` calls: removing all of them from a script leaves the
    outputs of all other operations unchanged (and each `Refresh` reports the unchanged position) -/
theorem C09_refresh_independent {n : Nat} {σ : Mvcc.State} (hr : Reachable n σ) (ops : List Op) :
    Mvcc.run σ (ops.filter (fun op => !isRefresh op)) = dropRefreshOut ops (Mvcc.run σ ops) := by
  rw [run_refines _ (inv_reachable hr), run_refines _ (inv_reachable hr), spec_run_dropRefresh]

/-- the sequence observed by successive `Next` calls is the content in order, then `end`, for every
    interleaving with other operations, rate changes and explicit refreshes -/
theorem C09_next_sequence {n : Nat} {σ : Mvcc.State} (hr : Reachable n σ) {i : Nat} {c : List Item}
    {p : Nat} (hc : c.Pairwise ItemLt) (hat : AtPos (abs σ) i c p) (ops : List Op)
    (hall : ∀ op ∈ ops, allowed i op = true) :
    nextOuts i ops (Mvcc.run σ ops) = expectNext c p (countNext i ops) :=
  C01_scan_interleaved hr hc hat ops hall

/-! ### non-vacuity (test evaluated by the kernel): key 2 deleted in epoch 2 and re-inserted in epoch 3
    (the history on which the unfixed `Refresh` repeated `k2` or never terminated); snapshot 3 is
    walked at refresh rate 1 with explicit refreshes; seeks to present, absent, below-min, above-max -/
example :
    Mvcc.run (Mvcc.init 1)
      [.put 0 1 0, .put 0 2 0, .put 0 4 0, .snap, .del 0 2, .snap, .put 0 2 0, .snap,
       .itNew 0 3, .itRate 0 1, .itFirst 0, .itNext 0, .itRefresh 0, .itNext 0, .itNext 0,
       .itSeek 0 3, .itSeek 0 0, .itSeek 0 5, .itSeek 0 2] =
      [.bool true, .bool true, .bool true, .snap 1 3, .bool true, .snap 2 2, .bool true, .snap 3 3,
       .ok, .ok, .cursor (some (1, 0)), .cursor (some (2, 0)), .cursor (some (2, 0)),
       .cursor (some (4, 0)), .cursor none,
       .cursor (some (4, 0)), .cursor (some (1, 0)), .cursor none, .cursor (some (2, 0))] := by decide +kernel

end NitroVerif.Props
