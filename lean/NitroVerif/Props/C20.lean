import NitroVerif.Lemmas.TableRefine
import NitroVerif.Lemmas.NodeList
/-!
  Property C20 — node table and node list.

  Model: `NitroVerif.Table` (nodetable/table.go: find / Get / Update / Remove / ItemsCount over the
  fast map, the slow map and the three counters) and `NitroVerif.NodeList` (nodelist.go).
  Spec: `NitroVerif.MapSpec` (association-list map) and `NitroVerif.ListSpec` (plain list).
  The hash function and `keyOf` (which key the object behind a pointer carries) are universally
  quantified parameters — constant hashes (all keys collide) included.  Pointers are natural
  numbers; the `uint64` tagging with bit `Gen.ntConflictBit` is faithful for pointers `< 2^63`
  (`Table.GenLemmas.encodePointer_faithful`), which is assumed of all pointers.
  The decisions of the Go code enter through `Gen.ntIsFound`, `Gen.ntFoundInFast/InSlow/NotFound`,
  `Gen.ntNewSlowValue`, `Gen.ntInsertSlow` (characterised in `Lemmas/TableGen.lean`).
-/
namespace NitroVerif.Props.C20
open Table

/-- For every hash function, every `keyOf`, and every sequence of Update / Get / Remove /
    ItemsCount calls that respects the API contract (`Update(k, p)` is called with a pointer whose
    object has key `k`), the table produces exactly the outputs of the association-list map:
    Update reports `updated` and the previous pointer iff the key was present, Get returns the
    latest pointer, Remove returns the stored pointer iff present, and ItemsCount is the number of
    keys of the map. -/
theorem C20_table_refines_map (hash : Key → Hash) (keyOf : Ptr → Key) (ops : List MapSpec.Op)
    (hc : ∀ op ∈ ops, contract keyOf op) :
    (Table.run hash keyOf ops).2 = (MapSpec.run ops).2 :=
  (runFrom_rel hash keyOf (Rel_empty hash keyOf) ops hc).2

/-- The invariant that carries the refinement, at the end of every contract-respecting run
    (`t` the table, `m` the spec map after the same calls):
    * no call panicked (`slowHTValues[0]` in Remove is never out of range);
    * conflict bit set ⇔ the slow list of that hash is non-empty; no slow list without fast entry;
      the slow map holds no empty list;
    * all pointers of one bucket (fast entry + slow list) hash to that bucket and have pairwise
      distinct keys;
    * counters exact: `fastHTCount` = number of fast entries (one per hash), `slowHTCount` = total
      length of the slow lists, `conflicts` = number of (non-empty) slow lists;
    * `ItemsCount` = number of distinct keys of the map, and Get agrees with the map on every key. -/
theorem C20_table_invariant (hash : Key → Hash) (keyOf : Ptr → Key) (ops : List MapSpec.Op)
    (hc : ∀ op ∈ ops, contract keyOf op) :
    let t := (Table.run hash keyOf ops).1
    let m := (MapSpec.run ops).1
    t.panicked = false ∧
    (∀ h p c, AL.get t.fastHT h = some (p, c) → (c = true ↔ (AL.get t.slowHT h).getD [] ≠ [])) ∧
    (∀ h, AL.get t.fastHT h = none → AL.get t.slowHT h = none) ∧
    (∀ h vs, AL.get t.slowHT h = some vs → vs ≠ []) ∧
    (∀ h p, p ∈ bucket t h → hash (keyOf p) = h) ∧
    (∀ h, ((bucket t h).map keyOf).Nodup) ∧
    ((AL.keys t.fastHT).Nodup ∧ t.fastHTCount = t.fastHT.length) ∧
    t.slowHTCount = AL.total t.slowHT ∧
    ((AL.keys t.slowHT).Nodup ∧ t.conflicts = t.slowHT.length) ∧
    ((AL.keys m).Nodup ∧ itemsCount t = (AL.keys m).length) ∧
    (∀ k, Table.get hash keyOf t k = AL.get m k) := by
  intro t m
  have hR : Rel hash keyOf t m := (runFrom_rel hash keyOf (Rel_empty hash keyOf) ops hc).1
  have hS := hR.sinv
  refine ⟨hS.notPanicked, ?_, hS.slowNeedsFast, hS.slowNonempty, hR.binv.hashOk, hR.binv.keysNodup,
    ⟨hS.fastNodup, hS.fastCount⟩, hS.slowCount, ⟨hS.slowNodup, hS.conflictCount⟩,
    ⟨hR.mnodup, by rw [← hR.count]; simp [AL.keys]⟩, ?_⟩
  · intro h p c hf
    rw [hS.conflictIff h p c hf]
    cases hs : AL.get t.slowHT h with
    | none => simp
    | some vs => simpa using hS.slowNonempty h vs hs
  · intro k
    rw [get_eq_lookup hash keyOf hS, hR.lookup]

/-- NodeList behaves as a list: Add at the head, Remove of the first node with an equal key
    (returning that node), Keys in list order, Head — for every sequence of calls. -/
theorem C20_nodelist (ops : List ListSpec.Op) :
    (NodeList.run ops).2 = (ListSpec.run ops).2 ∧
    (NodeList.run ops).1.nodes = (ListSpec.run ops).1 := by
  unfold NodeList.run ListSpec.run
  rw [NodeList.runFrom_eq]
  exact ⟨rfl, rfl⟩

/-! ### non-vacuity -/

/-- pointers 10·k + j point to objects with key k -/
def sampleKeyOf : Ptr → Key := fun p => p / 10

/-- a run under the constant hash (every key collides): fill one bucket, replace in the fast and
    in the slow part, remove the fast entry while overflow entries exist, re-add the key, remove
    the head of the slow list and then its last entry, empty the bucket -/
def sampleOps : List MapSpec.Op :=
  [.update 1 10, .update 2 20, .update 3 30, .count, .update 1 11, .update 3 31, .get 2,
   .remove 1, .get 1, .get 2, .update 1 12, .count, .remove 3, .remove 1, .remove 7, .remove 2, .count]

example : ∀ op ∈ sampleOps, contract sampleKeyOf op := by decide

example : (Table.run (fun _ => 0) sampleKeyOf sampleOps).2 = (MapSpec.run sampleOps).2 :=
  C20_table_refines_map _ _ _ (by decide)

/-- the invariant instantiated on that run: e.g. Get agrees with the map on every key -/
example (k : Key) :
    Table.get (fun _ => 0) sampleKeyOf (Table.run (fun _ => 0) sampleKeyOf sampleOps).1 k
      = AL.get (MapSpec.run sampleOps).1 k :=
  (C20_table_invariant (fun _ => 0) sampleKeyOf sampleOps (by decide)).2.2.2.2.2.2.2.2.2.2 k

/-- the outputs of that run, by evaluation -/
example : (Table.run (fun _ => 0) sampleKeyOf sampleOps).2 =
    [.updated false none, .updated false none, .updated false none, .count 3,
     .updated true (some 10), .updated true (some 30), .got (some 20),
     .removed true (some 11), .got none, .got (some 20), .updated false none, .count 3,
     .removed true (some 31), .removed true (some 12), .removed false none,
     .removed true (some 20), .count 0] := by decide +kernel

/-- the representation after "fill, then remove the fast entry with overflow present":
    the first slow entry moved into the fast table and kept the conflict bit -/
example : (Table.run (fun _ => 0) sampleKeyOf [.update 1 10, .update 2 20, .update 3 30, .remove 1]).1
    = { fastHT := [(0, (20, true))], slowHT := [(0, [30])], fastHTCount := 1, slowHTCount := 1,
        conflicts := 1, panicked := false } := by decide +kernel

/-- what the hypothesis `contract` excludes: pointer 20 has key 2 and is handed in for key 1 -/
example : ¬ contract sampleKeyOf (.update 1 20) := by decide

example : (NodeList.run [.add 1 [0xaa], .add 2 [0xbb], .add 3 [0xaa], .keys, .remove [0xaa], .keys,
      .head, .remove [0xcc], .remove [0xaa], .remove [0xbb], .head]).2
    = [.ok, .ok, .ok, .keys [[0xaa], [0xbb], [0xaa]], .removed (some 3), .keys [[0xbb], [0xaa]],
       .head (some 2), .removed none, .removed (some 1), .removed (some 2), .head none] := by decide +kernel

end NitroVerif.Props.C20
