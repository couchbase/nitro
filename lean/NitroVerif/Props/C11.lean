import NitroVerif.Lemmas.BackupResidual
import NitroVerif.Lemmas.LoadPool
/-!
  Property C11 — restore detects damaged backups.

  "LoadFromDisk applied to a backup directory written by StoreToDisk and then damaged — any byte
  altered, any file truncated at any offset or removed, in data, delta or manifest files — terminates
  and either returns an error or returns exactly the stored snapshot.  It never hangs, panics, or
  silently returns a different item set."

  Model: `Backup.load` (Model/Backup.lean) on the image `storeImage h parts` after a damage.
  encoding/json is a parameter: a damaged manifest is `unparsable`, `absent`, or parses to another
  value (`alter…`).  A damaged shard file is ANY other byte string (`replaceShards`: any set of shards
  at once, any lengths), a truncated one any proper prefix.

  What no 32-bit XOR-of-CRC scheme can exclude stays in the statement as `Residual`, each case stated
  exactly (`R1`–`R4`, in `Lemmas/BackupResidual.lean`).  Everything else is proved to be an error or the stored content:
    truncation of any shard at any offset (alone or together with any other shard damage and any
    state of checksums.json)            → error            `C11_truncated_shard_err`
    a listed shard file removed         → error            `C11_removed_shard_err`
    files.json removed / unparsable     → error            `C11_files_missing_err`
    nitro.json / checksums.json unparsable → error         `C11_unparsable_err`
    checksums.json of another length than files.json → error   `C11_sums_wrong_length_err`
    checksums.json with any other value → error            `C11_sums_altered_err`
    checksums.json removed (nothing else damaged) → the stored content  `C11_sums_removed_ok`
      (old backups have none)
    nitro.json altered to another non-zero version → the stored content  (a case of
      `C11_load_damaged`, no theorem of its own)
  With delta files (`useDelta = true`) there is no fault model and no residual analysis; four
  single damages of the delta side are covered: a delta shard truncated (`C11_delta_truncated_err`)
  or removed (`C11_delta_removed_shard_err`), a delta manifest unparsable or of the wrong length
  (`C11_delta_manifest_err`), both delta manifests removed (`C11_delta_files_removed`).
  `C11_terminates`: `load` is a total function (no hang, no panic in the model), and the worker pool
  of the fixed code reaches its end under every schedule (`pool_no_deadlock`); the original code's
  hang is the witness `C11_unfixed_hang_witness`.
-/
namespace NitroVerif.Props.C11
open NitroVerif.Codec NitroVerif.Backup NitroVerif.Backup.GenLemmas

/-- the fault model on a non-delta backup of `parts` (hash `h`) -/
inductive Damage (h : Bytes → Nat) (parts : List (List Bytes)) : Image → Prop
  /-- a data shard file removed -/
  | removeShard (i : Nat) (hi : i < parts.length) :
      Damage h parts { storeImage h parts with
        data := removeFile (shardName i) (storeImage h parts).data }
  | removeFiles : Damage h parts { storeImage h parts with files := .absent }
  | removeSums : Damage h parts { storeImage h parts with sums := .absent }
  | removeVersion : Damage h parts { storeImage h parts with version := .absent }
  | unparsableFiles : Damage h parts { storeImage h parts with files := .unparsable }
  | unparsableSums : Damage h parts { storeImage h parts with sums := .unparsable }
  | unparsableVersion : Damage h parts { storeImage h parts with version := .unparsable }
  /-- nitro.json altered so that it parses to version `v` -/
  | alterVersion (v : Nat) : Damage h parts { storeImage h parts with version := .parsed v }
  /-- files.json altered so that it parses to the list `fs'` -/
  | alterFiles (fs' : List String) : Damage h parts { storeImage h parts with files := .parsed fs' }
  /-- checksums.json altered so that it parses to the list `cs'` -/
  | alterSums (cs' : List Nat) : Damage h parts { storeImage h parts with sums := .parsed cs' }
  /-- one shard cut to a proper prefix, at any offset -/
  | truncateShard (i : Nat) (hi : i < parts.length) (p : Bytes) (hp : p <+: writeFile parts[i])
      (hne : p ≠ writeFile parts[i]) :
      Damage h parts { storeImage h parts with data := filesOf 0 ((parts.map writeFile).set i p) }
  /-- the bytes of any set of shards replaced by arbitrary bytes of any length: `cs'[i]` is the new
      content of shard `i` (shards not damaged keep `writeFile parts[i]`) -/
  | replaceShards (cs' : List Bytes) (hlen : cs'.length = parts.length) :
      Damage h parts { storeImage h parts with data := filesOf 0 cs' }
  /-- the same together with checksums.json removed -/
  | replaceShardsNoSums (cs' : List Bytes) (hlen : cs'.length = parts.length) :
      Damage h parts { storeImage h parts with data := filesOf 0 cs', sums := .absent }

def Residual (h : Bytes → Nat) (cmp : Bytes → Bytes → Int) (parts : List (List Bytes)) (img' : Image) : Prop :=
  R1 h parts img' ∨ R2 h parts img' ∨ R3 h parts img' ∨ R4 h cmp parts img'

/-! ### damages that are always detected (no residual) -/

/-- Truncation: if ANY listed shard file is a proper prefix of what was written — at any offset,
    whatever the other shard files contain, whatever checksums.json is (stored, absent, unparsable,
    other), delta on or off — LoadFromDisk returns an error. -/
theorem C11_truncated_shard_err (h : Bytes → Nat) (cmp : Bytes → Bytes → Int) (content : List Bytes)
    (hit : ∀ d ∈ content, 0 < d.length ∧ d.length < 2 ^ 32)
    (parts : List (List Bytes)) (hparts : parts.flatten = content)
    (cs' : List Bytes) (hlen : cs'.length = parts.length) (sums' : Manifest (List Nat))
    (i : Nat) (hi : i < parts.length) (hpre : cs'[i]'(by omega) <+: writeFile parts[i])
    (hne : cs'[i]'(by omega) ≠ writeFile parts[i]) (useDelta : Bool)
    (dfiles' : Manifest (List String)) (dsums' : Manifest (List Nat)) (delta' : List (String × Bytes)) :
    load h cmp useDelta { storeImage h parts with
      data := filesOf 0 cs', sums := sums', dfiles := dfiles', dsums := dsums', delta := delta' } = .err :=
  load_truncated h cmp parts (validItems_of_content hit hparts) (by decide) _ rfl cs' hlen rfl rfl
    i hi hpre hne useDelta

/-- A listed shard file removed: error. -/
theorem C11_removed_shard_err (h : Bytes → Nat) (cmp : Bytes → Bytes → Int) (parts : List (List Bytes))
    (i : Nat) (hi : i < parts.length) (useDelta : Bool) :
    load h cmp useDelta { storeImage h parts with
      data := removeFile (shardName i) (storeImage h parts).data } = .err := by
  refine load_err_of_dataSide ((sideShards_eq rfl rfl).trans ?_) useDelta
  exact loadShards_missing (mem_shardNames hi) (lookup_removeFile_self _ _)

/-- files.json removed or unparsable (e.g. cut by one byte): error — never an empty database. -/
theorem C11_files_missing_err (h : Bytes → Nat) (cmp : Bytes → Bytes → Int) (img : Image)
    (hf : img.files = .absent ∨ img.files = .unparsable) (useDelta : Bool) :
    load h cmp useDelta img = .err :=
  load_err_of_files_none (hf.elim (congrArg parsedOf) (congrArg parsedOf)) useDelta

/-- nitro.json or checksums.json unparsable: error. -/
theorem C11_unparsable_err (h : Bytes → Nat) (cmp : Bytes → Bytes → Int) (img : Image)
    (hu : img.version = .unparsable ∨ img.sums = .unparsable) (useDelta : Bool) :
    load h cmp useDelta img = .err := by
  refine load_err_of_dataSide (sideShards_none fun ver files hv _ => ?_) useDelta
  rcases hu with hu | hu
  · rw [hu] at hv; cases hv
  · exact loadShards_sums_none (by rw [hu]; rfl)

/-- checksums.json of a length other than files.json's (e.g. cut by one entry): ErrCorruptSnapshot —
    no index-out-of-range panic. -/
theorem C11_sums_wrong_length_err (h : Bytes → Nat) (cmp : Bytes → Bytes → Int) (img : Image)
    (files : List String) (cs : List Nat) (hf : img.files = .parsed files) (hs : img.sums = .parsed cs)
    (hlen : cs.length ≠ files.length) (useDelta : Bool) :
    load h cmp useDelta img = .err := by
  refine load_err_of_dataSide (sideShards_none fun ver files' _ hf' => ?_) useDelta
  rw [hf] at hf'
  cases hf'
  exact loadShards_sums_none (hs ▸ sumsOf_parsed_ne hlen)

/-- checksums.json altered to ANY other parsed value: error (a stored checksum 0 is checked too). -/
theorem C11_sums_altered_err (h : Bytes → Nat) (cmp : Bytes → Bytes → Int) (content : List Bytes)
    (hit : ∀ d ∈ content, 0 < d.length ∧ d.length < 2 ^ 32)
    (parts : List (List Bytes)) (hparts : parts.flatten = content) (cs' : List Nat)
    (hne : cs' ≠ parts.map (writerChecksum h)) (useDelta : Bool) :
    load h cmp useDelta { storeImage h parts with sums := .parsed cs' } = .err :=
  load_sums_altered h cmp parts (validItems_of_content hit hparts) (by decide) cs' hne useDelta

/-- checksums.json removed and nothing else damaged: the stored content (backups written before
    checksums existed load unchecked). -/
theorem C11_sums_removed_ok (h : Bytes → Nat) (cmp : Bytes → Bytes → Int) (content : List Bytes)
    (hit : ∀ d ∈ content, 0 < d.length ∧ d.length < 2 ^ 32)
    (parts : List (List Bytes)) (hparts : parts.flatten = content) :
    load h cmp false { storeImage h parts with sums := .absent } = .ok content := by
  rw [load_eq, sideShards_stored h (ver := 1) (by decide) (validItems_of_content hit hparts) (hs := .inr rfl)]
  exact congrArg Outcome.ok hparts

/-- version 0 with items shorter than 2^16 bytes (R2 made explicit): every shard reads as EMPTY with
    checksum 0; the load fails unless every stored checksum is 0, and then returns the empty database -/
theorem C11_version0_small_items (h : Bytes → Nat) (cmp : Bytes → Bytes → Int) (parts : List (List Bytes))
    (hsmall : ∀ d ∈ parts.flatten, d.length < 2 ^ 16) (vm : Manifest Nat)
    (hvm : vm = .absent ∨ vm = .parsed 0) :
    load h cmp false { storeImage h parts with version := vm } =
      if ∀ p ∈ parts, writerChecksum h p = 0 then .ok [] else .err :=
  load_v0_small h cmp parts hsmall _ (by rcases hvm with rfl | rfl <;> rfl) rfl rfl rfl

/-- a version-0 reader never returns the items of a non-empty shard written with 4-byte lengths -/
theorem C11_version0_never_same (h : Bytes → Nat) (part : List Bytes)
    (hp : ∀ d ∈ part, 0 < d.length ∧ d.length < 2 ^ 32) (hne : part ≠ [])
    (items : List Bytes) (sum : Nat) (r : Bytes)
    (hr : readFile h 0 (writeFile part) = .ok items sum r) : items ≠ part := by
  have := readFile_v0_ne h part (fun d hd => hp d (List.mem_of_mem_head? hd)) hne [] items sum r
  rw [List.append_nil] at this
  exact this hr

/-- For every backup image and every damage of the fault model, LoadFromDisk
    returns an error, or exactly the stored content, or the damaged image is one of the residual
    cases R1–R4. -/
theorem C11_load_damaged (h : Bytes → Nat) (cmp : Bytes → Bytes → Int) (content : List Bytes)
    (hit : ∀ d ∈ content, 0 < d.length ∧ d.length < 2 ^ 32)
    (parts : List (List Bytes)) (hparts : parts.flatten = content)
    (img' : Image) (hd : Damage h parts img') :
    load h cmp false img' = .err ∨ load h cmp false img' = .ok content ∨ Residual h cmp parts img' := by
  have _hskel := skeleton_LoadFromDisk_ok  -- unused on purpose: breaks with the call order
  have hval := validItems_of_content hit hparts
  have h1 : (1 : Nat) ≠ 0 := by decide
  have intact : ∀ {ver}, ver ≠ 0 → load h cmp false (storeImage h parts ver) = .ok content :=
    fun hv => (load_storeImage h cmp parts hval hv).trans (congrArg Outcome.ok hparts)
  -- a classification against `parts.flatten`, read against `content`
  have lift : ∀ {img : Image} {X : Prop},
      (load h cmp false img = .err ∨ load h cmp false img = .ok parts.flatten ∨ X) →
      (X → Residual h cmp parts img) →
      load h cmp false img = .err ∨ load h cmp false img = .ok content ∨ Residual h cmp parts img :=
    fun hc hX => hc.imp id (Or.imp (fun hok => by rw [hok, hparts]) hX)
  cases hd with
  | removeShard i hi => exact Or.inl (C11_removed_shard_err h cmp parts i hi false)
  | removeFiles => exact Or.inl (C11_files_missing_err h cmp _ (Or.inl rfl) false)
  | unparsableFiles => exact Or.inl (C11_files_missing_err h cmp _ (Or.inr rfl) false)
  | unparsableSums => exact Or.inl (C11_unparsable_err h cmp _ (Or.inr rfl) false)
  | unparsableVersion => exact Or.inl (C11_unparsable_err h cmp _ (Or.inl rfl) false)
  | removeSums => exact Or.inr (Or.inl (C11_sums_removed_ok h cmp content hit parts hparts))
  | alterSums cs' =>
    by_cases hc : cs' = parts.map (writerChecksum h)
    · exact Or.inr (Or.inl (hc ▸ intact h1))
    · exact Or.inl (C11_sums_altered_err h cmp content hit parts hparts cs' hc false)
  | truncateShard i hi p hp hne =>
    left
    have hlen : ((parts.map writeFile).set i p).length = parts.length := by simp
    exact load_truncated h cmp parts hval h1 _ rfl _ hlen rfl rfl i hi (by simpa using hp)
      (by simpa using hne) false
  | removeVersion => exact lift (load_v0_classify h cmp parts _ (Or.inl rfl)) fun r => .inr (.inl r)
  | alterVersion v =>
    by_cases hv : v = 0
    · subst hv
      exact lift (load_v0_classify h cmp parts _ (Or.inr rfl)) fun r => .inr (.inl r)
    · exact Or.inr (Or.inl (intact hv))
  | replaceShards cs' hlen =>
    exact lift (load_replaced_classify h cmp parts hval cs' hlen _ (Or.inl rfl))
      fun r => r.elim .inl fun r3 => .inr (.inr (.inl r3))
  | replaceShardsNoSums cs' hlen =>
    exact lift (load_replaced_classify h cmp parts hval cs' hlen _ (Or.inr rfl))
      fun r => r.elim .inl fun r3 => .inr (.inr (.inl r3))
  | alterFiles fs' =>
    by_cases hf : fs' = shardNames parts.length
    · exact Or.inr (Or.inl (hf ▸ intact h1))
    · exact (load_files_altered h cmp parts hval fs' hf).imp id fun r => .inr (.inr (.inr (.inr r)))

/-! ### delta files (`useDelta = true`) -/

/-- A delta shard of a delta-mode backup cut to a proper prefix, whatever the other delta files and
    delta/checksums.json are: error. -/
theorem C11_delta_truncated_err (h : Bytes → Nat) (cmp : Bytes → Bytes → Int)
    (parts dparts : List (List Bytes))
    (hval : ∀ d ∈ parts.flatten, 0 < d.length ∧ d.length < 2 ^ 32)
    (hdval : ∀ d ∈ dparts.flatten, 0 < d.length ∧ d.length < 2 ^ 32)
    (cs' : List Bytes) (hlen : cs'.length = dparts.length) (dsums' : Manifest (List Nat))
    (j : Nat) (hj : j < dparts.length) (hpre : cs'[j]'(by omega) <+: writeFile dparts[j])
    (hne : cs'[j]'(by omega) ≠ writeFile dparts[j]) :
    load h cmp true { storeImageDelta h parts dparts with delta := filesOf 0 cs', dsums := dsums' }
      = .err := by
  refine load_err_of_deltaSide ((sideShards_eq rfl rfl).trans ?_)
  exact loadShards_truncated h (by decide) _ _ dparts hdval cs' hlen j hj hpre hne

/-- A listed delta shard of a delta-mode backup removed: error. -/
theorem C11_delta_removed_shard_err (h : Bytes → Nat) (cmp : Bytes → Bytes → Int)
    (parts dparts : List (List Bytes))
    (hval : ∀ d ∈ parts.flatten, 0 < d.length ∧ d.length < 2 ^ 32)
    (j : Nat) (hj : j < dparts.length) :
    load h cmp true { storeImageDelta h parts dparts with
      delta := removeFile (shardName j) (storeImageDelta h parts dparts).delta } = .err := by
  refine load_err_of_deltaSide ((sideShards_eq rfl rfl).trans ?_)
  exact loadShards_missing (mem_shardNames hj) (lookup_removeFile_self _ _)

/-- On ANY image: delta/files.json or delta/checksums.json unparsable, or delta/checksums.json of
    another length than delta/files.json: a loader with delta files returns an error. -/
theorem C11_delta_manifest_err (h : Bytes → Nat) (cmp : Bytes → Bytes → Int) (img : Image)
    (hu : img.dfiles = .unparsable ∨ img.dsums = .unparsable ∨
      ∃ fs cs, img.dfiles = .parsed fs ∧ img.dsums = .parsed cs ∧ cs.length ≠ fs.length) :
    load h cmp true img = .err := by
  refine load_err_of_deltaSide (sideShards_none fun ver dfiles _ hdf => ?_)
  rcases hu with hu | hu | ⟨fs, cs, h1, h2, h3⟩
  · rw [hu] at hdf; cases hdf
  · exact loadShards_sums_none (by rw [hu]; rfl)
  · rw [h1] at hdf
    cases hdf
    exact loadShards_sums_none (h2 ▸ sumsOf_parsed_ne h3)

/-- Recorded finding D16 (not one of the residuals `R1`–`R4`, which are about the data side):
    delta/files.json and delta/checksums.json both removed is indistinguishable from a backup taken
    without delta files; the delta items are dropped silently.  The result is what the data shards
    deliver — the stored content exactly when the shards missed nothing. -/
theorem C11_delta_files_removed (h : Bytes → Nat) (cmp : Bytes → Bytes → Int)
    (parts dparts : List (List Bytes))
    (hval : ∀ d ∈ parts.flatten, 0 < d.length ∧ d.length < 2 ^ 32) :
    load h cmp true { storeImageDelta h parts dparts with dfiles := .absent, dsums := .absent }
      = .ok parts.flatten := by
  rw [load_eq, sideShards_stored h (ver := 1) (by decide) hval, sideShards_no_manifests h]
  rfl

/-- LoadFromDisk never hangs or panics: the outcome function is total (every
    image has an outcome, `err` or `ok`), and the worker pool of the fixed code — `c ≥ 1` workers, any
    number of shards, any set of failing shards — cannot deadlock: every schedule has a bounded number of
    steps and reaches a state that is final ("all shards taken, channel closed, all workers done") or
    has an enabled action. -/
theorem C11_terminates (h : Bytes → Nat) (cmp : Bytes → Bytes → Int) (useDelta : Bool) (img : Image) :
    (load h cmp useDelta img = .err ∨ ∃ items, load h cmp useDelta img = .ok items) ∧
    ∀ (n c : Nat) (fails : Nat → Bool), 0 < c →
      ∀ sched st, LoadPool.run false fails n (LoadPool.init c) sched = some st →
        sched.length ≤ LoadPool.measure n (LoadPool.init c) ∧
        (LoadPool.final n st ∨ ∃ a st', LoadPool.step false fails n st a = some st') := by
  refine ⟨?_, fun n c fails hc sched st hrun => LoadPool.pool_no_deadlock n c fails hc sched st hrun⟩
  cases load h cmp useDelta img with
  | err => exact Or.inl rfl
  | ok items => exact Or.inr ⟨items, rfl⟩

/-! ### non-vacuity: a concrete backup, and a concrete damaged image for each residual -/

/-- three shards, the middle one empty -/
def exParts : List (List Bytes) := [[[1], [2]], [], [[3, 3]]]
def exContent : List Bytes := [[1], [2], [3, 3]]

example : exParts.flatten = exContent := by decide
example : ∀ d ∈ exContent, 0 < d.length ∧ d.length < 2 ^ 32 := by decide

/-- every one of the 10 proper prefixes of shard 2 (`writeFile [[3, 3]]`: 4 + 2 + 4 = 10 bytes) is
    rejected, whatever `h` -/
example (h : Bytes → Nat) (n : Nat) (hn : n < 10) :
    load h cmpBytes false { storeImage h exParts with
      data := filesOf 0 [writeFile [[1], [2]], writeFile [], (writeFile [[3, 3]]).take n] } = .err := by
  have := C11_truncated_shard_err h cmpBytes exContent (by decide) exParts (by decide)
    [writeFile [[1], [2]], writeFile [], (writeFile [[3, 3]]).take n] rfl
    (.parsed (exParts.map (writerChecksum h))) 2 (by decide) (List.take_prefix _ _)
    (by
      intro he
      have hl := congrArg List.length he
      simp only [List.getElem_cons_succ, List.getElem_cons_zero, exParts, List.length_take] at hl
      have h10 : (writeFile [[3, 3]]).length = 10 := by decide
      omega) false .absent .absent []
  exact this

/-- TEST (by evaluation, constant hash): the damage constructors do produce different images -/
example : ({ storeImage (fun _ => 0) exParts with
    data := removeFile (shardName 1) (storeImage (fun _ => 0) exParts).data } : Image).data
    = [("shard-0", writeFile [[1], [2]]), ("shard-2", writeFile [[3, 3]])] := by decide +kernel

/-- XOR-of-CRC does not see the order of the items -/
theorem writerChecksum_swap (h : Bytes → Nat) (a b : Bytes) :
    writerChecksum h [a, b] = writerChecksum h [b, a] := by
  simp only [writerChecksum, List.foldl_cons, List.foldl_nil, Nat.zero_xor]
  exact Nat.xor_comm _ _

/-- **R1 is inhabited for EVERY hash**: shard 0 rewritten with its two items exchanged has the
    stored checksum; LoadFromDisk returns the items out of order, without error. -/
def r1Image (h : Bytes → Nat) : Image :=
  { storeImage h exParts with data := filesOf 0 [writeFile [[2], [1]], writeFile [], writeFile [[3, 3]]] }

example (h : Bytes → Nat) : Damage h exParts (r1Image h) := Damage.replaceShards _ rfl

example (h : Bytes → Nat) : R1 h exParts (r1Image h) := by
  refine ⟨_, rfl, rfl, 0, by decide, by decide, by decide, [[2], [1]], [], ?_, by decide⟩
  have := readFile_written h (ver := 1) (by decide) [[2], [1]] (by decide) []
  rw [List.append_nil] at this
  simp only [List.getElem_cons_zero, exParts]
  rw [this, writerChecksum_swap]

example (h : Bytes → Nat) : load h cmpBytes false (r1Image h) = .ok [[2], [1], [3, 3]] := by
  have : r1Image h = storeImage h [[[2], [1]], [], [[3, 3]]] := by
    simp only [r1Image, storeImage, exParts, List.map_cons, List.map_nil, shardFiles]
    rw [writerChecksum_swap]
    rfl
  rw [this]
  exact load_storeImage h cmpBytes _ (by decide) (by decide)

/-- **R2 is inhabited for EVERY hash**: a shard holding the same byte string twice has XOR checksum
    0; with nitro.json removed the loader sees an empty database. -/
def r2Parts : List (List Bytes) := [[[5], [5]]]

example (h : Bytes → Nat) : Damage h r2Parts { storeImage h r2Parts with version := .absent } :=
  Damage.removeVersion

theorem r2_checksum (h : Bytes → Nat) : ∀ p ∈ r2Parts, writerChecksum h p = 0 := by
  intro p hp
  simp only [r2Parts, List.mem_singleton] at hp
  subst hp
  simp [writerChecksum]

example (h : Bytes → Nat) :
    load h cmpBytes false { storeImage h r2Parts with version := .absent } = .ok [] := by
  rw [C11_version0_small_items h cmpBytes r2Parts (by decide) .absent (Or.inl rfl),
    if_pos (r2_checksum h)]

example (h : Bytes → Nat) : R2 h r2Parts { storeImage h r2Parts with version := .absent } := by
  refine ⟨Or.inl rfl, 0, by decide, by decide, ?_⟩
  obtain ⟨tail, ht⟩ := readFile_v0_small h [[5], [5]] [] (by decide)
  rw [List.append_nil] at ht
  refine ⟨[], tail, ?_, by decide⟩
  simp only [r2Parts, List.getElem_cons_zero]
  rw [ht, r2_checksum h _ (by simp [r2Parts])]

/-- with the real content of `exParts` and a hash under which some checksum is non-zero the same
    damage IS detected -/
example : load (fun b => b.length) cmpBytes false
    { storeImage (fun b => b.length) exParts with version := .absent } = .err := by decide +kernel

/-- **R3 is inhabited for every hash**: checksums.json removed and shard 2 rewritten -/
def r3Image (h : Bytes → Nat) : Image :=
  { storeImage h exParts with
    data := filesOf 0 [writeFile [[1], [2]], writeFile [], writeFile [[9]]], sums := .absent }

example (h : Bytes → Nat) : Damage h exParts (r3Image h) := Damage.replaceShardsNoSums _ rfl

example (h : Bytes → Nat) : R3 h exParts (r3Image h) := by
  refine ⟨_, rfl, rfl, 2, by decide, by decide, by decide, [[9]], writerChecksum h [[9]], [], ?_, by decide⟩
  have := readFile_written h (ver := 1) (by decide) [[9]] (by decide) []
  rw [List.append_nil] at this
  exact this

/-- TEST (by evaluation, constant hash): the silently different outcome -/
example : load (fun _ => 0) cmpBytes false (r3Image (fun _ => 0)) = .ok [[1], [2], [9]] := by decide +kernel

/-- **R4 is inhabited for every hash**: two shards with the same items in different order have equal
    checksums; files.json with the two names exchanged loads without error, in the other order. -/
def r4Parts : List (List Bytes) := [[[1], [2]], [[2], [1]]]

example (h : Bytes → Nat) :
    Damage h r4Parts { storeImage h r4Parts with files := .parsed ["shard-1", "shard-0"] } :=
  Damage.alterFiles _

theorem r4_load (h : Bytes → Nat) :
    load h cmpBytes false { storeImage h r4Parts with files := .parsed ["shard-1", "shard-0"] }
      = .ok [[2], [1], [1], [2]] := by
  have hw1 := readFile_written h (ver := 1) (by decide) [[1], [2]] (by decide) []
  have hw2 := readFile_written h (ver := 1) (by decide) [[2], [1]] (by decide) []
  rw [List.append_nil] at hw1 hw2
  have e0 : shardName 0 = "shard-0" := by decide
  have e1 : shardName 1 = "shard-1" := by decide
  -- the two names are looked up, the two files read; the checksums pass because XOR does not see the order
  rw [load_eq]
  simp [sideShards, parsedOf, storeImage, versionOf, loadShards, r4Parts, sumsOf, shardFiles, filesOf, openAll, lookup,
    e0, e1, readShards, hw1, hw2, writerChecksum_swap h [2] [1], checksumMismatch_self]

example (h : Bytes → Nat) :
    load h cmpBytes false { storeImage h r4Parts with files := .parsed ["shard-1", "shard-0"] }
      = .ok [[2], [1], [1], [2]] := r4_load h

example (h : Bytes → Nat) :
    R4 h cmpBytes r4Parts { storeImage h r4Parts with files := .parsed ["shard-1", "shard-0"] } := by
  refine ⟨["shard-1", "shard-0"], by decide, rfl, [[[2], [1]], [[1], [2]]], r4_load h, rfl, rfl, ?_⟩
  intro k hk hl hp
  match k, hk with
  | 0, _ => exact ⟨1, by decide, (by decide : "shard-1" = shardName 1), rfl, writerChecksum_swap h [2] [1]⟩
  | 1, _ => exact ⟨0, by decide, (by decide : "shard-0" = shardName 0), rfl, writerChecksum_swap h [1] [2]⟩

/-- TEST (by evaluation): a concrete image for which nothing is residual and the general theorem
    gives `err` — shard 0 replaced by one flipped payload byte, hash = byte sum -/
example : load (fun b => b.foldl (fun a x => a + x.toNat) 0) cmpBytes false
    { storeImage (fun b => b.foldl (fun a x => a + x.toNat) 0) exParts with
      data := filesOf 0 [[0,0,0,1, 9, 0,0,0,1, 2, 0,0,0,0], writeFile [], writeFile [[3, 3]]] }
    = .err := by decide +kernel

end NitroVerif.Props.C11

namespace NitroVerif.LoadPool

/-- WITNESS, the original code, where a worker returns on a read error: 3 failing shards, 2 workers.
    After both workers have returned the dispatcher is blocked at `wchan <- 2` for ever.  (Replayed
    on the real code before the fix: defect D6.) -/
theorem C11_unfixed_hang_witness :
    ∃ st, run true (fun _ => true) 3 (init 2)
        [.handoff 0, .finish 0, .handoff 1, .finish 1] = some st ∧
      ¬ final 3 st ∧ ∀ a, step true (fun _ => true) 3 st a = none :=
  ⟨{ next := 2, closed := false, workers := [.done, .done] }, by decide, by decide,
    stuck_of_all_done (by decide) (by decide)⟩

/-- the same schedule in the fixed code goes on: the workers are idle again, the third shard is
    taken -/
example : ∃ st, run false (fun _ => true) 3 (init 2)
    [.handoff 0, .finish 0, .handoff 1, .finish 1, .handoff 0, .finish 0, .close, .exit 0, .exit 1]
      = some st ∧ final 3 st :=
  ⟨{ next := 3, closed := true, workers := [.done, .done] }, by decide, by decide⟩

end NitroVerif.LoadPool
