import NitroVerif.Lemmas.SkipConcLinReplay
import NitroVerif.Props.C13lin
/-!
  C13, the EXPLICIT sequential history of every run of the concurrent skiplist model M5.  "The set specification" here
  is `Entry.ok` / `Entry.next` / `Replay` over `Nat → Prop` (`Lemmas/SkipConcLinReplay.lean`), not `Spec/OrdSet`.

  `linearization n as : List Entry` (computable, `Lemmas/SkipConcLinSeq.lean`, `Lemmas/SkipConcLinReplay.lean`) lists
  the linearized calls of the run `as` from `Sys.init n`; an `Entry` is (thread, position of the call's entry, kind
  `ins k` / `del k` / `look k`, Boolean result).  It is the concatenation, over the positions `i = 0 … as.length`, of
  the reads placed at state `i` (completed Insert-false, Delete-false, Lookup calls whose chosen instant — the first
  position of their interval at which their answer is true of the abstract set — is `i`) followed by the update made
  by action `i` (a successful INS_PUBLISH / winning level-0 SOFT_MARK, of a completed OR in-flight call).

  Proved for every `n` and every run:
  * `C13_lin_history_replay`     replaying the history on the set specification from the empty set (Insert succeeds iff
                                 absent, Delete iff present, Lookup reports membership — `Entry.ok`, `Entry.next`)
                                 gives EVERY entry its recorded result and ends in the abstract set of the final state;
  * `C13_lin_history_states`     after the buckets `0 … i-1` the specification is in the abstract set of position `i`:
                                 the sequential history walks through the trace of abstract sets;
  * `C13_lin_history_complete`   every completed Insert / Delete / Lookup call is in the history with the result it
                                 printed (and prints `ret true` or `ret false`);
  * `C13_lin_history_sound`      every entry of the history belongs to a call entry of that thread (idle at that position), of that
                                 kind;
  * `C13_lin_history_real_time`  if call A returned before call B was entered, A's entry comes before B's entry.
  * `C13_lin_history_once`       no two entries of the history belong to the same call (same thread, same entry
                                 position): with `C13_lin_history_complete`, every completed Insert / Delete / Lookup
                                 call is in the history EXACTLY once.
  * `C13_linearizable`           all of these but `C13_lin_history_states`, bundled: `Linearizes n as (linearization n as)`.
  Entries of calls still in flight at the end of the run appear only if their decisive CAS has happened (their
  update is then in the trace and in the history, with result `true`); in-flight reads are not listed.
-/
namespace NitroVerif.SkipConc

/-- REPLAY on the set specification: every recorded result is right; the final state is the abstract set of the
    final state of the run -/
theorem C13_lin_history_replay (n : Nat) (as : List Action) :
    Replay (fun _ => False) (linearization n as) (fun k => absOf ((Sys.init n).run as).sh.heap k) := by
  have h := lin_replay n as
  rw [absAt_ge n as (Nat.le_refl _)] at h
  exact h

/-- the prefix of the history made of the buckets before position `i` takes the specification from the empty set
    to the abstract set at position `i` -/
theorem C13_lin_history_states (n : Nat) (as : List Action) (i : Nat) :
    Replay (fun _ => False) ((List.range i).flatMap (bucket n as)) (fun k => absAt n as i k) := by
  exact range_replay n as i

/-- a completed Insert / Delete / Lookup call prints `ret true` or `ret false` and is in the history with
    that result -/
theorem C13_lin_history_complete {n : Nat} {as : List Action} {t : Nat} {op : Op} {s e : Nat} {out : String}
    (c : Call n as t op s e out) (hk : opKind op ≠ .iter) :
    (out = "ret true" ∧ ⟨t, s, opKind op, true⟩ ∈ linearization n as) ∨
    (out = "ret false" ∧ ⟨t, s, opKind op, false⟩ ∈ linearization n as) := by
  have hne : ¬ ("ret false" = "ret true") := by simp
  cases op with
  | ins k lvl =>
    rcases call_spec c with ⟨ho, p, hp1, hp2, hpt, _, _⟩ | ⟨ho, _⟩
    · exact .inl ⟨ho, lin_upd_true c hp1 hp2 hpt.step hpt.changes⟩
    · subst ho
      exact .inr ⟨rfl, lin_read (k := k) (want := true) c (by simp only [readEntry, retAt_of_call c, opKind, if_true])⟩
  | del k =>
    rcases call_spec c with ⟨ho, p, hp1, hp2, hpt, _, _⟩ | ⟨ho, _⟩
    · exact .inl ⟨ho, lin_upd_true c hp1 hp2 hpt.step hpt.changes⟩
    · subst ho
      exact .inr ⟨rfl, lin_read (k := k) (want := false) c (by simp only [readEntry, retAt_of_call c, opKind, if_true])⟩
  | look k =>
    rcases (call_spec c).2 with ⟨ho, _⟩ | ⟨ho, _⟩
    · subst ho
      exact .inl ⟨rfl, lin_read (k := k) (want := true) c (by simp only [readEntry, retAt_of_call c, opKind, if_true])⟩
    · subst ho
      exact .inr ⟨rfl, lin_read (k := k) (want := false) c (by
        simp only [readEntry, retAt_of_call c, opKind, hne, if_false, if_true])⟩
  | itFirst _ | itSeek _ _ | itNext _ | itClose _ | itInterval _ _ | itRefresh _ => exact absurd rfl hk

/-- every entry of the history belongs to a call entry `start t op` of an idle thread at position `en.s` with the
    entry's kind -/
theorem C13_lin_history_sound {n : Nat} {as : List Action} {en : Entry} (h : en ∈ linearization n as) :
    ∃ op, StartsAt n as en.t op en.s ∧ opKind op = en.kind := by
  obtain ⟨i, _, hi⟩ := List.mem_flatMap.mp h
  obtain ⟨op, hc, hk, _⟩ := bucket_mem hi
  exact ⟨op, hc.starts, hk⟩

/-- if the call of `a` returned (action `eA`) before the call of `b` was entered (`eA < b.s`), then `a`
    comes before `b` in the history -/
theorem C13_lin_history_real_time {n : Nat} {as : List Action} {a b : Entry} {opA : Op} {eA : Nat} {outA : String}
    (ha : a ∈ linearization n as) (hb : b ∈ linearization n as) (cA : Call n as a.t opA a.s eA outA)
    (hAB : eA < b.s) : Before (linearization n as) a b :=
  lin_real_time ha hb cA hAB

/-- no two entries of the history belong to the same call -/
theorem C13_lin_history_once (n : Nat) (as : List Action) :
    (linearization n as).Pairwise (fun a b => ¬ (a.t = b.t ∧ a.s = b.s)) := by
  unfold linearization
  rw [List.pairwise_flatMap]
  refine ⟨fun i _ => bucket_pairwise n as i, List.Pairwise.imp ?_ List.pairwise_lt_range⟩
  intro i j hij x hx y hy hs
  have := bucket_tag_inj hx hy hs
  omega

/-- what it means for a sequential history `lin` to linearize the run `as` from `Sys.init n` -/
structure Linearizes (n : Nat) (as : List Action) (lin : List Entry) : Prop where
  /-- legal: on the set specification every entry gets its recorded result; the final state is the abstract set -/
  replay : Replay (fun _ => False) lin (fun k => absOf ((Sys.init n).run as).sh.heap k)
  /-- every completed Insert / Delete / Lookup call is listed with the result it printed -/
  complete : ∀ t op s e out, Call n as t op s e out → opKind op ≠ .iter →
    (out = "ret true" ∧ ⟨t, s, opKind op, true⟩ ∈ lin) ∨ (out = "ret false" ∧ ⟨t, s, opKind op, false⟩ ∈ lin)
  /-- every entry is a call of the run -/
  sound : ∀ en ∈ lin, ∃ op, StartsAt n as en.t op en.s ∧ opKind op = en.kind
  /-- no call is listed twice -/
  once : lin.Pairwise (fun a b => ¬ (a.t = b.t ∧ a.s = b.s))
  /-- the order respects real time -/
  realTime : ∀ a ∈ lin, ∀ b ∈ lin, ∀ opA eA outA, Call n as a.t opA a.s eA outA → eA < b.s → Before lin a b

/-- C13, LINEARIZABILITY of the concurrent skiplist model as a set object: for every number of threads and every
    run, the computed history `linearization n as` is a legal sequential history of the set specification that
    contains every completed Insert / Delete / Lookup call exactly once with the result it printed (plus the
    in-flight updates whose decisive CAS has happened) and respects real-time order -/
theorem C13_linearizable (n : Nat) (as : List Action) : Linearizes n as (linearization n as) where
  replay := C13_lin_history_replay n as
  complete := fun _ _ _ _ _ c hk => C13_lin_history_complete c hk
  sound := fun _ h => C13_lin_history_sound h
  once := C13_lin_history_once n as
  realTime := fun _ ha _ hb _ _ _ cA h => C13_lin_history_real_time ha hb cA h

/-! ### non-vacuity (kernel-checked TESTS on the race of `Props/C13lin.lean`) -/

/-- the history of the race: the Insert, then the winning Delete (placed at its mark, action 10), then the losing
    Delete (placed at state 11, right after the winner's mark) -/
theorem race_linearization :
    linearization 2 raceActs = [⟨0, 0, .ins 5, true⟩, ⟨0, 4, .del 5, true⟩, ⟨1, 7, .del 5, false⟩] := by decide +kernel

-- the replay theorem on the race, spelled out: {} --ins 5 true--> {5} --del 5 true--> {} --del 5 false--> {}
-- (`Replay` is sealed here: the elaborator reduces the type of an application to look for further binders, and
-- unsealed that evaluates the whole history)
section
attribute [local irreducible] Replay

example : Replay (fun _ => False)
    [⟨0, 0, .ins 5, true⟩, ⟨0, 4, .del 5, true⟩, ⟨1, 7, .del 5, false⟩]
    (fun k => absOf ((Sys.init 2).run raceActs).sh.heap k) :=
  race_linearization ▸ C13_lin_history_replay 2 raceActs

end

-- completeness on the race: the loser is in the history with `false`
example : (⟨1, 7, .del 5, false⟩ : Entry) ∈ linearization 2 raceActs := by
  rcases C13_lin_history_complete race_loser (by decide) with ⟨h, _⟩ | ⟨_, h⟩
  · exact absurd h (by simp)
  · exact h

-- real time on the race: the Insert returned (action 3) before the winning Delete was entered (action 4)
example : Before (linearization 2 raceActs) ⟨0, 0, .ins 5, true⟩ ⟨0, 4, .del 5, true⟩ :=
  C13_lin_history_real_time (a := ⟨0, 0, .ins 5, true⟩) (b := ⟨0, 4, .del 5, true⟩)
    (by rw [race_linearization]; decide) (by rw [race_linearization]; decide) race_insert (by decide)

end NitroVerif.SkipConc
