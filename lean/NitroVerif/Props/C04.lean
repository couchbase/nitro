import NitroVerif.Lemmas.MvccConcMain
/-!
  # C04 — Safe memory reclamation: no use-after-free and no double free

  "With user-managed memory, no block handed out by the configured allocator is read or written after it
  has been returned to it, and no block is returned twice, under any interleaving of writers, iterators,
  snapshot closes, GC workers and free workers.  A node or item obtained from an open iterator remains
  valid until that iterator moves past it, refreshes or closes, and no node is released while it is still
  linked at any level of the structure."

  Model: `Model/MvccConc.lean` — nitro.go with its reclamation pipeline (writer garbage lists → snapshot
  gclists → collection jobs → access-barrier sessions → destructor → free jobs → allocator) at the
  granularity of the yield points of PROTOCOL.md "engine mvccconc"; every skiplist operation and every
  barrier operation is one atomic action (C13, C16/C17 justify that; this is the meaning of "proof on the
  protocol model": the machine-level safety of the pointer arithmetic inside the skiplist is not the
  subject).  Quantifier: every number of writers and readers, every schedule `sched` of API calls, thread
  steps, collection-job steps and free-job steps (a refused action leaves the state unchanged), both
  values of the iterator-comparator flag `fx`.

  The invariant behind the theorems (`Lemmas/MvccConcInv.lean`): every live block has exactly one
  owner (the store; a parked Put; a Delete2 between unlink and flush; a collection job before its flush;
  a session not yet destructed; a free job that has not freed yet) — a node leaves the store before it
  is attached to a session; a token holder's node is linked, or on its way to a session, or attached to
  a session at least as young as the holder's token; sessions are destructed in order, only when no
  holder is left in them or in any older one.
-/
namespace NitroVerif.Props.C04
open NitroVerif NitroVerif.MvccConc

/-- **C04_no_use_after_free.**  In every reachable state, no action of the machine — no thread step,
    job step or API call — dereferences a block that is not live: the distinguished outcome `uaf`
    (a cursor, a node found by `Delete2`, a node in a collection job's list, or a parked Put's item
    whose block is not allocated or has been freed) is unreachable. -/
theorem C04_no_use_after_free (fx : Bool) (nw nr : Nat) (sched : List Act) (a : Act) :
    (step (run (init nw nr fx) sched) a).2 ≠ .uaf :=
  step_ne_uaf_of_reachable (reachable_run .init sched) a

/-- the same, for every output of every schedule -/
theorem C04_no_uaf_in_outputs (fx : Bool) (nw nr : Nat) (sched : List Act) :
    Resp.uaf ∉ outs (init nw nr fx) sched := by
  have key : ∀ (σ : State), ReachableFx fx nw nr σ → ∀ sched, Resp.uaf ∉ outs σ sched := by
    intro σ hr sched
    induction sched generalizing σ with
    | nil => simp [outs]
    | cons a as ih =>
      intro hm
      rcases List.mem_cons.mp hm with hm | hm
      · exact step_ne_uaf_of_reachable hr a hm.symm
      · exact ih _ (ReachableFx.step a hr) hm
  exact key _ .init sched

/-- **C04 (references held).**  In every reachable state that has not been shut down:
    * every node a `Delete2` holds between its `Acquire` and its `Release` (parked at DEL_NODE_PHYS or
      DEL_NODE_CAS) has its item block and its node block live;
    * the node every open iterator stands on has its item block and its node block live — until the
      iterator moves past it or closes (the hypothesis `it.cur = some c` is about the current state);
    * the item of a parked Put is live. -/
theorem C04_references_valid {fx : Bool} {nw nr : Nat} {σ : State} (hr : ReachableFx fx nw nr σ)
    (hd : σ.down = false) :
    (∀ (t n tok k : Nat), (σ.threads[t]? = some (Pc.delPhys n tok k) ∨ σ.threads[t]? = some (Pc.delCas n tok k)) →
        isLive σ (.item n) = true ∧ isLive σ (.node n) = true) ∧
    (∀ (key : Nat × Nat) (it : Iter) (c : Cur), (key, it) ∈ σ.iters → it.cur = some c →
        isLive σ (.item c.id) = true ∧ isLive σ (.node c.id) = true) ∧
    (∀ (t n k v b : Nat), σ.threads[t]? = some (Pc.putInsert n k v b) → isLive σ (.item n) = true) := by
  have h := inv_reachable hr hd
  exact ⟨fun t n tok k ht => ht.elim (live_of_ref h · rfl) (live_of_ref h · rfl),
    fun key it c hm hc => live_of_iter h hm hc, fun t n k v b ht => live_of_put h ht⟩

/-- **C04_no_double_free.**  In every reachable state (shut down or not) the allocator never saw a
    `free` of a block that was not live (`bad = []`: no double free, no free of a block never handed
    out), no block is in the free log twice, and everything freed had been allocated. -/
theorem C04_no_double_free {fx : Bool} {nw nr : Nat} {σ : State} (hr : ReachableFx fx nw nr σ) :
    σ.bad = [] ∧ σ.freed.Nodup ∧ ∀ b ∈ σ.freed, b ∈ σ.allocd :=
  ⟨(books_reachable hr).bad, (books_reachable hr).f_nodup, (books_reachable hr).sub⟩

/-- **C04_freed_not_linked.**  In every reachable state that has not been shut down, a node that is
    linked in the store has both its blocks live; equivalently, a block that has been freed belongs to a
    node that left the store before. -/
theorem C04_freed_not_linked {fx : Bool} {nw nr : Nat} {σ : State} (hr : ReachableFx fx nw nr σ)
    (hd : σ.down = false) :
    (∀ x ∈ σ.store, isLive σ (.item x.id) = true ∧ isLive σ (.node x.id) = true) ∧
    (∀ n, (Blk.item n ∈ σ.freed ∨ Blk.node n ∈ σ.freed) → n ∉ storeIds σ.store) := by
  have h := inv_reachable hr hd
  refine ⟨fun x hx => live_of_linked h hx, ?_⟩
  intro n hf hm
  obtain ⟨x, hx, rfl⟩ := List.mem_map.mp hm
  have hl := live_of_linked h hx
  rw [isLive_iff, isLive_iff] at hl
  rcases hf with hf | hf
  · exact hl.1.2 hf
  · exact hl.2.2 hf

/-- a node is in at most one place of the pipeline (the store, a parked Put or Delete2, a collection job, a
    session, a free job) — `own ≤ 1`; so what is attached to a session is no longer linked -/
theorem C04_one_owner {fx : Bool} {nw nr : Nat} {σ : State} (hr : ReachableFx fx nw nr σ) (hd : σ.down = false)
    (n : Nat) : own σ n ≤ 1 :=
  ((inv_reachable hr hd).own.node n).le

/-- `GC()` never spins (`collectLoop` never answers `hang`): needs no invariant -/
theorem C04_gc_terminates (σ : State) (t : Nat) (after : Option Nat) : (collectLoop σ t after).2 ≠ .hang :=
  collectLoop_ne_hang σ t after

/-! ### non-vacuity (tests, evaluated by the kernel)

  Two writers and one reader.  Put 5, Put 7, snapshot 1; the reader opens an iterator on snapshot 1 and
  stands on 5; writer 0 deletes 5 (older epoch: DEL_NODE_CAS); writer 1 puts 9 and deletes it in the same
  epoch (DEL_NODE_PHYS, DEL_NODE_FLUSH: the session carrying the node of key 9 cannot be destructed while the reader
  holds its token); snapshot 2; the reader moves to 7 and closes (the session is destructed: free job 0);
  both snapshots are closed and collected, the jobs run. -/

def demo : List Act :=
  [.put 0 5 0, .step 0, .put 1 7 0, .step 1, .snap, .itNew 2 0 1, .itFirst 2 0,
   .del 0 5, .step 0, .put 1 9 0, .step 1, .del 1 9, .step 1, .step 1, .snap,
   .itNext 2 0, .step 2, .itClose 2 0, .close 0 1, .step 0, .close 0 2, .step 0,
   .gc 0, .gc 0, .gc 0, .gc 1, .gc 1, .gc 1, .gc 1, .fr 0, .fr 0, .fr 1, .fr 1]

/-- while the reader is still open, the same-epoch-deleted node 2 (key 9) is attached to session 0 and
    not freed; nodes 0, 1 are linked -/
example :
    let σ := run (init 2 1) (demo.take 15)
    σ.down = false ∧ (σ.store.map (·.id)) = [0, 1] ∧ (σ.sess.map (·.list)) = [[2], []] ∧ σ.freeSeq = 0 ∧
      σ.frJobs.length = 0 ∧ isLive σ (.node 2) = true ∧ liveCount σ = 8 := by decide +kernel

/-- at the end the two unlinked nodes (0, 2) have been freed exactly once; node 1 is still linked -/
example :
    let σ := run (init 2 1) demo
    σ.down = false ∧ (σ.store.map (·.id)) = [1] ∧ σ.bad = [] ∧ liveCount σ = 4 ∧
      σ.freed = [.item 2, .node 2, .item 0, .node 0] := by decide +kernel

example : ∃ σ, Reachable 2 1 σ ∧ σ.down = false ∧ σ.freed.length = 4 :=
  ⟨run (init 2 1) demo, reachable_run .init demo, by decide +kernel⟩

end NitroVerif.Props.C04
