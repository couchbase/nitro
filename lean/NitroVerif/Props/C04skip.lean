import NitroVerif.Lemmas.SkipFreePool
/-!
  # C04 at compare-and-swap granularity, for the skiplist itself (model M5F, `Model/SkipFree.lean`)

  "Safe memory reclamation: with user-managed memory no goroutine ever dereferences a node or item after it has
  been freed, and nothing is freed twice, whatever the interleaving of inserts, deletes, lookups, iterators,
  snapshot closes and garbage collection.  A node is freed only after every accessor that could have obtained a
  reference to it has left the access barrier."

  `Props/C04.lean` proves this on M6 (`Model/MvccConc.lean`), where every skiplist operation is ONE atomic action.
  Here the skiplist operations are those of M5 (every shared-memory step of findPath, helpDelete, Insert4,
  softDelete, deleteNode, the iterators is a separate action of the schedule) and nodes are REALLY freed:
  `Model/SkipFree.lean` wraps M5 with the abstract access barrier, a token per call (per iterator), `delf`
  (Delete as nitro does it: the deleted node is handed to the barrier by `FlushSession`) and the set `freed`.

  * `C04_skip_relink_uaf_witness` — finding C04-D23 (known_findings.json), the same 31 actions as the steered witness
    of the Go engine, ends in a state in which the next segment of the third thread dereferences a freed node.  C04
    as written is FALSE for the skiplist used directly with same-key Insert/Delete overlap.
  * `C04_skip_pool_step`, `C04_skip_freed_prefix`, `C04_skip_freed_were_deleted_partial` for every run;
    `C04_skip_no_double_free_partial` for every run under the hypothesis `hOne` (a node is flushed once).
  * The rule that excludes D23 (`noOverlap`) is defined and tested at the end of the file; no safety theorem under it
    is proved.
-/
namespace NitroVerif.Props.C04skip
open NitroVerif.SkipConc NitroVerif.SkipFree

def steps (t n : Nat) : List SkipFree.Action := List.replicate n (.step t)

/-- the witness script of finding C04-D23, lines 1..31 (line 0 is `threads 3 mem=mmfree`, line 32 — `step 2` — is
    the faulting segment): `start 0 ins 5 lvl=1`, 7 × `step 0` (node 2 published, the inserter parked at INS_UP_LINK
    of level 1), `start 1 delf 5`, 13 × `step 1` (the whole delete: both marks, the cleaning search unlinks node 2 at
    level 0, Release, FlushSession(node 2)), `step 0` (the inserter's CAS links node 2 at level 1, sees the mark,
    starts the unlinking search), `start 2 look 9`, `step 2` (the accessor, in the NEW session, loads head.next[1] =
    node 2), 6 × `step 0` (the inserter unlinks node 2 and returns: its session is destructed, node 2 is freed). -/
def d23 : List SkipFree.Action :=
  [.start 0 (.base (.ins 5 1))] ++ steps 0 7 ++ [.start 1 (.delf 5)] ++ steps 1 13 ++ [.step 0] ++
  [.start 2 (.base (.look 9))] ++ [.step 2] ++ steps 0 6

/-- Finding C04-D23, kernel-checked by evaluation.  After the 31 actions of the
    steered witness — an `ins 5` still linking level 1 overlapping a complete `delf 5` of the same node, a `look 9`
    that starts after the FlushSession — node 2 has been freed (it is the only freed node, every call but the
    lookup has returned) and the segment thread 2 is about to run (FIND_NEXT: `curr.getNext(1)` with `curr` = node 2)
    dereferences it: `uaf` is true. -/
theorem C04_skip_relink_uaf_witness :
    let s := (SkipFree.Sys.init 3).run d23
    uaf s 2 = true ∧ s.freed = [2] ∧ derefs s 2 = [2] ∧ s.freeSeq = 1 ∧
      (s.base.threads.map fun th => isIdle th.pc) = [true, true, false] := by decide +kernel

/-- one action earlier the node is attached to session 0, which the inserter still holds: not freed yet -/
example :
    let s := (SkipFree.Sys.init 3).run (d23.take 30)
    uaf s 2 = false ∧ s.freed = [] ∧ (s.sess.map (·.list)) = [[2], []] ∧
      (s.sess.map (·.holders)) = [[.thr 0], [.thr 2]] := by decide +kernel

/-! ## The pool of freed and waiting nodes (what of "nothing is freed twice; what is freed was deleted" is proved)

  `pool s` = `s.freed ++` the nodes attached to the sessions not yet destructed.  Proved for EVERY run (any number of
  threads, any interleaving, refused operations included): the current session is never destructed, the barrier
  steps (Acquire, Release, cleanup) never change the pool, and the pool grows only at its end.  The `_partial` theorems
  follow from this; the full statements need one more fact about M5, named in their docstrings. -/

/-- Every run, every next action.  One action leaves `freed ++ attached` as it is, or
    appends exactly one node `x`: the action is a segment of a thread `t` whose current call is a `delf`, that
    was in the cleaning phase of deleteNode (DeleteNode2 is about to report `true`) on `curr = x`, and the call
    RETURNS in this segment (Release, then FlushSession(x)).  Nothing else ever reaches a session or `freed`. -/
theorem C04_skip_pool_step (n : Nat) (as : List SkipFree.Action) (a : SkipFree.Action) :
    let s := (SkipFree.Sys.init n).run as
    pool (s.act a) = pool s ∨
      ∃ t x, a = .step t ∧ pool (s.act a) = pool s ++ [x] ∧ Flushes s t x := by
  intro s
  exact (act_pool (run_last (Last_init n) as) a).2

/-- The freed nodes are a prefix of the pool (by the definition `pool = freed ++ attached`,
    in any state), and in every state of a run the current session is open. -/
theorem C04_skip_freed_prefix (n : Nat) (as : List SkipFree.Action) :
    let s := (SkipFree.Sys.init n).run as
    s.freed <+: pool s ∧ Last s :=
  ⟨⟨_, rfl⟩, run_last (Last_init n) as⟩

/-- FULL STATEMENT (C04_skip_no_double_free): for every run, `((Sys.init n).run as).freed.Nodup`.
    PROVED: the same conclusion (even for `freed ++ attached`) under the hypothesis `hOne`: whenever, along the run,
    a `delf` call is about to return from the cleaning search of node `x` (`Flushes`), `x` has not been handed to the
    barrier before.
    NOT PROVED: `hOne` itself, i.e. the connection with `C13_one_deleter` (Props/C13c.lean): a call is in the cleaning
    phase of node `x` only if it won the level-0 mark of `x`, a node is won by at most one action of a run, and `curr`
    is not changed between SOFT_MARK and the return. -/
theorem C04_skip_no_double_free_partial (n : Nat) (as : List SkipFree.Action)
    (hOne : ∀ k t x, Flushes ((SkipFree.Sys.init n).run (as.take k)) t x →
      x ∉ pool ((SkipFree.Sys.init n).run (as.take k))) :
    ((SkipFree.Sys.init n).run as).freed.Nodup ∧ (pool ((SkipFree.Sys.init n).run as)).Nodup := by
  have h := run_pool_nodup (Last_init n) (by rw [pool_init]; exact List.nodup_nil) as hOne
  refine ⟨?_, h⟩
  simp only [pool, List.nodup_append] at h
  exact h.1

/-- FULL STATEMENT (C04_skip_freed_were_deleted): for every run, every freed node `x` is marked at level 0
    (`marked0 s.base.sh.heap x`) and the call that deleted it has returned.
    PROVED, for every run without hypothesis: every freed node (every node ever attached to a session) was the
    `curr` of a `delf` call of some thread `t` that, at some earlier point `k` of the run, was in the cleaning phase of
    deleteNode (i.e. after softDelete reported `true`) and RETURNED in the very segment that handed the node to the
    barrier — the deleter's call has returned before the node even reaches a session.
    NOT PROVED: `marked0` of that node, which needs the invariant "`curr` of a call in its cleaning phase is the node
    whose mark the call won" (as for `C04_skip_no_double_free_partial`); marks are never removed (`Ext.marked`). -/
theorem C04_skip_freed_were_deleted_partial (n : Nat) (as : List SkipFree.Action) (x : Nat)
    (hx : x ∈ ((SkipFree.Sys.init n).run as).freed) :
    ∃ k t, k < as.length ∧ Flushes ((SkipFree.Sys.init n).run (as.take k)) t x := by
  have hp : x ∈ pool ((SkipFree.Sys.init n).run as) := List.mem_append_left _ hx
  rcases run_pool_origin (Last_init n) as x hp with h | h
  · rw [pool_init] at h; cases h
  · exact h

set_option maxRecDepth 100000 in
/-- non-vacuity: in the D23 run the freed node 2 was flushed by thread 1 at action 21 (its 13th segment), and the
    hypothesis `hOne` of the partial theorem holds there (the pool is empty before) -/
example :
    let s := (SkipFree.Sys.init 3).run (d23.take 21)
    (callOf s 1).delf = true ∧ inClean (pcOf s 1) = true ∧ (callOf s 1).node = some 2 ∧
      isIdle (pcOf (s.step 1) 1) = true ∧ pool s = [] ∧ pool (s.step 1) = [2] := by decide +kernel

/-! ## The rule that excludes D23 (definition and tests; the safety theorem is NOT proved)

  TARGET (C04_skip_no_uaf, not proved, no part of it is proved beyond the pool theorems above): for every `n`, every `as` with
  `noOverlap n as = true` and every `k`, `t`: `uaf ((Sys.init n).run (as.take k)) t = false`.  D23 is exactly the
  failure of "an unlinked, flushed node is never linked again": an Insert of the same key still linking its upper
  levels re-links it. -/

/-- the two kinds of calls of the generator's rule: (is it a `delf`, key) -/
def clashKey : SkipFree.Op → Option (Bool × Nat)
  | .base (.ins k _) => some (false, k)
  | .delf k => some (true, k)
  | _ => none

/-- the generator's rule (tools/gens.py), on the action list: no accepted `ins k` starts while a `delf k` of the
    same key is in progress and vice versa; `cur` = the clashing call each thread is in -/
def noOverlapFrom (s : SkipFree.Sys) (cur : List (Option (Bool × Nat))) : List SkipFree.Action → Bool
  | [] => true
  | .start t op :: r =>
    let acc := accepted s t op
    let ok := match clashKey op with
      | some (d, k) => !acc || cur.all (fun c => c != some (!d, k))
      | none => true
    ok && noOverlapFrom (s.start t op) (if acc then cur.set t (clashKey op) else cur) r
  | .step t :: r =>
    noOverlapFrom (s.step t) (if isIdle (pcOf (s.step t) t) then cur.set t none else cur) r

def noOverlap (n : Nat) (as : List SkipFree.Action) : Bool :=
  noOverlapFrom (SkipFree.Sys.init n) (List.replicate n none) as

set_option maxRecDepth 100000 in
/-- the D23 schedule violates the rule -/
example : noOverlap 3 d23 = false := by decide +kernel

/-- the same three calls one after the other (extra `step`s of an idle thread are refused and change nothing) -/
def seq3 : List SkipFree.Action :=
  [.start 0 (.base (.ins 5 1))] ++ steps 0 10 ++ [.start 1 (.delf 5)] ++ steps 1 24 ++
  [.start 2 (.base (.look 9))] ++ steps 2 8

set_option maxRecDepth 100000 in
/-- … obey the rule; node 2 is freed at the end and nobody is about to touch it -/
example :
    let s := (SkipFree.Sys.init 3).run seq3
    noOverlap 3 seq3 = true ∧ s.freed = [2] ∧ uaf s 0 = false ∧ uaf s 1 = false ∧ uaf s 2 = false := by decide +kernel

end NitroVerif.Props.C04skip
