/-
  C10 Visitor: exactly once, partitioned in order.
  "Visitor passes every item visible in the snapshot to the callback exactly once over all shards, in
   ascending order within each shard and with every item of shard i ordered before every item of
   shard i+1, for every shard count, concurrency, database size and version history.  If a callback
   returns an error Visitor returns an error; it always terminates."

  Model: `visitor` in `Model/MvccIter.lean`.  The split items handed out by the skiplist
  (`GetRangeSplitItems`) are an ARBITRARY list of items — the theorem quantifies over them, which
  covers every shard count, every state of the level statistics and every version history.  The
  shards are independent (each has its own iterator and only reads), so the concurrency does not
  influence the per-shard sequences; the model runs them in shard order.  Termination: `visitor`
  is a total function (`runShard_eq`: fuel `store.length + 1` suffices), and the number of shards is bounded by
  the number of split items + 1, the capacity the fixed code gives the work channel
  (`MvccGenExtra.visitor_channel_holds_every_shard`).
-/
import NitroVerif.Lemmas.MvccSimIter

namespace NitroVerif.Props
open NitroVerif NitroVerif.Mvcc
open NitroVerif.SetSpec (Op Out Item)

/-- **C10** For every reachable state, every snapshot with a positive reference count, every list
    of split items, every refresh rate:
    (1) if no visible item has the key on which the callback fails (in particular if the callback
        never fails), no error is reported, the concatenation of the per-shard callback sequences is
        exactly the content of the snapshot, every shard is strictly ascending and every item of a
        shard is below every item of every later shard, and the driver's partition flag is `ok`;
    (2) if the callback fails on the key of a visible item, Visitor returns an error;
    (3) the number of shards is at most the number of split items + 1. -/
theorem C10_visitor_partition {n : Nat} {σ : Mvcc.State} (hr : Reachable n σ) {s : Snap}
    (hs : s ∈ σ.snaps) (hrc : 0 < s.rc) (pivots : List Ver) (rate : Int) (fail : Option Nat) :
    ((∀ v ∈ s.content, fail ≠ some v.key) →
        (visitor σ.store s.sn rate fail pivots).2 = false ∧
        (visitor σ.store s.sn rate fail pivots).1.flatten.map Ver.norm = s.content ∧
        (∀ shard ∈ (visitor σ.store s.sn rate fail pivots).1, shard.Pairwise KeyLt) ∧
        (visitor σ.store s.sn rate fail pivots).1.Pairwise
          (fun a b => ∀ x ∈ a, ∀ y ∈ b, KeyLt x y) ∧
        partOk (visitor σ.store s.sn rate fail pivots).1 = true) ∧
    ((∃ v ∈ s.content, fail = some v.key) → (visitor σ.store s.sn rate fail pivots).2 = true) ∧
    (visitor σ.store s.sn rate fail pivots).1.length ≤ pivots.length + 1 := by
  have h := inv_reachable hr
  have hview := h.view s hs hrc
  have hks := vis_keySorted h.sorted h.chains s.sn
  have hkeys : ∀ k, (∃ v ∈ s.content, v.key = k) ↔ ∃ v ∈ vis σ.store s.sn, v.key = k := by
    intro k
    rw [← hview]
    constructor
    · rintro ⟨v, hv, hk⟩
      obtain ⟨v', hv', rfl⟩ := List.mem_map.mp hv
      exact ⟨v', hv', hk⟩
    · rintro ⟨v, hv, hk⟩
      exact ⟨v.norm, List.mem_map.mpr ⟨v, hv, rfl⟩, hk⟩
  refine ⟨?_, ?_, ?_⟩
  · intro hnf
    have hnf' : ∀ v ∈ vis σ.store s.sn, fail ≠ some v.key := by
      intro v hv hf
      obtain ⟨w, hw, hwk⟩ := (hkeys v.key).mpr ⟨v, hv, rfl⟩
      exact hnf w hw (by rw [hf, hwk])
    have ⟨hflat, h2⟩ := visitor_ok h.sorted h.chains s.sn rate fail pivots hnf'
    have hpw := List.pairwise_flatten.mp (by rw [hflat]; exact hks)
    refine ⟨h2, ?_, hpw.1, hpw.2, ?_⟩
    · rw [hflat]; exact hview
    · unfold partOk; rw [hflat]; exact ascending_of_keySorted hks
  · rintro ⟨v, hv, hf⟩
    obtain ⟨w, hw, hwk⟩ := (hkeys v.key).mp ⟨v, hv, rfl⟩
    rw [hf]
    exact visitor_err h.sorted h.chains s.sn rate v.key pivots ⟨w, hw, hwk⟩
  · -- number of shards = number of kept pivots + 1
    show (List.map (·.1) (runShards σ.store s.sn rate fail none (filterPivots σ.store s.sn none pivots))).length ≤ _
    rw [List.length_map, runShards_length]
    exact Nat.succ_le_succ (filterPivots_length_le ..)

/-- the `visit` operation of the engine: on an open snapshot it leaves the state unchanged and
    reports `err=false part=ok items=<content>`, or `err=true` if the callback fails on a visible key —
    for every choice of split keys and every refresh rate -/
theorem C10_visit_op {n : Nat} {σ : Mvcc.State} (hr : Reachable n σ) {s : Snap} (hs : s ∈ σ.snaps)
    (hrc : 0 < s.rc) (pivots : List Nat) (rate : Int) (fail : Option Nat) :
    Mvcc.step σ (.visit s.sn pivots rate fail) =
      (σ, match fail with
          | some fk => if (s.content.map Ver.item).any (fun it => it.1 == fk) then .visitErr
                       else .visit true (s.content.map Ver.item)
          | none => .visit true (s.content.map Ver.item)) := by
  have h := inv_reachable hr
  have hf := findSnap_of_mem h.snaps.inc hs
  have hne : s.rc ≠ 0 := Int.ne_of_gt hrc
  have hsim := step_refines h (.visit s.sn pivots rate fail)
  unfold Refines at hsim
  have hfa : SetSpec.findSnap s.sn (abs σ).snaps = some (absSnap s) := by
    rw [findSnap_abs, hf]; rfl
  refine Prod.ext (step_visit_state σ s.sn pivots rate fail) ?_
  rw [← (Prod.ext_iff.mp hsim).2]
  simp only [SetSpec.step, hfa, hne, if_false, absSnap]
  cases fail with
  | none => rfl
  | some fk => simp only; split <;> rfl

/-! ### non-vacuity (test evaluated by the kernel): two split keys that are versions of ONE key (the
    history on which the unfixed pivot filter delivered `k0` twice), more shards than items, and a
    failing callback -/
example :
    Mvcc.run (Mvcc.init 1)
      [.put 0 5 0, .snap, .del 0 5, .snap, .put 0 5 0, .put 0 7 0, .snap,
       .visit 3 [5, 5, 6, 9] 1 none, .visit 3 [5, 5] 0 (some 7), .visit 1 [] 0 (some 7)] =
      [.bool true, .snap 1 1, .bool true, .snap 2 0, .bool true, .bool true, .snap 3 2,
       .visit true [(5, 0), (7, 0)], .visitErr, .visit true [(5, 0)]] := by decide +kernel

end NitroVerif.Props
