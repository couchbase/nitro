import NitroVerif.Lemmas.SkipConcScanRet
/-!
  C15 over WHOLE SCANS, on the executable model M5 (`Model/SkipConc.lean`), explicit `Refresh()` calls included.

  Property, verbatim: "An iterator that runs while other goroutines insert and delete never goes backwards (an item
  equal to the previous one can appear only if it was deleted and re-inserted meanwhile), returns only items that
  were present at some moment during the scan, and returns every item that was present for the whole duration of
  the scan; Seek(x) lands on an item >= x with no stable item in between.  Refreshing or pausing the iterator does not
  change these guarantees."

  Setting.  Any number `n` of threads, any run `as` from `Sys.init n` (any interleaving of call entries and segments
  of all threads), any thread `t` and iterator name `it`.  A SCAN of `(t, it)` = an effective `start t (it_first it)`
  or `start t (it_seek it x)` followed by `it_next it` calls of thread `t` (the automatic `Refresh` at the end of a
  Next included) AND explicit `it_refresh it` calls of thread `t` (`Op.itRefresh`, the public `Refresh()`) at any place
  between them, any number of them, interleaved arbitrarily with inserts, deletes, lookups and other iterators of
  every thread.  (Pause/Resume only release / re-acquire the barrier session, which M5 does not model: for the model
  they are no-ops, the driver answers `ret` without touching the state.)
  The history variables of the scan live in `Ghost` (`Lemmas/SkipConcScanInv.lean`), updated by `ghostAct` next to
  the model in the instrumented run `Sys.runG`; `C15_runG_projection` proves that the instrumented run projects
  onto `Sys.run`, so nothing is assumed about the model.

  PROVED (all for every run, by invariants; no enumeration): `C15_complete`, `C15_complete_at_end`, `C15_monotone`,
  `C15_present_partial`, `C15_refresh_return`.
  REFUTED for the model (the two witnesses are also given below as harness scripts, to be run against the Go code):
    `C15_present` as "every returned position was unmarked at level 0 at some state during the scan":
    `C15_present_refuted`, `C15_present_counterexample` — a node marked before the scan started (its Delete parked at
    DEL_SEARCH, i.e. between softDelete and the cleaning findPath) is returned by SeekFirst, and
    (`C15_present_counterexample_next`) by the plain advance of Next.  Neither `SeekFirst` nor `Next` looks at the
    mark of the node it lands on; the mark is only seen by the NEXT call of Next.  What holds instead is `C15_present_partial`.  (The item is "present" only in the
    sense that its Delete has not returned yet.)

  skipconc scripts of the two witnesses (format of PROTOCOL.md), with the returns of the model:
      engine skipconc / case 1 / threads 2
      start 0 ins 5 lvl=0 / step 0 / step 0 / step 0                  -> ret true
      start 1 del 5 / step 1 / step 1 / step 1                        -> at DEL_SEARCH   (5 is marked at level 0)
      start 0 it_first 1                                              -> ret 5           (marked before the scan began)
      engine skipconc / case 2 / threads 2
      start 0 ins 3 lvl=0 / step 0 ×3 ; start 0 ins 5 lvl=0 / step 0 ×4
      start 1 del 5 / step 1 ×4                                       -> at DEL_SEARCH
      start 0 it_first 1                                              -> ret 3
      start 0 it_next 1 / step 0                                      -> ret 5           (marked before the scan began)
-/
namespace NitroVerif.SkipConc

theorem C15_runG_projection (t it : Nat) (s : Sys) (g : Ghost) (as : List Action) :
    (Sys.runG t it (s, g) as).1 = s.run as := by
  induction as generalizing s g with
  | nil => rfl
  | cons a r ih => exact ih (s.act a) _

/-- COMPLETENESS of a scan (`it_next` and explicit `it_refresh` calls in any order after the first call).  In every
    state of every run in which a scan of `(t, it)` is active and no call on the iterator is in progress (so: in the
    state a call of the scan — Seek, Next or explicit Refresh — returns, and in every later state up to the next call),
    the cursor is the last position returned, and every node `a` that was published before the scan's first
    call started, is not the head, is unmarked at level 0 in this state, has a key ≥ the seek key (no bound for
    SeekFirst) and a key < the key of the cursor (the cursor may be the tail) is one of the positions returned. -/
theorem C15_complete (n : Nat) (as : List Action) (t it : Nat) (th : Thread)
    (hact : (Sys.runG t it (Sys.init n, {}) as).2.active = true)
    (hth : (Sys.runG t it (Sys.init n, {}) as).1.threads[t]? = some th)
    (hcall : pcIter th.pc ≠ some it) :
    (∃ ps0, (Sys.runG t it (Sys.init n, {}) as).2.positions = ps0 ++ [(th.iter it).curr]) ∧
    ∀ a, a < (Sys.runG t it (Sys.init n, {}) as).2.startLen → a ≠ headId →
      unmarked0 (Sys.runG t it (Sys.init n, {}) as).1.sh.heap a →
      (∀ x, (Sys.runG t it (Sys.init n, {}) as).2.lo = some x →
        ¬ Key.lt (keyOf (Sys.runG t it (Sys.init n, {}) as).1.sh.heap a) (.fin x)) →
      Key.lt (keyOf (Sys.runG t it (Sys.init n, {}) as).1.sh.heap a)
        (keyOf (Sys.runG t it (Sys.init n, {}) as).1.sh.heap (th.iter it).curr) →
      a ∈ (Sys.runG t it (Sys.init n, {}) as).2.positions := by
  obtain ⟨hI, hS⟩ := runG_scan (t := t) (it := it) (InvS_init n) (SysP_init t it _) as
  obtain ⟨th0, h0, inv, _⟩ := hS hact
  rw [hth] at h0
  cases h0
  obtain ⟨hm, hc⟩ := inv.complete (hI.thread hth).1 hcall
  exact ⟨hm, fun a ha h0 hu hlo hlt => hc a ⟨ha, h0, hu, hlo⟩ hlt⟩

/-- when the scan has reached the end (by a Next or by an explicit Refresh whose Seek found nothing behind the deleted
    cursor node), every node that was published before it started and is still unmarked (key ≥ the seek key) has been
    returned -/
theorem C15_complete_at_end (n : Nat) (as : List Action) (t it : Nat) (th : Thread)
    (hact : (Sys.runG t it (Sys.init n, {}) as).2.active = true)
    (hth : (Sys.runG t it (Sys.init n, {}) as).1.threads[t]? = some th)
    (hcall : pcIter th.pc ≠ some it) (hend : (th.iter it).curr = tailId) :
    ∀ a, a < (Sys.runG t it (Sys.init n, {}) as).2.startLen → a ≠ headId →
      unmarked0 (Sys.runG t it (Sys.init n, {}) as).1.sh.heap a →
      (∀ x, (Sys.runG t it (Sys.init n, {}) as).2.lo = some x →
        ¬ Key.lt (keyOf (Sys.runG t it (Sys.init n, {}) as).1.sh.heap a) (.fin x)) →
      a ∈ (Sys.runG t it (Sys.init n, {}) as).2.positions := by
  obtain ⟨hI, hS⟩ := runG_scan (t := t) (it := it) (InvS_init n) (SysP_init t it _) as
  obtain ⟨th0, h0, inv, _⟩ := hS hact
  rw [hth] at h0
  cases h0
  exact fun a ha h0 hu hlo => inv.complete_at_end (hI.thread hth).1 hcall hend a ⟨ha, h0, hu, hlo⟩

/-- MONOTONICITY of a scan.  In every state of every run in which a scan of `(t, it)` is active: along the positions
    returned so far, each position `c` (returned in a state with `L` published nodes) and the next position `c'`
    satisfy `Rel`: `key c < key c'`, or `key c = key c'` and `c` is marked (deleted) and `c'` was published after `c`
    was returned (`L ≤ c'`: node ids are publication order). -/
theorem C15_monotone (n : Nat) (as : List Action) (t it : Nat)
    (hact : (Sys.runG t it (Sys.init n, {}) as).2.active = true) :
    MonoF (Sys.runG t it (Sys.init n, {}) as).1.sh.heap (Sys.runG t it (Sys.init n, {}) as).2.positions
      (Sys.runG t it (Sys.init n, {}) as).2.stamps ∧
    (Sys.runG t it (Sys.init n, {}) as).2.positions.length = (Sys.runG t it (Sys.init n, {}) as).2.stamps.length := by
  obtain ⟨_, hS⟩ := runG_scan (t := t) (it := it) (InvS_init n) (SysP_init t it _) as
  obtain ⟨th0, _, _, inv⟩ := hS hact
  exact ⟨inv.monoF, inv.len⟩

theorem MonoF_get {h : Heap} : ∀ (ps ss : List Nat) (i c c' L : Nat), MonoF h ps ss →
    ps[i]? = some c → ps[i + 1]? = some c' → ss[i]? = some L → Rel h c L c' := by
  intro ps
  induction ps with
  | nil => intro ss i c c' L _ hc; cases hc
  | cons p ps ih =>
    intro ss i c c' L m hc hc' hL
    cases ss with
    | nil => cases hL
    | cons s ss =>
      cases i with
      | zero =>
        cases hc; cases hL
        exact m.1 c' (by rw [List.head?_eq_getElem?]; exact hc')
      | succ i => exact ih ss i c c' L m.2 hc hc' hL

/-- PRESENCE, what the code guarantees.  Whenever an action makes a call of a scan of `(t, it)` return a position
    (the ghost counter `returns` grows), the position `c` recorded is a published node that is on the level-0 chain
    from the head in the state of the return; if the returning segment was the end of a findPath (Seek, the
    re-search of Next, the Seek of the automatic Refresh, the Seek of an EXPLICIT Refresh — always) `c` is the tail or
    unmarked at level 0 in that state. -/
theorem C15_present_partial (n : Nat) (as : List Action) (a : Action) (t it : Nat)
    (hr : (Sys.runG t it (Sys.init n, {}) (as ++ [a])).2.returns =
          (Sys.runG t it (Sys.init n, {}) as).2.returns + 1) :
    ∃ c ps0, (Sys.runG t it (Sys.init n, {}) (as ++ [a])).2.positions = ps0 ++ [c] ∧
      c < (Sys.runG t it (Sys.init n, {}) (as ++ [a])).1.sh.heap.length ∧
      Reach (Sys.runG t it (Sys.init n, {}) (as ++ [a])).1.sh.heap 0 c ∧
      (∀ th, (Sys.runG t it (Sys.init n, {}) as).1.threads[t]? = some th → (searchOf th.pc).isSome →
        c = tailId ∨ unmarked0 (Sys.runG t it (Sys.init n, {}) (as ++ [a])).1.sh.heap c) := by
  have hI := (runG_scan (t := t) (it := it) (InvS_init n) (SysP_init t it _) as).1
  rw [runG_append] at hr ⊢
  exact actG_return_reach hI a hr

/-- HOW AN EXPLICIT REFRESH IS RECORDED (the ghost rule, as a theorem about the instrumented run).  If after `as` an
    explicit refresh of `(t, it)` is in progress and the segment `step t'` makes it return (`returns` grows), then
    `t' = t`, the refresh is over, and with `c` the node under the cursor in the resulting state: either `c` is the
    last position already and the list of positions is UNCHANGED (the refresh delivered nothing new), or `c` is another
    node and is APPENDED (the node under the cursor was deleted; `c` is what the next `Get()` returns) — and then
    `C15_monotone` relates it to the previous position, `C15_complete` covers everything before it. -/
theorem C15_refresh_return (n : Nat) (as : List Action) (t' t it : Nat)
    (hrf : (Sys.runG t it (Sys.init n, {}) as).2.refreshing = true)
    (hr : (Sys.runG t it (Sys.init n, {}) (as ++ [.step t'])).2.returns =
          (Sys.runG t it (Sys.init n, {}) as).2.returns + 1) :
    t' = t ∧ (Sys.runG t it (Sys.init n, {}) (as ++ [.step t'])).2.refreshing = false ∧
    ∃ th' c, (Sys.runG t it (Sys.init n, {}) (as ++ [.step t'])).1.threads[t]? = some th' ∧ (th'.iter it).curr = c ∧
      (((Sys.runG t it (Sys.init n, {}) (as ++ [.step t'])).2.positions =
          (Sys.runG t it (Sys.init n, {}) as).2.positions ∧
        (Sys.runG t it (Sys.init n, {}) as).2.positions.getLast? = some c) ∨
       ((Sys.runG t it (Sys.init n, {}) (as ++ [.step t'])).2.positions =
          (Sys.runG t it (Sys.init n, {}) as).2.positions ++ [c] ∧
        (Sys.runG t it (Sys.init n, {}) as).2.positions.getLast? ≠ some c)) := by
  rw [runG_append] at hr ⊢
  exact actG_refresh_return t' hrf hr

/-! ### non-vacuity and witnesses: concrete runs (kernel-checked TESTS, not proofs of the property).  `scanDemo`,
  `refreshScanDemo`, `presentCex`: one `_facts` theorem each; the tests after it are its conjuncts. -/

/-- a whole call: entry and `k` segments (segments of an idle thread are no-ops) -/
def call (t : Nat) (op : Op) (k : Nat) : List Action := .start t op :: List.replicate k (.step t)

/-- thread 1 inserts 2 4 6 8; thread 0 scans with iterator 1: SeekFirst (→ 2); thread 1 inserts 1 (BEFORE the
    cursor); Next (→ 4); thread 1 deletes 4 (the node UNDER the cursor) and 8 (AHEAD); Next (cursor marked, helpDelete
    fails, re-search → 6); Next (→ end). -/
def scanDemo : List Action :=
  call 1 (.ins 2 0) 3 ++ call 1 (.ins 4 0) 4 ++ call 1 (.ins 6 0) 5 ++ call 1 (.ins 8 0) 6 ++
  [.start 0 (.itFirst 1)] ++ call 1 (.ins 1 0) 3 ++ call 0 (.itNext 1) 1 ++ call 1 (.del 4) 12 ++
  call 1 (.del 8) 14 ++ call 0 (.itNext 1) 6 ++ call 0 (.itNext 1) 1

theorem scanDemo_facts :
    ((Sys.runG 0 1 (Sys.init 2, {}) scanDemo).2.active = true ∧
      (Sys.runG 0 1 (Sys.init 2, {}) scanDemo).2.positions = [2, 3, 4, 1] ∧
      (Sys.runG 0 1 (Sys.init 2, {}) scanDemo).2.stamps = [6, 7, 7, 7] ∧
      (Sys.runG 0 1 (Sys.init 2, {}) scanDemo).2.startLen = 6) ∧
    ((Sys.runG 0 1 (Sys.init 2, {}) scanDemo).1.threads[0]?.any
      (fun th => decide (isIdle th.pc = true ∧ (th.iter 1).curr = tailId)) = true) ∧
    (word? (Sys.runG 0 1 (Sys.init 2, {}) scanDemo).1.sh.heap 2 0 = some (4, false) ∧
      word? (Sys.runG 0 1 (Sys.init 2, {}) scanDemo).1.sh.heap 4 0 = some (1, false) ∧
      word? (Sys.runG 0 1 (Sys.init 2, {}) scanDemo).1.sh.heap 3 0 = some (4, true) ∧
      keyOf (Sys.runG 0 1 (Sys.init 2, {}) scanDemo).1.sh.heap 6 = .fin 1) := by decide +kernel

set_option maxRecDepth 8000 in
/-- the hypotheses of `C15_complete` / `C15_complete_at_end` / `C15_monotone` are met by `scanDemo`: the scan is active,
    thread 0 is idle with the cursor on the tail, the positions are the nodes of 2, 4, 6 and the tail; nodes 2 and 4
    (keys 2 and 6) were published before the scan and are unmarked, node 3 (key 4) is marked and was returned, node 6
    (key 1) was published during the scan -/
example : (Sys.runG 0 1 (Sys.init 2, {}) scanDemo).2.active = true ∧
    (Sys.runG 0 1 (Sys.init 2, {}) scanDemo).2.positions = [2, 3, 4, 1] ∧
    (Sys.runG 0 1 (Sys.init 2, {}) scanDemo).2.stamps = [6, 7, 7, 7] ∧
    (Sys.runG 0 1 (Sys.init 2, {}) scanDemo).2.startLen = 6 := scanDemo_facts.1

set_option maxRecDepth 8000 in
example : ∃ th, (Sys.runG 0 1 (Sys.init 2, {}) scanDemo).1.threads[0]? = some th ∧ isIdle th.pc = true ∧
    (th.iter 1).curr = tailId := ((Option.any_eq_true _ _).mp scanDemo_facts.2.1).imp fun _ h => ⟨h.1, of_decide_eq_true h.2⟩

set_option maxRecDepth 8000 in
example : word? (Sys.runG 0 1 (Sys.init 2, {}) scanDemo).1.sh.heap 2 0 = some (4, false) ∧
    word? (Sys.runG 0 1 (Sys.init 2, {}) scanDemo).1.sh.heap 4 0 = some (1, false) ∧
    word? (Sys.runG 0 1 (Sys.init 2, {}) scanDemo).1.sh.heap 3 0 = some (4, true) ∧
    keyOf (Sys.runG 0 1 (Sys.init 2, {}) scanDemo).1.sh.heap 6 = .fin 1 := scanDemo_facts.2.2

/-- A SCAN WITH EXPLICIT REFRESHES.  Thread 1 inserts 2 4 6 (nodes 2 3 4); thread 0 scans with iterator 1:
    SeekFirst (→ 2), Next (→ 4, node 3); explicit Refresh #1 with the cursor node intact (→ 4, the same node: nothing
    recorded but the return); thread 1 DELETES 4 — the node under the cursor — completely (marked and unlinked) and
    inserts 7 (node 5); explicit Refresh #2: `Seek(4)` lands on node 4 (key 6), a NEW position, stamp 6; thread 1
    inserts 8 (node 6); explicit Refresh #3 lands on node 4 again: no new position, its stamp is renewed 6 → 7;
    Next (→ 7), Next (→ 8), Next (→ end).  (Segments of an idle thread are no-ops, so the step counts are upper bounds.) -/
def refreshScanDemo : List Action :=
  call 1 (.ins 2 0) 3 ++ call 1 (.ins 4 0) 4 ++ call 1 (.ins 6 0) 5 ++
  [.start 0 (.itFirst 1)] ++ call 0 (.itNext 1) 1 ++ call 0 (.itRefresh 1) 5 ++ call 1 (.del 4) 12 ++
  call 1 (.ins 7 0) 6 ++ call 0 (.itRefresh 1) 5 ++ call 1 (.ins 8 0) 7 ++ call 0 (.itRefresh 1) 6 ++
  call 0 (.itNext 1) 1 ++ call 0 (.itNext 1) 1 ++ call 0 (.itNext 1) 1

theorem refreshScanDemo_facts :
    ((Sys.runG 0 1 (Sys.init 2, {}) (refreshScanDemo.take 48)).2.positions = [2, 3] ∧
      (Sys.runG 0 1 (Sys.init 2, {}) (refreshScanDemo.take 48)).2.refreshing = true ∧
      word? (Sys.runG 0 1 (Sys.init 2, {}) (refreshScanDemo.take 48)).1.sh.heap 3 0 = some (4, true) ∧
      (Sys.runG 0 1 (Sys.init 2, {}) (refreshScanDemo.take 49)).2.positions = [2, 3, 4] ∧
      (Sys.runG 0 1 (Sys.init 2, {}) (refreshScanDemo.take 49)).2.stamps = [5, 5, 6] ∧
      (Sys.runG 0 1 (Sys.init 2, {}) (refreshScanDemo.take 49)).2.refreshing = false ∧
      (Sys.runG 0 1 (Sys.init 2, {}) (refreshScanDemo.take 49)).2.returns =
        (Sys.runG 0 1 (Sys.init 2, {}) (refreshScanDemo.take 48)).2.returns + 1 ∧
      keyOf (Sys.runG 0 1 (Sys.init 2, {}) (refreshScanDemo.take 49)).1.sh.heap 4 = .fin 6) ∧
    ((Sys.runG 0 1 (Sys.init 2, {}) (refreshScanDemo.take 18)).2.positions = [2, 3] ∧
      (Sys.runG 0 1 (Sys.init 2, {}) (refreshScanDemo.take 23)).2.positions = [2, 3] ∧
      (Sys.runG 0 1 (Sys.init 2, {}) (refreshScanDemo.take 23)).2.stamps = [5, 5] ∧
      (Sys.runG 0 1 (Sys.init 2, {}) (refreshScanDemo.take 23)).2.returns =
        (Sys.runG 0 1 (Sys.init 2, {}) (refreshScanDemo.take 18)).2.returns + 1 ∧
      (Sys.runG 0 1 (Sys.init 2, {}) (refreshScanDemo.take 58)).2.stamps = [5, 5, 6] ∧
      (Sys.runG 0 1 (Sys.init 2, {}) (refreshScanDemo.take 63)).2.positions = [2, 3, 4] ∧
      (Sys.runG 0 1 (Sys.init 2, {}) (refreshScanDemo.take 63)).2.stamps = [5, 5, 7]) ∧
    ((Sys.runG 0 1 (Sys.init 2, {}) refreshScanDemo).2.active = true ∧
      (Sys.runG 0 1 (Sys.init 2, {}) refreshScanDemo).2.positions = [2, 3, 4, 5, 6, 1] ∧
      (Sys.runG 0 1 (Sys.init 2, {}) refreshScanDemo).2.stamps = [5, 5, 7, 7, 7, 7] ∧
      (Sys.runG 0 1 (Sys.init 2, {}) refreshScanDemo).2.startLen = 5 ∧
      (Sys.runG 0 1 (Sys.init 2, {}) refreshScanDemo).2.returns = 8 ∧
      word? (Sys.runG 0 1 (Sys.init 2, {}) refreshScanDemo).1.sh.heap 2 0 = some (4, false) ∧
      word? (Sys.runG 0 1 (Sys.init 2, {}) refreshScanDemo).1.sh.heap 3 0 = some (4, true) ∧
      word? (Sys.runG 0 1 (Sys.init 2, {}) refreshScanDemo).1.sh.heap 4 0 = some (5, false)) ∧
    ((Sys.runG 0 1 (Sys.init 2, {}) refreshScanDemo).1.threads[0]?.any
      (fun th => decide (isIdle th.pc = true ∧ (th.iter 1).curr = tailId)) = true) := by decide +kernel

set_option maxRecDepth 8000 in
/-- the refresh in the middle of `refreshScanDemo` whose cursor node was deleted by the other thread: before it
    (48 actions) the thread is inside the Seek of the explicit refresh, the cursor node 3 (key 4) is marked, the
    positions are [2, 3]; its last segment appends node 4 (key 6) and counts as a return (these are the hypotheses of
    `C15_refresh_return` with `as = refreshScanDemo.take 48`, `t' = 0`, and its second alternative) -/
example : (Sys.runG 0 1 (Sys.init 2, {}) (refreshScanDemo.take 48)).2.positions = [2, 3] ∧
    (Sys.runG 0 1 (Sys.init 2, {}) (refreshScanDemo.take 48)).2.refreshing = true ∧
    word? (Sys.runG 0 1 (Sys.init 2, {}) (refreshScanDemo.take 48)).1.sh.heap 3 0 = some (4, true) ∧
    (Sys.runG 0 1 (Sys.init 2, {}) (refreshScanDemo.take 49)).2.positions = [2, 3, 4] ∧
    (Sys.runG 0 1 (Sys.init 2, {}) (refreshScanDemo.take 49)).2.stamps = [5, 5, 6] ∧
    (Sys.runG 0 1 (Sys.init 2, {}) (refreshScanDemo.take 49)).2.refreshing = false ∧
    (Sys.runG 0 1 (Sys.init 2, {}) (refreshScanDemo.take 49)).2.returns =
      (Sys.runG 0 1 (Sys.init 2, {}) (refreshScanDemo.take 48)).2.returns + 1 ∧
    keyOf (Sys.runG 0 1 (Sys.init 2, {}) (refreshScanDemo.take 49)).1.sh.heap 4 = .fin 6 := refreshScanDemo_facts.1

/-- action 49 of `refreshScanDemo` is a segment of thread 0 (the shape `as ++ [.step t']` of `C15_refresh_return`) -/
example : refreshScanDemo.take 49 = refreshScanDemo.take 48 ++ [.step 0] := rfl

set_option maxRecDepth 8000 in
/-- the two refreshes of `refreshScanDemo` that land on the same node: #1 (actions 19–23) leaves positions and stamps
    as they are (no node was published meanwhile) and counts as a return; #3 (actions 59–63) leaves the positions
    and renews the last stamp 6 → 7 -/
example : (Sys.runG 0 1 (Sys.init 2, {}) (refreshScanDemo.take 18)).2.positions = [2, 3] ∧
    (Sys.runG 0 1 (Sys.init 2, {}) (refreshScanDemo.take 23)).2.positions = [2, 3] ∧
    (Sys.runG 0 1 (Sys.init 2, {}) (refreshScanDemo.take 23)).2.stamps = [5, 5] ∧
    (Sys.runG 0 1 (Sys.init 2, {}) (refreshScanDemo.take 23)).2.returns =
      (Sys.runG 0 1 (Sys.init 2, {}) (refreshScanDemo.take 18)).2.returns + 1 ∧
    (Sys.runG 0 1 (Sys.init 2, {}) (refreshScanDemo.take 58)).2.stamps = [5, 5, 6] ∧
    (Sys.runG 0 1 (Sys.init 2, {}) (refreshScanDemo.take 63)).2.positions = [2, 3, 4] ∧
    (Sys.runG 0 1 (Sys.init 2, {}) (refreshScanDemo.take 63)).2.stamps = [5, 5, 7] := refreshScanDemo_facts.2.1

set_option maxRecDepth 8000 in
/-- the hypotheses of `C15_complete` / `C15_complete_at_end` / `C15_monotone` are met by `refreshScanDemo`: at the end
    the scan is active, thread 0 is idle with the cursor on the tail; positions = nodes of 2, 4, 6, 7, 8 and the tail;
    nodes 2 and 4 (keys 2, 6) were published before the scan (startLen 5) and are unmarked, node 3 (key 4) is marked -/
example : (Sys.runG 0 1 (Sys.init 2, {}) refreshScanDemo).2.active = true ∧
    (Sys.runG 0 1 (Sys.init 2, {}) refreshScanDemo).2.positions = [2, 3, 4, 5, 6, 1] ∧
    (Sys.runG 0 1 (Sys.init 2, {}) refreshScanDemo).2.stamps = [5, 5, 7, 7, 7, 7] ∧
    (Sys.runG 0 1 (Sys.init 2, {}) refreshScanDemo).2.startLen = 5 ∧
    (Sys.runG 0 1 (Sys.init 2, {}) refreshScanDemo).2.returns = 8 ∧
    word? (Sys.runG 0 1 (Sys.init 2, {}) refreshScanDemo).1.sh.heap 2 0 = some (4, false) ∧
    word? (Sys.runG 0 1 (Sys.init 2, {}) refreshScanDemo).1.sh.heap 3 0 = some (4, true) ∧
    word? (Sys.runG 0 1 (Sys.init 2, {}) refreshScanDemo).1.sh.heap 4 0 = some (5, false) := refreshScanDemo_facts.2.2.1

set_option maxRecDepth 8000 in
example : ∃ th, (Sys.runG 0 1 (Sys.init 2, {}) refreshScanDemo).1.threads[0]? = some th ∧ isIdle th.pc = true ∧
    (th.iter 1).curr = tailId := ((Option.any_eq_true _ _).mp refreshScanDemo_facts.2.2.2).imp fun _ h => ⟨h.1, of_decide_eq_true h.2⟩

/-- WITNESS 1 against `C15_present` ("unmarked at some state during the scan"): 5 inserted; thread 1's Delete(5) has
    marked the node at level 0 and is parked at DEL_SEARCH; then thread 0 starts a scan with SeekFirst -/
def presentCex : List Action :=
  call 0 (.ins 5 0) 3 ++ call 1 (.del 5) 3 ++ [.start 0 (.itFirst 1)]

theorem presentCex_facts :
    (word? (Sys.runG 0 1 (Sys.init 2, {}) (presentCex.take 8)).1.sh.heap 2 0 = some (1, true) ∧
      (Sys.runG 0 1 (Sys.init 2, {}) (presentCex.take 8)).2.active = false) ∧
    ((Sys.runG 0 1 (Sys.init 2, {}) presentCex).2.positions = [2] ∧
      (Sys.runG 0 1 (Sys.init 2, {}) presentCex).2.startLen = 3 ∧
      keyOf (Sys.runG 0 1 (Sys.init 2, {}) presentCex).1.sh.heap 2 = .fin 5) ∧
    (∀ k, k ≤ 8 → (Sys.runG 0 1 (Sys.init 2, {}) (presentCex.take k)).2.active = false) ∧
    presentCex.length = 9 ∧
    word? ((Sys.init 2).run (presentCex.take 9)).sh.heap 2 0 = some (1, true) ∧
    (Sys.runG 0 1 (Sys.init 2, {}) presentCex).2.returns =
      (Sys.runG 0 1 (Sys.init 2, {}) (presentCex.take 8)).2.returns + 1 := by decide +kernel

/-- before the scan starts node 2 (item 5) is marked at level 0 and the deleter is between softDelete and its
    cleaning search; the scan's first call returns exactly that node.  (Marks are permanent — `Ext.marked` — so the
    node is unmarked at NO state of the scan.) -/
theorem C15_present_counterexample :
    word? (Sys.runG 0 1 (Sys.init 2, {}) (presentCex.take 8)).1.sh.heap 2 0 = some (1, true) ∧
    (Sys.runG 0 1 (Sys.init 2, {}) (presentCex.take 8)).2.active = false ∧
    (∃ th, (Sys.runG 0 1 (Sys.init 2, {}) (presentCex.take 8)).1.threads[1]? = some th ∧
      th.pc = .delSearch 5) ∧
    (Sys.runG 0 1 (Sys.init 2, {}) presentCex).2.positions = [2] ∧
    (Sys.runG 0 1 (Sys.init 2, {}) presentCex).2.startLen = 3 ∧
    keyOf (Sys.runG 0 1 (Sys.init 2, {}) presentCex).1.sh.heap 2 = .fin 5 := by
  exact ⟨presentCex_facts.1.1, presentCex_facts.1.2, ⟨_, rfl, rfl⟩, presentCex_facts.2.1⟩

/-- WITNESS 2: the plain advance of `Next` moves onto a node that was marked before the scan started -/
def presentCex2 : List Action :=
  call 0 (.ins 3 0) 3 ++ call 0 (.ins 5 0) 4 ++ call 1 (.del 5) 4 ++ [.start 0 (.itFirst 1)] ++ call 0 (.itNext 1) 1

theorem C15_present_counterexample_next :
    word? (Sys.runG 0 1 (Sys.init 2, {}) (presentCex2.take 14)).1.sh.heap 3 0 = some (1, true) ∧
    (Sys.runG 0 1 (Sys.init 2, {}) (presentCex2.take 14)).2.active = false ∧
    (Sys.runG 0 1 (Sys.init 2, {}) presentCex2).2.positions = [2, 3] ∧
    (Sys.runG 0 1 (Sys.init 2, {}) presentCex2).2.startLen = 4 ∧
    keyOf (Sys.runG 0 1 (Sys.init 2, {}) presentCex2).1.sh.heap 3 = .fin 5 := by
  have h14 : word? (Sys.runG 0 1 (Sys.init 2, {}) (presentCex2.take 14)).1.sh.heap 3 0 = some (1, true) ∧
      (Sys.runG 0 1 (Sys.init 2, {}) (presentCex2.take 14)).2.active = false := by decide +kernel
  exact ⟨h14.1, h14.2, by decide +kernel⟩

/-- `C15_present`, read as "every returned position was unmarked at level 0 in some state of the run in which the scan
    was active", is FALSE of the model: refuted by `presentCex` (WITNESS, kernel-checked by `decide`; the same script
    gives the same outputs on the real code) -/
theorem C15_present_refuted :
    ¬ ∀ (n : Nat) (as : List Action) (t it : Nat), ∀ c ∈ (Sys.runG t it (Sys.init n, {}) as).2.positions,
        ∃ k, k ≤ as.length ∧ (Sys.runG t it (Sys.init n, {}) (as.take k)).2.active = true ∧
          unmarked0 ((Sys.init n).run (as.take k)).sh.heap c := by
  intro h
  obtain ⟨_, hpos, h8, hlen, hw, _⟩ := presentCex_facts
  obtain ⟨k, hk, ha, hu⟩ := h 2 presentCex 0 1 2 (by rw [hpos.1]; exact List.mem_singleton.mpr rfl)
  rw [hlen] at hk
  by_cases hk8 : k ≤ 8
  · rw [h8 k hk8] at ha; cases ha
  · have h9 : k = 9 := by omega
    subst h9
    obtain ⟨p, hp⟩ := hu
    rw [hw] at hp; cases hp

/-- non-vacuity of `C15_present_partial`: the last action of `presentCex` is a return -/
example : (Sys.runG 0 1 (Sys.init 2, {}) presentCex).2.returns =
    (Sys.runG 0 1 (Sys.init 2, {}) (presentCex.take 8)).2.returns + 1 := presentCex_facts.2.2.2.2.2

/-- non-vacuity of the equal-key clause of `Rel`: 3 inserted, scan on it, 3 deleted and re-inserted, Next -/
def reinsertDemo : List Action :=
  call 1 (.ins 3 0) 3 ++ [.start 0 (.itFirst 1)] ++ call 1 (.del 3) 8 ++ call 1 (.ins 3 0) 3 ++ call 0 (.itNext 1) 6

example : (Sys.runG 0 1 (Sys.init 2, {}) reinsertDemo).2.positions = [2, 3] ∧
    (Sys.runG 0 1 (Sys.init 2, {}) reinsertDemo).2.stamps = [3, 4] ∧
    keyOf (Sys.runG 0 1 (Sys.init 2, {}) reinsertDemo).1.sh.heap 2 = .fin 3 ∧
    keyOf (Sys.runG 0 1 (Sys.init 2, {}) reinsertDemo).1.sh.heap 3 = .fin 3 ∧
    word? (Sys.runG 0 1 (Sys.init 2, {}) reinsertDemo).1.sh.heap 2 0 = some (1, true) := by decide +kernel

end NitroVerif.SkipConc
