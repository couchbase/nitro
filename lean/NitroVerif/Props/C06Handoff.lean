import NitroVerif.Props.C08
/-!
  # C06 — the collector hand-off (the concurrent part of "garbage collection is complete")

  "once every snapshot that could see it has been closed, a collection pass at quiescence (the final
  Close triggers one, GC() forces one) removes it … No order of closing snapshots, from any
  goroutines … strands garbage permanently."

  Here: the hand-off of retired snapshots to the workers (`gcchan`), on the small-step model
  `Model/RefCount.lean` of `Close`/`GC`/`collectDead`/`hasCollectableSnapshot` as repaired in /repo.
  At every reachable quiescent state — any number of goroutines and snapshots, any order and
  interleaving of closes, opens and explicit `GC()` calls — every retired snapshot whose turn has
  come has been handed over: `lastGCSn + 1` is the smallest snapshot number still referenced (or
  `k + 1`), the dead list contains no snapshot numbered `lastGCSn + 1`, and `sent` is exactly
  `1, …, lastGCSn`, in order, each once.  What the workers do with a garbage list, and which
  versions are in it, is the business of the MVCC model (C06 proper); the by-design in-order
  collection (an older open snapshot pins later retired ones) is visible in the statement.
  The unfixed `GC` fails this: `C08.C06_unfixed_lost_trigger` (a labelled witness).
-/
namespace NitroVerif.Props.C06
open NitroVerif.RefCount

/-- The last clause is "nothing is stranded": if
    every snapshot up to `s` has been fully released, then `s` has been handed to the workers. -/
theorem C06_handoff_quiescent (cfg : Cfg) (hO : cfg.fixedOpen = true) (hG : cfg.fixedGC = true)
    (n k : Nat) (sched : List (Nat × Act)) (st : St) (evs : List Ev)
    (hrun : exec cfg (init n k) sched = some (st, evs)) (hq : quiescent st = true) :
    (st.lastGCSn + 1) ∉ st.dead
    ∧ st.sent = List.range' 1 st.lastGCSn
    ∧ st.sent.Nodup
    ∧ st.lastGCSn ≤ k
    ∧ (∀ s, 1 ≤ s → s ≤ st.lastGCSn → refs st s = 0)
    ∧ (st.lastGCSn < k → 0 < refs st (st.lastGCSn + 1))
    ∧ (∀ s, 1 ≤ s → s ≤ k → (∀ s', 1 ≤ s' → s' ≤ s → refs st s' = 0) → s ∈ st.sent) := by
  obtain ⟨h1, _, h3, h4, h5, h6, _, _⟩ :=
    C08.C08_collector_progress cfg hO hG n k sched st evs hrun hq
  refine ⟨h1, h3, ?_, h4, h5, h6, ?_⟩
  · rw [h3]; exact List.nodup_range'
  · intro s hs1 hs2 hall
    rw [h3, List.mem_range'_1]
    refine ⟨hs1, ?_⟩
    by_cases hle : s ≤ st.lastGCSn
    · exact Nat.lt_of_le_of_lt hle (Nat.lt_add_of_pos_left Nat.one_pos)
    · -- else `lastGCSn + 1 ≤ s` is fully released, but a positive count stops the frontier there
      have hlt : st.lastGCSn < s := Nat.lt_of_not_le hle
      have := h6 (Nat.lt_of_lt_of_le hlt hs2)
      rw [hall (st.lastGCSn + 1) (Nat.le_add_left 1 _) hlt] at this
      exact absurd this (Int.lt_irrefl 0)

/-- non-vacuity: the racing-closes schedule of the witness, on the repaired protocol, ends
    quiescent with both snapshots handed over in order -/
example : ∃ st evs, exec fixedCfg (init 2 2) (C08.lostTriggerSched ++ C08.steps 0 9) = some (st, evs)
    ∧ quiescent st = true ∧ st.sent = [1, 2] ∧ refs st 1 = 0 ∧ refs st 2 = 0 := by
  refine ⟨_, _, rfl, by decide, by decide, by decide, by decide⟩

end NitroVerif.Props.C06
