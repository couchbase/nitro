import NitroVerif.Model.MvccConc
import NitroVerif.Lemmas.BarrierAbs
/-!
  C16abs, second half — the EAGER abstract barrier of `Model/MvccConc.lean` is the LAZY abstract barrier
  `AbsBarrier` followed by `destruct` repeated while enabled.

  `absM σ` reads the barrier component of an MvccConc state (`sess`, `freeSeq`) as an `AbsBarrier`
  (holders = `Holder`s, objects = node lists; the log starts empty because MvccConc keeps no log: the
  objects destructed by one call are what that call appends to the log, and the non-nil ones become the
  new free jobs, `jobsOf`).

  What is still ARGUED after this file and `Props/C16abs.lean`:
  * that the C04/C07 invariants of MvccConc are insensitive to WHEN, between the termination of a session
    and the next quiescent point of the barrier, its destructor runs (MvccConc runs it inside the
    terminating `release`/`flush`; M4 may run it later, in another thread's `Release`, but — C17 — not
    later than quiescence), and to WHICH thread runs it;
  * the late grant of `Props/C16abs.lean` (a token of the just-closed session handed out between FL_SWAP
    and FL_ADD), which `AbsBarrier`'s atomic `flush` does not have;
  * that holders are anonymous in `absOf` (M4 side) and named here.
-/
namespace NitroVerif.MvccConc
open NitroVerif.AbsBarrier

/-- an MvccConc session as a session of `AbsBarrier` -/
def conv (s : Sess) : ASess Holder (List Nat) := ⟨s.holders, s.flushed, s.list⟩

/-- the barrier component of an MvccConc state -/
def absM (σ : State) : AbsBarrier Holder (List Nat) := ⟨σ.sess.map conv, σ.freeSeq, []⟩

/-- the free jobs the destructor creates for the destructed objects (non-nil lists only) -/
def jobsOf (objs : List (List Nat)) : List FrJob :=
  (objs.filter (fun l => !l.isEmpty)).map (fun l => ⟨l, .recv⟩)

theorem map_modify_conv (l : List Sess) (i : Nat) (f : Sess → Sess)
    (g : ASess Holder (List Nat) → ASess Holder (List Nat)) (hfg : ∀ s, conv (f s) = g (conv s)) :
    (l.modify i f).map conv = (l.map conv).modify i g := by
  apply List.ext_getElem?
  intro j
  simp only [List.getElem?_map, List.getElem?_modify]
  by_cases e : i = j
  · cases l[j]? <;> simp [e, hfg]
  · cases l[j]? <;> simp [e]

theorem readyList_absM (sess : List Sess) (fs : Nat) (lg : List (List Nat)) :
    readyList (⟨sess.map conv, fs, lg⟩ : AbsBarrier Holder (List Nat)) = (readySess sess fs).map conv := by
  unfold readyList readySess
  simp only []
  rw [← List.map_drop, List.takeWhile_map]
  rfl

theorem newFrJobs_eq (ready : List Sess) : newFrJobs ready = jobsOf ((ready.map conv).map (·.obj)) := by
  unfold newFrJobs jobsOf
  rw [List.map_map, List.filter_map, List.map_map]
  rfl

/-- `cleanup` is "destruct to exhaustion" -/
theorem C16abs_cleanup_is_eager (σ : State) :
    (cleanup σ).sess.map conv = (eager (absM σ)).sess ∧
    (cleanup σ).freeSeq = (eager (absM σ)).freeSeq ∧
    (cleanup σ).frJobs = σ.frJobs ++ jobsOf (eager (absM σ)).log := by
  rw [eager_eq]
  simp only [absM]
  rw [readyList_absM]
  refine ⟨rfl, ?_, ?_⟩
  · simp [cleanup]
  · simp only [cleanup, newFrJobs_eq, List.nil_append]

theorem absM_acquire (σ : State) (h : Holder) : absM (acquire σ h) = acqF (absM σ) h := by
  unfold absM acquire acqF acqSess
  simp only [List.length_map]
  congr 1
  exact map_modify_conv _ _ _ _ (fun s => rfl)

theorem absM_relSess (σ : State) (tok : Nat) (h : Holder) :
    absM { σ with sess := relSess σ.sess tok h } = relF (absM σ) tok h := by
  unfold absM relF relSess
  simp only []
  congr 1
  exact map_modify_conv _ _ _ _ (fun s => rfl)

theorem absM_flushSess (σ : State) (list : List Nat) :
    absM { σ with sess := flushSess σ.sess list } = flushF (absM σ) list := by
  unfold absM flushF flushSess
  simp only [List.length_map, List.map_append]
  congr 1
  rw [map_modify_conv _ _ _ (fun s => { s with flushed := true, obj := list }) (fun s => rfl)]
  rfl

/-- **C16abs, MvccConc side.**  On the barrier component (`sess`, `freeSeq`, the new free jobs):
    `acquire` is the lazy `acq`; `release` is the lazy `rel` followed by `destruct` repeated while enabled
    (`eager`); `flush` is the lazy `flush` followed by `destruct` repeated while enabled.  The objects
    destructed by the call (`log`, starting from the empty log of `absM`) are exactly those whose non-nil
    lists become the new free jobs. -/
theorem C16abs_mvcc_eager_is_lazy_then_destructs (σ : State) :
    (∀ h, absM (acquire σ h) = acqF (absM σ) h ∧ (acquire σ h).frJobs = σ.frJobs) ∧
    (∀ tok h,
      (release σ tok h).sess.map conv = (eager (relF (absM σ) tok h)).sess ∧
      (release σ tok h).freeSeq = (eager (relF (absM σ) tok h)).freeSeq ∧
      (release σ tok h).frJobs = σ.frJobs ++ jobsOf (eager (relF (absM σ) tok h)).log) ∧
    (∀ list,
      (flush σ list).sess.map conv = (eager (flushF (absM σ) list)).sess ∧
      (flush σ list).freeSeq = (eager (flushF (absM σ) list)).freeSeq ∧
      (flush σ list).frJobs = σ.frJobs ++ jobsOf (eager (flushF (absM σ) list)).log) := by
  refine ⟨fun h => ⟨absM_acquire σ h, rfl⟩, ?_, ?_⟩
  · intro tok h
    rw [← absM_relSess]
    exact C16abs_cleanup_is_eager { σ with sess := relSess σ.sess tok h }
  · intro list
    rw [← absM_flushSess]
    exact C16abs_cleanup_is_eager { σ with sess := flushSess σ.sess list }

/-- the eager barrier's moves are RUNS of the lazy barrier: `rel` (when the token is held) resp. `flush`,
    then the `destruct` actions of `exhaustActs`, each enabled when it is taken, end in the `eager` state
    — so every barrier state MvccConc reaches is reachable in the lazy barrier -/
theorem C16abs_mvcc_moves_are_lazy_runs (σ : State) :
    (∀ tok h, holds (absM σ) tok h = true →
      AbsBarrier.run (absM σ) (.rel tok h ::
          exhaustActs ((relF (absM σ) tok h).sess.length - (relF (absM σ) tok h).freeSeq) (relF (absM σ) tok h))
        = some (eager (relF (absM σ) tok h))) ∧
    (∀ list,
      AbsBarrier.run (absM σ) (.flush list ::
          exhaustActs ((flushF (absM σ) list).sess.length - (flushF (absM σ) list).freeSeq) (flushF (absM σ) list))
        = some (eager (flushF (absM σ) list))) := by
  constructor
  · intro tok h hh
    simp only [AbsBarrier.run, AbsBarrier.step, hh, if_true]
    exact run_exhaustActs _ _
  · intro list
    simp only [AbsBarrier.run, AbsBarrier.step]
    exact run_exhaustActs _ _

/-! ### non-vacuity: three sessions, the oldest terminated by a release; `release` destructs it and the
    next one (already terminated) in one go -/
def exσ : State :=
  { init 1 1 with sess := [⟨[.thr 0], true, [7]⟩, ⟨[], true, []⟩, ⟨[], false, []⟩] }

example : (release exσ 0 (.thr 0)).freeSeq = 2 ∧ (release exσ 0 (.thr 0)).frJobs.map (·.list) = [[7]] ∧
    holds (absM exσ) 0 (.thr 0) = true ∧
    (eager (relF (absM exσ) 0 (.thr 0))).log = [[7], []] ∧
    exhaustActs 3 (relF (absM exσ) 0 (.thr 0)) = [.destruct, .destruct] := by
  refine ⟨by decide, by decide, by decide, by decide, by decide⟩

end NitroVerif.MvccConc
