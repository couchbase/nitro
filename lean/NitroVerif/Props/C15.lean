import NitroVerif.Lemmas.SkipConcSearch
import NitroVerif.Lemmas.SkipConcScan
/-!
  C15, on the executable model M5 (`Model/SkipConc.lean`).

  Property, verbatim: "An iterator that runs while other goroutines insert and delete never goes backwards (an
  item equal to the previous one can appear only if it was deleted and re-inserted meanwhile), returns only items
  that were present at some moment during the scan, and returns every item that was present for the whole
  duration of the scan; Seek(x) lands on an item >= x with no stable item in between."

  The statements over whole scans (`C15_monotone`, `C15_complete`, `C15_complete_at_end`, `C15_present_partial` and
  the refutation of the literal `present` clause) are in `Props/C15scan.lean`.  This file holds the facts about ONE
  segment of an iterator call that they are built from.

  PROVED HERE, for any heap satisfying the invariant (hence in every reachable state of every run of any number of
  threads, `C13_invariant`) and any thread:
    `C15_monotone_partial`  a `Next` that completes by the plain advance or by a successful helpDelete moves the
                            cursor to a node with a STRICTLY larger key, which is the level-0 successor recorded
                            in the old position's word in the state of the read (so it is a published node that
                            was linked behind the old position: the `present` part for these two paths);
    `C15_seek_ge_partial`   `Seek x` (and the re-search of `Next`, which is the same findPath) ends with
                            `key prev < x ≤ key curr` for the positions it installs;
    `C15_research_ge_partial` the re-search path of `Next`, and the automatic `Refresh` at the END of `Next` (finite
                            `SetRefreshInterval`), install a position whose key is not smaller than the old one:
                            together with `C15_monotone_partial` an iterator never goes backwards on any path;
    `C15_refresh_after_step` a refresh seeks the item under the cursor; that the automatic one starts after the step
                            is `C15_monotone_partial` with the model's `afterNext` (by
                            `skeleton_SkiplistIteratorNext_ok` `it.Refresh` is the last call of Next);
    `C15_seek_no_stable_between` no stable item between `x` and the position `Seek x` lands on (through `SInv`).
  Not in this file because it needs the history of the scan: that an EQUAL key on the re-search path of `Next`
  means a deleted and re-inserted item (`C15_monotone`), and which returned positions were present during the
  scan (`C15_present_partial`).
-/
namespace NitroVerif.SkipConc

/-- `Next` by the plain advance or a successful helpDelete: strictly larger key, and the new position is the
    level-0 successor recorded in the old position's word.  The segment has completed the move when it returns
    (`idle`) or parks at ITER_REFRESH (the automatic refresh comes AFTER the move, `afterNext`). -/
theorem C15_monotone_partial {sh : Shared} {th : Thread} (H : HInv sh.heap) (hT : TInv sh.heap th) (it : Nat)
    (hpc : th.pc = .iterNext it ∨ ∃ next, th.pc = .iterHelp it next)
    (hret : (stepThread sh th).2.1.pc = .idle ∨ (stepThread sh th).2.1.pc = .iterRefresh it) :
    Key.lt (keyOf sh.heap (th.iter it).curr) (keyOf sh.heap ((stepThread sh th).2.1.iter it).curr) ∧
    (∃ m, word? sh.heap (th.iter it).curr 0 = some (((stepThread sh th).2.1.iter it).curr, m)) ∧
    ((stepThread sh th).2.1.iter it).curr < sh.heap.length := by
  have hp := hT.pc
  have s := stepThread_iter (it := it) (sh := sh) (th := th)
    (by rcases hpc with h | ⟨_, h⟩ <;> rw [h] <;> rfl) hT.buf.succs_pos
  -- the word under the cursor, whichever way the cursor moves
  have move : ∀ {c : Nat} {m : Bool}, word? sh.heap (th.iter it).curr 0 = some (c, m) →
      Key.lt (keyOf sh.heap (th.iter it).curr) (keyOf sh.heap c) ∧
      (∃ m, word? sh.heap (th.iter it).curr 0 = some (c, m)) ∧ c < sh.heap.length :=
    fun hw => ⟨H.h5 _ _ _ hw, ⟨_, hw⟩, H.lt_of_word hw⟩
  generalize stepThread sh th = r at s hret ⊢
  rcases hpc with hpc | ⟨next, hpc⟩
  · rw [hpc] at s hp
    obtain ⟨k, hk⟩ := hp
    cases s with
    | search h => cases h
    | nextMarked => rcases hret with h | h <;> cases h
    | nextMove hm _ h2 _ =>
      obtain ⟨p, m, hw⟩ := word0_of_fin H hk
      rw [h2, getNext_of_word hw]; exact move hw
  · rw [hpc] at s hp
    cases s with
    | search h => cases h
    | helpOk _ _ h2 _ => rw [h2]; exact move hp.1
    | helpFail => rcases hret with h | h <;> cases h

theorem iter_search_ends {sh : Shared} {th : Thread} (hT : TInv sh.heap th) {fp : FP} {rr : Bool} {it : Nat}
    (hpc : th.pc = .findNext fp rr)
    (hcont : fp.cont = .iterSeek it ∨ fp.cont = .iterNext it ∨ fp.cont = .iterRefresh it)
    (hret : FindEnds (stepThread sh th).2.2) :
    ∃ c, c = readNode sh.heap fp rr ∧ fp.i = 0 ∧
      ¬ Gen.findAdvance (compare (keyOf sh.heap c) (.fin fp.item)) = true ∧
      ((stepThread sh th).2.1.iter it).prev = fp.prev ∧ ((stepThread sh th).2.1.iter it).curr = c := by
  have s := stepThread_seg sh th
  rw [hpc] at s
  obtain ⟨c, hc, hi0, _, ha, hr⟩ := s.ends hret
  obtain ⟨_, h1, h2, _⟩ := finishFind_own sh { th with preds := th.preds.set 0 fp.prev, succs := th.succs.set 0 c }
    fp.item (Gen.findFound (compare (keyOf sh.heap c) (.fin fp.item))) it fp.cont
    (by rcases hcont with h | h | h <;> rw [h] <;> rfl)
  refine ⟨c, hc, hi0, ha, ?_, ?_⟩
  · rw [hr, h1]; exact getD_set_same hT.buf.preds_pos
  · rw [hr, h2]; exact getD_set_same hT.buf.succs_pos

/-- the positions installed by a findPath that serves an iterator (`Seek`, the re-search of `Next`, the Seek of
    `Refresh`) bracket the searched item: `key prev < item ≤ key curr` -/
theorem C15_seek_ge_partial {sh : Shared} {th : Thread} (hT : TInv sh.heap th) (fp : FP) (rr : Bool) (it : Nat)
    (hpc : th.pc = .findNext fp rr)
    (hcont : fp.cont = .iterSeek it ∨ fp.cont = .iterNext it ∨ fp.cont = .iterRefresh it)
    (hret : (stepThread sh th).2.2 ≠ "at HELP_DELETE" ∧ (stepThread sh th).2.2 ≠ "at FIND_NEXT" ∧
            (stepThread sh th).2.2 ≠ "at FIND_LEVEL") :
    Key.lt (keyOf sh.heap ((stepThread sh th).2.1.iter it).prev) (.fin fp.item) ∧
    ¬ Key.lt (keyOf sh.heap ((stepThread sh th).2.1.iter it).curr) (.fin fp.item) := by
  have hp := hT.pc
  rw [hpc] at hp
  obtain ⟨c, _, _, ha, h1, h2⟩ := iter_search_ends hT hpc hcont hret
  rw [h1, h2]
  exact ⟨hp.1.key, fun l => ha ((Gen.findAdvance_iff _).mpr ((compare_neg_iff _ _).mpr l))⟩

/-- the re-search path of `Next` (helpDelete failed, findPath for the item under the cursor) and the automatic
    `Refresh` at the end of `Next` (Seek of the item under the cursor — the item the cursor has just moved TO, not
    yet returned to the caller) never go backwards: the position installed has a key that is NOT smaller than the
    key of the position before the search -/
theorem C15_research_ge_partial {sh : Shared} {th : Thread} (hT : TInv sh.heap th) (fp : FP) (rr : Bool) (it : Nat)
    (hpc : th.pc = .findNext fp rr) (hcont : fp.cont = .iterNext it ∨ fp.cont = .iterRefresh it)
    (hret : (stepThread sh th).2.2 ≠ "at HELP_DELETE" ∧ (stepThread sh th).2.2 ≠ "at FIND_NEXT" ∧
            (stepThread sh th).2.2 ≠ "at FIND_LEVEL") :
    ¬ Key.lt (keyOf sh.heap ((stepThread sh th).2.1.iter it).curr) (keyOf sh.heap (th.iter it).curr) := by
  have hp := hT.pc
  rw [hpc] at hp
  have hc : ContInv sh.heap th fp.item fp.cont := hp.1.cont
  have hkey : keyOf sh.heap (th.iter it).curr = .fin fp.item := by
    rcases hcont with h | h <;> (rw [h] at hc; simpa only [ContInv] using hc)
  rw [hkey]
  exact (C15_seek_ge_partial hT fp rr it hpc (by rcases hcont with h | h <;> simp [h]) hret).2

/-- a refresh (automatic at the end of `Next`, or the explicit `Refresh`) seeks the item now under the cursor: the
    segment parked at ITER_REFRESH starts a search for the key of the current position.  That the automatic one comes
    after the cursor has moved is `C15_monotone_partial` (its segment may end at ITER_REFRESH with the new position). -/
theorem C15_refresh_after_step {sh : Shared} {th : Thread} (hT : TInv sh.heap th) (it : Nat)
    (hpc : th.pc = .iterRefresh it) :
    ∃ fp, (stepThread sh th).2.1.pc = .findLevel fp ∧ fp.cont = .iterRefresh it ∧
      keyOf sh.heap (th.iter it).curr = .fin fp.item := by
  have hp := hT.pc
  rw [hpc] at hp
  obtain ⟨k, hk⟩ := hp
  rw [stepThread_iterRefresh hpc]
  exact ⟨_, rfl, rfl, by rw [hk]; rfl⟩

/-- `Seek x` lands on an item ≥ x WITH NO STABLE ITEM IN BETWEEN (and so do the re-search of `Next` and the Seek of
    `Refresh`): every node that was published before this findPath call started, is still unmarked at level 0 and
    has a key ≥ x is the landing position itself or has a larger key than it.  `HInv`, `TInv`, `SInv` hold in every
    reachable state. -/
theorem C15_seek_no_stable_between {sh : Shared} {th : Thread} (H : HInv sh.heap) (hT : TInv sh.heap th)
    (hS : SInv sh.heap th) (fp : FP) (rr : Bool) (it : Nat)
    (hpc : th.pc = .findNext fp rr)
    (hcont : fp.cont = .iterSeek it ∨ fp.cont = .iterNext it ∨ fp.cont = .iterRefresh it)
    (hret : (stepThread sh th).2.2 ≠ "at HELP_DELETE" ∧ (stepThread sh th).2.2 ≠ "at FIND_NEXT" ∧
            (stepThread sh th).2.2 ≠ "at FIND_LEVEL") :
    ∀ n, n < fp.startLen → unmarked0 sh.heap n → ¬ Key.lt (keyOf sh.heap n) (.fin fp.item) →
      n = ((stepThread sh th).2.1.iter it).curr ∨
      Key.lt (keyOf sh.heap ((stepThread sh th).2.1.iter it).curr) (keyOf sh.heap n) := by
  have hp := hT.pc
  have hS := hS.at hpc
  rw [hpc] at hp
  obtain ⟨c, hc, hi0, ha, _, h2⟩ := iter_search_ends hT hpc hcont hret
  rw [h2]
  exact fun n hn hu hk => search_end H hp hS hc hi0 n ⟨hn, hu, hk⟩

/-! ### non-vacuity: concrete runs (kernel-checked TESTS) -/

/-- 3 and 5 inserted; iterator 1 of thread 0 sits on 3 and is parked at ITER_NEXT -/
def iterActs : List Action :=
  [.start 0 (.ins 3 0), .step 0, .step 0, .step 0,
   .start 0 (.ins 5 0), .step 0, .step 0, .step 0, .step 0,
   .start 0 (.itFirst 1), .start 0 (.itNext 1)]

def iterDemo : Sys := (Sys.init 1).run iterActs

example : ∃ th, iterDemo.threads[0]? = some th ∧ th.pc = .iterNext 1 ∧
    keyOf iterDemo.sh.heap (th.iter 1).curr = .fin 3 ∧ (stepThread iterDemo.sh th).2.1.pc = .idle ∧
    keyOf iterDemo.sh.heap ((stepThread iterDemo.sh th).2.1.iter 1).curr = .fin 5 :=
  ⟨_, rfl, rfl, by decide, rfl, by decide⟩

/-- Seek(4) on the same list, parked before the last read at level 0 -/
def seekDemo : Sys := (Sys.init 1).run (iterActs.take 9 ++ [.start 0 (.itSeek 2 4), .step 0, .step 0])

example : ∃ th fp, seekDemo.threads[0]? = some th ∧ th.pc = .findNext fp false ∧ fp.cont = .iterSeek 2 ∧
    fp.item = 4 ∧ (stepThread seekDemo.sh th).2.2 = "ret 5" :=
  ⟨_, _, rfl, rfl, rfl, rfl, by decide⟩

/-- the refresh path: interval 1 on the iterator of `iterDemo`; its Next moves 3 → 5 and parks at ITER_REFRESH -/
def refreshDemo : Sys := (Sys.init 1).run (iterActs.take 10 ++ [.start 0 (.itInterval 1 1), .start 0 (.itNext 1)])

example : ∃ th, refreshDemo.threads[0]? = some th ∧ th.pc = .iterNext 1 ∧
    (stepThread refreshDemo.sh th).2.2 = "at ITER_REFRESH" ∧
    (stepThread refreshDemo.sh th).2.1.pc = .iterRefresh 1 ∧
    keyOf refreshDemo.sh.heap ((stepThread refreshDemo.sh th).2.1.iter 1).curr = .fin 5 :=
  ⟨_, rfl, rfl, by decide, rfl, by decide⟩

end NitroVerif.SkipConc
