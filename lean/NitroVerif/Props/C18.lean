import NitroVerif.Lemmas.SkipSeqBuildRun
import NitroVerif.Lemmas.SkipSeqAssemble
import NitroVerif.Lemmas.SkipSeqMergeRun
import NitroVerif.Props.C14
/-!
  C18 — "Assembling segments that were filled (possibly concurrently) with ascending items yields a
  skiplist whose content is exactly the concatenation of the segments in order, with correct
  statistics, and which supports all later operations like an incrementally built one.  A merge
  iterator over several skiplists yields exactly the sorted multiset union of their contents, and
  SeekFirst or Seek, called at any point of a scan, repositions it at the smallest item (respectively
  the smallest item >= the target) across all inputs."

  Model: `Segment.Add`, `Builder.Assemble` and the merge iterator of M3 (`Model/SkipSeq.lean`), as
  coded.  "Filled possibly concurrently": the filling history is an arbitrary interleaving of
  `NewSegment` / `Segment.Add` calls on the shared store (`BOp`), each call atomic — `Segment.Add`
  touches only its own segment, the store's level word and the allocator (the index of the new cell);
  that it writes no cell of another segment is `C05_loaders_touch_own_segment` in `Props/C05load`.  `container/heap` is abstracted to
  extract-min on a list (trusted).
-/
namespace NitroVerif.Props.C18
open NitroVerif.SkipSeq NitroVerif.OrdSet

/-- The filling phase: after ANY script of `NewSegment` / `Segment.Add` calls (any level requests,
    any interleaving between segments) the executable state is the erasure of a consistent annotated
    state in which segment `i` holds exactly the keys added to it, in call order. -/
theorem C18_fill (ops : List BOp) :
    let g := grun (SL.init, []) ops
    (g.1, g.2.map (·.1)) = brun (SL.init, []) ops ∧ BuildOK g.1 g.2 ∧
    ∀ i, ((g.2.map (·.2)).getD i []).map (ikey g.1.nodes) = addedKeys i 0 ops := by
  intro g
  rcases grun_ok ops (SL.init, []) buildOK_init with ⟨hb, hk⟩
  refine ⟨by simpa using grun_erase ops (SL.init, []), hb, ?_⟩
  intro i
  have := hk i
  simp only [segKeys, List.getElem?_nil, Option.map_none, Option.getD_none, List.nil_append, List.length_nil] at this
  rw [← this, List.getD_eq_getElem?_getD, List.getElem?_map]
  cases g.2[i]? <;> rfl

/-- C18, assembling: for every filling history and every selection of distinct segments in any order
    (empty segments anywhere, all heights):
    * the walk of every level `l` of the assembled list is the concatenation of the selected
      segments' nodes of height `≥ l`, in segment order;
    * the statistics are the sums over the segments (allocations, per-height distribution) with no
      soft deletes and no frees;
    * if the concatenated keys are strictly ascending the result is well-formed (`WF`, C14) and every
      later script of operations behaves exactly as the ordered set that starts from those keys. -/
theorem C18_assemble (ops : List BOp) (sel : List (Segment × List Nat))
    (hsel : ∃ sub, sub.Sublist (grun (SL.init, []) ops).2 ∧ sel.Perm sub) :
    let st := grun (SL.init, []) ops
    let s' := (assemble st.1 (sel.map (·.1))).1
    (∀ l, l ≤ Gen.maxLevel → walkLevel s' l = some (LL s'.nodes (allNodes sel) l)) ∧
    (s'.stats.nodeAllocs = st.1.stats.nodeAllocs + ((allNodes sel).length : Int) ∧
     (∀ g, g ≤ Gen.maxLevel →
        s'.stats.levelNodesCount.getD g 0 = (cntLevel s'.nodes (allNodes sel) g : Int)) ∧
     s'.stats.softDeletes = 0 ∧ s'.stats.nodeFrees = 0) ∧
    ((allNodes sel).Pairwise (fun a c => ikey s'.nodes a < ikey s'.nodes c) →
      WF s' ∧
      ∀ later : List Op,
        (run { sl := s', handles := [] } later).2
          = (specRun { set := (allNodes sel).map (ikey s'.nodes), handles := [] } later).2) := by
  intro st s'
  have hb0 := (grun_ok ops (SL.init, []) buildOK_init).1
  have hb : BuildOK st.1 sel := hb0.select hsel
  have hsh : SameShape st.1.nodes s'.nodes := assemble_shape _ _
  rcases assemble_stats hb with ⟨hst, hal⟩
  refine ⟨fun l hl => ?_, ⟨hal, hst.dist, hst.soft, hst.frees⟩, fun hsorted => ?_⟩
  · rw [hsh.LL_eq]
    exact assemble_walk hb hl
  · have hrep : Rep s' (allNodes sel) := assemble_rep hb (hsh.ikey_eq ▸ hsorted)
    exact ⟨hrep.wf, rep_continues hrep rfl⟩

/-- C18, merging: take skiplists `sls` in any quiescent well-formed state (list `i` represents the node
    list `Ls[i]`), a fresh merge iterator over them, and ANY script of `SeekFirst` / `Seek` / `Next`
    calls.  From the state reached:
    * `SeekFirst` followed by a full scan yields exactly the sorted multiset union of all inputs, so
      in particular it repositions at the smallest item across all inputs;
    * `Seek x` reports whether some input holds `x`, and a scan from there yields exactly the sorted
      multiset union of the items `≥ x` of all inputs, so it repositions at the smallest item `≥ x`. -/
theorem C18_merge (sls : List SL) (Ls : List (List Nat)) (hl : Ls.length = sls.length)
    (hr : ∀ i, i < sls.length → Rep (sls.getD i SL.init) (Ls.getD i [])) (script : List MOp) (x : Int) :
    let m := mrun (MergeIt.new sls) script
    let all := keysOf sls Ls
    let geq := all.map fun l => l.filter fun k => decide (x ≤ k)
    (mergeScan (all.flatten.length + 1) (mergeSeekFirst m) = (mergeAll all).map Key.item ∧
     (mergeSeekFirst m).key = ((mergeAll all).head?).map Key.item) ∧
    (mergeScan (geq.flatten.length + 1) (mergeSeek m (.item x)).1 = (mergeAll geq).map Key.item ∧
     (mergeSeek m (.item x)).1.key = ((mergeAll geq).head?).map Key.item ∧
     ((mergeSeek m (.item x)).2 = true ↔ ∃ l ∈ all, x ∈ l)) := by
  intro m all geq
  have r : RInv (MergeIt.new sls) m Ls := RInv.run script _ (RInv.init hl hr)
  rcases r.inv with ⟨k0, rem0, st, _⟩
  have hkeys : ∀ {m1 : MergeIt}, SameLists m m1 → ∀ rem, keysOf m1.sls rem = keysOf sls rem :=
    fun h rem => keysOf_congr (r.same.trans h).len (r.same.trans h).nodes rem
  refine ⟨?_, ?_⟩
  · rcases mergeSeekFirst_spec st with ⟨m1, he, inv, hs⟩
    have := scan_of_inv inv
    rwa [hkeys hs Ls, ← he] at this
  · rcases mergeSeek_spec st x with ⟨m1, he, inv, hs, hf⟩
    have hk0 : keysOf sls (seekTarget m Ls x) = geq := by
      have h1 := keysOf_seekTarget m Ls x
      have h2 := hkeys (SameLists.refl m)
      rw [h2, h2] at h1
      exact h1
    have := scan_of_inv inv
    rw [hkeys hs (seekTarget m Ls x), hk0, ← he] at this
    refine ⟨this.1, this.2, ?_⟩
    · rw [hf]
      have hall : all = keysOf m.sls Ls := (hkeys (SameLists.refl m) Ls).symm
      rw [hall]
      constructor
      · rintro ⟨j, hj, hx⟩
        exact ⟨_, (mem_keysOf_iff st.lenL _).mpr ⟨j, hj, rfl⟩, hx⟩
      · rintro ⟨l, hl', hx⟩
        rcases (mem_keysOf_iff st.lenL l).mp hl' with ⟨j, hj, rfl⟩
        exact ⟨j, hj, hx⟩

/-- the sorted multiset union is ascending and a permutation of the concatenated inputs -/
theorem mergeAll_is_sorted_union (ls : List (List Int)) (h : ∀ l ∈ ls, AscLe l) :
    AscLe (mergeAll ls) ∧ (mergeAll ls).Perm ls.flatten :=
  ⟨mergeAll_sorted ls h, mergeAll_perm ls⟩

/-- every list produced by a script of operations is a legitimate input of `C18_merge` -/
theorem merge_input_of_run (ops : List Op) : ∃ L, Rep (run St.init ops).1.sl L := by
  rcases (run_sim ops St.init SpecSt.init [] sim_init).2.1 with ⟨L, hs⟩
  exact ⟨L, hs.rep⟩

/-- the hypotheses of `C18_merge` are satisfiable by three lists (one empty, one key shared) -/
example :
    let sls := [(run St.init [.ins 1 0, .ins 5 1, .ins 9 2]).1.sl, (run St.init []).1.sl,
                (run St.init [.ins 2 0, .ins 5 1, .ins 7 2, .ins 11 0]).1.sl]
    ∃ Ls : List (List Nat), Ls.length = sls.length ∧
      ∀ i, i < sls.length → Rep (sls.getD i SL.init) (Ls.getD i []) := by
  intro sls
  rcases merge_input_of_run [.ins 1 0, .ins 5 1, .ins 9 2] with ⟨L1, h1⟩
  rcases merge_input_of_run [] with ⟨L2, h2⟩
  rcases merge_input_of_run [.ins 2 0, .ins 5 1, .ins 7 2, .ins 11 0] with ⟨L3, h3⟩
  refine ⟨[L1, L2, L3], by simp only [sls, List.length_cons, List.length_nil], ?_⟩
  intro i hi
  match i, (hi : i < 3) with
  | 0, _ => simpa only [sls, List.getD_cons_zero] using h1
  | 1, _ => simpa only [sls, List.getD_cons_zero, List.getD_cons_succ] using h2
  | 2, _ => simpa only [sls, List.getD_cons_zero, List.getD_cons_succ] using h3
  | n + 3, h => exact absurd h (Nat.not_lt_of_le (Nat.le_add_left 3 n))

/-- …and on them: a scan, a re-seek in mid-scan, `SeekFirst` again (a test by evaluation) -/
example :
    let sls := [(run St.init [.ins 1 0, .ins 5 1, .ins 9 2]).1.sl, (run St.init []).1.sl,
                (run St.init [.ins 2 0, .ins 5 1, .ins 7 2, .ins 11 0]).1.sl]
    let m := mrun (MergeIt.new sls) [.first, .next, .next, .seek 6, .next]
    (m.key, mergeScan 10 (mergeSeekFirst m), mergeScan 10 (mergeSeek m (.item 5)).1, (mergeSeek m (.item 6)).2)
      = (some (.item 9),
         [.item 1, .item 2, .item 5, .item 5, .item 7, .item 9, .item 11],
         [.item 5, .item 5, .item 7, .item 9, .item 11], false) := by decide +kernel

set_option maxRecDepth 20000 in
/-- the assembled list of the C14 example, used afterwards like an incrementally built one -/
example :
    let st := brun (SL.init, []) [.new, .new, .new, .add 0 1 0, .add 0 2 3, .add 2 5 1, .add 2 6 0, .add 2 7 2]
    let s := (assemble st.1 st.2).1
    (run { sl := s, handles := [] } [.ins 4 1, .del 2, .look 5, .iter]).2
      = [.bool true, .bool true, .bool true, .keys [.item 1, .item 4, .item 5, .item 6, .item 7]] :=
  C14.threeSegments_facts.2

end NitroVerif.Props.C18
