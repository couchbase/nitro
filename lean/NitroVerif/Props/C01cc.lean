import NitroVerif.Lemmas.MvccConcScan
/-!
  # C01 (snapshot isolation) for a reader that runs CONCURRENTLY with writers, closes, collection and free jobs

  Model: the small-step MVCC machine `Model/MvccConc.lean` (threads = writers and readers; yield points inside
  Put / Delete / DeleteNode / the collector / collection and free jobs and at ITER_NEXT of a reader's iterator;
  every skiplist operation is one atomic action).  Everything below is for EVERY schedule of EVERY number of
  writers and readers.

  Vocabulary (definitions in `Lemmas/MvccConcView.lean`, `Lemmas/MvccConcDelivered.lean`, `Lemmas/MvccConcLanding.lean`;
  `closingB` in `Lemmas/MvccConcIterClose.lean`, `curOf` in `Lemmas/MvccConcAct.lean`):
  * `viewOf σ sn` — the versions of `σ.store` that the reader's `skipUnwanted` test (`Gen.skipUnwanted`, through
    `Mvcc.visible`) does not skip for snapshot number `sn`, in store order, each without its mutable death mark
    (`Ver.norm`): key, value, birth epoch.
  * `openSn σ sn` — snapshot `sn` is in the table with a positive reference count.  A snapshot whose creation
    reference has not been closed is open (`C01_conc_open_of_handle`); so is the snapshot of every iterator that
    has not begun its `Close` (`C01_conc_open_of_iterator`; `closingB` is true exactly while the iterator's thread
    is parked in the collector inside `Iterator.Close`, after `Snapshot.Close` has given the reference back).
  * `deliveredVers t i σ sched` — the versions handed to the user of iterator `i` of reader thread `t` along
    `sched` from `σ`: key and value as answered (`ret <k:v>`), birth epoch of the node the cursor then stands on.
    `delivered t i σ sched` (C01c) is its projection to `(key, bornSn)` (`delivered_map`).
  * `scanEnded t i σ sched` — one of the iterator's own actions along `sched` answered `end`.
  * `upTo V cur` — the part of `V` at or below cursor `cur` in the store order; all of `V` for `cur = none`.
-/
namespace NitroVerif.Props.C01cc
open NitroVerif NitroVerif.MvccConc
open NitroVerif.Mvcc (Ver visible)

/-- **C01_conc_view_fixed.**  In every reachable state, for every action `a` of any thread or job (Put and
    Delete segments, NewSnapshot, Close of any snapshot or iterator, the collector, collection-job and free-job
    steps, other readers, shutdown) and every snapshot number `sn` that is open before the action: the versions
    visible to `sn` are the same list before and after.  (A Put links a version born in the current epoch, a
    cross-epoch Delete stamps the current epoch as death mark, a same-epoch Delete unlinks a version born in the
    current epoch, and a collection job unlinks only versions that died at or below `lastGCSn`, which is below
    every open snapshot because snapshots are collected strictly in order: none of these is seen by `sn`.) -/
theorem C01_conc_view_fixed {fx : Bool} {nw nr : Nat} {σ : State} (hr : ReachableFx fx nw nr σ) (a : Act) (sn : Nat)
    (ho : openSn σ sn) : viewOf (step σ a).1 sn = viewOf σ sn :=
  view_step hr a ho

/-- `sn` is open in every state a schedule passes through (the last one excepted) -/
def openAlong (sn : Nat) : State → List Act → Prop
  | _, [] => True
  | σ, a :: as => openSn σ sn ∧ openAlong sn (step σ a).1 as

/-- the same along a whole schedule: as long as the snapshot is open, its content does not change -/
theorem C01_conc_view_fixed_run {fx : Bool} {nw nr : Nat} (sn : Nat) : ∀ (sched : List Act) {σ : State},
    ReachableFx fx nw nr σ → openAlong sn σ sched → viewOf (run σ sched) sn = viewOf σ sn
  | [], _, _, _ => rfl
  | a :: as, σ, hr, ho => by
    show viewOf (run (step σ a).1 as) sn = _
    rw [C01_conc_view_fixed_run sn as (ReachableFx.step a hr) ho.2, C01_conc_view_fixed hr a sn ho.1]

/-- an iterator that has not begun its `Close` keeps its snapshot open -/
theorem C01_conc_open_of_iterator {fx : Bool} {nw nr : Nat} {σ : State} (hr : ReachableFx fx nw nr σ) {t i : Nat}
    {it : Iter} (hf : findIter (t, i) σ.iters = some it) (hc : closingB σ.threads (t, i) = false) :
    openSn σ it.sn :=
  open_of_iter (rinv_reachable hr).iter (rinv_reachable hr).ref (findIter_some hf) hc

/-- a snapshot whose creation reference has not been closed is open -/
theorem C01_conc_open_of_handle {fx : Bool} {nw nr : Nat} {σ : State} (hr : ReachableFx fx nw nr σ) {s : Snap}
    (hs : s ∈ σ.snaps) (hh : s.held = true) : openSn σ s.sn :=
  open_of_held (rinv_reachable hr).ref hs hh

/-- the collector frontier lies below every open snapshot (in-order collection), the epoch above -/
theorem C01_conc_open_bounds {fx : Bool} {nw nr : Nat} {σ : State} (hr : ReachableFx fx nw nr σ)
    (hd : σ.down = false) {sn : Nat} (ho : openSn σ sn) : σ.lastGCSn < sn ∧ sn < σ.currSn :=
  open_facts (inv_reachable hr hd) (rinv_reachable hr).front ho

/-- what a collection job may still unlink is dead at or below the frontier, hence invisible to every open
    snapshot -/
theorem C01_conc_collector_frontier {fx : Bool} {nw nr : Nat} {σ : State} (hr : ReachableFx fx nw nr σ)
    (hd : σ.down = false) {n : Nat} (hn : n ∈ garbJ σ.gcJobs) {x : Node} (hx : x ∈ σ.store) (hid : x.id = n)
    {sn : Nat} (ho : openSn σ sn) : visible sn x.ver = false :=
  garbJ_invisible (inv_reachable hr hd) (rinv_reachable hr).front hn hx hid ho

/-- **C01_conc_one_version_per_key.**  In every reachable state (shut down or not) and for every snapshot
    number: two linked versions of one key are never both visible to it; hence the view is strictly increasing
    in KEY. -/
theorem C01_conc_one_version_per_key {fx : Bool} {nw nr : Nat} {σ : State} (hr : ReachableFx fx nw nr σ) (sn : Nat) :
    (∀ a ∈ vers σ.store, ∀ b ∈ vers σ.store, visible sn a = true → visible sn b = true → a.key = b.key → a = b) ∧
    (viewOf σ sn).Pairwise (fun a b => a.key < b.key) := by
  have ⟨hs, hc⟩ := store_facts_reachable hr
  refine ⟨?_, ?_⟩
  · intro a ha b hb hva hvb hk
    exact Mvcc.sorted_id_unique hs ha hb hk (Mvcc.visible_unique hc ha hb hva hvb hk)
  · exact viewOf_keys hr sn

/-- the snapshot number of iterator `(t, i)` (0 if there is none) -/
def snOf (σ : State) (t i : Nat) : Nat := ((findIter (t, i) σ.iters).map (·.sn)).getD 0

/-- **C01_conc_scan_prefix.**  Code as it is.  From any reachable state `σ`: iterator `i` of reader `t` starts a
    scan with an accepted `it_first` (the thread is an idle reader and the iterator exists); `scan` is any
    schedule of all threads and jobs that contains no further `it_first` and no `it_close` of this iterator.  Then
    at the end of `scan` (that is: at every point of a scan)
    * the list of versions handed out so far — keys, values, birth epochs — is exactly the part of the view of the
      iterator's snapshot, as it was at `it_first`, at or below the cursor (each such version once, in store
      order); it is the whole view once the cursor is gone;
    * that view is still the view in the current state. -/
theorem C01_conc_scan_prefix {nw nr : Nat} {σ : State} (hr : Reachable nw nr σ) (scan : List Act) (t i : Nat)
    (hacc : (step σ (.itFirst t i)).2 ≠ .bad) (hno : Act.itFirst t i ∉ scan) (hnc : Act.itClose t i ∉ scan) :
    deliveredVers t i σ (.itFirst t i :: scan) =
        upTo (viewOf σ (snOf σ t i)) (curOf (run σ (.itFirst t i :: scan)) t i) ∧
      viewOf (run σ (.itFirst t i :: scan)) (snOf σ t i) = viewOf σ (snOf σ t i) ∧
      (scanEnded t i σ (.itFirst t i :: scan) = true → curOf (run σ (.itFirst t i :: scan)) t i = none) := by
  obtain ⟨it, c1, hf, hs1, hu1, he1⟩ := scan_first hr hacc
  have hsn : snOf σ t i = it.sn := by unfold snOf; rw [hf]; rfl
  obtain ⟨c2, hu2, hrest⟩ := scan_run scan (ReachableFx.step (.itFirst t i) hr) hs1 hno
  obtain ⟨hs2, hk2⟩ := hrest hnc
  have hcur : curOf (run σ (.itFirst t i :: scan)) t i = c2 := by
    obtain ⟨it2, hf2, _, hc2⟩ := hs2.it_ex
    show curOf (run (step σ (.itFirst t i)).1 scan) t i = c2
    exact (curOf_eq hf2).trans hc2
  rw [hsn, hcur]
  refine ⟨?_, hs2.view, ?_⟩
  · show (deliveredVerBy σ (.itFirst t i) t i).toList ++ deliveredVers t i (step σ (.itFirst t i)).1 scan = _
    rw [hu2, hu1]
  · intro hend
    apply hk2
    simp only [scanEnded, Bool.or_eq_true] at hend
    rcases hend with h | h
    · exact Or.inl (he1 h)
    · exact Or.inr h

/-- **C01_conc_scan_complete.**  Code as it is, any number of writers and readers, every schedule.  A scan of
    iterator `i` of reader `t` (an accepted `it_first`, then `it_next` calls with arbitrary actions of all other
    threads, collectors, collection jobs and free jobs in between — Puts, Deletes and re-inserts of keys around
    the cursor, unlinking of the node under the cursor included —, no second `it_first`, the iterator not closed)
    that has answered `end` has delivered EXACTLY the view of its snapshot as it was at `it_first` (equivalently,
    by `C01_conc_scan_prefix`, as it is in any state during the scan): every visible version once, in comparator
    order, with the value it had. -/
theorem C01_conc_scan_complete {nw nr : Nat} {σ : State} (hr : Reachable nw nr σ) (scan : List Act) (t i : Nat)
    (hacc : (step σ (.itFirst t i)).2 ≠ .bad) (hno : Act.itFirst t i ∉ scan) (hnc : Act.itClose t i ∉ scan)
    (hend : scanEnded t i σ (.itFirst t i :: scan) = true) :
    deliveredVers t i σ (.itFirst t i :: scan) = viewOf σ (snOf σ t i) := by
  obtain ⟨h1, _, h3⟩ := C01_conc_scan_prefix hr scan t i hacc hno hnc
  rw [h1, h3 hend]; rfl

/-- the same for `delivered` (keys and birth epochs) -/
theorem C01_conc_scan_complete_kb {nw nr : Nat} {σ : State} (hr : Reachable nw nr σ) (scan : List Act) (t i : Nat)
    (hacc : (step σ (.itFirst t i)).2 ≠ .bad) (hno : Act.itFirst t i ∉ scan) (hnc : Act.itClose t i ∉ scan)
    (hend : scanEnded t i σ (.itFirst t i :: scan) = true) :
    delivered t i σ (.itFirst t i :: scan) = (viewOf σ (snOf σ t i)).map (fun v => (v.key, v.born)) := by
  rw [delivered_map, C01_conc_scan_complete hr scan t i hacc hno hnc hend]

/-- the same from the initial state: any schedule `pre`, then the scan -/
theorem C01_conc_scan_complete_from_init (nw nr : Nat) (pre scan : List Act) (t i : Nat)
    (hacc : (step (run (init nw nr true) pre) (.itFirst t i)).2 ≠ .bad)
    (hno : Act.itFirst t i ∉ scan) (hnc : Act.itClose t i ∉ scan)
    (hend : scanEnded t i (run (init nw nr true) pre) (.itFirst t i :: scan) = true) :
    deliveredVers t i (run (init nw nr true) pre) (.itFirst t i :: scan) =
      viewOf (run (init nw nr true) pre) (snOf (run (init nw nr true) pre) t i) :=
  C01_conc_scan_complete (reachable_run .init pre) scan t i hacc hno hnc hend

/-- **C01_conc_scan_keys_increasing.**  The keys handed out by a scan (accepted `it_first`, then no `it_first` and
    no `it_close` of the iterator) are strictly increasing, whatever the other threads and jobs do. -/
theorem C01_conc_scan_keys_increasing {nw nr : Nat} {σ : State} (hr : Reachable nw nr σ) (scan : List Act) (t i : Nat)
    (hacc : (step σ (.itFirst t i)).2 ≠ .bad) (hno : Act.itFirst t i ∉ scan) (hnc : Act.itClose t i ∉ scan) :
    (deliveredVers t i σ (.itFirst t i :: scan)).Pairwise (fun a b => a.key < b.key) ∧
    (delivered t i σ (.itFirst t i :: scan)).Pairwise (fun a b => a.1 < b.1) := by
  have h := deliveredVers_keys_first hr scan t i hno
  exact ⟨h, delivered_keys h⟩

/-- **C01_conc_keys_increasing_any.**  Code as it is.  From ANY reachable state and along ANY schedule that contains
    no `it_first` of iterator `(t, i)` — a stretch of a scan begun earlier, with or without an `it_close` of the
    iterator on the way, the iterator existing or not —: the keys handed out by the iterator are strictly
    increasing. -/
theorem C01_conc_keys_increasing_any {nw nr : Nat} {σ : State} (hr : Reachable nw nr σ) (sched : List Act) (t i : Nat)
    (hno : Act.itFirst t i ∉ sched) :
    (deliveredVers t i σ sched).Pairwise (fun a b => a.key < b.key) ∧
    (delivered t i σ sched).Pairwise (fun a b => a.1 < b.1) := by
  have h := deliveredVers_keys hr sched t i hno
  exact ⟨h, delivered_keys h⟩

/-- **C01_conc_scan_keys_increasing_full.**  From the initial state: any schedule `pre`, then `it_first` (accepted
    or not), then any schedule `scan` without a further `it_first` of this iterator (an `it_close` of it is
    allowed): the delivered keys are strictly increasing. -/
theorem C01_conc_scan_keys_increasing_full (nw nr : Nat) (pre scan : List Act) (t i : Nat)
    (hno : Act.itFirst t i ∉ scan) :
    ((delivered t i (run (init nw nr true) pre) (.itFirst t i :: scan)).map (·.1)).Pairwise (· < ·) := by
  rw [List.pairwise_map]
  exact delivered_keys (deliveredVers_keys_first (reachable_run .init pre) scan t i hno)

/-- **C01_conc_count.**  `Count()` of an open snapshot (the item count recorded at its creation) is the length
    of its view — in every reachable state, for as long as the snapshot is open. -/
theorem C01_conc_count {fx : Bool} {nw nr : Nat} {σ : State} (hr : ReachableFx fx nw nr σ) {s : Snap}
    (hs : s ∈ σ.snaps) (ho : 0 < s.rc) : s.count = ((viewOf σ s.sn).length : Nat) :=
  (rinv_reachable hr).count s hs ho

/-- the count answered by `NewSnapshot` is the length of the view of the new snapshot -/
theorem C01_conc_count_at_creation {fx : Bool} {nw nr : Nat} {σ : State} (hr : ReachableFx fx nw nr σ) {sn : Nat}
    {c : Int} (h : (step σ .snap).2 = .snap sn c) : c = ((viewOf (step σ .snap).1 sn).length : Nat) := by
  have hr' := ReachableFx.step .snap hr
  have hc := step_cases σ .snap
  generalize step σ .snap = p at h hr' hc ⊢
  cases hc with
  | refuse => cases h
  | snap =>
    cases h
    exact (rinv_reachable hr').count _ (List.mem_append_right _ List.mem_cons_self) Int.one_pos

/-! ## non-vacuity (tests: concrete schedules evaluated by the kernel)

  One writer (thread 0), one reader (thread 1).  Epoch 1: Put 4 and Delete 4 (same epoch: unlinked, flushed, a
  free job is queued), Put 5, 7, 9; snapshot 1.  Epoch 2: Delete 7 (death
  mark 2), Put 7 again (a second version of key 7, born 2); snapshot 2 (its garbage list names the old version of
  7).  Snapshot 3; the reader opens iterator 0 on snapshot 3.  Snapshots 1 and 2 are closed and collected: job
  `gc1` will unlink the old version of 7.

  The scan: `it_first` delivers 5; `Next` steps onto the old version of 7 (invisible to snapshot 3) and parks at
  ITER_NEXT standing on it; the collection job unlinks that very node; the writer deletes 9 (death mark 4: still
  visible to snapshot 3), inserts and physically deletes key 6 (born in epoch 4), re-inserts 9 (born 4); the
  reader goes on: re-seek from the unlinked node lands on the new version of 7, then the old version of 9, skips
  the new version of 9, `end`. -/

def preSched : List Act :=
  [.put 0 4 0, .step 0, .del 0 4, .step 0, .step 0,
   .put 0 5 0, .step 0, .put 0 7 0, .step 0, .put 0 9 0, .step 0, .snap,
   .del 0 7, .step 0, .put 0 7 1, .step 0, .snap, .snap, .itNew 1 0 3,
   .close 0 1, .step 0, .close 0 2, .step 0]

def scanSched : List Act :=
  [.itNext 1 0, .step 1,            -- onto the old version of 7: skipped, parked at ITER_NEXT on it
   .gc 0, .gc 0, .gc 0,             -- the job of snapshot 1 (nothing to unlink)
   .gc 1, .gc 1,                    -- the job of snapshot 2 unlinks the node under the cursor
   .del 0 9, .step 0,               -- cross-epoch delete of a key ahead of the cursor
   .put 0 6 0, .step 0, .del 0 6, .step 0, .step 0,   -- insert and physical delete ahead of the cursor
   .put 0 9 2, .step 0,             -- re-insert
   .step 1,                         -- re-seek from the unlinked node: the new version of 7
   .gc 1, .gc 1, .fr 0, .fr 0,      -- flush; a free job (the node of key 4) runs
   .itNext 1 0, .step 1,            -- the old version of 9 (deleted in epoch 4: visible to snapshot 3)
   .itNext 1 0, .step 1, .step 1]   -- the new version of 9 is skipped; end

/-- the hypotheses of `C01_conc_scan_complete` hold of this schedule, and its conclusion is this list -/
example :
    (step (run (init 1 1 true) preSched) (.itFirst 1 0)).2 ≠ .bad ∧
    Act.itFirst 1 0 ∉ scanSched ∧ Act.itClose 1 0 ∉ scanSched ∧
    scanEnded 1 0 (run (init 1 1 true) preSched) (.itFirst 1 0 :: scanSched) = true ∧
    snOf (run (init 1 1 true) preSched) 1 0 = 3 ∧
    deliveredVers 1 0 (run (init 1 1 true) preSched) (.itFirst 1 0 :: scanSched) =
      [⟨5, 0, 1, 0⟩, ⟨7, 1, 2, 0⟩, ⟨9, 0, 1, 0⟩] ∧
    viewOf (run (init 1 1 true) preSched) 3 = [⟨5, 0, 1, 0⟩, ⟨7, 1, 2, 0⟩, ⟨9, 0, 1, 0⟩] := by decide +kernel

/-- during the scan the store really changed under the reader (the old version of 7 unlinked by the collection
    job, 9 deleted and re-inserted) — and the view of snapshot 3 is the same -/
example :
    (vers (run (init 1 1 true) preSched).store).map (fun v => (v.key, v.born, v.dead)) =
      [(5, 1, 0), (7, 1, 2), (7, 2, 0), (9, 1, 0)] ∧
    (vers (run (init 1 1 true) (preSched ++ .itFirst 1 0 :: scanSched)).store).map (fun v => (v.key, v.born, v.dead)) =
      [(5, 1, 0), (7, 2, 0), (9, 1, 4), (9, 4, 0)] ∧
    viewOf (run (init 1 1 true) (preSched ++ .itFirst 1 0 :: scanSched)) 3 =
      viewOf (run (init 1 1 true) preSched) 3 := by decide +kernel

/-- snapshot 3 is open throughout (non-vacuity of `C01_conc_view_fixed`): its reference count is 2 (handle and
    iterator), and `Count()` is 3 -/
example : ((run (init 1 1 true) preSched).snaps.map (fun s => (s.sn, s.rc, s.count))) =
    [(1, 0, 3), (2, 0, 3), (3, 2, 3)] := by decide +kernel

/-- a scan cut short by `it_close` (allowed in `C01_conc_keys_increasing_any` / `C01_conc_scan_keys_increasing_full`):
    what was delivered before stays, nothing is delivered afterwards -/
example :
    delivered 1 0 (run (init 1 1 true) preSched)
      [.itFirst 1 0, .itNext 1 0, .step 1, .gc 1, .gc 1, .step 1, .itClose 1 0, .itNext 1 0, .step 1] =
      [(5, 1), (7, 2)] := by decide +kernel

end NitroVerif.Props.C01cc
