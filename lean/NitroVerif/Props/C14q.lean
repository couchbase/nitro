import NitroVerif.Lemmas.SkipConcQuiet
import NitroVerif.Lemmas.SkipConcLevelsPath
/-!
  C14 on the CONCURRENT model M5 (`Model/SkipConc.lean`), all index levels, in the configuration of /repo
  (`Sys.init`, i.e. `fixedSucc = true`): every interleaving, any number of threads.

  Property C14, verbatim: "Structure and statistics consistent at quiescence: once no operation is in flight, every
  level of the skiplist is a sorted sub-sequence of the level below it that ends at the tail, no deleted (marked)
  node is reachable at any level, every live node is linked at every level up to its height, and the statistics
  (node count, per-level node counts, soft deletes, allocations minus frees) agree with a walk of the structure."

  PROVED HERE, for EVERY reachable state (quiescent or not):
  * `C14_levels_sorted`: the chain of every level `l ≤ MaxLevel` reaches the tail and its keys are STRICTLY ascending
    (no exception is needed: a node is never linked in front of a node with an equal key).
  * `C14_levels_sublist`: the part of the level-`l` chain that is unmarked at level `l - 1` is a SUB-SEQUENCE of the
    level-`(l-1)` chain.  With "unmarked at level 0" instead it is FALSE in intermediate states
    (`C14_levels_sublist_unmarked0_refuted`, a kernel-checked schedule): softDelete marks top-down, so between a
    Delete's level-1 and level-0 marks a search may unlink the node at level 1 while it is still linked at level 2.
    This is transient and harmless (the deleter's cleaning search is still to come).
  * `C14_walk_is_chain`: the walk the driver prints for a level (`walk h l`) is this chain without the head, each
    node shown with its item and its level-`l` mark.
  PROVED HERE, for every QUIESCENT state (`Sys.quiescent`: all threads idle):
  * `C14_quiescent_no_marked_linked`: no node that is marked at level 0 (deleted) — indeed no node that is
    marked at ANY level — is on the chain of any level, and the printed walks of all levels show no mark.
    Invariant: `InvQ.charged` (Lemmas/SkipConcQuiet.lean) with `RespPC` (Lemmas/SkipConcQuietResp.lean).  An inserter
    that links its node at a level at which the node is already marked starts, in the same segment, the unlinking
    search (the re-check after the link in Insert4: without it the charge is lost at exactly this step; the check of
    the recorded successor's mark before the link is what keeps the chains strictly sorted, without it the cleaning
    search stops at the equal-keyed new node in front of the deleted one — the pre-fix witness of Props/C14c.lean).
    Marks above level 0: `InvP.marks`.
  * `C14_quiescent_live_fully_linked`: at quiescence every node that is unmarked at level 0 is
    on the chain of every level up to its height (`InvP.pend`).
  NOT PROVED: that `levelNodesCount`, `softDeletes` and `nodeAllocs - nodeFrees` agree with the
  walk at quiescence.  What is proved about the counters is per segment and per event only: every segment is an event
  of the level-0 core with the matching change of the counters (`stepThread_goodS`, Lemmas/SkipConcStatStep.lean), and
  the level-0 chain as a list loses exactly the unlinked node / gains exactly the published node (`chain0_unlink`,
  `chain0_publish`, Lemmas/SkipConcStatChain.lean).  No invariant relating the counters to the chain along a run
  (softDeletes = marked nodes on the level-0 chain; levelNodesCount[k] + Insert4 calls past their publish with a node of
  height k = chain nodes of height k; nodeAllocs + such calls = nodes ever published) is stated or proved.

  The invariant behind `C14_levels_sorted` and `C14_levels_sublist` is `InvL`
  (Lemmas/SkipConcLevelsSys.lean).  Of the two checks Insert4 makes around its upper-level link, the check of the
  recorded successor's mark before it is what makes "key x < key succ" hold at the upper-level link (without it the
  chain is not strictly sorted); the re-check after it is not needed for these two theorems.
-/
namespace NitroVerif.SkipConc

theorem reachable_invP (n : Nat) (as : List Action) : InvP ((Sys.init n).run as) := run_invP (InvL_init n) (InvP_init n) as

theorem reachable_chains (n : Nat) (as : List Action) :
    HInv ((Sys.init n).run as).sh.heap ∧ ReachInv ((Sys.init n).run as).sh.heap ∧
      LvInv ((Sys.init n).run as).sh.heap :=
  (run_invL (InvL_init n) as).chains

/-- Every reachable state, every level: the chain of level `l` from the head reaches the tail
    within `heap.length` steps, its keys are strictly ascending, and every node on it is a published node other than
    the tail whose height is at least `l`.  (`ns` = the nodes of the chain, the head first, the tail excluded;
    by `PathL.unique` it is the only such list.) -/
theorem C14_levels_sorted (n : Nat) (as : List Action) (l : Nat) (hl : l ≤ Gen.maxLevel) :
    let h := ((Sys.init n).run as).sh.heap
    ∃ ns, PathL h l 0 ns 1 ∧ ns.length ≤ h.length ∧
      ns.Pairwise (fun a b => Key.lt (keyOf h a) (keyOf h b)) ∧
      ∀ a ∈ ns, a < h.length ∧ a ≠ 1 ∧ l ≤ heightOf h a := by
  intro h
  obtain ⟨H, R, L⟩ := reachable_chains n as
  obtain ⟨ns, p⟩ := ((chain_linked R L l).1 hl).toPath
  have hs := (p.sorted (chain_edges_sorted H L l) (.refl _)).1
  have hmem : ∀ a ∈ ns, a < h.length ∧ a ≠ 1 ∧ l ≤ heightOf h a := by
    intro a ha
    obtain ⟨_, hw⟩ := p.mem ha
    obtain ⟨w, hw⟩ := Option.isSome_iff_exists.mp hw
    refine ⟨word?_lt hw, ?_, H.wordLevel _ _ _ hw⟩
    intro e; rw [e, H.tailNoWord] at hw; simp at hw
  refine ⟨ns, p, ?_, hs, hmem⟩
  refine length_le_of_nodup_lt (hs.imp (fun hab e => ?_)) (fun a ha => (hmem a ha).1)
  rw [e] at hab; exact Key.lt_irrefl _ hab

/-- Every reachable state; stated for the index levels `1 ≤ l ≤ MaxLevel`, the proof uses neither bound:
    (1) a node on the level-`l` chain that is unmarked at level `l - 1` is on the level-`(l-1)` chain;
    (2) the nodes of the level-`l` chain that are unmarked at level `l - 1` form a sub-sequence of the level-`(l-1)`
        chain;
    (3) a node on the level-`l` chain that is unmarked at level `l` is on the chain of every level `≤ l`. -/
theorem C14_levels_sublist (n : Nat) (as : List Action) (l : Nat) (h1 : 1 ≤ l) (hl : l ≤ Gen.maxLevel) :
    let h := ((Sys.init n).run as).sh.heap
    (∀ a, OnChain h l a → unmarkedAt h (l - 1) a → OnChain h (l - 1) a) ∧
    (∀ ns ms, PathL h l 0 ns 1 → PathL h (l - 1) 0 ms 1 →
      (ns.filter fun a => !(getNext h a (l - 1)).2).Sublist ms) ∧
    (∀ a l', OnChain h l a → unmarkedAt h l a → l' ≤ l → OnChain h l' a) := by
  intro h
  obtain ⟨H, R, L⟩ := reachable_chains n as
  refine ⟨fun a hc hu => OnChain.down R L hc (Nat.sub_le l 1) hu, ?_,
    fun a l' hc hu hle => OnChain.down R L hc hle (unmarkedAt_down H hu hle)⟩
  intro ns ms p q
  have hsn := (p.sorted (chain_edges_sorted H L l) (.refl _)).1
  have hsm := (q.sorted (chain_edges_sorted H L (l - 1)) (.refl _)).1
  refine sublist_of_sorted_subset (R := fun a b => Key.lt (keyOf h a) (keyOf h b)) (fun a b => Key.lt_asymm) ms _
    (hsn.sublist List.filter_sublist) hsm (fun x hx => ?_)
  obtain ⟨hxn, hxm⟩ := List.mem_filter.mp hx
  obtain ⟨r1, hw⟩ := p.mem hxn
  obtain ⟨w, hw⟩ := Option.isSome_iff_exists.mp hw
  have hx1 : x ≠ 1 := by
    intro e; rw [e, H.tailNoWord] at hw; simp at hw
  have hs := H.full x (l - 1) (word?_lt hw) hx1 (Nat.le_trans (Nat.sub_le _ _) (H.wordLevel _ _ _ hw))
  obtain ⟨⟨q', m⟩, hq⟩ := Option.isSome_iff_exists.mp hs
  rw [getNext_of_word hq] at hxm
  simp at hxm
  subst hxm
  rcases q.mem_of_reach (H.tailNoWord _) (OnChain.down R L r1 (Nat.sub_le l 1) ⟨q', hq⟩) with e | e
  · exact absurd e hx1
  · exact e

/-- every reachable state, every level: the printed walk is the chain without the head -/
theorem C14_walk_is_chain (n : Nat) (as : List Action) (l : Nat) (hl : l ≤ Gen.maxLevel) :
    let h := ((Sys.init n).run as).sh.heap
    ∃ ns, PathL h l 0 (0 :: ns) 1 ∧ walk h l = walkOf h l ns := by
  intro h
  have H := (reachable_chains n as).1
  obtain ⟨ns, p, hlen, hs, _⟩ := C14_levels_sorted n as l hl
  cases p with
  | @cons _ b _ ns' m hw p' =>
    refine ⟨ns', .cons hw p', walk_eq_path H (.cons hw p') hs ?_⟩
    simp at hlen; omega

/-- Quiescent states: when all threads are idle,
    (1) no node that is marked at level 0 (deleted) is on the chain of any level;
    (2) no node that is marked at any level is on the chain of any level (softDelete has run to completion, so
        "marked somewhere" and "marked at level 0" coincide);
    (3) the walks the driver prints show no mark, on any level. -/
theorem C14_quiescent_no_marked_linked (n : Nat) (as : List Action)
    (hq : ((Sys.init n).run as).quiescent = true) :
    let h := ((Sys.init n).run as).sh.heap
    (∀ l d, OnChain h l d → ¬ marked0 h d) ∧
    (∀ l l' d, OnChain h l d → ¬ markedAt h l' d) ∧
    (∀ l, l ≤ Gen.maxLevel → ∀ p ∈ walk h l, p.2 = false) := by
  intro h
  have hI := reachable_invP n as
  -- at quiescence nobody answers for a charge, so there is none
  have c1 : ∀ l d, OnChain h l d → ¬ marked0 h d := fun l d hd hm =>
    not_charged_of_quiescent hq ((run_invQ (InvQ_init n) as).charged d l hd hm) id
  have c2 : ∀ l l' d, OnChain h l d → ¬ markedAt h l' d := fun l l' d hd hm =>
    (hI.marks d l' hm).elim (c1 l d hd) fun c => not_charged_of_quiescent hq c id
  refine ⟨c1, c2, fun l hl p hp => ?_⟩
  obtain ⟨ns, path, hw⟩ := C14_walk_is_chain n as l hl
  rw [hw] at hp
  simp only [walkOf, List.mem_map] at hp
  obtain ⟨x, hx, rfl⟩ := hp
  cases hmk : (getNext h x l).2 with
  | false => rfl
  | true =>
    exfalso
    have hxm : x ∈ (0 :: ns) := by simp [hx]
    exact c2 l l x (path.mem hxm).1 ⟨_, word?_of_getNext_marked hmk⟩

/-- Quiescent states: when all threads are idle, every node that is unmarked at level 0 (live)
    is on the chain of every level up to its height (`InvP.pend`). -/
theorem C14_quiescent_live_fully_linked (n : Nat) (as : List Action)
    (hq : ((Sys.init n).run as).quiescent = true) :
    let h := ((Sys.init n).run as).sh.heap
    ∀ a, unmarked0 h a → ∀ l, l ≤ heightOf h a → OnChain h l a := by
  intro h a ha l hl
  have hI := reachable_invP n as
  obtain ⟨H, R, L⟩ := reachable_chains n as
  obtain ⟨p0, hp0⟩ := ha
  have ha1 : a ≠ 1 := fun e => by rw [e, H.tailNoWord] at hp0; cases hp0
  obtain ⟨⟨q, m⟩, hw⟩ := Option.isSome_iff_exists.mp (H.full a l (word?_lt hp0) ha1 hl)
  -- a mark at a level without the level-0 mark would have its deleter in flight
  have hu : unmarkedAt h l a := by
    cases m with
    | false => exact ⟨q, hw⟩
    | true =>
      exact ((hI.marks a l ⟨q, hw⟩).elim (fun h0 => not_unmarked0_of_marked0 h0 ⟨p0, hp0⟩)
        fun c => not_charged_of_quiescent hq c id).elim
  -- and an unmarked level that is not on its chain would have the inserter in flight
  rcases (chain_linked R L l).2 a hu with hc | ⟨h1, _⟩
  · exact hc
  · exact Classical.byContradiction fun hnc =>
      not_charged_of_quiescent hq (hI.pend a l h1 hu hnc) fun ⟨_, h, _⟩ => by cases h

/-- the schedule of the counter-example to the literal reading of `C14_levels_sublist`: T0 inserts 5 (height 1) and 1
    (height 2); T2 = Lookup(1) passes level 2 and parks before level 1; T1 = Delete(1) marks levels 2 and 1 of the
    node and parks before the level-0 mark; T2 goes on at level 1, sees the mark and unlinks the node there -/
def w2Acts : List Action :=
  [.start 0 (.ins 5 1)] ++ List.replicate 12 (.step 0) ++
  [.start 0 (.ins 1 2)] ++ List.replicate 20 (.step 0) ++
  [.start 2 (.look 1), .step 2, .step 2] ++
  [.start 1 (.del 1)] ++ List.replicate 8 (.step 1) ++ [.step 2, .step 2, .step 2]

/-- what the walks print in that state: the node with key 1 is on level 2 (marked there) and on level 0 (unmarked),
    but not on level 1 -/
theorem w2_walks :
    walk ((Sys.init 3).run w2Acts).sh.heap 0 = [(1, false), (5, false)] ∧
    walk ((Sys.init 3).run w2Acts).sh.heap 1 = [(5, false)] ∧
    walk ((Sys.init 3).run w2Acts).sh.heap 2 = [(1, true)] := by decide +kernel

/-- REFUTED (transient states only): "every node on the level-`l` chain that is unmarked at level 0 is on the
    level-`(l-1)` chain".  In the state reached by `w2Acts` node 3 (key 1) is on the level-2 chain, unmarked at
    level 0 and NOT on the level-1 chain (it is marked at levels 2 and 1; its deleter is parked before the level-0
    mark).  What holds instead is `C14_levels_sublist`. -/
theorem C14_levels_sublist_unmarked0_refuted :
    ∃ (n : Nat) (as : List Action) (l a : Nat), 1 ≤ l ∧ l ≤ Gen.maxLevel ∧
      OnChain ((Sys.init n).run as).sh.heap l a ∧ unmarked0 ((Sys.init n).run as).sh.heap a ∧
      ¬ OnChain ((Sys.init n).run as).sh.heap (l - 1) a := by
  have w : word? ((Sys.init 3).run w2Acts).sh.heap 0 2 = some (3, false) ∧
      word? ((Sys.init 3).run w2Acts).sh.heap 3 0 = some (2, false) ∧
      ((Sys.init 3).run w2Acts).sh.heap.length = 4 ∧
      ∀ b, b < 4 → ∀ m, word? ((Sys.init 3).run w2Acts).sh.heap b 1 ≠ some (3, m) := by decide +kernel
  refine ⟨3, w2Acts, 2, 3, by decide, by decide, .single w.1, ⟨2, w.2.1⟩, fun r => ?_⟩
  obtain ⟨b, m, hw⟩ := r.pointed (by decide)
  exact w.2.2.2 b (w.2.2.1 ▸ word?_lt hw) m hw

/-- non-vacuity (kernel-checked TEST) for `C14_quiescent_no_marked_linked`: `w2Acts` run to completion (Delete(1) and
    Lookup(1) finish) is quiescent; the deleted node, which was still linked at level 2 in the middle, is gone from
    every level -/
example :
    let s := (Sys.init 3).run (w2Acts ++ List.replicate 14 (.step 1) ++ List.replicate 12 (.step 2))
    s.quiescent = true ∧ walk s.sh.heap 0 = [(5, false)] ∧ walk s.sh.heap 1 = [(5, false)] ∧
    walk s.sh.heap 2 = [] := by decide +kernel

/-- non-vacuity (kernel-checked TEST) for `C14_levels_sorted` and `C14_levels_sublist`: after the two inserts of
    `w2Acts` the chains are level 0: head → 1 → 5 → tail, level 1: head → 1 → 5 → tail, level 2: head → 1 → tail -/
example :
    let h := ((Sys.init 1).run ([.start 0 (.ins 5 1)] ++ List.replicate 12 (.step 0) ++
              [.start 0 (.ins 1 2)] ++ List.replicate 20 (.step 0))).sh.heap
    PathL h 0 0 [0, 3, 2] 1 ∧ PathL h 1 0 [0, 3, 2] 1 ∧ PathL h 2 0 [0, 3] 1 ∧
    keyOf h 3 = .fin 1 ∧ keyOf h 2 = .fin 5 := by
  intro h
  have w : word? h 0 0 = some (3, false) ∧ word? h 3 0 = some (2, false) ∧ word? h 2 0 = some (1, false) ∧
      word? h 0 1 = some (3, false) ∧ word? h 3 1 = some (2, false) ∧ word? h 2 1 = some (1, false) ∧
      word? h 0 2 = some (3, false) ∧ word? h 3 2 = some (1, false) ∧
      keyOf h 3 = .fin 1 ∧ keyOf h 2 = .fin 5 := by decide +kernel
  obtain ⟨a0, a1, a2, b0, b1, b2, c0, c1, k1, k2⟩ := w
  exact ⟨.cons a0 (.cons a1 (.cons a2 (.nil _))), .cons b0 (.cons b1 (.cons b2 (.nil _))),
    .cons c0 (.cons c1 (.nil _)), k1, k2⟩

end NitroVerif.SkipConc
