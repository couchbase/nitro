import NitroVerif.Lemmas.RefCountMain
/-!
  # C08 — Snapshot reference count never leaves zero

  "Open (and NewIterator) on a snapshot succeeds iff the snapshot has not yet been fully released;
  after the Close that drops the last reference no Open succeeds, NewIterator returns nil, and the
  snapshot is retired for collection exactly once.  Any interleaving of Open, NewIterator and Close
  across goroutines leaves the collector able to make progress on all later snapshots."

  Quantifier: all interleavings of Open/NewIterator/Iterator.Close/Snapshot.Close (and GC) from any
  number `n` of goroutines on any number `k` of snapshots — every schedule `sched` that the small-step
  model `Model/RefCount.lean` accepts from `init n k` (a refused action leaves the state unchanged,
  so nothing is lost), including Open racing with the final Close and the proof-only stale-iterator
  exit of the collector.  `NewIterator` is `Open` (nil ⇔ false) and `Iterator.Close` is
  `Snapshot.Close` as far as the count is concerned.

  The theorems are about the protocol as repaired in /repo (`cfg.fixedOpen = true`, CAS loop;
  `cfg.fixedGC = true`, re-check after dropping the flag).  The two witnesses at the end show that
  each repair is necessary; they are `decide`d concrete schedules and labelled as such.
-/
namespace NitroVerif.Props.C08
open NitroVerif.RefCount

/-- In every state reached by any schedule with any number of threads and
    snapshots, for every snapshot `s`:
    * counting invariant: `refCount = held references + references carried by Closes parked before
      their decrement` (so it is never negative);
    * `s` has been moved to the dead list at most once, and exactly once iff its count is 0 and no
      closer is still parked before `CLOSE_RETIRE s` (`snapshots.Delete`) or `CLOSE_RETIRE2 s`
      (`gcsnapshots.Insert`); while the count is positive nobody is at either point; and in any one
      state at most one thread is;
    * once the count is 0 it stays 0 along every continuation, and every `Open` on `s` that returns
      during that continuation returns false. -/
theorem C08_zero_is_final (cfg : Cfg) (hO : cfg.fixedOpen = true) (n k : Nat)
    (sched : List (Nat × Act)) (st : St) (evs : List Ev)
    (hrun : exec cfg (init n k) sched = some (st, evs)) (s : Nat) (h1 : 1 ≤ s) (h2 : s ≤ k) :
    refs st s = (held st s : Int) + (closing st s : Int)
    ∧ retiredCount st s ≤ 1
    ∧ (retiredCount st s = 1 ↔ refs st s = 0 ∧ retiring st s = 0 ∧ retiring2 st s = 0)
    ∧ (refs st s ≠ 0 → retiring st s = 0 ∧ retiring2 st s = 0)
    ∧ retiring st s + retiring2 st s ≤ 1
    ∧ (refs st s = 0 → ∀ (sched' : List (Nat × Act)) (st' : St) (evs' : List Ev),
        exec cfg st sched' = some (st', evs') →
          refs st' s = 0 ∧ ∀ b, Ev.retOpen s b ∈ evs' → b = false) := by
  obtain ⟨hinv, hlen⟩ := reach_inv hO hrun
  have h2' : s ≤ st.snaps.length := hlen ▸ h2
  rw [closing_eq, retiring_eq, retiring2_eq]
  obtain ⟨hle, hiff, hpos, hone⟩ := retire_cases (hinv.retire s h1 h2')
  refine ⟨hinv.count s h1 h2', hle, hiff, hpos, hone, ?_⟩
  · intro hz sched' st' evs' he
    obtain ⟨hz', hev⟩ := exec_zero_final hO hinv he s hz
    exact ⟨hz', fun b hb => by
      cases b with
      | false => rfl
      | true => exact absurd rfl (hev _ hb)⟩

/-- For every step taken in a reachable state:
    * `Open` on `s` returns true exactly at a compare-and-swap that finds the count it loaded, and
      then the count was positive and is incremented by one (the snapshot was not fully released at
      that instant — the linearization point);
    * `Open` on `s` returns false exactly at a load that sees 0 (the snapshot is fully released, and
      by `C08_zero_is_final` stays so), with no effect on the shared state;
    * conversely a thread parked at `OPEN_CAS s rc` returns true iff the count still equals `rc`
      (else it goes back to the load), and a thread parked at `OPEN_LOAD s` returns false iff the
      count is 0 (else it proceeds to the compare-and-swap with the positive value it read). -/
theorem C08_open_iff (cfg : Cfg) (hO : cfg.fixedOpen = true) (n k : Nat)
    (sched : List (Nat × Act)) (st : St) (evs : List Ev)
    (hrun : exec cfg (init n k) sched = some (st, evs))
    (i : Nat) (a : Act) (st' : St) (ev : Ev) (hstep : step cfg st i a = some (st', ev)) (s : Nat) :
    (ev = .retOpen s true ↔
        ∃ rc, st.ths[i]? = some (.openCas s rc) ∧ refs st s = rc ∧ (∃ b, a = .step b))
    ∧ (ev = .retOpen s true → 0 < refs st s ∧ refs st' s = refs st s + 1)
    ∧ (ev = .retOpen s false ↔
        st.ths[i]? = some (.openLoad s) ∧ refs st s = 0 ∧ (∃ b, a = .step b))
    ∧ (ev = .retOpen s false → st' = setT st i .idle)
    ∧ (∀ rc, st.ths[i]? = some (.openCas s rc) → 0 < rc ∧
        (refs st s ≠ rc → ev = .parked ∧ st' = setT st i (.openLoad s)))
    ∧ (st.ths[i]? = some (.openLoad s) → refs st s ≠ 0 →
        ev = .parked ∧ st' = setT st i (.openCas s (refs st s)) ∧ 0 < refs st s) := by
  obtain ⟨hinv, _⟩ := reach_inv hO hrun
  obtain ⟨hL, hC, htrue, hfalse⟩ := (step_sound hstep).open_spec hO
  unfold refs
  refine ⟨⟨fun e => ?_, fun ⟨rc, hi, he, _⟩ => ?_⟩, fun e => ?_, ⟨fun e => ?_, fun ⟨hi, hz, _⟩ => ?_⟩,
    fun e => (hfalse s e).2.2.2, fun rc hi => ?_, fun hi hnz => ?_⟩
  · obtain ⟨rc, hi, he, hb, _⟩ := htrue s e; exact ⟨rc, hi, he, hb⟩
  · have := (hC s rc hi).2; rw [if_pos he] at this; exact this.2
  · obtain ⟨rc, hi, he, _, rfl⟩ := htrue s e
    obtain ⟨h1, h2, hpos⟩ := hinv.pcs i _ hi
    rw [getS_setT, getS_setS_self st _ _ h1 h2, he]
    exact ⟨hpos, rfl⟩
  · obtain ⟨hi, hz, hb, _⟩ := hfalse s e; exact ⟨hi, hz, hb⟩
  · have := (hL s hi).2; rw [if_pos hz] at this; exact this.2
  · refine ⟨(hinv.pcs i _ hi).2.2, fun hne => ?_⟩
    have := (hC s rc hi).2; rw [if_neg hne] at this; exact ⟨this.2, this.1⟩
  · have h := (hL s hi).2; rw [if_neg hnz] at h
    obtain ⟨h1, h2⟩ := hinv.pcs i _ hi
    have := hinv.refs_nonneg s h1 h2
    exact ⟨h.2, h.1, by omega⟩

/-- Facts about the collector frontier that hold in **every** reachable state (not only at
    quiescence): the dead list is strictly ascending, contains only fully released snapshots
    numbered above `lastGCSn` (so nothing at or below the frontier is ever re-queued and can block
    the in-order test of `collectDead` for good); a snapshot whose closer is between its two list
    operations (`CLOSE_RETIRE2`) is in neither list and fully released; what was handed to the workers is exactly
    `1, …, lastGCSn`, in order, each once; all of those were fully released; the collector flag is
    held by exactly one thread inside `COLLECT_READ … GC_UNLOCK`, or by none. -/
theorem C08_frontier_sound (cfg : Cfg) (hO : cfg.fixedOpen = true) (n k : Nat)
    (sched : List (Nat × Act)) (st : St) (evs : List Ev)
    (hrun : exec cfg (init n k) sched = some (st, evs)) :
    st.dead.Pairwise (· < ·)
    ∧ (∀ s, s ∈ st.dead → st.lastGCSn < s ∧ s ≤ k ∧ refs st s = 0 ∧ retiredCount st s = 1)
    ∧ st.sent = List.range' 1 st.lastGCSn
    ∧ st.lastGCSn ≤ k
    ∧ (∀ s, 1 ≤ s → s ≤ st.lastGCSn → refs st s = 0 ∧ retiredCount st s = 1 ∧ s ∉ st.dead)
    ∧ (∀ s, s ∈ st.live ↔ 1 ≤ s ∧ s ≤ k ∧ retiredCount st s = 0 ∧ retiring2 st s = 0)
    ∧ (∀ s, 1 ≤ s → s ≤ k → 0 < retiring2 st s → s ∉ st.live ∧ s ∉ st.dead ∧ refs st s = 0)
    ∧ cnt uCrit st.ths = (if st.flag then 1 else 0) := by
  obtain ⟨hinv, hlen⟩ := reach_inv hO hrun
  subst hlen
  have hzero : ∀ s, 1 ≤ s → s ≤ st.snaps.length → (getS st s).retired = 1 → (getS st s).refs = 0 :=
    fun s h1 h2 hr => ((retire_cases (hinv.retire s h1 h2)).2.1.mp hr).1
  refine ⟨hinv.dead_sorted, ?_, hinv.sent, hinv.gc_le, ?_, ?_, ?_, hinv.excl⟩
  · intro s hs
    obtain ⟨h1, h2, h3⟩ := hinv.dead_valid s hs
    have hr := (hinv.place s h1 h2).mpr (Or.inl hs)
    exact ⟨h3, h2, hzero s h1 h2 hr, hr⟩
  · intro s h1 h2
    have h2' : s ≤ st.snaps.length := Nat.le_trans h2 hinv.gc_le
    have hr := (hinv.place s h1 h2').mpr (Or.inr h2)
    exact ⟨hzero s h1 h2' hr, hr, fun hm => Nat.lt_irrefl _ (Nat.lt_of_lt_of_le (hinv.dead_valid s hm).2.2 h2)⟩
  · intro s; rw [retiring2_eq]; exact hinv.live_iff s
  · intro s h1 h2 hpos
    rw [retiring2_eq] at hpos
    obtain ⟨hz, _, hl, hd, _⟩ := hinv.between h1 h2 hpos
    exact ⟨hl, hd, hz⟩

/-- The hand-off part of C06.  In every reachable **quiescent** state
    (no call in progress), for any number of threads and snapshots and any schedule:
    * no snapshot in the dead list has `sn = lastGCSn + 1` — whatever was collectable has been handed
      to the workers; every snapshot still in the dead list is numbered above `lastGCSn + 1`;
    * `sent = [1, …, lastGCSn]`;
    * `lastGCSn + 1` is the smallest snapshot number that is still referenced, or `k + 1` if there is
      none: all of `1 … lastGCSn` are fully released, and if `lastGCSn < k` then snapshot
      `lastGCSn + 1` still has a positive count — later retired snapshots wait only behind a snapshot
      that is really open, never behind one that was retired;
    * every fully released snapshot is either in the dead list or was handed over, retired exactly once;
    * the collector flag is free. -/
theorem C08_collector_progress (cfg : Cfg) (hO : cfg.fixedOpen = true) (hG : cfg.fixedGC = true)
    (n k : Nat) (sched : List (Nat × Act)) (st : St) (evs : List Ev)
    (hrun : exec cfg (init n k) sched = some (st, evs)) (hq : quiescent st = true) :
    (st.lastGCSn + 1) ∉ st.dead
    ∧ (∀ s, s ∈ st.dead → st.lastGCSn + 1 < s)
    ∧ st.sent = List.range' 1 st.lastGCSn
    ∧ st.lastGCSn ≤ k
    ∧ (∀ s, 1 ≤ s → s ≤ st.lastGCSn → refs st s = 0)
    ∧ (st.lastGCSn < k → 0 < refs st (st.lastGCSn + 1))
    ∧ (∀ s, 1 ≤ s → s ≤ k →
        (refs st s = 0 ↔ (s ∈ st.dead ∨ s ≤ st.lastGCSn)) ∧
        (refs st s = 0 → retiredCount st s = 1) ∧ (0 < refs st s → s ∈ st.live))
    ∧ st.flag = false := by
  obtain ⟨hinv, hlen⟩ := reach_inv hO hrun
  obtain ⟨_, hdead, hsent, hle, hsentz, hlive, _, hexcl⟩ :=
    C08_frontier_sound cfg hO n k sched st evs hrun
  subst hlen
  -- nobody is parked, so nobody is responsible for a collectable head: there is none
  have hnot : (st.lastGCSn + 1) ∉ st.dead := by
    intro hm
    have := hinv.resp hG hm
    rw [cnt_all_idle uResp st.ths hq rfl] at this
    exact Nat.not_succ_le_zero 0 this
  -- and the retire clause reads `retired = [count = 0]`
  have hret : ∀ s, 1 ≤ s → s ≤ st.snaps.length →
      ((getS st s).retired = 1 ↔ (getS st s).refs = 0) := by
    intro s h1 h2
    have hr := hinv.retire s h1 h2
    rw [cnt_all_idle (uRet s) st.ths hq rfl, cnt_all_idle (uRet2 s) st.ths hq rfl] at hr
    have := (retire_cases hr).2.1
    exact ⟨fun e => (this.mp e).1, fun e => this.mpr ⟨e, rfl, rfl⟩⟩
  have hiff : ∀ s, 1 ≤ s → s ≤ st.snaps.length →
      ((getS st s).refs = 0 ↔ (s ∈ st.dead ∨ s ≤ st.lastGCSn)) := fun s h1 h2 =>
    (hret s h1 h2).symm.trans (hinv.place s h1 h2)
  refine ⟨hnot, ?_, hsent, hle, fun s a b => (hsentz s a b).1, ?_, ?_, ?_⟩
  · intro s hs
    exact Nat.lt_of_le_of_ne (hdead s hs).1 (fun e => hnot (e ▸ hs))
  · intro hlt
    have hnn := hinv.refs_nonneg (st.lastGCSn + 1) (Nat.le_add_left _ _) hlt
    have hne : ¬ (getS st (st.lastGCSn + 1)).refs = 0 := fun hz =>
      ((hiff _ (Nat.le_add_left _ _) hlt).mp hz).elim hnot (Nat.not_succ_le_self _)
    show 0 < (getS st (st.lastGCSn + 1)).refs
    omega
  · intro s h1 h2
    refine ⟨hiff s h1 h2, (hret s h1 h2).mpr, fun hpos => ?_⟩
    rw [hlive, retiring2_eq]
    have hne : ¬ (getS st s).refs = 0 := fun e => by rw [refs, e] at hpos; exact absurd hpos (by decide)
    have := hinv.retired_le_one s h1 h2
    have hr1 : ¬ (getS st s).retired = 1 := fun e => hne ((hret s h1 h2).mp e)
    exact ⟨h1, h2, (Nat.le_one_iff_eq_zero_or_eq_one.mp this).resolve_right hr1,
      cnt_all_idle _ _ hq rfl⟩
  · rw [cnt_all_idle uCrit st.ths hq rfl] at hexcl
    cases hf : st.flag with
    | false => rfl
    | true => rw [hf] at hexcl; cases hexcl

/-- The theorems above quantify over schedules in which every action is accepted.  A driver script
    may also contain refused actions (`bad-op`: `step` on an idle thread, `start` on a busy one, `close`
    without a held reference); they leave the state unchanged, so the state after any script is a
    state covered by the theorems. -/
theorem C08_scripts_covered (cfg : Cfg) (n k : Nat) (script : List (Nat × Act)) :
    ∃ sched evs, exec cfg (init n k) sched = some ((execTol cfg (init n k) script).1, evs) :=
  execTol_reach cfg script (init n k)

/-! ## Non-vacuity: concrete schedules of the fixed protocol (tests, `decide`d) -/

/-- `n` consecutive steps of thread `t` -/
def steps (t n : Nat) : List (Nat × Act) := List.replicate n (t, Act.step false)

/-- three threads, two snapshots: an `Open` racing with the final `Close` of snapshot 1 loses the
    compare-and-swap, re-loads 0 and returns false; both snapshots end up handed over -/
def demo : List (Nat × Act) :=
  [(0, .start (.opn 1)), (0, .step false)]        -- T0 loads 1, parked at OPEN_CAS 1 1
  ++ [(1, .start (.cls 1))] ++ steps 1 1           -- T1: 1 → 0, parked at CLOSE_RETIRE 1
  ++ steps 0 2                                     -- T0: CAS fails, re-load sees 0: `ret false`
  ++ [(2, .start (.opn 2))] ++ steps 2 2           -- T2 opens snapshot 2: `ret true` (count 2)
  ++ steps 1 9                                     -- T1 retires 1 (two steps), GC sends it, re-check, returns
  ++ [(2, .start (.cls 2))] ++ steps 2 1           -- 2 → 1, returns
  ++ [(0, .start (.cls 2))] ++ steps 0 10          -- 1 → 0, retire (two steps), GC sends 2

theorem demo_runs :
    exec fixedCfg (init 3 2) demo =
      some ({ snaps := [⟨0, 0, 1⟩, ⟨0, 0, 1⟩], live := [], dead := [], lastGCSn := 2, flag := false,
              sent := [1, 2], ths := [.idle, .idle, .idle] },
            [.parked, .parked, .parked, .parked, .parked, .retOpen 1 false, .parked, .parked,
             .retOpen 2 true, .parked, .parked, .parked, .parked, .parked, .parked, .parked, .parked, .ret,
             .parked, .ret, .parked, .parked, .parked, .parked, .parked, .parked, .parked, .parked, .parked,
             .parked, .ret]) := by decide +kernel

/-- non-vacuity of `C08_zero_is_final`: its hypotheses are met by the prefix of `demo` after which
    snapshot 1 has count 0 while an `Open` on it is still in flight, and the conclusion then forces
    that `Open` to fail -/
example : ∃ st evs, exec fixedCfg (init 3 2) (demo.take 4) = some (st, evs) ∧ refs st 1 = 0 ∧
    st.ths[0]? = some (.openCas 1 1) ∧ retiring st 1 = 1 ∧ retiredCount st 1 = 0 := by
  refine ⟨_, _, rfl, by decide, by decide, by decide, by decide⟩

example : ∀ st' evs', exec fixedCfg
      ((exec fixedCfg (init 3 2) (demo.take 4)).get (by decide)).1 (demo.drop 4) = some (st', evs') →
    ∀ b, Ev.retOpen 1 b ∈ evs' → b = false := by
  intro st' evs' h
  have hpre : exec fixedCfg (init 3 2) (demo.take 4) =
      some ((exec fixedCfg (init 3 2) (demo.take 4)).get (by decide)) := by simp
  exact ((C08_zero_is_final fixedCfg rfl 3 2 (demo.take 4) _ _ hpre 1 (by decide) (by decide)).2.2.2.2.2
    (by decide) _ _ _ h).2

/-- non-vacuity of `C08_open_iff`: both outcomes occur in `demo` (`retOpen 1 false`, `retOpen 2 true`) -/
example : Ev.retOpen 1 false ∈ ((exec fixedCfg (init 3 2) demo).get (by decide)).2 ∧
    Ev.retOpen 2 true ∈ ((exec fixedCfg (init 3 2) demo).get (by decide)).2 := by decide

/-- non-vacuity of `C08_collector_progress` / `C08_frontier_sound`: `demo` ends quiescent with both
    snapshots handed over -/
example : ∃ st evs, exec fixedCfg (init 3 2) demo = some (st, evs) ∧ quiescent st = true ∧
    st.lastGCSn = 2 ∧ st.sent = [1, 2] := ⟨_, _, demo_runs, by decide, rfl, rfl⟩

/-- a quiescent state in which retired snapshots wait behind an open one: close 2 and 3, keep 1 -/
example : ∃ st evs, exec fixedCfg (init 1 3)
      ([(0, .start (.cls 3))] ++ steps 0 8 ++ [(0, .start (.cls 2))] ++ steps 0 8) = some (st, evs) ∧
    quiescent st = true ∧ st.dead = [2, 3] ∧ st.lastGCSn = 0 ∧ refs st 1 = 1 := by
  refine ⟨_, _, rfl, by decide, by decide, by decide, by decide⟩

/-- a `Close` held between its two list operations while the other open snapshot is fully closed:
    T0 has deleted snapshot 1 from the live list and is parked at `CLOSE_RETIRE2 1`; T1 closes
    snapshot 2 completely and its collector pass runs with an EMPTY live list and `dead = [2]` -/
def betweenListsSched : List (Nat × Act) :=
  [(0, .start (.cls 1))] ++ steps 0 2       -- T0: 1→0, `snapshots.Delete(1)`: parked at CLOSE_RETIRE2 1
  ++ [(1, .start (.cls 2))] ++ steps 1 8    -- T1: 1→0, both list operations, GC: head 2 ≠ 1, re-check, returns

/-- non-vacuity of the "in neither list" clauses, and the expected behaviour in the interleaving that
    a "drain the dead list when no snapshot is live" shortcut in `collectDead` gets wrong:
    with the live list empty and `dead = [2]` the collector hands over nothing, because snapshot 1 —
    in neither list — is not collected yet; when T0 proceeds, 1 and 2 are handed over in order -/
example : ∃ st evs, exec fixedCfg (init 2 2) betweenListsSched = some (st, evs) ∧
    st.ths = [.closeRetire2 1, .idle] ∧ retiring2 st 1 = 1 ∧ retiredCount st 1 = 0 ∧ refs st 1 = 0 ∧
    st.live = [] ∧ st.dead = [2] ∧ st.lastGCSn = 0 ∧ st.sent = [] ∧ st.flag = false := by
  refine ⟨_, _, rfl, by decide, by decide, by decide, by decide, by decide, by decide, by decide,
    by decide, by decide⟩

example : ∃ st evs, exec fixedCfg (init 2 2) (betweenListsSched ++ steps 0 10) = some (st, evs) ∧
    quiescent st = true ∧ st.sent = [1, 2] ∧ st.lastGCSn = 2 ∧ st.dead = [] := by
  refine ⟨_, _, rfl, by decide, by decide, by decide, by decide⟩

/-! ## Witness: the repair of `Open` is necessary (`fixedOpen = false`, the original test-then-add) -/

/-- the unfixed-`Open` schedule of DESIGN.md §C08 "Known" -/
def unfixedOpenSched : List (Nat × Act) :=
  [(0, .start (.opn 1)), (0, .step false)]        -- T0 loads 1, parked before the increment
  ++ [(1, .start (.cls 1))] ++ steps 1 10          -- T1 closes 1 → 0, retires it, GC hands it over
  ++ [(0, .step false)]                            -- T0 increments 0 → 1: `Open` returns TRUE
  ++ [(0, .start (.cls 1))] ++ steps 0 8           -- its Close retires snapshot 1 a second time
  ++ [(1, .start (.cls 2))] ++ steps 1 8           -- snapshot 2 is closed: queued behind 1
  ++ [(1, .start .gc)] ++ steps 1 4                -- an explicit GC() does not help

theorem unfixedOpen_runs :
    exec { fixedOpen := false, fixedGC := true } (init 2 2) unfixedOpenSched =
      some ({ snaps := [⟨0, 0, 2⟩, ⟨0, 0, 1⟩], live := [], dead := [1, 2], lastGCSn := 1, flag := false,
              sent := [1], ths := [.idle, .idle] },
            [.parked, .parked, .parked, .parked, .parked, .parked, .parked, .parked, .parked, .parked,
             .parked, .parked, .ret, .retOpen 1 true,
             .parked, .parked, .parked, .parked, .parked, .parked, .parked, .parked, .ret,
             .parked, .parked, .parked, .parked, .parked, .parked, .parked, .parked, .ret,
             .parked, .parked, .parked, .parked, .ret]) := by decide +kernel

/-- **WITNESS (a `decide`d concrete schedule, not a theorem about all schedules).**
    With the original `Open` (`fixedOpen = false`; `GC` already repaired): `Open` on snapshot 1
    returns true after the `Close` that dropped its last reference and after it was handed to the
    workers; snapshot 1 is retired twice and re-queued with `sn = 1 ≤ lastGCSn = 1`; the run ends
    quiescent with the collectable snapshot 2 (`= lastGCSn + 1`) stuck in the dead list behind it,
    and a forced `GC()` changes nothing.  What fails: of `C08_zero_is_final`, "retired at most
    once" and "zero is final"; of `C08_collector_progress`, its first two clauses, `0 < refs (lastGCSn + 1)` and
    "released ⇒ retired once" (`sent = [1 … lastGCSn]`, `lastGCSn ≤ k` and the free flag still hold). -/
theorem C08_unfixed_counterexample :
    ∃ st evs, exec { fixedOpen := false, fixedGC := true } (init 2 2) unfixedOpenSched = some (st, evs)
      ∧ quiescent st = true
      ∧ evs.idxOf (Ev.retOpen 1 true) = 13 ∧ evs.idxOf Ev.ret = 12   -- true AFTER the final Close returned
      ∧ retiredCount st 1 = 2
      ∧ st.dead = [1, 2] ∧ st.lastGCSn = 1 ∧ st.sent = [1]
      ∧ (st.lastGCSn + 1) ∈ st.dead
      ∧ exec { fixedOpen := false, fixedGC := true } st ([(0, .start .gc)] ++ steps 0 4)
          = some (st, [.parked, .parked, .parked, .parked, .ret]) := by
  refine ⟨_, _, unfixedOpen_runs, by decide, by decide, by decide, by decide, by decide, by decide,
    by decide, by decide, by decide⟩

/-- the same schedule is not even executable on the repaired protocol: the compare-and-swap of T0
    fails, T0 goes back to `OPEN_LOAD`, so its `start close` is refused -/
example : exec fixedCfg (init 2 2) unfixedOpenSched = none := by decide +kernel

/-! ## Witness: the repair of `GC` is necessary (`fixedGC = false`, no re-check) -/

/-- two `Close` calls race: T0 holds the collector flag and has already looked at the dead list when
    T1 retires the collectable snapshot and loses the try-lock -/
def lostTriggerSched : List (Nat × Act) :=
  [(0, .start (.cls 2))] ++ steps 0 6     -- T0: 1→0, retire 2 (two steps), CLOSE_GC, flag taken, reads head 2 ≠ 1: at GC_UNLOCK
  ++ [(1, .start (.cls 1))] ++ steps 1 5  -- T1: 1→0, retire 1 (two steps), CLOSE_GC, try-lock fails: returns
  ++ steps 0 1                            -- T0 drops the flag and returns

/-- **WITNESS (a `decide`d concrete schedule).**  With the original `GC` (`fixedGC = false`; `Open`
    already repaired) the run ends quiescent, every snapshot closed, the flag free, and the
    collectable snapshot 1 (`= lastGCSn + 1`) still in the dead list with nothing handed over: the
    trigger of the final `Close` is lost.  On the repaired protocol the same schedule leaves T0 at
    `GC_RECHECK`, and letting it run hands both snapshots over. -/
theorem C06_unfixed_lost_trigger :
    (∃ st evs, exec { fixedOpen := true, fixedGC := false } (init 2 2) lostTriggerSched = some (st, evs)
      ∧ quiescent st = true ∧ st.flag = false
      ∧ refs st 1 = 0 ∧ refs st 2 = 0
      ∧ st.dead = [1, 2] ∧ st.lastGCSn = 0 ∧ st.sent = []
      ∧ (st.lastGCSn + 1) ∈ st.dead)
    ∧ (∃ st evs, exec fixedCfg (init 2 2) (lostTriggerSched ++ steps 0 9) = some (st, evs)
      ∧ quiescent st = true ∧ st.dead = [] ∧ st.lastGCSn = 2 ∧ st.sent = [1, 2]) := by
  refine ⟨⟨_, _, rfl, by decide, by decide, by decide, by decide, by decide, by decide, by decide,
    by decide⟩, ⟨_, _, rfl, by decide, by decide, by decide, by decide⟩⟩

end NitroVerif.Props.C08
