import NitroVerif.Props.C05
import NitroVerif.Props.C10
/-!
  Property C05 — end-to-end composition on the models: what the Visitor hands to the shard writers (C10, model M6),
  framed into shard files (C19) and described by the manifests (M7 `storeImage`), loads back as exactly the
  content of the stored snapshot, in order, whatever pivots `GetRangeSplitItems` produced.

  This mechanises the glue "backup = Visitor partition + framing + load" between the M6 and M7 models; that
  `Builder.Assemble` of the decoded segments scans as their concatenation is `C18_assemble`.
-/
namespace NitroVerif.Props.C05
open NitroVerif.Codec NitroVerif.Backup NitroVerif.Mvcc

/-- `enc` is how a version's item is laid out in bytes (the driver uses an 8-byte key, or `KVToBytes key value`);
    it may depend on key and value only (`henc_norm`) and yields a non-empty item shorter than 2^32 bytes. -/
theorem C05_end_to_end {n : Nat} {σ : Mvcc.State} (hr : Reachable n σ) {s : Snap}
    (hs : s ∈ σ.snaps) (hrc : 0 < s.rc) (pivots : List Ver) (rate : Int)
    (enc : Ver → Bytes) (henc : ∀ v, 0 < (enc v).length ∧ (enc v).length < 2 ^ 32)
    (henc_norm : ∀ v, enc v.norm = enc v)
    (h : Bytes → Nat) (keyCmp : Bytes → Bytes → Int) :
    load h keyCmp false
        (storeImage h (((visitor σ.store s.sn rate none pivots).1).map (fun shard => shard.map enc)) 1)
      = .ok (s.content.map enc) := by
  have hc := (NitroVerif.Props.C10_visitor_partition hr hs hrc pivots rate none).1 (by intro v _ hv; cases hv)
  have hflat : ((visitor σ.store s.sn rate none pivots).1).flatten.map Ver.norm = s.content := hc.2.1
  have hparts : (((visitor σ.store s.sn rate none pivots).1).map (fun shard => shard.map enc)).flatten
      = s.content.map enc := by
    rw [← hflat, List.map_map]
    have hcomp : (enc ∘ Ver.norm) = enc := by funext v; exact henc_norm v
    rw [hcomp, List.map_flatten]
  have hit : ∀ d ∈ s.content.map enc, 0 < d.length ∧ d.length < 2 ^ 32 := by
    intro d hd
    obtain ⟨v, _, rfl⟩ := List.mem_map.mp hd
    exact henc v
  exact (C05_roundtrip h keyCmp (s.content.map enc) hit _ hparts 1 (by decide)).1

/-- non-vacuity of the encoding hypotheses: a layout that depends on key and value only -/
example : let enc : Ver → Bytes := fun v => [UInt8.ofNat v.key, UInt8.ofNat v.val, 1]
    (∀ v, 0 < (enc v).length ∧ (enc v).length < 2 ^ 32) ∧ (∀ v : Ver, enc v.norm = enc v) := by
  refine ⟨fun v => by simp, fun v => rfl⟩

end NitroVerif.Props.C05
