import NitroVerif.Lemmas.MvccConcScan
/-!
  # C01 (concurrent part) — a reader standing on a version that is unlinked under it

  Snapshot iterators give their skiplist iterator a comparator (`NewIterator`, `Refresh` in
  iterator.go; `Gen.iteratorStoreCmp`).  When the node under the cursor has been unlinked, skiplist
  `Iterator.Next` re-searches from the top with that comparator for the item under the cursor and lands
  on `succs[0]`.  With the key-only comparator (the code before the fix, `fixedIter = false` in the model)
  that is the OLDEST physical version of the key — a position the cursor has already passed — and a version
  visible to the snapshot is delivered a second time.  With the insert comparator (the code as it is) it is
  the first node after the unlinked one.
-/
namespace NitroVerif.Props.C01c
open NitroVerif NitroVerif.MvccConc

/-- one writer, one reader: Put 5; snapshot 1; Delete 5; Put 5 (a second version, born in epoch 2);
    the reader of snapshot 1 delivers 5, moves on and parks at ITER_NEXT standing on the invisible new
    version; the writer deletes that version in its own epoch (physical unlink); the reader steps. -/
def dupSched : List Act :=
  [.put 0 5 0, .step 0, .snap, .del 0 5, .step 0, .put 0 5 0, .step 0,
   .itNew 1 0 1, .itFirst 1 0, .itNext 1 0, .step 1,
   .del 0 5, .step 0, .step 0,
   .step 1]

/-- **C01_unfixed_duplicate_witness** (WITNESS: a concrete schedule evaluated by the kernel).
    With key-only snapshot iterators (the code before the fix) the reader of snapshot 1 is handed item 5
    twice: by `it_first` and again by the last step. -/
theorem C01_unfixed_duplicate_witness :
    (outs (init 1 1 false) dupSched).getLast? = some (.ret (.item (some (5, 0)))) ∧
    (outs (init 1 1 false) dupSched)[8]? = some (.ret (.item (some (5, 0)))) := by decide +kernel

/-- the same schedule on the code as it is: the reader reaches the end, nothing is delivered twice
    (TEST: concrete schedule evaluated by the kernel) -/
theorem C01_fixed_same_schedule :
    (outs (init 1 1 true) dupSched).getLast? = some (.ret (.item none)) ∧
    (outs (init 1 1 true) dupSched)[8]? = some (.ret (.item (some (5, 0)))) := by decide +kernel

/-- in the code as it is the snapshot iterators search with the insert comparator (`Gen.iteratorStoreCmp`) -/
theorem iterStoreCmp_fixed (σ : State) (h : σ.fixedIter = true) : iterStoreCmp σ = Mvcc.insCmp :=
  (iterStoreCmp_eq σ).trans (if_pos h)

/-! ### the code as it is: a reader never goes back

  `delivered t i σ sched` is the list of versions, as `(key, bornSn)`, that iterator `i` of reader thread `t`
  hands to its user along `sched` (its own `it_first` / ITER_NEXT steps that answer `ret <k:v>`).  `kbLt` is the
  physical order of the store: `(key, bornSn)` lexicographic.

  Along a schedule without `it_first` the delivered versions are a stretch of the view of the iterator's snapshot
  (`scan_run`), and that view is strictly increasing in KEY (`viewOf_keys`): two versions of one key are
  never both visible to one snapshot.  The statements here are the consequences for the order `(key, bornSn)` — in
  particular no version is ever delivered twice, which is exactly what the key-only iterators violated. -/

/-- **C01_conc_scan_no_duplicates_partial.**  Code as it is (`fixedIter = true`), any number of writers and
    readers, any schedule `pre` before the scan and any schedule `scan` of all threads and jobs during it that
    contains no further `it_first` of this iterator: the versions delivered by the scan that starts with
    `it_first` are strictly increasing in `(key, bornSn)` — whatever the writers, collection jobs and free
    jobs do to the nodes under and around the cursor.  It follows from the key order
    (`C01cc.C01_conc_scan_keys_increasing_full`: the KEYS strictly increase, so the pairs do); in this form it says
    that no version is handed out twice.  `_partial`: order only — that the scan hands out ALL its snapshot sees is
    `C01cc.C01_conc_scan_complete_from_init`. -/
theorem C01_conc_scan_no_duplicates_partial (nw nr : Nat) (pre scan : List Act) (t i : Nat)
    (hno : Act.itFirst t i ∉ scan) :
    (delivered t i (run (init nw nr true) pre) (.itFirst t i :: scan)).Pairwise kbLt := by
  exact (delivered_keys (deliveredVers_keys_first (reachable_run .init pre) scan t i hno)).imp Or.inl

/-- the same for any stretch of a scan (from any reachable state, no `it_first` in between), and: no version is
    handed out twice -/
theorem C01_conc_scan_nodup {nw nr : Nat} {σ : State} (hr : Reachable nw nr σ) (sched : List Act) (t i : Nat)
    (hno : Act.itFirst t i ∉ sched) :
    (delivered t i σ sched).Pairwise kbLt ∧ (delivered t i σ sched).Nodup := by
  have h : (delivered t i σ sched).Pairwise kbLt := (delivered_keys (deliveredVers_keys hr sched t i hno)).imp Or.inl
  exact ⟨h, h.imp (fun {a b} hab he => by subst he; exact kbLt_irrefl a hab)⟩

/-- the cursor itself never moves backwards (one step, any action other than the iterator's `it_first`) -/
theorem C01_conc_cursor_monotone {nw nr : Nat} {σ : State} (hr : Reachable nw nr σ) (a : Act) (t i : Nat)
    (ha : a ≠ .itFirst t i) (c' : Cur) (hc' : curOf (step σ a).1 t i = some c') :
    ∃ c, curOf σ t i = some c ∧ kbLe c.kb c'.kb :=
  cursor_mono hr a t i ha c' hc'

/-! non-vacuity (tests, evaluated by the kernel): two items delivered in order while a writer deletes
    the first one under the reader; and the schedule of the witness above on the code as it is -/
example :
    delivered 1 0 (run (init 1 1 true) [.put 0 5 0, .step 0, .put 0 7 0, .step 0, .snap, .itNew 1 0 1])
      [.itFirst 1 0, .del 0 5, .step 0, .itNext 1 0, .step 1, .itNext 1 0, .step 1] = [(5, 1), (7, 1)] := by decide +kernel

example : delivered 1 0 (init 1 1 true) dupSched = [(5, 1)] := by decide +kernel
example : delivered 1 0 (init 1 1 false) dupSched = [(5, 1), (5, 1)] := by decide +kernel

end NitroVerif.Props.C01c
