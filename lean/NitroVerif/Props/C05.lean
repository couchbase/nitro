import NitroVerif.Lemmas.Backup
import NitroVerif.Lemmas.BackupDelta
/-!
  Property C05 — backup and restore reproduce the snapshot (M7 part).

  "If StoreToDisk of a snapshot returns success, LoadFromDisk of that directory into a fresh instance
  with the same configuration returns a snapshot whose items and Count() are exactly those of the
  stored snapshot, each once and in order.  This holds with and without delta interleaving, whatever
  writers, snapshot churn and garbage collection run concurrently with the backup, and whatever older
  or newer versions of the keys exist; the restored instance then obeys C01-C03 for subsequent
  operations."

  What is proved here is the file-level half: `load (storeImage …) = ok content`.
    * `parts` is ANY partition of the snapshot content into consecutive chunks, empty chunks allowed,
      any number of chunks (`runtime.NumCPU()` in the code).  That the Visitor hands the writers such a
      partition of the snapshot's content — under concurrent writers, snapshot churn and GC — is C10
      (and C01/C09 for the iterators); it enters here as the hypothesis `parts.flatten = content`.
    * with delta files, the shards may miss items the collector unlinked while the backup ran; those
      items are in the delta logs (`Gen.deltaVisible`, appendix A.2 "Delta").  This enters as the
      hypotheses of `C05_roundtrip_delta_general`.
    * the restored list consists of items with bornSn = deadSn = 0; it is the content, strictly sorted
      and key-distinct, i.e. an M6 state in which every item is visible to every snapshot — C01–C03 on
      the restored instance are the M6 theorems from that state (mvcc engine, op `load`).
  All theorems are generic in the hash `h` (crc32.ChecksumIEEE) and in the key comparison.
-/
namespace NitroVerif.Props.C05
open NitroVerif.Codec NitroVerif.Backup

/-- No delta files.  Whatever partition of the content StoreToDisk wrote,
    LoadFromDisk returns exactly the content, in order, and `Count()` is its length.
    `ver` is the version constant of nitro.go (1); any non-zero value selects the 4-byte framing. -/
theorem C05_roundtrip (h : Bytes → Nat) (keyCmp : Bytes → Bytes → Int) (content : List Bytes)
    (hit : ∀ d ∈ content, 0 < d.length ∧ d.length < 2 ^ 32)
    (parts : List (List Bytes)) (hparts : parts.flatten = content) (ver : Nat := 1) (hv : ver ≠ 0 := by decide) :
    load h keyCmp false (storeImage h parts ver) = .ok content ∧
    (load h keyCmp false (storeImage h parts ver)).count = some content.length := by
  have hl : load h keyCmp false (storeImage h parts ver) = .ok content :=
    (load_storeImage h keyCmp parts (validItems_of_content hit hparts) hv).trans (congrArg Outcome.ok hparts)
  exact ⟨hl, by rw [hl]; rfl⟩

/-- the same backup loaded by an instance configured with delta files: there is no delta directory,
    nothing is inserted -/
theorem C05_roundtrip_loader_delta_on (h : Bytes → Nat) (keyCmp : Bytes → Bytes → Int) (content : List Bytes)
    (hit : ∀ d ∈ content, 0 < d.length ∧ d.length < 2 ^ 32)
    (parts : List (List Bytes)) (hparts : parts.flatten = content) (ver : Nat := 1) (hv : ver ≠ 0 := by decide) :
    load h keyCmp true (storeImage h parts ver) = .ok content := by
  rw [load_eq, sideShards_stored h hv (validItems_of_content hit hparts), sideShards_no_manifests h]
  exact congrArg Outcome.ok hparts

/-- Delta-mode backup of a snapshot with content `content`
    (strictly ascending under the key comparison, hence key-distinct):
      * the shard files deliver a sub-sequence of the content (`parts.flatten.Sublist content`: in
        order, each item at most once — items unlinked by the collector during the scan are missing);
      * every delta item is an item of the content (a version visible in the snapshot, logged before
        being unlinked) or carries the key of an item the shards delivered;
      * every item of the content is delivered by a shard or by a delta log.
    Then LoadFromDisk returns exactly the content. -/
theorem C05_roundtrip_delta_general (h : Bytes → Nat) {keyCmp : Bytes → Bytes → Int}
    (ko : KeyOrder keyCmp) (content : List Bytes)
    (hit : ∀ d ∈ content, 0 < d.length ∧ d.length < 2 ^ 32)
    (hsorted : content.Pairwise (fun a b => keyCmp a b < 0))
    (parts dparts : List (List Bytes))
    (hsub : parts.flatten.Sublist content)
    (hdval : ∀ d ∈ dparts.flatten, 0 < d.length ∧ d.length < 2 ^ 32)
    (hds : ∀ x ∈ dparts.flatten, x ∈ content ∨ ∃ c ∈ parts.flatten, keyCmp x c = 0)
    (hall : ∀ y ∈ content, y ∈ parts.flatten ∨ y ∈ dparts.flatten)
    (ver : Nat := 1) (hv : ver ≠ 0 := by decide) :
    load h keyCmp true (storeImageDelta h parts dparts ver) = .ok content ∧
    (load h keyCmp true (storeImageDelta h parts dparts ver)).count = some content.length := by
  have hval := ValidItems.sublist hit hsub
  have hl : load h keyCmp true (storeImageDelta h parts dparts ver) = .ok content := by
    rw [load_storeImageDelta h keyCmp parts dparts hval hdval ver hv]
    congr 1
    exact insertAll_eq_content ko content parts.flatten dparts.flatten hsorted
      (hsorted.sublist hsub) (fun y hy => hsub.subset hy) hds hall
  exact ⟨hl, by rw [hl]; rfl⟩

/-- the shards deliver the whole content and every delta item has the key
    of some content item (it was visible in the snapshot and is also delivered by a shard): every
    delta item is rejected as a duplicate, the result is the content. -/
theorem C05_roundtrip_delta (h : Bytes → Nat) {keyCmp : Bytes → Bytes → Int}
    (ko : KeyOrder keyCmp) (content : List Bytes)
    (hit : ∀ d ∈ content, 0 < d.length ∧ d.length < 2 ^ 32)
    (hsorted : content.Pairwise (fun a b => keyCmp a b < 0))
    (parts dparts : List (List Bytes)) (hparts : parts.flatten = content)
    (hdval : ∀ d ∈ dparts.flatten, 0 < d.length ∧ d.length < 2 ^ 32)
    (hds : ∀ x ∈ dparts.flatten, ∃ c ∈ content, keyCmp x c = 0)
    (ver : Nat := 1) (hv : ver ≠ 0 := by decide) :
    load h keyCmp true (storeImageDelta h parts dparts ver) = .ok content :=
  (C05_roundtrip_delta_general h ko content hit hsorted parts dparts (by rw [hparts]; exact List.Sublist.refl _)
    hdval (fun x hx => Or.inr (by rw [hparts]; exact hds x hx))
    (fun y hy => Or.inl (by rw [hparts]; exact hy)) ver hv).1

/-- the shards deliver the content minus some items; the delta logs
    deliver items of the content, among them every missing one.  The result is the content. -/
theorem C05_roundtrip_delta_missing (h : Bytes → Nat) {keyCmp : Bytes → Bytes → Int}
    (ko : KeyOrder keyCmp) (content : List Bytes)
    (hit : ∀ d ∈ content, 0 < d.length ∧ d.length < 2 ^ 32)
    (hsorted : content.Pairwise (fun a b => keyCmp a b < 0))
    (parts dparts : List (List Bytes)) (hsub : parts.flatten.Sublist content)
    (hds : ∀ x ∈ dparts.flatten, x ∈ content)
    (hall : ∀ y ∈ content, y ∉ parts.flatten → y ∈ dparts.flatten)
    (ver : Nat := 1) (hv : ver ≠ 0 := by decide) :
    load h keyCmp true (storeImageDelta h parts dparts ver) = .ok content :=
  (C05_roundtrip_delta_general h ko content hit hsorted parts dparts hsub
    (fun d hd => hit d (hds d hd)) (fun x hx => Or.inl (hds x hx))
    (fun y hy => by
      by_cases hp : y ∈ parts.flatten
      · exact Or.inl hp
      · exact Or.inr (hall y hy hp)) ver hv).1

/-- The ORDER in which the delta items are inserted does not matter under the hypotheses of the round
    trip: ANY sequence `ds` made of the logged items (any order, any repetition) that contains each of
    them, inserted one item at a time, gives the content.  This covers every order in which the
    loader's `concurr` goroutines can complete their `Insert2` calls; that concurrent calls behave like
    some one-at-a-time order is not shown here (C13). -/
theorem C05_delta_any_interleaving {keyCmp : Bytes → Bytes → Int}
    (ko : KeyOrder keyCmp) (content : List Bytes)
    (hsorted : content.Pairwise (fun a b => keyCmp a b < 0))
    (parts dparts : List (List Bytes)) (hsub : parts.flatten.Sublist content)
    (hds : ∀ x ∈ dparts.flatten, x ∈ content ∨ ∃ c ∈ parts.flatten, keyCmp x c = 0)
    (hall : ∀ y ∈ content, y ∈ parts.flatten ∨ y ∈ dparts.flatten)
    (ds : List Bytes) (hperm : ∀ x, x ∈ ds ↔ x ∈ dparts.flatten) :
    insertAll keyCmp parts.flatten ds = content :=
  insertAll_eq_content ko content parts.flatten ds hsorted (hsorted.sublist hsub)
    (fun _ hy => hsub.subset hy) (fun x hx => hds x ((hperm x).1 hx))
    (fun _ hy => (hall _ hy).imp id (fun h => (hperm _).2 h))

/-! ### non-vacuity -/

/-- three shards, the middle one empty; one item is four zero bytes (the terminator's image) -/
def exParts : List (List Bytes) := [[[0, 0, 0, 0], [0, 1]], [], [[7, 7, 7]]]
def exContent : List Bytes := [[0, 0, 0, 0], [0, 1], [7, 7, 7]]

theorem exParts_flatten : exParts.flatten = exContent := by decide
theorem exContent_valid : ∀ d ∈ exContent, 0 < d.length ∧ d.length < 2 ^ 32 := by decide
theorem exContent_sorted : exContent.Pairwise (fun a b => cmpBytes a b < 0) := by decide

example : exParts.flatten = exContent := exParts_flatten
example : ∀ d ∈ exContent, 0 < d.length ∧ d.length < 2 ^ 32 := exContent_valid
example : exContent.Pairwise (fun a b => cmpBytes a b < 0) := exContent_sorted

/-- TEST (by evaluation): the image itself, with a constant hash -/
example : storeImage (fun _ => 0) exParts =
    { version := .parsed 1, files := .parsed ["shard-0", "shard-1", "shard-2"], sums := .parsed [0, 0, 0],
      dfiles := .absent, dsums := .absent,
      data := [("shard-0", [0,0,0,4, 0,0,0,0, 0,0,0,2, 0,1, 0,0,0,0]), ("shard-1", [0,0,0,0]),
               ("shard-2", [0,0,0,3, 7,7,7, 0,0,0,0])],
      delta := [] } := by decide +kernel

example (h : Bytes → Nat) : load h cmpBytes false (storeImage h exParts) = .ok exContent :=
  (C05_roundtrip h cmpBytes exContent exContent_valid exParts exParts_flatten).1

example (h : Bytes → Nat) : (load h cmpBytes false (storeImage h exParts)).count = some 3 :=
  (C05_roundtrip h cmpBytes exContent exContent_valid exParts exParts_flatten).2

/-- delta mode: the shards miss `[0,1]` (unlinked during the scan); writer 0's log has it, writer 1's
    log has `[7,7,7]` again (logged and also delivered by its shard) -/
def exPartsMissing : List (List Bytes) := [[[0, 0, 0, 0]], [], [[7, 7, 7]]]
def exDelta : List (List Bytes) := [[[0, 1]], [[7, 7, 7]]]

theorem exPartsMissing_sublist : exPartsMissing.flatten.Sublist exContent := by decide

example (h : Bytes → Nat) :
    load h cmpBytes true (storeImageDelta h exPartsMissing exDelta) = .ok exContent :=
  C05_roundtrip_delta_missing h keyOrder_cmpBytes exContent exContent_valid exContent_sorted
    exPartsMissing exDelta exPartsMissing_sublist (by decide) (by decide)

/-- kv items: the shard delivers `(k=[1], v=[9])` and `(k=[2], v=[8])`; writer 0's log holds
    `(k=[1], v=[5])`, key-equal to a delivered item with another value, writer 1's log the delivered
    `(k=[2], v=[8])` itself: both are rejected as duplicates -/
def exKV : List Bytes := [kvToBytes [1] [9], kvToBytes [2] [8]]

example (h : Bytes → Nat) :
    load h compareKV true (storeImageDelta h [exKV] [[kvToBytes [1] [5]], [kvToBytes [2] [8]]])
      = .ok exKV :=
  C05_roundtrip_delta h keyOrder_compareKV exKV (by decide) (by decide) [exKV] _ (by decide)
    (by decide) (by decide)

/-- TEST (by evaluation): the delta fold really inserts — an unsorted arrival order, one duplicate -/
example : insertAll cmpBytes [[0, 0, 0, 0], [7, 7, 7]] [[9], [0, 1], [7, 7, 7], [0]]
    = [[0], [0, 0, 0, 0], [0, 1], [7, 7, 7], [9]] := by decide +kernel

end NitroVerif.Props.C05
