import NitroVerif.Lemmas.BarrierStep
/-!
  C16 — Access barrier safety (model M4, `Model/Barrier.lean`; invariants in `Lemmas/Barrier*.lean`).

  Vocabulary.  Sessions are numbered 0,1,2,… in creation order; session `s` is closed by the
  `(s+1)`-th `FlushSession` call to pass FL_TAG, which gives it `seqno = s+1` and the object of that
  call (clause `numbering`).  "Flush number `m`" below is that call; `st.log` is the list of
  destructor calls `(seqno, obj)` in call order; `st.tagged` the objects of the flushes in order.
  A thread *holds a token* for `s` when `s ∈ t.toks` (its `Acquire` returned `s` and it has not called
  `Release` for it); it is *inside a Release of a unit it really owned* when it is parked at
  `relDec s k` with `k ≠ retAcq` (API `Release`, or the flusher's own unit) — the decrement has not
  happened yet.  (`relDec s retAcq` is the back-off of an `Acquire` that did NOT complete: the
  accessor found the offset in the count and is undoing its increment; the Go comment
  "Accessors which entered a closed barrier session steps down automatically".)

  Quantifiers: every number `n` of threads, every schedule (any interleaving of `start`/`step` of
  any threads, nested holders, flushes by token holders, plus the proof-only `stale` action), both
  protocol variants (`fixed`).

  Excluded regime (explicit): the model refuses (`step … = none`) the ACQ_ADD step that would make the
  count of a not-yet-flushed session reach `barrierFlushOffset = 2^30 - 1`; i.e. fewer than 2^30 - 1
  simultaneous units on one session.  Counts are unbounded integers (no int32 wrap-around).
-/
namespace NitroVerif.Barrier

structure Safe (st : St) : Prop where
  /-- (a) destructor calls are numbered 1, 2, …, freeSeqno in call order: in flush order, each once -/
  inOrder : st.log.map Prod.fst = List.range' 1 st.freeSeqno
  /-- (a') the m-th destructor call receives the object attached by flush number m -/
  objects : st.log.map Prod.snd = st.tagged.take st.freeSeqno
  /-- flush number s+1 numbered session s and attached its object to it -/
  numbering : st.tagged.length = st.activeSeqno ∧ st.freeSeqno ≤ st.activeSeqno ∧
    ∀ s, s < st.activeSeqno → (getS st s).seqno = s + 1 ∧ st.tagged[s]? = some (getS st s).obj
  /-- (b) once the destructor of flush number `m` has run (`m ≤ freeSeqno`, i.e. `m` is in the log),
      no thread holds a token for a session closed by flush `m` or an earlier one (`s < m`), and no
      thread is still before the decrement of a real unit of such a session -/
  released : ∀ m, m ∈ st.log.map Prod.fst → ∀ s, s < m → ∀ (i : Nat) (t : Th), st.ths[i]? = some t →
    s ∉ t.toks ∧ ∀ k, k ≠ Cont.retAcq → t.pc ≠ PC.relDec s k
  /-- (c) a token is held only for a session that is not terminated (`closed = 0`) and whose
      destructor has not run; so `Acquire` never returns a terminated session.  (This is about tokens,
      not about `liveCount`: a backing-off `Acquire` does increment the count of a terminated session
      for a moment, `relDec s retAcq`, before it steps down.) -/
  live : ∀ (i : Nat) (t : Th), st.ths[i]? = some t → ∀ s, s ∈ t.toks → (getS st s).closed = 0 ∧ st.freeSeqno ≤ s
  /-- a token is for a session that exists: `s ≤ cur`.  (`cur` only grows and the swap of flush
      number `m` sets `cur = m`, so a token obtained before flush `m` swapped is for a session `< m`.) -/
  tokenOld : ∀ (i : Nat) (t : Th), st.ths[i]? = some t → ∀ s, s ∈ t.toks → s ≤ st.cur
  /-- (d) neither panic of `Release` is reachable -/
  noPanic : st.panicked = false

theorem safe_of_inv {st : St} (h : Inv st) : Safe st := by
  have hfa := freeSeqno_le_active h
  refine ⟨h.logseq, h.logobj, ⟨h.tagged, hfa, h.numbering⟩, ?_, ?_, ?_, h.nopanic⟩
  · intro m hm s hs i t ht
    rw [h.logseq] at hm
    simp [List.mem_range'_1] at hm
    exact no_holder_of_closed h (closed_of_lt_freeSeqno h (by omega)) i t ht
  · intro i t ht s hin
    exact SInv.open (h.sess s) fun _ => Nat.ne_of_gt (real_of_token ht hin)
  · intro i t ht s hin
    have := ref_lt h (Nat.le_trans (real_of_token ht hin) (cnt_le_cnt _ _ st (realT_le_refT s)))
    rw [← h.curlen] at this; exact Nat.le_of_lt_succ this

/-- **C16.**  Every state reachable from `init n` — any `n`, any schedule, either protocol variant —
    is safe: destructor calls in flush order and exactly once each (with the right object), only after
    every holder of a token for that or an earlier session has released, tokens only for
    non-terminated sessions, no panic. -/
theorem C16_barrier_safety (fixed : Bool) (n : Nat) (sched : List (Nat × Act)) (st : St)
    (hrun : run fixed (init n) sched = some st) : Safe st :=
  safe_of_inv (run_inv (init_inv n) hrun)

/-- the step-level reading of (c): when the ACQ_ADD step of a thread grants the token (the thread's
    call returns: new pc `idle`), the session is not flushed, not terminated, and its destructor has
    not run -/
theorem C16_grant (fixed : Bool) (n : Nat) (sched : List (Nat × Act)) (st st1 : St) (i : Nat) (t t' : Th)
    (s : Nat) (hrun : run fixed (init n) sched = some st) (ht : st.ths[i]? = some t)
    (hpc : t.pc = PC.acqAdd s) (he : exec fixed st t .step = some (st1, t')) (hgr : t'.pc = PC.idle) :
    t'.toks = t.toks ++ [s] ∧
      (getS st s).flushed = false ∧ (getS st s).closed = 0 ∧ st.freeSeqno ≤ s := by
  obtain ⟨pc, toks⟩ := t
  subst hpc
  cases exec_sound he
  case acqBackoff => cases hgr
  case acqGrant hreg hb => exact ⟨rfl, grant_safe (run_inv (init_inv n) hrun) ht rfl hb⟩

/-- the moment of the destructor call: a thread parked at CL_PROC for session `s` is about to call the
    destructor of flush number `s+1` on that flush's object; at that moment the destructors of flushes
    `1 … s` have run (and only those), and no thread holds a token for, or is releasing a real unit of,
    session `s` or any earlier session -/
theorem C16_destructor_call (fixed : Bool) (n : Nat) (sched : List (Nat × Act)) (st : St)
    (i : Nat) (t : Th) (s : Nat) (k : Cont)
    (hrun : run fixed (init n) sched = some st) (ht : st.ths[i]? = some t)
    (hpc : t.pc = PC.clProc s k) :
    s = st.freeSeqno ∧ (getS st s).seqno = s + 1 ∧ st.tagged[s]? = some (getS st s).obj ∧
      st.log.map Prod.fst = List.range' 1 s ∧
      (destruct st s).log = st.log ++ [(s + 1, (getS st s).obj)] ∧
      ∀ s', s' ≤ s → ∀ (j : Nat) (u : Th), st.ths[j]? = some u →
        s' ∉ u.toks ∧ ∀ k', k' ≠ Cont.retAcq → u.pc ≠ PC.relDec s' k' := by
  have h := run_inv (init_inv n) hrun
  obtain ⟨pc, toks⟩ := t
  subst hpc
  obtain ⟨_, hs, hc1, _, hseq, hobj⟩ := (h.front ht).at_clProc
  refine ⟨hs, hseq, hobj, by rw [h.logseq, hs], by simp [hseq], ?_⟩
  intro s' hs' j u hu
  by_cases e : s' = s
  · subst e; exact no_holder_of_closed h hc1 j u hu
  · exact no_holder_of_closed h (closed_of_lt_freeSeqno h (by omega)) j u hu

theorem exec_mono {fixed : Bool} {st st1 : St} {t t' : Th} {a : Act} (h : Inv st)
    (he : exec fixed st t a = some (st1, t')) :
    st.cur ≤ st1.cur ∧ st.freeSeqno ≤ st1.freeSeqno ∧ st.activeSeqno ≤ st1.activeSeqno := by
  have hcl := h.curlen
  cases exec_sound he
  case clProc => exact ⟨Nat.le_refl _, Nat.le_succ _, Nat.le_refl _⟩
  case flSwap => exact ⟨by simp; omega, Nat.le_refl _, Nat.le_refl _⟩
  case flTag => exact ⟨Nat.le_refl _, Nat.le_refl _, Nat.le_succ _⟩
  all_goals exact ⟨Nat.le_refl _, Nat.le_refl _, Nat.le_refl _⟩

theorem step_mono {fixed : Bool} {st st' : St} {i : Nat} {a : Act} (h : Inv st)
    (hs : step fixed st i a = some st') :
    st.cur ≤ st'.cur ∧ st.freeSeqno ≤ st'.freeSeqno ∧ st.activeSeqno ≤ st'.activeSeqno := by
  obtain ⟨t, st1, t', _, he, rfl⟩ := step_some hs
  simpa using exec_mono h he

/-- `cur` (sessions created), `activeSeqno` (flushes tagged) and `freeSeqno` (destructors run) only grow -/
theorem run_mono {fixed : Bool} {sched : List (Nat × Act)} {st st' : St} (h : Inv st)
    (hr : run fixed st sched = some st') :
    st.cur ≤ st'.cur ∧ st.freeSeqno ≤ st'.freeSeqno ∧ st.activeSeqno ≤ st'.activeSeqno :=
  (run_induct (P := fun s => Inv s ∧ st.cur ≤ s.cur ∧ st.freeSeqno ≤ s.freeSeqno ∧ st.activeSeqno ≤ s.activeSeqno)
    (fun h1 hs => ⟨step_inv h1.1 hs, by have := step_mono h1.1 hs; omega⟩)
    ⟨h, Nat.le_refl _, Nat.le_refl _, Nat.le_refl _⟩ hr).2

/-- "The destructor of flush number `m` runs only after every accessor whose `Acquire` completed
    before that flush has called `Release`":  take any reachable state `st1` in which flush number `m`
    has not yet swapped the session (`st1.cur < m`) and any token held in `st1`; in every later state
    `st2` in which the destructor of flush `m` has run, no thread holds a token for that session
    (the accessor has released it). -/
theorem C16_released_before_destructor (fixed : Bool) (n : Nat) (sched1 sched2 : List (Nat × Act))
    (st1 st2 : St) (hrun1 : run fixed (init n) sched1 = some st1)
    (hrun2 : run fixed st1 sched2 = some st2)
    (i : Nat) (t : Th) (s m : Nat) (ht : st1.ths[i]? = some t) (htok : s ∈ t.toks)
    (hbefore : st1.cur < m) (hlogged : m ∈ st2.log.map Prod.fst) :
    ∀ (j : Nat) (u : Th), st2.ths[j]? = some u → s ∉ u.toks := by
  have h1 := run_inv (init_inv n) hrun1
  have h2 := run_inv h1 hrun2
  have hs := (safe_of_inv h1).tokenOld i t ht s htok
  intro j u hu
  exact ((safe_of_inv h2).released m hlogged s (by omega) j u hu).1

/-! ### non-vacuity: a concrete reachable state in which a destructor has run, another session is
    flushed and still held, and a thread holds a token (checked by evaluation — a test, not a proof of
    the property) -/

/-- T0 acquires (session 0); T2 flushes twice (objects 100, 200); T1 acquires in between (session 1);
    T0 releases: session 0 terminates and is destructed; T1 still holds its token for session 1. -/
def c16Sched : List (Nat × Act) :=
  [(0, .start .acquire), (0, .step), (0, .step),
   (2, .start (.flush 100)), (2, .step), (2, .step), (2, .step), (2, .step), (2, .step), (2, .step),
   (1, .start .acquire), (1, .step), (1, .step),
   (2, .start (.flush 200)), (2, .step), (2, .step), (2, .step), (2, .step), (2, .step), (2, .step),
   (0, .start (.release 0)), (0, .step), (0, .step), (0, .step), (0, .step), (0, .step), (0, .step),
   (0, .step), (0, .step), (0, .step)]

example : (run true (init 3) c16Sched).map (fun s => (s.log, s.freeSeqno, s.activeSeqno))
      = some ([(1, 100)], 1, 2) ∧
    (run true (init 3) c16Sched).map (fun s => (s.ths.map (fun t => t.toks), s.panicked))
      = some ([[], [1], []], false) := by
  constructor <;> decide +kernel

example : ∃ st, run true (init 3) c16Sched = some st ∧ Safe st ∧ st.log ≠ [] ∧
    (∃ t, st.ths[1]? = some t ∧ 1 ∈ t.toks) := by
  have hd : (run true (init 3) c16Sched).map (fun s => (s.log, s.ths[1]?.map (·.toks)))
      = some ([(1, 100)], some [1]) := by decide +kernel
  cases hst : run true (init 3) c16Sched with
  | none => rw [hst] at hd; cases hd
  | some st =>
    rw [hst] at hd; simp at hd
    obtain ⟨hlog, t, ht, htk⟩ := hd
    exact ⟨st, rfl, C16_barrier_safety true 3 _ st hst, by simp [hlog], t, ht, by simp [htk]⟩

end NitroVerif.Barrier
