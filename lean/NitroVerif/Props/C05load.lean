import NitroVerif.Props.C05e2e
import NitroVerif.Lemmas.BackupDeltaOrdSet
import NitroVerif.Lemmas.SkipSeqRestore
import NitroVerif.Lemmas.SkipSeqRun
/-!
  Property C05, the link between the backup model M7 and the skiplist builder of M3.

  M7 (`Model/Backup.lean`) treats the restored store abstractly: `load` returns the concatenation of
  the decoded shard item lists.  The code (`LoadFromDisk`, nitro.go) builds the store with the
  skiplist builder: `segments[i] = b.NewSegment()` for every file of `files.json`, `concurr` loader
  goroutines that call `segments[shard].Add(itm)` for every item of the shard they were handed, in
  file order, and finally `m.store = b.Assemble(segments...)` with the segments in `files.json`
  order.  That restore ON THE POINTER HEAP of M3 is `restoreWith` (`Lemmas/SkipSeqRestore.lean`:
  `brun` of the `NewSegment`/`Segment.Add` calls, then `assemble`); this file proves that it realises
  M7's `load`.

  Interface between the models (explicit): items of M7 are byte strings, keys of M3 are integers
  (`Key.item k`, compared as integers).  A function `key : Bytes → Int` is a parameter; the
  hypotheses say what is assumed of it:
    * for the no-delta restore: the keys of the loaded items are strictly ascending along the loaded
      list (`(items.map key).Pairwise (· < ·)`) — equivalently every shard is ascending and every shard
      lies below the next one, which is what C10 / `C05_end_to_end` give for a stored snapshot when
      `key` is strictly monotone in the item order;
    * for the delta part additionally `KeyAgreesOn keyCmp key P` with `P` = "is a decoded data or
      delta item": on the items at hand the byte comparison of the loading instance is the comparison
      of the integer keys (relative to the items on purpose: `bytes.Compare` on all byte strings does
      not embed into the integers, on fixed-width keys it does).
  Level requests (the random heights) are arbitrary: the statements quantify over every annotation
  `sh` of the decoded shards with level requests (`Annotates key shards sh`).

  Concurrency of the loaders: the filling history is ANY interleaving `adds` of the loaders' `Add`
  calls that keeps each shard's file order (`Shuffle sh adds`: a superset of what `concurr` workers
  fed from a channel can produce), every call atomic.  (Inside `Add` the only shared write is the CAS
  of `NewLevel` on the level word; M3 takes it to succeed.  A failed CAS returns the current level
  as height and leaves the word alone — the outcome of the level request `req = level` — and the
  statements quantify over all level requests.)  In M3 the calls
  of different loaders do NOT commute as heap transformers — the allocation index of a node and the
  shared `s.level` word (hence the height a node gets) depend on the order, see the `example` on
  `restoreWith 3 exAdds` and `restore exSh` below; what is the same for all interleavings is what can be
  observed of the assembled store (`C05_load_interleaving_independent`).

  Delta files: `C05_load_delta_is_assemble_then_insert` covers the delta application with the delta
  items inserted ONE AT A TIME in M7's order (`files.json` order of the delta shards).  NOT covered:
  the `concurr` delta loaders insert concurrently into the shared list; that concurrent `Insert`s
  linearize is C13 (`Props/C13lin`), that the order is irrelevant under the round-trip hypotheses is
  `C05_delta_any_interleaving` — these two are composed by argument only.
-/
namespace NitroVerif.Props.C05
open NitroVerif.Codec NitroVerif.Backup NitroVerif.Backup.GenLemmas NitroVerif.Mvcc NitroVerif.SkipSeq NitroVerif.OrdSet

/-! ### what the loaders decode -/

/-- the item lists the loaders decode from the data shards, one per file of `files.json`, in that
    order — `none` when `LoadFromDisk` returns an error before `Assemble` -/
def decodedShards (h : Bytes → Nat) (img : Image) : Option (List (List Bytes)) :=
  match versionOf img.version with
  | none => none
  | some ver =>
    match img.files with
    | .parsed files => loadShards h ver Gen.checksumMismatch files img.sums img.data
    | _ => none

/-- the item lists decoded from the delta shards -/
def decodedDelta (h : Bytes → Nat) (img : Image) : Option (List (List Bytes)) :=
  match versionOf img.version with
  | none => none
  | some ver =>
    match dfilesOf img.dfiles with
    | none => none
    | some dfiles => loadShards h ver Gen.deltaChecksumMismatch dfiles img.dsums img.delta

/-- both are `Backup.sideShards`, at data/ and at delta/ -/
theorem decodedShards_side (h : Bytes → Nat) (img : Image) :
    decodedShards h img = sideShards h img.version (parsedOf img.files) img.sums img.data := by
  unfold decodedShards sideShards
  cases versionOf img.version with
  | none => rfl
  | some v => cases img.files <;> rfl

theorem decodedDelta_side (h : Bytes → Nat) (img : Image) :
    decodedDelta h img = sideShards h img.version (dfilesOf img.dfiles) img.dsums img.delta := by
  have e : Gen.deltaChecksumMismatch = Gen.checksumMismatch :=
    funext fun _ => funext fun _ => funext fun _ => deltaChecksumMismatch_eq _ _ _
  unfold decodedDelta sideShards
  rw [e]
  rfl

/-- M7's `load` without delta files is "decode the shards, concatenate" -/
theorem load_eq_decoded (h : Bytes → Nat) (keyCmp : Bytes → Bytes → Int) (img : Image) :
    load h keyCmp false img
      = match decodedShards h img with
        | none => .err
        | some shards => .ok shards.flatten := by
  rw [load_eq, decodedShards_side]
  rfl

/-- M7's `load` with delta files is "decode the shards, concatenate, insert the delta items" -/
theorem load_delta_eq_decoded (h : Bytes → Nat) (keyCmp : Bytes → Bytes → Int) (img : Image) :
    load h keyCmp true img
      = match decodedShards h img with
        | none => .err
        | some shards =>
          match decodedDelta h img with
          | none => .err
          | some dshards => .ok (insertAll keyCmp shards.flatten dshards.flatten) := by
  rw [load_eq, decodedShards_side, decodedDelta_side]
  rfl

theorem decoded_of_load {h : Bytes → Nat} {keyCmp : Bytes → Bytes → Int} {img : Image} {items : List Bytes}
    (hload : load h keyCmp false img = .ok items) :
    ∃ shards, decodedShards h img = some shards ∧ shards.flatten = items :=
  (dataSide_of_load_ok hload).imp fun _ hs => ⟨(decodedShards_side h img).trans hs.1, hs.2.symm⟩

/-- `shards`: one item list per shard file, in
    `files.json` order, whose concatenation has strictly ascending keys (each shard ascending, each
    below the next).  `sh`: the same with any level request per item.  `adds`: any interleaving of the
    loaders.  Then on the heap `s'` that `Assemble` returns
      * a full level-0 scan (`SeekFirst`/`Valid`/`Next`) leaves `s'` unchanged and yields exactly the
        keys of the concatenated shards, in order;
      * `s'` is well formed (`WF`, C14) and its node count is the number of items, as is the number
        of allocations;
      * every later script of operations behaves as the ordered set that starts with those keys. -/
theorem C05_restore_shards {α : Type} (key : α → Int) (shards : List (List α))
    (hasc : (shards.flatten.map key).Pairwise (· < ·))
    (sh : List (List (Int × Nat))) (hsh : Annotates key shards sh)
    (adds : List BOp) (hadds : Shuffle sh adds) :
    let s' := restoreWith shards.length adds
    (scanAll s').1 = s' ∧
    (scanAll s').2.map (keyOf s'.nodes) = shards.flatten.map (fun b => Key.item (key b)) ∧
    WF s' ∧ nodeCount s' = (shards.flatten.length : Int) ∧
    s'.stats.nodeAllocs = (shards.flatten.length : Int) ∧
    ∀ later : List Op,
      (run { sl := s', handles := [] } later).2
        = (specRun { set := shards.flatten.map key, handles := [] } later).2 := by
  intro s'
  rcases restoreWith_spec hsh adds hadds with ⟨L, hk, _, _, hal, hrep⟩
  rcases rep_observables (hrep hasc) hk with ⟨o1, o2, o3, o4, o5⟩
  rw [List.length_map] at o4
  refine ⟨o1, ?_, o3, o4, hal, o5⟩
  rw [o2, List.map_map]; rfl

/-- Whenever M7's `load` (no delta files) succeeds with `items`, and the
    keys of `items` are strictly ascending, the decoded shards exist, their concatenation is `items`,
    and the restore AS THE CODE DOES IT — one `NewSegment` per file, the loaders' `Segment.Add` calls
    in any interleaving `adds` with any level requests, `Assemble` in file order — produces a heap
    whose level-0 scan is exactly `items` (same items, same order, as keys), which is well formed, has
    `items.length` nodes (the `Count()` M7 reports), and on which every later script of operations
    behaves as the ordered set with that content (the restored instance continues the history
    correctly: `rep_observables`). -/
theorem C05_load_is_assemble (h : Bytes → Nat) (keyCmp : Bytes → Bytes → Int) (img : Image)
    (items : List Bytes) (hload : load h keyCmp false img = .ok items)
    (key : Bytes → Int) (hasc : (items.map key).Pairwise (· < ·)) :
    ∃ shards, decodedShards h img = some shards ∧ shards.flatten = items ∧
      ∀ sh, Annotates key shards sh → ∀ adds, Shuffle sh adds →
        let s' := restoreWith shards.length adds
        (scanAll s').1 = s' ∧
        (scanAll s').2.map (keyOf s'.nodes) = items.map (fun b => Key.item (key b)) ∧
        WF s' ∧ nodeCount s' = (items.length : Int) ∧
        (load h keyCmp false img).count = some items.length ∧
        ∀ later : List Op,
          (run { sl := s', handles := [] } later).2
            = (specRun { set := items.map key, handles := [] } later).2 := by
  rcases decoded_of_load hload with ⟨shards, hd, hfl⟩
  refine ⟨shards, hd, hfl, ?_⟩
  intro sh hsh adds hadds
  have hc := C05_restore_shards key shards (by rw [hfl]; exact hasc) sh hsh adds hadds
  rw [hfl] at hc
  rcases hc with ⟨c1, c2, c3, c4, _, c6⟩
  exact ⟨c1, c2, c3, c4, by rw [hload]; rfl, c6⟩

/-- The same without any hypothesis on the keys (`LoadFromDisk` compares nothing on this path, and the
    residual damages of C11 can make the concatenation unsorted): level 0 of the assembled heap still
    walks from head to tail through exactly the loaded items, in order, and one node was allocated
    per item.  (Without ascending keys the result is not a search structure: no `WF`.) -/
theorem C05_load_walk_any_input (h : Bytes → Nat) (keyCmp : Bytes → Bytes → Int) (img : Image)
    (items : List Bytes) (hload : load h keyCmp false img = .ok items) (key : Bytes → Int) :
    ∃ shards, decodedShards h img = some shards ∧ shards.flatten = items ∧
      ∀ sh, Annotates key shards sh → ∀ adds, Shuffle sh adds →
        let s' := restoreWith shards.length adds
        ∃ L, walkLevel s' 0 = some L ∧
          L.map (keyOf s'.nodes) = items.map (fun b => Key.item (key b)) ∧
          s'.stats.nodeAllocs = (items.length : Int) := by
  rcases decoded_of_load hload with ⟨shards, hd, hfl⟩
  refine ⟨shards, hd, hfl, ?_⟩
  intro sh hsh adds hadds s'
  rcases restoreWith_spec hsh adds hadds with ⟨L, hk, hkeys, hwalk, hal, _⟩
  rw [hfl] at hk hal
  refine ⟨L, by rw [hwalk 0 (Nat.zero_le _), LL_zero], ?_, hal⟩
  have e : List.map (fun b => Key.item (key b)) items = (items.map key).map Key.item := by
    rw [List.map_map]; rfl
  rw [e, ← hk, List.map_map]
  exact List.map_congr_left (fun n hn => hkeys n hn)

/-- A loader only touches its own segment: a `Segment.Add` on segment `i`
    * leaves the record (`head`/`tail`/statistics) of every other segment `j` as it is, and
    * changes no existing heap cell other than the ones segment `i`'s own `tail` array points at (the
      last node of each of its chains) — all other cells, in particular every node of another
      loader's segment, keep key, height and all links.
    What the loaders share is the allocator (the index the new node gets) and the store's level word
    (`NewLevel`'s CAS). -/
theorem C05_loaders_touch_own_segment (st : SL × List Segment) (i : Nat) (k : Int) (lvl : Nat) :
    (∀ j, i ≠ j → (bstep st (.add i k lvl)).2[j]? = st.2[j]?) ∧
    (∀ seg, st.2[i]? = some seg → ∀ m, m < st.1.nodes.length → (∀ l, seg.tail.getD l nilId ≠ m) →
      (bstep st (.add i k lvl)).1.nodes[m]? = st.1.nodes[m]?) := by
  refine ⟨fun j hij => bstep_add_other st i j k lvl hij, ?_⟩
  intro seg hseg m hm hnt
  simp only [bstep, hseg]
  exact segAdd_frame st.1 seg (.item k) lvl m hm hnt

/-- Two consecutive `Add` calls of DIFFERENT loaders may be exchanged anywhere in a filling history:
    the result is again an interleaving of the same shards, and `C05_load_interleaving_independent`
    applies to both.  (That every interleaving is reached from the sequential one by such exchanges is
    not proved; the independence theorem does not need it.) -/
theorem C05_loader_steps_swap {i j : Nat} (hij : i ≠ j) (k k' : Int) (l l' : Nat) (a b : List BOp)
    (sh : List (List (Int × Nat)))
    (hs : Shuffle sh (a ++ BOp.add i k l :: BOp.add j k' l' :: b)) :
    Shuffle sh (a ++ BOp.add j k' l' :: BOp.add i k l :: b) :=
  Shuffle.swap hij k k' l l' b a sh hs

/-- the loaders running one after the other (shard 0, then 1, …) is one of the interleavings -/
theorem C05_sequential_is_interleaving (sh : List (List (Int × Nat))) : Shuffle sh (fillFrom 0 sh) :=
  shuffle_fillFrom sh

/-- Two runs of the concurrent loaders over the same decoded shards —
    any two interleavings `adds₁`, `adds₂`, any two assignments of level requests `sh₁`, `sh₂` — give
    assembled heaps that cannot be told apart: the level-0 scans yield the same keys, the node counts
    agree, both are well formed, and every later script of operations produces the same outputs.
    (The heaps themselves may differ in node numbering and heights.) -/
theorem C05_load_interleaving_independent {α : Type} (key : α → Int) (shards : List (List α))
    (hasc : (shards.flatten.map key).Pairwise (· < ·))
    (sh₁ sh₂ : List (List (Int × Nat))) (h₁ : Annotates key shards sh₁) (h₂ : Annotates key shards sh₂)
    (adds₁ adds₂ : List BOp) (r₁ : Shuffle sh₁ adds₁) (r₂ : Shuffle sh₂ adds₂) :
    let s₁ := restoreWith shards.length adds₁
    let s₂ := restoreWith shards.length adds₂
    (scanAll s₁).2.map (keyOf s₁.nodes) = (scanAll s₂).2.map (keyOf s₂.nodes) ∧
    nodeCount s₁ = nodeCount s₂ ∧ WF s₁ ∧ WF s₂ ∧
    ∀ later : List Op,
      (run { sl := s₁, handles := [] } later).2 = (run { sl := s₂, handles := [] } later).2 := by
  intro s₁ s₂
  rcases C05_restore_shards key shards hasc sh₁ h₁ adds₁ r₁ with ⟨_, a2, a3, a4, _, a6⟩
  rcases C05_restore_shards key shards hasc sh₂ h₂ adds₂ r₂ with ⟨_, b2, b3, b4, _, b6⟩
  exact ⟨a2.trans b2.symm, a4.trans b4.symm, a3, b3, fun later => (a6 later).trans (b6 later).symm⟩

/-- What the Visitor hands to the shard writers (C10, model M6),
    framed into shard files (C19) and described by the manifests (M7 `storeImage`), is decoded by the
    loaders into exactly the Visitor's shards, and loaded back THROUGH THE BUILDER — `NewSegment` per
    file, any interleaving of the loaders, any level requests, `Assemble` in file order — it scans as
    exactly the content of the stored snapshot, in order; the restored heap is well formed, has one
    node per item of the snapshot and continues as the ordered set with the snapshot's keys.
    `enc` as in `C05_end_to_end`; `key` reads the integer key off the bytes and is strictly monotone
    in the key of the version (`hkey`; e.g. `key (enc v) = v.key`). -/
theorem C05_end_to_end_through_builder {n : Nat} {σ : Mvcc.State} (hr : Reachable n σ) {s : Snap}
    (hs : s ∈ σ.snaps) (hrc : 0 < s.rc) (pivots : List Ver) (rate : Int)
    (enc : Ver → Bytes) (henc : ∀ v, 0 < (enc v).length ∧ (enc v).length < 2 ^ 32)
    (henc_norm : ∀ v, enc v.norm = enc v)
    (h : Bytes → Nat) (keyCmp : Bytes → Bytes → Int)
    (key : Bytes → Int) (hkey : ∀ v w : Ver, v.key < w.key → key (enc v) < key (enc w)) :
    let parts := ((visitor σ.store s.sn rate none pivots).1).map (fun shard => shard.map enc)
    load h keyCmp false (storeImage h parts 1) = .ok (s.content.map enc) ∧
    decodedShards h (storeImage h parts 1) = some parts ∧
    ∀ sh, Annotates key parts sh → ∀ adds, Shuffle sh adds →
      let s' := restoreWith parts.length adds
      (scanAll s').1 = s' ∧
      (scanAll s').2.map (keyOf s'.nodes) = s.content.map (fun v => Key.item (key (enc v))) ∧
      WF s' ∧ nodeCount s' = (s.content.length : Int) ∧
      ∀ later : List Op,
        (run { sl := s', handles := [] } later).2
          = (specRun { set := s.content.map (fun v => key (enc v)), handles := [] } later).2 := by
  intro parts
  have hc := (NitroVerif.Props.C10_visitor_partition hr hs hrc pivots rate none).1 (by intro v _ hv; cases hv)
  have hflat : ((visitor σ.store s.sn rate none pivots).1).flatten.map Ver.norm = s.content := hc.2.1
  have hparts : parts.flatten = s.content.map enc := by
    show (((visitor σ.store s.sn rate none pivots).1).map (fun shard => shard.map enc)).flatten = _
    rw [← hflat, List.map_map]
    have hcomp : (enc ∘ Ver.norm) = enc := by funext v; exact henc_norm v
    rw [hcomp, List.map_flatten]
  have hval : ValidItems parts.flatten := by
    rw [hparts]
    intro d hd
    obtain ⟨v, _, rfl⟩ := List.mem_map.mp hd
    exact henc v
  have hdec : decodedShards h (storeImage h parts 1) = some parts :=
    decodedShards_side h _ ▸ sideShards_stored h (ver := 1) (by decide) hval
  have hsorted : s.content.Pairwise KeyLt := by
    rw [← hflat, List.pairwise_map]
    have : ((visitor σ.store s.sn rate none pivots).1).flatten.Pairwise KeyLt :=
      List.pairwise_flatten.mpr ⟨hc.2.2.1, hc.2.2.2.1⟩
    exact this.imp (fun hab => hab)
  have hasc : (parts.flatten.map key).Pairwise (· < ·) := by
    rw [hparts, List.map_map, List.pairwise_map]
    exact hsorted.imp (fun hab => hkey _ _ hab)
  refine ⟨C05_end_to_end hr hs hrc pivots rate enc henc henc_norm h keyCmp, hdec, ?_⟩
  intro sh hsh adds hadds
  have hcore := C05_restore_shards key parts hasc sh hsh adds hadds
  rw [hparts] at hcore
  rcases hcore with ⟨c1, c2, c3, c4, _, c6⟩
  refine ⟨c1, ?_, c3, c4.trans (by rw [List.length_map]), ?_⟩
  · rw [c2, List.map_map]; rfl
  · intro later; rw [c6 later, List.map_map]; rfl

/-- Whenever M7's `load` with delta files succeeds with `items`: the decoded
    data shards and delta shards exist and `items` is M7's `insertAll` of the delta items into the
    concatenated shards.  If the keys of the concatenated data shards are strictly ascending and the
    byte comparison agrees with `key` on the decoded data and delta items, then on M3 — restore through the builder (any interleaving of
    the loaders, any level requests), then one `Insert` per delta item in M7's order with any level
    request (`dops`) —
      * the i-th `Insert` succeeds iff `specRun` says so (the key is not yet present; a rejected item
        is a `DeltaRestoreFailed`),
      * the resulting heap scans as exactly `items`, is well formed, has `items.length` nodes, and
      * continues as the ordered set with the keys of `items`.
    The code calls `Insert2(itm, insCmp, existCmp, …)`, M3's `Insert2` has `eqCmp = nil`: on restored
    items (bornSn = deadSn = 0) sorted by key the `existCmp` test of `Insert4` never fires
    (`predEq_false_of_key`), which is why M7's walk and M3's `Insert2` coincide.  `m.itemsCount` is
    the node count proved here.
    Not covered: the concurrent delta `Insert`s of the `concurr` loaders (see the file header). -/
theorem C05_load_delta_is_assemble_then_insert (h : Bytes → Nat) (keyCmp : Bytes → Bytes → Int)
    (img : Image) (items : List Bytes) (hload : load h keyCmp true img = .ok items)
    (key : Bytes → Int) :
    ∃ shards dshards, decodedShards h img = some shards ∧ decodedDelta h img = some dshards ∧
      items = insertAll keyCmp shards.flatten dshards.flatten ∧
      ((shards.flatten.map key).Pairwise (· < ·) →
        KeyAgreesOn keyCmp key (fun b => b ∈ shards.flatten ∨ b ∈ dshards.flatten) →
        ∀ sh, Annotates key shards sh → ∀ adds, Shuffle sh adds →
        ∀ dops, DeltaOps key dshards.flatten dops →
          let s' := restoreWith shards.length adds
          let st'' := (run { sl := s', handles := [] } dops).1
          (run { sl := s', handles := [] } dops).2
            = (specRun { set := shards.flatten.map key, handles := [] } dops).2 ∧
          (scanAll st''.sl).1 = st''.sl ∧
          (scanAll st''.sl).2.map (keyOf st''.sl.nodes) = items.map (fun b => Key.item (key b)) ∧
          WF st''.sl ∧ nodeCount st''.sl = (items.length : Int) ∧
          ∀ later : List Op,
            (run st'' later).2 = (specRun { set := items.map key, handles := [] } later).2) := by
  rw [load_delta_eq_decoded] at hload
  cases hd : decodedShards h img with
  | none => rw [hd] at hload; cases hload
  | some shards =>
    rw [hd] at hload
    cases hdd : decodedDelta h img with
    | none => rw [hdd] at hload; cases hload
    | some dshards =>
      rw [hdd] at hload
      have hitems : items = insertAll keyCmp shards.flatten dshards.flatten := by
        simp only [Outcome.ok.injEq] at hload; exact hload.symm
      refine ⟨shards, dshards, rfl, rfl, hitems, ?_⟩
      intro hasc ka sh hsh adds hadds dops hdops s' st''
      rcases restoreWith_spec hsh adds hadds with ⟨L, hk, _, _, _, hrep⟩
      have hsim := sim_of_rep (hrep hasc)
      rw [hk] at hsim
      rcases run_sim dops _ _ _ hsim with ⟨hout, ⟨L', hsim'⟩, _⟩
      have hspec := insertAll_key ka hdops shards.flatten [] (fun y hy => Or.inl hy) (fun y hy => Or.inr hy) hasc
      rw [hspec, ← hitems] at hsim'
      have hr' : Rep st''.sl L' := hsim'.rep
      have hk' : L'.map (ikey st''.sl.nodes) = items.map key := hsim'.keys.symm
      rcases rep_observables hr' hk' with ⟨o1, o2, o3, o4, _⟩
      rw [List.length_map] at o4
      refine ⟨hout, o1, ?_, o3, o4, ?_⟩
      · rw [o2, List.map_map]; rfl
      · intro later
        exact (run_sim later _ _ _ hsim').1

/-- three shards (the middle one empty), keys `[1,5] [] [7,9]`, heights requested per item -/
def exSh : List (List (Int × Nat)) := [[(1, 0), (5, 3)], [], [(7, 1), (9, 0)]]

/-- an interleaving of the three loaders: shard 2 starts, shard 0 overtakes -/
def exAdds : List BOp := [.add 2 7 1, .add 0 1 0, .add 2 9 0, .add 0 5 3]

example : Shuffle exSh exAdds :=
  .step 2 7 1 [(9, 0)] rfl (.step 0 1 0 [(5, 3)] rfl (.step 2 9 0 [] rfl (.step 0 5 3 [] rfl
    (.done (by decide)))))

example : fillFrom 0 exSh = [.add 0 1 0, .add 0 5 3, .add 2 7 1, .add 2 9 0] := by decide

/-- the hypotheses of `C05_restore_shards` hold for byte items keyed by their first byte -/
example :
    (([[[1, 0], [5]], [], [[7, 7], [9]]] : List (List Bytes)).flatten.map
        (fun b => ((b.headD 0).toNat : Int))).Pairwise (· < ·) ∧
    Annotates (fun b : Bytes => ((b.headD 0).toNat : Int)) [[[1, 0], [5]], [], [[7, 7], [9]]] exSh :=
  ⟨by decide, by unfold Annotates; decide⟩

set_option maxRecDepth 20000 in
/-- TEST (by evaluation): the interleaved and the sequential restore scan alike and answer later
    operations alike … -/
example :
    let s₁ := restoreWith 3 exAdds
    let s₂ := restore exSh
    (scanAll s₁).2.map (keyOf s₁.nodes) = [.item 1, .item 5, .item 7, .item 9] ∧
    (scanAll s₂).2.map (keyOf s₂.nodes) = [.item 1, .item 5, .item 7, .item 9] ∧
    (run { sl := s₁, handles := [] } [.ins 6 1, .ins 5 0, .del 1, .iter]).2
      = [.bool true, .bool false, .bool true, .keys [.item 5, .item 6, .item 7, .item 9]] ∧
    (run { sl := s₂, handles := [] } [.ins 6 1, .ins 5 0, .del 1, .iter]).2
      = [.bool true, .bool false, .bool true, .keys [.item 5, .item 6, .item 7, .item 9]] := by decide +kernel

set_option maxRecDepth 20000 in
/-- … although the two heaps differ: `Add` calls of different loaders do not commute in M3 (node
    numbering, and the heights, because `NewLevel` raises the shared level word by one at a time) -/
example :
    (restoreWith 3 exAdds).nodes.map (fun nd => (nd.key, nd.level))
      ≠ (restore exSh).nodes.map (fun nd => (nd.key, nd.level)) := by
  -- `Assemble` keeps keys and heights, so it is enough to run the two filling phases
  simp only [restore, restoreWith]
  rw [(assemble_shape _ _).map_key_level, (assemble_shape _ _).map_key_level]
  decide +kernel

/-- byte strings of at most four bytes read as big-endian numbers after padding with zeros: on such
    keys `bytes.Compare` is the comparison of the numbers -/
def exKey (b : Bytes) : Int := ((b ++ [0, 0, 0, 0]).take 4).foldl (fun (a : Int) (x : UInt8) => a * 256 + (x.toNat : Int)) 0

/-- the hypotheses of `C05_load_is_assemble` are jointly satisfiable: the image a store leaves -/
example (h : Bytes → Nat) :
    load h cmpBytes false (storeImage h exParts) = .ok exContent ∧
    (exContent.map exKey).Pairwise (· < ·) :=
  ⟨(C05_roundtrip h cmpBytes exContent exContent_valid exParts exParts_flatten).1, by decide⟩

/-- the hypotheses of the delta theorem are jointly satisfiable: a delta-mode backup whose shards miss
    an item (`exPartsMissing`, `exDelta` of `Props/C05.lean`), `bytes.Compare`, `exKey` -/
example (h : Bytes → Nat) :
    load h cmpBytes true (storeImageDelta h exPartsMissing exDelta) = .ok exContent ∧
    decodedShards h (storeImageDelta h exPartsMissing exDelta) = some exPartsMissing ∧
    decodedDelta h (storeImageDelta h exPartsMissing exDelta) = some exDelta ∧
    (exPartsMissing.flatten.map exKey).Pairwise (· < ·) ∧
    KeyAgreesOn cmpBytes exKey (fun b => b ∈ exPartsMissing.flatten ∨ b ∈ exDelta.flatten) := by
  have h2 : ∀ b ∈ exDelta.flatten, b ∈ exContent := by decide
  refine ⟨C05_roundtrip_delta_missing h keyOrder_cmpBytes exContent exContent_valid exContent_sorted
      exPartsMissing exDelta exPartsMissing_sublist h2 (by decide), ?_, ?_, by decide, ?_⟩
  · exact decodedShards_side h _ ▸ sideShards_stored h (ver := 1) (by decide) (by decide)
  · exact decodedDelta_side h _ ▸ sideShards_stored h (ver := 1) (by decide) (by decide)
  · have hU : ∀ b, (b ∈ exPartsMissing.flatten ∨ b ∈ exDelta.flatten) → b ∈ exContent :=
      fun b hb => hb.elim (fun m => exPartsMissing_sublist.subset m) (h2 b)
    have hall : ∀ a ∈ exContent, ∀ b ∈ exContent,
        (cmpBytes a b < 0 ↔ exKey a < exKey b) ∧ (cmpBytes a b = 0 ↔ exKey a = exKey b) := by decide
    exact ⟨fun a b ha hb => (hall a (hU a ha) b (hU b hb)).1, fun a b ha hb => (hall a (hU a ha) b (hU b hb)).2⟩

example : DeltaOps (fun b => ((b.headD 0).toNat : Int)) [[6], [5, 1]] [.ins 6 2, .ins 5 0] :=
  .cons [6] 2 (.cons [5, 1] 0 .nil)

end NitroVerif.Props.C05
