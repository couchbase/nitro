import NitroVerif.Lemmas.BackupEffectsDelta
import NitroVerif.Props.C05
/-!
  Property C12 — backup never succeeds silently partial.

  "If any write, flush or close fails during StoreToDisk (for example the disk fills at any byte),
  StoreToDisk returns an error rather than success for a backup that cannot be restored.  If the
  process dies at any point during StoreToDisk into an empty directory, LoadFromDisk of what is left on
  disk returns an error or exactly the stored snapshot."

  Model: `Model/BackupEffects.lean`.  `StoreTrace h parts ver es` says that `es` is an effect list of
  a (non-delta) StoreToDisk of the partition `parts`: the header (mkdir, create of every shard file,
  nitro.json), the Visitor's writes in ANY chunking and ANY interleaving across shards, files.json,
  checksums.json, then the deferred Closes' writes in any chunking; manifest writes are non-atomic
  (`manifestBegin`).  A crash image is `imageAfter p` for any prefix `p` of `es`.
  The order of the calls is the generated `Gen.skeleton_StoreToDisk` / `Gen.skeleton_rawFileWriterClose`
  (`skeleton_StoreToDisk_ok`, `skeleton_rawFileWriterClose_ok`): a reordering in the Go code breaks
  those lemmas.  The theorems whose truth depends on that order (`C12_crash_prefix`,
  `C12_write_failure`, `C12_crash_prefix_delta`) cite them by `have _hskel := …`, `have _hclose := …`:
  unused by the proof, the line makes the theorem stop compiling when the lemma does.
  Delta-mode stores (`StoreTraceDelta`): the collectors' writes on the delta files interleaved with
  the Visitor's, the delta manifests, the delta writers' Closes, and only then the data writers'
  Closes — `C12_crash_prefix_delta`.
-/
namespace NitroVerif.Props.C12
open NitroVerif.Codec NitroVerif.Backup NitroVerif.Backup.GenLemmas

/-- For every effect list of a store of `parts` (every chunking, every
    interleaving) and every prefix of it, LoadFromDisk of the directory left behind returns an error
    or exactly the content. -/
theorem C12_crash_prefix (h : Bytes → Nat) (cmp : Bytes → Bytes → Int) (content : List Bytes)
    (hit : ∀ d ∈ content, 0 < d.length ∧ d.length < 2 ^ 32)
    (parts : List (List Bytes)) (hparts : parts.flatten = content)
    (es : List Effect) (tr : StoreTrace h parts 1 es) (p : List Effect) (hp : p <+: es) :
    load h cmp false (imageAfter p) = .err ∨ load h cmp false (imageAfter p) = .ok content := by
  have _hskel := skeleton_StoreToDisk_ok
  have _hclose := Codec.GenLemmas.skeleton_rawFileWriterClose_ok
  rcases crash_prefix h cmp parts (validItems_of_content hit hparts) (by decide) tr p hp with he | ⟨hok, _⟩
  · exact Or.inl he
  · exact Or.inr (by rw [hok, hparts])

/-- The load succeeds only when every shard file on disk is complete: a crash image in which some
    shard file lacks bytes is always rejected. -/
theorem C12_crash_success_only_complete (h : Bytes → Nat) (cmp : Bytes → Bytes → Int) (content : List Bytes)
    (hit : ∀ d ∈ content, 0 < d.length ∧ d.length < 2 ^ 32)
    (parts : List (List Bytes)) (hparts : parts.flatten = content)
    (es : List Effect) (tr : StoreTrace h parts 1 es) (p : List Effect) (hp : p <+: es)
    (hne : (imageAfter p).data ≠ shardFiles 0 parts) :
    load h cmp false (imageAfter p) = .err := by
  rcases crash_prefix h cmp parts (validItems_of_content hit hparts) (by decide) tr p hp with he | ⟨_, hd⟩
  · exact he
  · exact absurd hd hne

/-- Until the deferred Closes start writing, no shard file has its terminator: every crash image up
    to and including checksums.json is rejected (at least one shard, as `runtime.NumCPU() ≥ 1`).
    This is why the data files must be completed last. -/
theorem C12_crash_before_closes_err (h : Bytes → Nat) (cmp : Bytes → Bytes → Int) (content : List Bytes)
    (hit : ∀ d ∈ content, 0 < d.length ∧ d.length < 2 ^ 32)
    (parts : List (List Bytes)) (hparts : parts.flatten = content) (hn : 0 < parts.length)
    (es : List Effect) (tr : StoreTrace h parts 1 es) (p : List Effect)
    (hp : p <+: storeHeader parts.length 1 ++ tr.mid ++ storeManifests h parts) :
    load h cmp false (imageAfter p) = .err :=
  crash_before_closes_err h cmp parts (validItems_of_content hit hparts) (by decide) hn tr p hp

/-- After the last effect the directory is exactly the image of a successful store. -/
theorem C12_store_complete (h : Bytes → Nat) (parts : List (List Bytes))
    (es : List Effect) (tr : StoreTrace h parts 1 es) : imageAfter es = storeImage h parts :=
  imageAfter_complete h parts 1 tr

/-- Every file can take `b.bytes` bytes; a write that does not fit fails
    (after writing what fits).  With the error propagation of the fixed code (the first failing
    write/flush/close of the Visitor, of a manifest, or of a deferred Close becomes the return
    value): if StoreToDisk returns success, the directory restores exactly the content. -/
theorem C12_write_failure (h : Bytes → Nat) (cmp : Bytes → Bytes → Int) (content : List Bytes)
    (hit : ∀ d ∈ content, 0 < d.length ∧ d.length < 2 ^ 32)
    (parts : List (List Bytes)) (hparts : parts.flatten = content)
    (es : List Effect) (tr : StoreTrace h parts 1 es) (b : Budget) (img : Image)
    (hok : storeWithBudget true b (storeHeader parts.length 1 ++ tr.mid ++ storeManifests h parts)
      tr.closes = (.ok, img)) :
    load h cmp false img = .ok content := by
  have _hskel := skeleton_StoreToDisk_ok
  have _hclose := Codec.GenLemmas.skeleton_rawFileWriterClose_ok
  have := storeWithBudget_ok hok
  rw [← tr.shape, C12_store_complete h parts es tr] at this
  rw [this, load_storeImage h cmp parts (validItems_of_content hit hparts) (by decide), hparts]

/-- A failing write in a deferred Close (the final Flush of the buffered bytes, the terminator, or
    the close itself) never yields success in the fixed code (`propagateClose = true`). -/
theorem C12_failed_close_is_error (b : Budget) (main deferred : List Effect)
    (hfail : (runAll b (runUntilFailure b emptyImage main).1 deferred).2 = false) :
    (storeWithBudget true b main deferred).1 = .err := by
  unfold storeWithBudget
  cases hm : runUntilFailure b emptyImage main with
  | mk i1 ok1 =>
    rw [hm] at hfail
    simp only at hfail ⊢
    cases hd : runAll b i1 deferred with
    | mk i2 ok2 =>
      rw [hd] at hfail
      simp only at hfail
      subst hfail
      simp

/-- A failing write of the Visitor or of a manifest (the effects before the deferred Closes) never
    yields success, whether or not the errors of the Closes are propagated. -/
theorem C12_failed_write_is_error (propagateClose : Bool) (b : Budget) (main deferred : List Effect)
    (hfail : (runUntilFailure b emptyImage main).2 = false) :
    (storeWithBudget propagateClose b main deferred).1 = .err := by
  unfold storeWithBudget
  cases hm : runUntilFailure b emptyImage main with
  | mk i1 ok1 =>
    rw [hm] at hfail
    simp only at hfail ⊢
    subst hfail
    cases runAll b i1 deferred
    simp

/-! ### non-vacuity: a concrete store with an empty shard, a concrete chunking and interleaving -/

def exParts : List (List Bytes) := [[[1], [2]], [], [[3, 3]]]
def exContent : List Bytes := [[1], [2], [3, 3]]

/-- the Visitor's writes: shard 0 and shard 2 interleaved, cut in the middle of frames -/
def exMid : List Effect :=
  [.appendData 0 [0, 0, 0, 1, 1], .appendData 2 [0, 0], .appendData 0 [0, 0, 0], .appendData 2 [0, 2, 3]]

/-- the deferred Closes: rest of the buffer + terminator, file by file -/
def exCloses : List Effect :=
  [.appendData 0 [1, 2, 0, 0, 0, 0], .appendData 1 [0, 0, 0, 0], .appendData 2 [3], .appendData 2 [0, 0, 0, 0]]

def exEffects (h : Bytes → Nat) : List Effect :=
  storeHeader 3 1 ++ exMid ++ storeManifests h exParts ++ exCloses

def exTrace (h : Bytes → Nat) : StoreTrace h exParts 1 (exEffects h) where
  mid := exMid
  closes := exCloses
  shape := rfl
  midData := by decide
  closesData := by decide
  midItems := by decide
  total := by decide

theorem exParts_flatten : exParts.flatten = exContent := by decide

example : exParts.flatten = exContent := exParts_flatten

/-- every one of the 19 crash points of this store, for every hash -/
example (h : Bytes → Nat) (k : Nat) :
    load h cmpBytes false (imageAfter ((exEffects h).take k)) = .err ∨
    load h cmpBytes false (imageAfter ((exEffects h).take k)) = .ok exContent :=
  C12_crash_prefix h cmpBytes exContent (by decide) exParts exParts_flatten (exEffects h) (exTrace h) _
    (List.take_prefix _ _)

/-- TEST (by evaluation, constant hash): the outcomes at the 19 crash points — errors until the last
    Close has written the last terminator -/
example : (List.range 19).map (fun k =>
      load (fun _ => 0) cmpBytes false (imageAfter ((exEffects (fun _ => 0)).take k)))
    = List.replicate 18 .err ++ [.ok exContent] := by decide +kernel

/-- TEST: a crash between the two halves of the last shard's Close: shard 2 has all its items but no
    terminator -/
example : (imageAfter ((exEffects (fun _ => 0)).take 17)).data
    = [("shard-0", writeFile [[1], [2]]), ("shard-1", writeFile []), ("shard-2", [0, 0, 0, 2, 3, 3])] := by
  decide +kernel

example (h : Bytes → Nat) : imageAfter (exEffects h) = storeImage h exParts :=
  C12_store_complete h exParts _ (exTrace h)

/-- a budget of 100 bytes per file is enough: success, and the theorem applies -/
example : (storeWithBudget true ⟨100, fun _ => 40⟩
    (storeHeader 3 1 ++ exMid ++ storeManifests (fun _ => 0) exParts) exCloses).1 = .ok := by decide +kernel

/-- a budget of 9 bytes: shard 0 (14 bytes) cannot be completed; the failing write is in the deferred
    Close.  Fixed code: error. -/
example : (storeWithBudget true ⟨9, fun _ => 5⟩
    (storeHeader 3 1 ++ exMid ++ storeManifests (fun _ => 0) exParts) exCloses).1 = .err := by decide +kernel

/-- WITNESS, an evaluated concrete run of the original code, which dropped the errors of the
    deferred Closes: the same budget gives SUCCESS for a directory that LoadFromDisk
    rejects.  (Replayed on the real code before the fix: defect D8.) -/
theorem C12_unfixed_witness :
    ∃ img, storeWithBudget false ⟨9, fun _ => 5⟩
        (storeHeader 3 1 ++ exMid ++ storeManifests (fun _ => 0) exParts) exCloses = (.ok, img) ∧
      load (fun _ => 0) cmpBytes false img = .err :=
  ⟨(storeWithBudget false ⟨9, fun _ => 5⟩
      (storeHeader 3 1 ++ exMid ++ storeManifests (fun _ => 0) exParts) exCloses).2,
    by decide +kernel, by decide +kernel⟩

/-- With the hypotheses of the delta round trip
    (`C05_roundtrip_delta_general`): LoadFromDisk of any crash image returns an error or exactly the
    content. -/
theorem C12_crash_prefix_delta (h : Bytes → Nat) {cmp : Bytes → Bytes → Int} (ko : KeyOrder cmp)
    (content : List Bytes) (hit : ∀ d ∈ content, 0 < d.length ∧ d.length < 2 ^ 32)
    (hsorted : content.Pairwise (fun a b => cmp a b < 0))
    (parts dparts : List (List Bytes)) (hsub : parts.flatten.Sublist content)
    (hdval : ∀ d ∈ dparts.flatten, 0 < d.length ∧ d.length < 2 ^ 32)
    (hds : ∀ x ∈ dparts.flatten, x ∈ content ∨ ∃ c ∈ parts.flatten, cmp x c = 0)
    (hall : ∀ y ∈ content, y ∈ parts.flatten ∨ y ∈ dparts.flatten) (hn : 0 < parts.length)
    (es : List Effect) (tr : StoreTraceDelta h parts dparts 1 es) (p : List Effect) (hp : p <+: es) :
    load h cmp true (imageAfter p) = .err ∨ load h cmp true (imageAfter p) = .ok content := by
  have _hskel := skeleton_StoreToDisk_ok
  have _hclose := Codec.GenLemmas.skeleton_rawFileWriterClose_ok
  rcases crash_prefix_delta cmp (ValidItems.sublist hit hsub) (by decide) hn tr p hp with he | himg
  · exact Or.inl he
  · right
    rw [himg]
    exact (C05.C05_roundtrip_delta_general h ko content hit hsorted parts dparts hsub hdval hds hall).1

/-- a loader WITHOUT delta files reads none of the delta side: whatever delta effects are interleaved,
    its outcome is that of the data side alone -/
theorem C12_load_false_ignores_delta (h : Bytes → Nat) (cmp : Bytes → Bytes → Int) (es : List Effect) :
    load h cmp false (imageAfter es) = load h cmp false (imageAfter (es.filter notDeltaB)) := by
  rw [imageAfter_splitD es, load_false_mergeD]

/-- non-vacuity: the store of `C05.exPartsMissing` + `C05.exDelta` — shard 0 holds `[0,0,0,0]`,
    shard 1 is empty, shard 2 holds `[7,7,7]`; writer 0's collector logged `[0,1]`, writer 1's logged
    `[7,7,7]`; data and delta writes interleaved -/
def exDMid : List Effect :=
  [.appendData 0 [0, 0, 0, 4, 0, 0], .appendDelta 0 [0, 0, 0, 2, 0], .appendData 2 [0, 0, 0, 3, 7, 7, 7],
   .appendDelta 1 [0, 0, 0, 3]]
def exDMid2 : List Effect := [.appendDelta 1 [7, 7]]
def exDCloses : List Effect := [.appendDelta 0 [1, 0, 0, 0, 0], .appendDelta 1 [7, 0, 0, 0, 0]]
def exDataCloses : List Effect :=
  [.appendData 0 [0, 0, 0, 0, 0, 0], .appendData 1 [0, 0, 0, 0], .appendData 2 [0, 0, 0, 0]]

def exDeltaEffects (h : Bytes → Nat) : List Effect :=
  storeHeaderDelta 3 2 1 ++ exDMid ++ storeManifests h C05.exPartsMissing ++ exDMid2 ++
    deltaManifests h C05.exDelta ++ exDCloses ++ exDataCloses

def exDeltaTrace (h : Bytes → Nat) : StoreTraceDelta h C05.exPartsMissing C05.exDelta 1 (exDeltaEffects h) where
  mid := exDMid
  mid2 := exDMid2
  dcloses := exDCloses
  closes := exDataCloses
  shape := rfl
  midOk := by decide
  mid2Ok := by decide
  dclosesOk := by decide
  closesOk := by decide
  midItems := by decide
  total := by decide
  dmidItems := by decide
  dtotal := by decide

example (h : Bytes → Nat) (k : Nat) :
    load h cmpBytes true (imageAfter ((exDeltaEffects h).take k)) = .err ∨
    load h cmpBytes true (imageAfter ((exDeltaEffects h).take k)) = .ok C05.exContent :=
  C12_crash_prefix_delta h keyOrder_cmpBytes C05.exContent C05.exContent_valid C05.exContent_sorted
    C05.exPartsMissing C05.exDelta C05.exPartsMissing_sublist (by decide) (by decide) (by decide) (by decide)
    (exDeltaEffects h) (exDeltaTrace h) _ (List.take_prefix _ _)

/-- TEST (by evaluation, constant hash): the 28 crash points of this store — rejected until the last
    data Close has written -/
example : (List.range 28).map (fun k =>
      load (fun _ => 0) cmpBytes true (imageAfter ((exDeltaEffects (fun _ => 0)).take k)))
    = List.replicate 27 .err ++ [.ok C05.exContent] := by decide +kernel

end NitroVerif.Props.C12
