/-
  C02 Sequential set semantics.
  "Between snapshots the store behaves as a set keyed by the configured comparator: Put succeeds
   (returns a node) iff no live item with an equal key exists, Delete succeeds iff one exists and
   removes exactly that item, and a writer's lookup finds an item iff it is live.  After any sequence
   of such operations and snapshot creations, the live-item count and the content and Count() of the
   next snapshot equal those of a reference set that executed the same sequence."

  Model: `Model/Mvcc*.lean` (M6: nitro.go at the granularity "one skiplist operation = one atomic
  step", one goroutine, any number of writers).  Specification: `Spec/SetSpec.lean`.
  Keys are `Nat` ordered by `<` (standing for an arbitrary lawful total key order); values are
  arbitrary, so key-only comparators such as `CompareKV` (equal keys, different bytes) are covered;
  the default comparator is the special case "value = 0".
-/
import NitroVerif.Lemmas.MvccSimIter

namespace NitroVerif.Props
open NitroVerif NitroVerif.Mvcc
open NitroVerif.SetSpec (Op Out)

/-- **C02** For every number of writers and every finite sequence of Put/Put2, Delete/Delete2,
    GetNode (+ lookup of the value), DeleteNode through handles obtained earlier, NewSnapshot, Open,
    Close, Count, ItemsCount, full scans, iterator operations and Visitor calls, through any of the
    writers, the outputs of the model (success flags, lookup results and values, `sn`/`Count()` of
    each new snapshot, ItemsCount, snapshot contents, …) equal the outputs of the reference set. -/
theorem C02_refines_set (n : Nat) (ops : List Op) :
    Mvcc.run (Mvcc.init n) ops = SetSpec.run (SetSpec.init n) ops := by
  rw [run_refines ops (inv_init n), abs_init]

/-- the same from any reachable state, through the abstraction function -/
theorem C02_refines_set_from {n : Nat} {σ : Mvcc.State} (hr : Reachable n σ) (ops : List Op) :
    Mvcc.run σ ops = SetSpec.run (abs σ) ops :=
  run_refines ops (inv_reachable hr)

/-- one step: the specification, started in the abstraction of the model state, produces the
    model's output and ends in the abstraction of the model's next state -/
theorem C02_step_refines {n : Nat} {σ : Mvcc.State} (hr : Reachable n σ) (op : Op) :
    SetSpec.step (abs σ) op = (abs (Mvcc.step σ op).1, (Mvcc.step σ op).2) :=
  step_refines (inv_reachable hr) op

/-- `Sorted`, `Chains` and the item count in every reachable state -/
theorem C02_invariants {n : Nat} {σ : Mvcc.State} (hr : Reachable n σ) :
    σ.store.Pairwise vlt ∧ Chains σ.currSn σ.store ∧
    σ.itemsCount + (σ.writers.map (·.count)).sum = ((σ.store.filter isAlive).length : Nat) :=
  ⟨(inv_reachable hr).sorted, (inv_reachable hr).chains, (inv_reachable hr).count⟩

/-- the reference set really is a set: its alive list is strictly sorted by key -/
theorem C02_spec_alive_is_set {n : Nat} {σ : Mvcc.State} (hr : Reachable n σ) :
    (abs σ).alive.Pairwise (fun a b => a.key < b.key) := by
  have h := inv_reachable hr
  have hk := vis_keySorted h.sorted h.chains σ.currSn
  rw [vis, visible_cur_iff_alive h.chains] at hk
  simp only [abs, absAlive]
  exact List.pairwise_map.mpr hk

/-- Put succeeds iff no live item with an equal key exists (stated on the physical store; the
    code decides this by an exact-hit search plus an exists-comparison with the predecessor) -/
theorem C02_put_iff {n : Nat} {σ : Mvcc.State} (hr : Reachable n σ) {w : Nat} (hw : w < σ.writers.length)
    (k v : Nat) :
    (Mvcc.step σ (.put w k v)).2 = .bool true ↔ ¬ ∃ x ∈ σ.store, x.key = k ∧ x.dead = 0 := by
  have h := inv_reachable hr
  simp only [Mvcc.step, hw, if_true, put, lookup_probe h]
  cases ha : aliveOf σ.store k with
  | none =>
    simp only [true_iff]
    rintro ⟨x, hx, hk, hd⟩
    exact aliveOf_none ha x hx hk hd
  | some x =>
    have ⟨hx, hk, hd⟩ := aliveOf_some ha
    simp only [Out.bool.injEq, Bool.false_eq_true, false_iff]
    exact fun hn => hn ⟨x, hx, hk, hd⟩

/-- Delete succeeds iff a live item with that key exists -/
theorem C02_del_iff {n : Nat} {σ : Mvcc.State} (hr : Reachable n σ) {w : Nat} (hw : w < σ.writers.length)
    (k : Nat) :
    (Mvcc.step σ (.del w k)).2 = .bool true ↔ ∃ x ∈ σ.store, x.key = k ∧ x.dead = 0 := by
  have h := inv_reachable hr
  simp only [Mvcc.step, hw, if_true, del, getNode_eq h]
  cases ha : aliveOf σ.store k with
  | none =>
    simp only [Out.bool.injEq, Bool.false_eq_true, false_iff]
    rintro ⟨x, hx, hk, hd⟩
    exact aliveOf_none ha x hx hk hd
  | some x =>
    have ⟨hx, hk, hd⟩ := aliveOf_some ha
    have := (abs_deleteNode (w := w) h hx hd).1
    simp only [this, true_iff]
    exact ⟨x, hx, hk, hd⟩

/-- a writer's lookup finds an item iff it is live, and returns its value -/
theorem C02_get_iff {n : Nat} {σ : Mvcc.State} (hr : Reachable n σ) {w : Nat} (hw : w < σ.writers.length)
    (k v : Nat) :
    (Mvcc.step σ (.get w k)).2 = .val (some v) ↔ ∃ x ∈ σ.store, x.key = k ∧ x.dead = 0 ∧ x.val = v := by
  have h := inv_reachable hr
  simp only [Mvcc.step, hw, if_true, getNode_eq h]
  cases ha : aliveOf σ.store k with
  | none =>
    simp only [Option.map_none, Out.val.injEq, reduceCtorEq, false_iff]
    rintro ⟨x, hx, hk, hd, _⟩
    exact aliveOf_none ha x hx hk hd
  | some x =>
    have ⟨hx, hk, hd⟩ := aliveOf_some ha
    simp only [Option.map_some, Out.val.injEq, Option.some.injEq]
    constructor
    · intro hv; exact ⟨x, hx, hk, hd, hv⟩
    · rintro ⟨y, hy, hyk, hyd, hyv⟩
      rw [alive_unique h.sorted h.chains hx hy (hk.trans hyk.symm) hd hyd]; exact hyv

/-! ### non-vacuity: a concrete history (test, evaluated by the kernel) with re-insert after a
    delete across epochs, a same-epoch delete through a stale handle, two writers, and equal keys
    with different values -/
example :
    Mvcc.run (Mvcc.init 2)
      [.put 0 1 10, .put 1 1 11, .getnode 1 1 7, .snap, .del 1 1, .delnode 0 7, .put 0 1 12,
       .getnode 0 1 8, .delnode 1 8, .delnode 1 8, .put 1 1 13, .snap, .items, .scan 1 0, .scan 2 0,
       .get 0 1, .get 0 2] =
      [.bool true, .bool false, .found true, .snap 1 1, .bool true, .bool false, .bool true,
       .found true, .bool true, .bool false, .bool true, .snap 2 1, .num 1, .items [(1, 10)],
       .items [(1, 13)], .val (some 13), .val none] := by decide +kernel

example : ∃ σ, Reachable 2 σ ∧ σ.store.length = 2 :=
  ⟨_, Reachable.step (.put 1 2 0) (Reachable.step (.put 0 1 0) Reachable.init), by decide +kernel⟩

end NitroVerif.Props
