import NitroVerif.Lemmas.SkipConcRefine
/-!
  C14, concurrent part, on the executable model M5.

  Property (concurrent part), verbatim: "at quiescence the unmarked nodes on each level form a strictly
  increasing chain head→tail that is a sub-sequence of the level below, and the statistics equal a walk."

  All levels and the quiescent statements (`C14_levels_sorted`, `C14_levels_sublist`,
  `C14_quiescent_no_marked_linked`, `C14_quiescent_live_fully_linked`) are in `Props/C14q.lean`.  This file has level 0
  and the witness for which the successor check of Insert4 is needed.

  PROVED HERE (`C14_level0_chain_partial`), in EVERY reachable state — quiescent or not — of every run of any number
  of threads: on level 0 the tail is reachable from the head, every node that is unmarked at level 0 lies on that
  path, and keys strictly increase along it (so the unmarked nodes form a strictly increasing chain head→tail).
  The upper-level statement is FALSE without the check "Insert4 does not link an upper level in front of a deleted
  successor" (`fixedSucc = false`; `C14_upper_level_unfixed_witness`, a kernel-checked trace of the model): an
  Insert of an equal key racing with a Delete links the new node IN FRONT of the deleted node at level 1; the
  deleter's cleaning search stops at the new node, so at quiescence the marked node is still linked at level 1
  (`walk` gives `[(1, false), (1, true)]`) next to a live node with the SAME key.  With the check the same schedule ends clean
  (test below).
-/
namespace NitroVerif.SkipConc

/-- level 0 of every reachable state: the tail is reachable from the head, every unmarked node lies on that path
    (and the tail behind it), and keys strictly increase along any path -/
theorem C14_level0_chain_partial (n : Nat) (as : List Action) :
    let h := ((Sys.init n).run as).sh.heap
    Reach h 0 1 ∧
    (∀ a, unmarked0 h a → Reach h 0 a ∧ (a = 1 ∨ Reach h a 1)) ∧
    (∀ a b, Reach h a b → a = b ∨ Key.lt (keyOf h a) (keyOf h b)) := by
  intro h
  have hI := run_invR (InvR_init n) as
  refine ⟨hI.reach.tail, fun a ha => ⟨hI.reach.live ha, ?_⟩, fun a b r => r.key hI.heap⟩
  -- the tail has no successor word, so the path from `a` cannot pass beyond it
  rcases (hI.reach.live ha).det hI.reach.tail with r | r
  · exact .inr r
  · cases r with
    | refl => exact .inl rfl
    | step hw _ => rw [hI.heap.tailNoWord] at hw; simp at hw

/-- non-vacuity (kernel-checked TEST): after two inserts the path is head → 3 → 5 → tail -/
example : let h := ((Sys.init 1).run [.start 0 (.ins 5 0), .step 0, .step 0, .step 0,
                                     .start 0 (.ins 3 0), .step 0, .step 0, .step 0]).sh.heap
    word? h 0 0 = some (3, false) ∧ word? h 3 0 = some (2, false) ∧ word? h 2 0 = some (1, false) ∧
    keyOf h 3 = .fin 3 ∧ keyOf h 2 = .fin 5 := by decide +kernel

/-- T0 inserts 1 (height 1); T1 = Insert(1) records succs[1] = that node, T0 = Delete(1) marks it and parks at
    DEL_SEARCH, T1 publishes its node and goes on with level 1, T0 finishes its cleaning search.  (Without the
    successor check T1 returns earlier; `step` of an idle thread is refused and changes nothing, so the same
    schedule serves both configurations.) -/
def w1Acts : List Action :=
  [.start 0 (.ins 1 1), .step 0, .step 0, .step 0, .step 0, .step 0, .step 0, .step 0, .step 0,
   .start 1 (.ins 1 1), .step 1, .step 1,
   .start 0 (.del 1), .step 0, .step 0, .step 0, .step 0, .step 0, .step 0,
   .step 1, .step 1, .step 1, .step 1, .step 1, .step 1, .step 1,
   .step 1, .step 1, .step 1, .step 1, .step 1, .step 1, .step 1,
   .step 0, .step 0, .step 0, .step 0, .step 0]

/-- WITNESS against Insert4 without the successor check (`fixedSucc = false`), a kernel-checked trace of the model:
    at a quiescent state the level-1 walk meets a live node with key 1 and then a MARKED node with key 1, level 0
    only the live one. -/
theorem C14_upper_level_unfixed_witness :
    ((Sys.initWith false 2).run w1Acts).quiescent = true ∧
    walk ((Sys.initWith false 2).run w1Acts).sh.heap 0 = [(1, false)] ∧
    walk ((Sys.initWith false 2).run w1Acts).sh.heap 1 = [(1, false), (1, true)] := by decide +kernel

/-- the same schedule with the check (`Sys.init`; TEST, kernel-checked): Insert4 sees that the recorded successor
    is deleted, searches again (which unlinks it) and links in front of the tail -/
example :
    ((Sys.init 2).run w1Acts).quiescent = true ∧
    walk ((Sys.init 2).run w1Acts).sh.heap 0 = [(1, false)] ∧
    walk ((Sys.init 2).run w1Acts).sh.heap 1 = [(1, false)] := by decide +kernel

end NitroVerif.SkipConc
