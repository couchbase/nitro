/-
  C01 Snapshot isolation.
  "Every snapshot, for as long as it is open, presents exactly the set of items that were live at the
   instant it was created: a full scan yields each of them once, in comparator order, with the bytes
   they had then, and Count() equals that number.  This holds whatever Puts, Deletes, creation and
   closing of other (older or newer) snapshots, garbage collection and concurrent readers happen
   afterwards."

  Model M6 (sequential engine: one goroutine drives everything; garbage collection is performed
  at once inside the `Close` that retires a snapshot).  "Whatever happens afterwards" is the
  quantification over all reachable states / all operation sequences.  The concurrent-reader part
  of the statement is outside this model (it is that of `Model/MvccConc`, `Props/C01cc`).
-/
import NitroVerif.Lemmas.MvccScanTrace
import NitroVerif.Lemmas.MvccSimIter

namespace NitroVerif.Props
open NitroVerif NitroVerif.Mvcc
open NitroVerif.SetSpec (Op Out Item)

/-- **C01 (view invariant)** In every reachable state, for every snapshot with a positive reference
    count: the versions of the physical store visible at its number (`¬ Gen.skipUnwanted born dead sn`)
    are exactly its ghost content, its `Count()` is the length of the content, and the content is
    strictly sorted by key (each item once, in comparator order). -/
theorem C01_view_invariant {n : Nat} {σ : Mvcc.State} (hr : Reachable n σ) :
    ∀ s ∈ σ.snaps, 0 < s.rc →
      view σ.store s.sn = s.content ∧ s.count = (s.content.length : Nat) ∧
      s.content.Pairwise (fun a b => a.key < b.key) := by
  intro s hs hrc
  have h := inv_reachable hr
  have hv := h.view s hs hrc
  refine ⟨hv, h.snaps.cnt s hs, ?_⟩
  rw [← hv]
  exact List.pairwise_map.mpr (vis_keySorted h.sorted h.chains s.sn)

/-- what `NewSnapshot` records as ghost content (by definition the versions visible at the current
    number) is exactly the alive items, those of the reference set, and it reports their number -/
theorem C01_content_at_creation {n : Nat} {σ : Mvcc.State} (hr : Reachable n σ) :
    (newSnapshot σ).2.content = view σ.store σ.currSn ∧
    (newSnapshot σ).2.content.map Ver.item = (abs σ).alive.map (fun e => (e.key, e.val)) ∧
    (newSnapshot σ).2.count = ((newSnapshot σ).2.content.length : Nat) := by
  have h := inv_reachable hr
  refine ⟨rfl, (absAlive_items h.chains).symm, ?_⟩
  have h' := inv_newSnapshot h
  apply h'.snaps.cnt
  simp [newSnapshot]

/-- …and never changes afterwards, whatever operation is executed -/
theorem C01_content_fixed {n : Nat} {σ : Mvcc.State} (hr : Reachable n σ) (op : Op) {s : Snap}
    (hs : s ∈ σ.snaps) :
    ∃ s' ∈ (Mvcc.step σ op).1.snaps, s'.sn = s.sn ∧ s'.content.map Ver.item = s.content.map Ver.item :=
  model_content_fixed (inv_reachable hr) op hs

/-- **C01 (scan)** a full scan (`NewIterator`, `SeekFirst`, `Next`…, `Close`) of an open snapshot, at
    any refresh rate, yields exactly its content and leaves the state as it was -/
theorem C01_scan {n : Nat} {σ : Mvcc.State} (hr : Reachable n σ) {s : Snap} (hs : s ∈ σ.snaps)
    (hrc : 0 < s.rc) (rate : Int) :
    Mvcc.step σ (.scan s.sn rate) = (σ, .items (s.content.map Ver.item)) ∧
    (scanAll σ.store s.sn rate).map Ver.norm = s.content := by
  have h := inv_reachable hr
  have hf := findSnap_of_mem h.snaps.inc hs
  have hne : s.rc ≠ 0 := Int.ne_of_gt hrc
  constructor
  · rw [step_scan hf hne, scanAll_eq h.sorted h.chains, content_items h hf hne]
  · rw [scanAll_eq h.sorted h.chains]
    exact h.view s hs hrc

/-- the position predicate of the interleaved-scan theorem, on the model -/
def IterAt (σ : Mvcc.State) (i : Nat) (c : List Item) (p : Nat) : Prop := AtPos (abs σ) i c p

/-- `SeekFirst` puts an iterator at position 0 of the content of its snapshot -/
theorem C01_seekFirst_at {n : Nat} {σ : Mvcc.State} (hr : Reachable n σ) {i : Nat} {it : Iter}
    (hi : SetSpec.alookup i σ.iters = some it) :
    ∃ c : List Item, c.Pairwise ItemLt ∧ SetSpec.contentOf (abs σ) it.sn = c ∧
      (Mvcc.step σ (.itFirst i)).2 = .cursor c[0]? ∧ IterAt (Mvcc.step σ (.itFirst i)).1 i c 0 := by
  have h := inv_reachable hr
  obtain ⟨x, c⟩ := iter_ctx h hi
  have hcont := c.contentOf h
  have hstep : Mvcc.step σ (.itFirst i) = setIter σ i (it.seekFirst σ.store) := by
    simp only [Mvcc.step, hi]
  have he := abs_setIter σ i (seekFirst_sn σ.store it) (c := ((vis σ.store it.sn).map Ver.item)[0]?)
    (by rw [seekFirst_cur, ← List.head?_map, List.head?_eq_getElem?])
  have hf : SetSpec.findSnap it.sn (abs σ).snaps = some (absSnap x) := by
    rw [findSnap_abs, c.find]; rfl
  refine ⟨_, List.pairwise_map.mpr (vis_keySorted h.sorted h.chains it.sn), hcont, ?_, ?_⟩
  · rw [hstep]; exact congrArg Prod.snd he
  · unfold IterAt
    rw [hstep, show abs (setIter σ i (it.seekFirst σ.store)).1 = _ from congrArg Prod.fst he]
    exact ⟨_, absSnap x, alookup_aset_self _ _ _, hf, by rw [← hcont, contentOf_eq hf], rfl⟩

/-- **C01 (scan, interleaved)** Let iterator `i` stand at position `p` of the content `c` of its
    snapshot.  Whatever operations are executed afterwards — Puts, Deletes, new snapshots, closes
    (retiring snapshots and collecting garbage), other iterators, `SetRefreshRate` and explicit
    `Refresh` on `i` itself — as long as `i` is not re-positioned, re-created or closed, the `Next`
    calls on `i` deliver `c[p+1]`, `c[p+2]`, …, then `end` exactly after the last item (and are
    refused afterwards). -/
theorem C01_scan_interleaved {n : Nat} {σ : Mvcc.State} (hr : Reachable n σ) {i : Nat} {c : List Item}
    {p : Nat} (hc : c.Pairwise ItemLt) (hat : IterAt σ i c p) (ops : List Op)
    (hall : ∀ op ∈ ops, allowed i op = true) :
    nextOuts i ops (Mvcc.run σ ops) = expectNext c p (countNext i ops) := by
  rw [run_refines ops (inv_reachable hr)]
  exact spec_scan_interleaved hc i ops (abs σ) p hat hall

/-! ### non-vacuity (tests evaluated by the kernel): snapshot 1 keeps showing `1:10, 2:20` although
    key 1 is deleted and re-inserted with other bytes, key 3 is added, snapshot 2 is created and
    closed before it, and the scan is interleaved with those operations at refresh rate 1 -/
example :
    Mvcc.run (Mvcc.init 1)
      [.put 0 1 10, .put 0 2 20, .snap, .itNew 5 1, .itRate 5 1, .itFirst 5, .del 0 1, .put 0 3 30,
       .snap, .put 0 1 11, .itNext 5, .close 2, .itRefresh 5, .itNext 5, .scan 1 0, .count 1] =
      [.bool true, .bool true, .snap 1 2, .ok, .ok, .cursor (some (1, 10)), .bool true, .bool true,
       .snap 2 2, .bool true, .cursor (some (2, 20)), .ok, .cursor (some (2, 20)), .cursor none,
       .items [(1, 10), (2, 20)], .num 2] := by decide +kernel

example : ∃ σ : Mvcc.State, Reachable 1 σ ∧ ∃ s ∈ σ.snaps, 0 < s.rc ∧ s.content.length = 1 :=
  ⟨_, Reachable.step .snap (Reachable.step (.put 0 1 10) Reachable.init), by decide +kernel⟩

end NitroVerif.Props
