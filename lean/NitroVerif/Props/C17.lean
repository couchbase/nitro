import NitroVerif.Lemmas.BarrierResp
/-!
  C17 — Access barrier liveness at quiescence (model M4, `fixed = true`: the protocol with the re-check).

  `C17_quiescent_nothing_pending`: in every state reachable with `fixed = true`
  (`Release` re-checks `hasReadySession()` after dropping `isDestructorRunning`, as in /repo)
  in which every thread is idle and holds no token, the destructor has run for every
  `FlushSession` call made so far — calls started = calls returned = `activeSeqno` = `freeSeqno`
  = number of destructor calls, in order, with the objects of the flushes — and the free queue is
  empty.  Every number of threads, every schedule, with the proof-only `stale` action (spurious
  "not ready" exit of a non-first CL_READ) enabled.

  `C17_unfixed_counterexample`: the witness that it fails without the re-check (`fixed = false`).
-/
namespace NitroVerif.Barrier

structure NothingPending (st : St) : Prop where
  /-- every `FlushSession` call that was started has returned, and `activeSeqno` counts them -/
  callsDone : st.flStarted = st.activeSeqno ∧ st.flDone = st.activeSeqno
  /-- the destructor has run for every one of them, in order, each once … -/
  allLogged : st.log.map Prod.fst = List.range' 1 st.activeSeqno
  /-- … on the object that flush attached -/
  allObjects : st.log.map Prod.snd = st.tagged
  /-- nothing is queued -/
  queueEmpty : st.freeq = []
  counters : st.freeSeqno = st.activeSeqno ∧ st.numFreed = st.activeSeqno ∧
    st.numAllocated = st.activeSeqno + 1

theorem nothingPending_of_inv {st : St} (h : Inv st) (hr : Resp st) (hq : quiescent st = true) :
    NothingPending st := by
  have z := quiescent_cnt hq
  have zP := fun g (hg : g PC.idle = 0) => z (onPc g) (by simp [barsimp, hg])
  have hact := h.active
  rw [zP _ pcTag_idle] at hact
  have hfa := freeSeqno_le_active h
  -- every session below `cur` is terminated, and queued until it is destructed
  have hS : ∀ s, s < st.cur → 1 ≤ (getS st s).closed ∧ (st.freeSeqno ≤ s → st.freeq.count s = 1) := fun s hs => by
    have := h.sess s
    rw [Inv.At, z (unitsT s) (by simp [barsimp]), zP _ (pcPend_idle s), zP _ (pcClosed_idle s),
      zP _ (pcInsert_idle s)] at this
    have hcl := h.curlen
    have hf : b2n (getS st s).flushed = 1 := (this.pend (by omega)).2 (by omega)
    have hc : 1 ≤ (getS st s).closed := (this.last hf rfl).resolve_right (by decide)
    exact ⟨hc, fun hfs => by have := (this.place.2 hc).2 hfs; omega⟩
  -- the destructor has caught up
  have hfs : st.freeSeqno = st.cur := by
    false_or_by_contra; rename_i hne
    have hlt : st.freeSeqno < st.cur := by omega
    have hmem : st.freeSeqno ∈ st.freeq := List.count_pos_iff.mp (by rw [(hS _ hlt).2 (Nat.le_refl _)]; decide)
    cases hqq : st.freeq with
    | nil => rw [hqq] at hmem; simp at hmem
    | cons a r =>
      have hsorted := h.sorted
      rw [hqq] at hsorted hmem
      have hle := head_le_of_sorted a r hsorted _ hmem
      have hge := queued_ge_free h a (by simp [hqq])
      have hae : a = st.freeSeqno := by omega
      have := hr a (by simp [hqq]) hae
      rw [zP _ pcResp_idle] at this
      omega
  have hempty : st.freeq = [] := by
    cases hqq : st.freeq with
    | nil => rfl
    | cons a r =>
      have := (closed_facts h a (queued_closed h a (by simp [hqq]))).2.1
      have := queued_ge_free h a (by simp [hqq])
      omega
  have hcalls := h.calls
  rw [zP _ pcMutex_idle, zP _ pcLock_idle, zP _ pcPast_idle] at hcalls
  have hst := h.stats
  refine ⟨by omega, ?_, ?_, hempty, by omega⟩
  · rw [h.logseq]; congr 1; omega
  · rw [h.logobj]; apply List.take_of_length_le; have := h.tagged; omega

/-- **C17.**  Fixed protocol: at quiescence nothing is pending; reclamation never depends on a
    future flush. -/
theorem C17_quiescent_nothing_pending (n : Nat) (sched : List (Nat × Act)) (st : St)
    (hrun : run true (init n) sched = some st) (hq : quiescent st = true) : NothingPending st :=
  nothingPending_of_inv (run_inv (init_inv n) hrun) (run_resp (init_inv n) (init_resp n) hrun) hq

/-- T0 holds a token in session 0, T1 one in session 1; T2 flushes twice (objects 100, 200).
    Then the two releases terminate sessions 0 and 1 "at nearly the same time":
    T0 terminates session 0, queues it, takes the try-lock, destructs it, reads an empty queue and is
    parked before dropping the flag; T1 terminates session 1, queues it, FAILS the try-lock and returns;
    T0 drops the flag and returns. -/
def witnessSched : List (Nat × Act) :=
  [ (0, .start .acquire), (0, .step), (0, .step),
    (2, .start (.flush 100)), (2, .step), (2, .step), (2, .step), (2, .step), (2, .step), (2, .step),
    (1, .start .acquire), (1, .step), (1, .step),
    (2, .start (.flush 200)), (2, .step), (2, .step), (2, .step), (2, .step), (2, .step), (2, .step),
    -- T0: REL_DEC, REL_CLOSED, REL_INSERT, REL_TRYLOCK, CL_READ, CL_PROC, CL_READ  -> parked at REL_UNLOCK
    (0, .start (.release 0)), (0, .step), (0, .step), (0, .step), (0, .step), (0, .step), (0, .step), (0, .step),
    -- T1: REL_DEC, REL_CLOSED, REL_INSERT, REL_TRYLOCK (fails) -> returns
    (1, .start (.release 0)), (1, .step), (1, .step), (1, .step), (1, .step),
    -- T0: REL_UNLOCK -> returns (`fixed = false`)
    (0, .step) ]

/-- WITNESS (not a proof of C17): without the re-check the run ends quiescent with session 1 queued,
    one destructor call for two flushes. -/
theorem C17_unfixed_counterexample :
    (run false (init 3) witnessSched).map
        (fun s => (quiescent s, s.freeq, s.log, s.activeSeqno, s.freeSeqno))
      = some (true, [1], [(1, 100)], 2, 1) := by decide +kernel

/-- the same schedule under the fixed protocol leaves T0 at REL_RECHECK (not quiescent); seven more
    steps of T0 run the second destructor (a test) -/
example :
    (run true (init 3) (witnessSched ++ [(0, .step), (0, .step), (0, .step), (0, .step), (0, .step),
        (0, .step), (0, .step)])).map
        (fun s => (quiescent s, s.freeq, s.log, s.activeSeqno, s.freeSeqno))
      = some (true, [], [(1, 100), (2, 200)], 2, 2) := by decide +kernel

/-! ### non-vacuity of C17: a reachable quiescent state of the fixed protocol with two flushes -/
example : ∃ st, run true (init 3) (witnessSched ++ [(0, .step), (0, .step), (0, .step), (0, .step),
      (0, .step), (0, .step), (0, .step)]) = some st ∧ quiescent st = true ∧ st.activeSeqno = 2 ∧
      NothingPending st := by
  have h2 : (run true (init 3) (witnessSched ++ [(0, .step), (0, .step), (0, .step), (0, .step), (0, .step),
      (0, .step), (0, .step)])).map (fun s => (quiescent s, s.activeSeqno))
      = some (true, 2) := by decide +kernel
  cases hst : run true (init 3) (witnessSched ++ [(0, .step), (0, .step), (0, .step), (0, .step), (0, .step),
      (0, .step), (0, .step)]) with
  | none => rw [hst] at h2; cases h2
  | some st =>
    rw [hst] at h2; simp at h2
    exact ⟨st, rfl, h2.1, h2.2, C17_quiescent_nothing_pending 3 _ st hst h2.1⟩

end NitroVerif.Barrier
