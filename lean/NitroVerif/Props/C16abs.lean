import NitroVerif.Lemmas.BarrierAbsSim
import NitroVerif.Props.C16
import NitroVerif.Props.C17
/-!
  C16abs — "the real access barrier implements the abstract barrier of the MVCC model"
  (DESIGN.md 0.2a, composition (ii)), first half: M4 (`Model/Barrier.lean`, the small-step model of
  `skiplist/access_barrier.go`) against the LAZY abstract barrier `AbsBarrier`
  (`Lemmas/BarrierAbs.lean`: MvccConc's barrier with `cleanup` split off into a `destruct` action).
  The second half (MvccConc's eager barrier = lazy barrier + destructs to exhaustion) is
  `Props/C16absMvcc.lean`.

  Abstraction function `absOf` and the abstract action `absAct` of an M4 action: `Lemmas/BarrierAbsOf.lean`
  (a session is closed from the FL_SWAP on; a thread holds from its successful ACQ_ADD to its REL_DEC).

  FINDING (why the main theorem carries the suffix `_partial`).  The full statement — EVERY action of
  every thread in every reachable state is the abstract action `absAct` names or a stutter — is FALSE for
  M4, hence for the Go code: an `Acquire` that loaded `ab.session` before a flusher's FL_SWAP and
  increments `liveCount` before that flusher's FL_ADD is granted a token of the session that is no longer
  current (`lateGrant`).
  Between FL_SWAP and FL_ADD both the old and the new session hand out tokens, so no abstraction that is
  a function of the M4 state maps the run to the atomic `flush` of `AbsBarrier`/MvccConc: with flush at
  FL_SWAP the late token is of a closed session (here), with flush at FL_ADD a token of the new session
  taken before FL_ADD would be of a session that does not exist yet.  This is not a safety defect
  (C16 holds; the late holder delays the destructor of the old session, and destructors run in session
  order), but it means that composition (ii) needs either a two-phase abstract flush (open the new
  session / seal the old one, tokens into either while unsealed) or a history-dependent simulation
  relation that counts the late token as a token of the new session; neither is mechanised here.
  `C16_late_grant_characterised` proves that the late grant is the ONLY exception and says exactly what
  it does to the abstraction (`acqAt`: one holder more in session `cur - 1`, whose flusher is parked at
  FL_TAG or FL_ADD).
-/
namespace NitroVerif.Barrier
open NitroVerif.AbsBarrier

/-- **C16abs (partial).**  FULL STATEMENT (false, see the file header and `C16_late_grant_witness`):
    for every number of threads, every schedule, either protocol variant, every state `st` reachable
    from `init n` and every enabled action `a` of every thread `i` leading to `st'`,
    `Sim st t a st'` — i.e. `absOf st' = absOf st` when `absAct st t a = none`, and
    `AbsBarrier.step (absOf st) α = some (absOf st')` when `absAct st t a = some α`
    (acquire at the successful increment, release at the decrement, flush at the swap, destruct at the
    destructor call).
    PROVED: the same with the hypothesis that the action is not a late grant (`lateGrant st t a = false`:
    it is not a successful ACQ_ADD on a session other than `cur`).
    MISSING: the late grant, which is not an action of `AbsBarrier` (`C16_late_grant_characterised`). -/
theorem C16_refines_abstract_barrier_partial (fixed : Bool) (n : Nat) (sched : List (Nat × Barrier.Act))
    (st st' : St) (i : Nat) (t : Th) (a : Barrier.Act)
    (hrun : run fixed (init n) sched = some st) (ht : st.ths[i]? = some t)
    (hstep : step fixed st i a = some st') (hlate : lateGrant st t a = false) :
    Sim st t a st' := by
  obtain ⟨t2, st1, t', ht2, he, rfl⟩ := step_some hstep
  cases ht.symm.trans ht2
  exact exec_sim (run_inv (init_inv n) hrun) ht he hlate

/-- the late grant is the only exception, and this is what it does: the thread is at ACQ_ADD for
    session `s = cur - 1`, exactly one thread (the flusher of `s`) is parked at FL_TAG/FL_ADD for `s`, and
    the abstraction gains one holder in the abstractly closed session `s` (`acqAt`, not an `AbsBarrier` action) -/
theorem C16_late_grant_characterised (fixed : Bool) (n : Nat) (sched : List (Nat × Barrier.Act))
    (st st' : St) (i : Nat) (t : Th) (a : Barrier.Act)
    (hrun : run fixed (init n) sched = some st) (ht : st.ths[i]? = some t)
    (hstep : step fixed st i a = some st') (hlate : lateGrant st t a = true) :
    ∃ s, t.pc = .acqAdd s ∧ s + 1 = st.cur ∧ cnt (onPc (pcPend s)) st = 1 ∧
      absOf st' = acqAt (absOf st) s := by
  obtain ⟨t2, st1, t', ht2, he, rfl⟩ := step_some hstep
  cases ht.symm.trans ht2
  exact exec_lateGrant (run_inv (init_inv n) hrun) ht he hlate

/-- T0 starts `Acquire` and loads session 0; T1 starts `FlushSession(100)`, takes the mutex and swaps
    (session 1 is current, session 0 abstractly closed).  T0's next step (ACQ_ADD on session 0) is granted. -/
def lateSched : List (Nat × Barrier.Act) :=
  [(0, .start .acquire), (0, .step), (1, .start (.flush 100)), (1, .step), (1, .step)]

def lateBefore : AbsBarrier Unit Nat := ⟨[⟨[], true, 100⟩, ⟨[], false, 0⟩], 0, []⟩
def lateAfter : AbsBarrier Unit Nat := ⟨[⟨[()], true, 100⟩, ⟨[], false, 0⟩], 0, []⟩

/-- WITNESS (a run evaluated by the kernel, not a property): after `lateSched` thread 0's step is a late grant; the
    abstraction goes from `lateBefore` to `lateAfter` (a holder appears in the closed session 0) and the
    thread returns from `Acquire` with a token of session 0 -/
theorem C16_late_grant_witness :
    (run true (init 2) lateSched).map (fun st => (absOf st, st.ths[0]?.map (fun t => lateGrant st t .step)))
      = some (lateBefore, some true) ∧
    (run true (init 2) (lateSched ++ [(0, .step)])).map (fun st => (absOf st, st.ths.map (·.toks), st.ths.map (·.pc)))
      = some (lateAfter, [[0], []], [.idle, .flTag 0 100]) := by
  constructor <;> decide +kernel

/-- no action of the lazy abstract barrier, and no stutter, leads from `lateBefore` to `lateAfter` -/
theorem C16_late_grant_no_abstract_action :
    lateAfter ≠ lateBefore ∧ ∀ α : AbsBarrier.Act Unit Nat, AbsBarrier.step lateBefore α ≠ some lateAfter := by
  refine ⟨by decide, ?_⟩
  intro α
  cases α with
  | acq h => cases h; decide
  | rel tok h =>
    cases h
    match tok with
    | 0 => decide
    | 1 => decide
    | n + 2 => simp [AbsBarrier.step, holds, lateBefore]
  | flush o =>
    intro hh
    have := congrArg (fun x => x.map (fun b => b.sess.length)) hh
    simp [AbsBarrier.step, flushF, lateBefore, lateAfter] at this
  | destruct => decide

/-- **C17 through the abstraction.**  With the re-check (`fixed = true`), any number of threads, any schedule: in a quiescent
    reachable state (every thread idle, no token held) the abstraction has no terminated undestructed
    session at position `freeSeq` (`ready = false`, `destruct` is not enabled), so (`exhaust_of_not_ready`) it is a
    fixed point of "destruct to exhaustion" (`eager`, MvccConc's `cleanup`: `C16abs_cleanup_is_eager`); moreover every
    session but the current one is destructed, nobody holds a token, and the destructor log is the list of
    the flushed objects. -/
theorem C17_abstract_eager_at_quiescence (n : Nat) (sched : List (Nat × Barrier.Act)) (st : St)
    (hrun : run true (init n) sched = some st) (hq : quiescent st = true) :
    ready (absOf st) = false ∧ eager (absOf st) = absOf st ∧
      (absOf st).freeSeq + 1 = (absOf st).sess.length ∧ (absOf st).log = st.tagged ∧
      ∀ (s : Nat) (x : ASess Unit Nat), (absOf st).sess[s]? = some x → x.holders = [] := by
  have h := run_inv (init_inv n) hrun
  have np := C17_quiescent_nothing_pending n sched st hrun hq
  have z := quiescent_cnt hq
  have hact := h.active
  rw [z (onPc pcTag) (by simp [barsimp])] at hact
  have hfs : st.freeSeqno = st.cur := by have := np.counters.1; omega
  have hr : ready (absOf st) = false := by rw [ready_absOf]; simp [hfs]
  refine ⟨hr, exhaust_of_not_ready _ _ hr, ?_, ?_, ?_⟩
  · rw [absOf_sess_length, absOf_freeSeq, hfs]
  · rw [absOf_log, np.allObjects]
  · intro s x hx
    rw [absOf_holders hx, z (heldT s) (by simp [heldT])]; rfl

/-- the abstract actions of a schedule, in order (stutters dropped) -/
def absTrace (fixed : Bool) : St → List (Nat × Barrier.Act) → List (AbsBarrier.Act Unit Nat)
  | _, [] => []
  | st, (i, a) :: r =>
    match st.ths[i]?, step fixed st i a with
    | some t, some st' => (absAct st t a).toList ++ absTrace fixed st' r
    | _, _ => []

/-- TEST: the schedule `c16Sched` of `Props/C16.lean` (two flushes, sessions 0 and 1, three threads) is,
    through the abstraction, acquire · flush 100 · acquire · flush 200 · release of session 0 · destruct;
    these six actions are enabled one after the other in `AbsBarrier` from `absOf (init 3)` and end in
    the abstraction of the final M4 state -/
example : absTrace true (init 3) c16Sched
      = [.acq (), .flush 100, .acq (), .flush 200, .rel 0 (), .destruct] ∧
    AbsBarrier.run (absOf (init 3)) (absTrace true (init 3) c16Sched)
      = (run true (init 3) c16Sched).map absOf ∧
    (run true (init 3) c16Sched).map absOf
      = some ⟨[⟨[], true, 100⟩, ⟨[()], true, 200⟩, ⟨[], false, 0⟩], 1, [100]⟩ := by
  refine ⟨by decide +kernel, by decide +kernel, by decide +kernel⟩

/-- non-vacuity of `C16_refines_abstract_barrier_partial`: after 26 actions of `c16Sched` T0 is parked at CL_PROC,
    and its step is a `destruct` of the abstraction -/
example : ∃ st st' t, run true (init 3) (c16Sched.take 26) = some st ∧ st.ths[0]? = some t ∧
    step true st 0 .step = some st' ∧ lateGrant st t .step = false ∧ absAct st t .step = some .destruct ∧
    Sim st t .step st' := by
  have hd : ((run true (init 3) (c16Sched.take 26)).bind (fun st => st.ths[0]?.bind (fun t =>
      (step true st 0 .step).map (fun _ => (lateGrant st t .step, absAct st t .step)))))
      = some (false, some .destruct) := by decide +kernel
  cases hst : run true (init 3) (c16Sched.take 26) with
  | none => rw [hst] at hd; simp at hd
  | some st =>
    rw [hst] at hd; simp only [Option.bind_some] at hd
    cases ht : st.ths[0]? with
    | none => rw [ht] at hd; simp at hd
    | some t =>
      rw [ht] at hd; simp only [Option.bind_some] at hd
      cases hs : step true st 0 .step with
      | none => rw [hs] at hd; simp at hd
      | some st' =>
        rw [hs] at hd; simp at hd
        exact ⟨st, st', t, rfl, ht, hs, hd.1, hd.2,
          C16_refines_abstract_barrier_partial true 3 _ st st' 0 t .step hst ht hs hd.1⟩

/-- non-vacuity of `C17_abstract_eager_at_quiescence`: the quiescent state of `Props/C17.lean` with two
    flushes; its abstraction has three sessions, two destructed -/
example : (run true (init 3) (witnessSched ++ [(0, .step), (0, .step), (0, .step), (0, .step),
      (0, .step), (0, .step), (0, .step)])).map (fun st => (quiescent st, absOf st))
    = some (true, ⟨[⟨[], true, 100⟩, ⟨[], true, 200⟩, ⟨[], false, 0⟩], 2, [100, 200]⟩) := by decide +kernel

end NitroVerif.Barrier
