/-
  C06 Garbage collection is precise and complete — the sequential part.
  "A deleted version stays physically present while any open snapshot can still see it; collection is
   in snapshot order (snapshot n is collected only after n-1): after a collection pass at quiescence
   the physical store is exactly the alive versions plus those with dead > lastGCSn, and lastGCSn+1
   is the oldest not-yet-retired snapshot number (or currSn if none); with no open snapshot the store
   is exactly the alive versions."

  Model M6, sequential engine: `Close` retiring a snapshot runs `GC()`/`collectDead` at once and the
  unlinking done by the collection workers is performed immediately, so every reachable state is a
  state "after a collection pass at quiescence".  The GC queue, the workers and racing closes (the
  small-step part of C06: `C06_handoff_quiescent` in `Props/C06Handoff.lean`, the try-lock in `GC()`) are
  NOT in this model.
  "Exactly" has two halves: nothing with `0 < dead ≤ lastGCSn` is left (`left`), and nothing else was
  unlinked — every version named by a garbage list that has not been collected is still present
  (`kept_*`; together with `C02_refines_set`, by which the alive versions are those of the reference set).
-/
import NitroVerif.Lemmas.MvccSimIter

namespace NitroVerif.Props
open NitroVerif NitroVerif.Mvcc
open NitroVerif.SetSpec (Op Out)

/-- **C06 (safety)** in every reachable state every item of the content of a snapshot with a positive
    reference count is physically present, as a version visible at the snapshot's number -/
theorem C06_safety_seq {n : Nat} {σ : Mvcc.State} (hr : Reachable n σ) {s : Snap} (hs : s ∈ σ.snaps)
    (hrc : 0 < s.rc) :
    ∀ c ∈ s.content, ∃ v ∈ σ.store, visible s.sn v = true ∧ v.norm = c := by
  intro c hc
  have h := inv_reachable hr
  rw [← h.view s hs hrc] at hc
  obtain ⟨v, hv, rfl⟩ := List.mem_map.mp hc
  have := List.mem_filter.mp hv
  exact ⟨v, this.1, this.2, rfl⟩

/-- …and it stays present across any operation as long as the snapshot stays open: a version
    visible to an open snapshot is unlinked neither by a delete (same-epoch or not) nor by a
    collection pass -/
theorem C06_stays_present {n : Nat} {σ : Mvcc.State} (hr : Reachable n σ) (op : Op) {s : Snap}
    (hs : s ∈ σ.snaps) (hrc : 0 < s.rc) {v : Ver} (hv : v ∈ σ.store) (hvis : visible s.sn v = true)
    {s' : Snap} (hs' : s' ∈ (Mvcc.step σ op).1.snaps) (hsn : s'.sn = s.sn) (hrc' : 0 < s'.rc) :
    ∃ v' ∈ (Mvcc.step σ op).1.store, visible s.sn v' = true ∧ v'.item = v.item := by
  have h := inv_reachable hr
  have hr' : Reachable n (Mvcc.step σ op).1 := Reachable.step op hr
  have h' := inv_reachable hr'
  -- the content of the snapshot is the same before and after
  obtain ⟨s'', hs'', hsn'', hcont⟩ := model_content_fixed h op hs
  have : s'' = s' := snap_unique h'.snaps.inc hs'' hs' (hsn''.trans hsn.symm)
  subst this
  have hin : v.item ∈ s.content.map Ver.item := by
    rw [← h.view s hs hrc]
    exact List.mem_map.mpr ⟨v.norm, List.mem_map.mpr ⟨v, List.mem_filter.mpr ⟨hv, hvis⟩, rfl⟩, rfl⟩
  rw [← hcont, ← h'.view s'' hs' hrc'] at hin
  obtain ⟨c, hc, hci⟩ := List.mem_map.mp hin
  obtain ⟨w, hw, rfl⟩ := List.mem_map.mp hc
  have := List.mem_filter.mp hw
  exact ⟨w, this.1, by rw [← hsn]; exact this.2, hci⟩

structure ExactGC (σ : Mvcc.State) : Prop where
  /-- nothing collectable is left: a dead version still in the store died after `lastGCSn` -/
  left : ∀ v ∈ σ.store, v.dead = 0 ∨ σ.lastGCSn < v.dead
  /-- nothing else was unlinked: the versions deleted in the current epoch … -/
  kept_writers : ∀ w ∈ σ.writers, ∀ g ∈ w.gc,
      ∃ v ∈ σ.store, v.key = g.key ∧ v.born = g.born ∧ v.dead = σ.currSn
  /-- … and those in the garbage list of a snapshot that has not been collected are all present -/
  kept_snaps : ∀ s ∈ σ.snaps, s.st ≠ .collected → ∀ g ∈ s.gclist,
      ∃ v ∈ σ.store, v.key = g.key ∧ v.born = g.born ∧ v.dead = s.sn
  /-- collection is in snapshot order: exactly the snapshots up to `lastGCSn` are collected -/
  frontier : σ.lastGCSn < σ.currSn ∧ ∀ s ∈ σ.snaps, (s.st = .collected ↔ s.sn ≤ σ.lastGCSn)
  /-- `lastGCSn + 1` is the oldest snapshot that is not retired: it exists and is open unless it is
      `currSn`, and every open snapshot is at or above it -/
  oldest : (σ.lastGCSn + 1 < σ.currSn →
              ∃ s ∈ σ.snaps, s.sn = σ.lastGCSn + 1 ∧ s.st = .live ∧ 0 < s.rc) ∧
           (∀ s ∈ σ.snaps, s.st = .live → σ.lastGCSn + 1 ≤ s.sn)
  /-- no open snapshot: everything is collected up to `currSn - 1`, and the store holds the alive
      versions plus those deleted since the last snapshot (in the writers' garbage lists) -/
  none_open : (∀ s ∈ σ.snaps, s.st ≠ .live) →
      σ.lastGCSn + 1 = σ.currSn ∧ (∀ v ∈ σ.store, v.dead = 0 ∨ v.dead = σ.currSn) ∧
      ((∀ w ∈ σ.writers, w.gc = []) → ∀ v ∈ σ.store, v.dead = 0)

/-- **C06 (exact at quiescence, sequential)** -/
theorem C06_exact_at_quiescence_seq {n : Nat} {σ : Mvcc.State} (hr : Reachable n σ) : ExactGC σ := by
  have h := inv_reachable hr
  have hg := h.garb
  have hs := h.snaps
  have hleft : ∀ v ∈ σ.store, v.dead = 0 ∨ σ.lastGCSn < v.dead := by
    intro v hv
    by_cases hd : v.dead = 0
    · exact Or.inl hd
    · exact Or.inr (hg.exact v hv hd)
  have hold1 : σ.lastGCSn + 1 < σ.currSn →
      ∃ s ∈ σ.snaps, s.sn = σ.lastGCSn + 1 ∧ s.st = .live ∧ 0 < s.rc := by
    intro hlt
    obtain ⟨s, hsm, hsn⟩ := hs.all (σ.lastGCSn + 1) (Nat.succ_pos _) hlt
    have hl := hs.front s hsm hsn
    exact ⟨s, hsm, hsn, hl, (hs.rc s hsm).2.mp hl⟩
  refine ⟨hleft, ?_, ?_, ⟨hs.gclt, hs.coll⟩, ⟨hold1, ?_⟩, ?_⟩
  · intro w hw g hgm
    obtain ⟨v, hv, hsid⟩ := hg.wpres g ⟨w, hw, hgm⟩
    have := (sameId_iff v g).mp hsid
    exact ⟨v, hv, this.1, this.2, (hg.wsound g ⟨w, hw, hgm⟩).2 v hv hsid⟩
  · intro s hsm hst g hgm
    obtain ⟨v, hv, hsid⟩ := hg.spres s hsm hst g hgm
    have := (sameId_iff v g).mp hsid
    exact ⟨v, hv, this.1, this.2, (hg.ssound s hsm hst g hgm).2 v hv hsid⟩
  · intro s hsm hl
    exact Nat.not_le.mp fun hle => by
      have := (hs.coll s hsm).mpr hle
      rw [hl] at this; cases this
  · intro hnone
    have heq : σ.lastGCSn + 1 = σ.currSn :=
      Nat.le_antisymm hs.gclt (Nat.not_lt.mp fun hlt => by
        obtain ⟨s, hsm, _, hl, _⟩ := hold1 hlt
        exact hnone s hsm hl)
    have hdead : ∀ v ∈ σ.store, v.dead = 0 ∨ v.dead = σ.currSn := by
      intro v hv
      rcases hleft v hv with h0 | h1
      · exact Or.inl h0
      · have hne : v.dead ≠ 0 := Nat.ne_of_gt (Nat.lt_of_le_of_lt (Nat.zero_le _) h1)
        exact Or.inr (Nat.le_antisymm ((h.chains.1 v hv).2 hne).2 (heq ▸ h1))
    refine ⟨heq, hdead, ?_⟩
    intro hempty v hv
    rcases hdead v hv with h0 | h1
    · exact h0
    · obtain ⟨g, ⟨w, hw, hgm⟩, _⟩ := hg.wgc v hv h1
      rw [hempty w hw] at hgm; simp at hgm

/-! ### non-vacuity (test evaluated by the kernel): out-of-order closes.  Snapshot 2 is closed first:
    nothing can be collected (snapshot 1 pins the version `1` deleted in epoch 2, which it can see,
    and by design also the version `2` deleted in epoch 3); closing snapshot 1 collects snapshots 1 and 2;
    closing 3 collects the rest.  `gcwait` of the driver prints `store.length` and `lastGCSn`. -/
example :
    let σ := (Mvcc.run' (Mvcc.init 1)
      [.put 0 1 0, .put 0 2 0, .snap, .del 0 1, .snap, .del 0 2, .snap, .close 2])
    (σ.store.length, σ.lastGCSn) = (2, 0) := by decide +kernel

example :
    let σ := (Mvcc.run' (Mvcc.init 1)
      [.put 0 1 0, .put 0 2 0, .snap, .del 0 1, .snap, .del 0 2, .snap, .close 2, .close 1])
    (σ.store.length, σ.lastGCSn) = (1, 2) := by decide +kernel

example :
    let σ := (Mvcc.run' (Mvcc.init 1)
      [.put 0 1 0, .put 0 2 0, .snap, .del 0 1, .snap, .del 0 2, .snap, .close 2, .close 1, .close 3])
    (σ.store.length, σ.lastGCSn) = (0, 3) := by decide +kernel

end NitroVerif.Props
