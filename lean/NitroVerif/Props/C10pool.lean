import NitroVerif.Lemmas.VisitPoolSharp
import NitroVerif.Lemmas.VisitPoolHang
/-!
  C10, termination half: "… If a callback returns an error Visitor returns an error; it always terminates."

  Model: `Model/VisitPool.lean` — the dispatcher, the buffered work channel `wch`, the `concurrency` workers and
  the `errors` slice of `(*Nitro).Visitor`, small-step, one action per step; a schedule is a list of actions.
  All theorems quantify over the number of shards `n`, the number of workers `c`, the set of failing shards
  `fails` and the schedule `sched`; they are proved by invariants (`Lemmas/VisitPool.lean`), not by enumeration.

  The capacity `cap` of the channel is a parameter.  The code has `cap = n`: both are the expression
  `len(pivotItems) - 1` — generated `Gen.visitorChanCap` and `Gen.visitorDispatchBound`, tied by
  `MvccGenExtra.visitor_channel_holds_every_shard` (Lemmas/MvccGen.lean), so a change of either expression breaks
  that lemma.  Termination (`C10_pool_no_deadlock`) needs `n ≤ cap`; with the sizing before fix D19
  (`make(chan int, shards)` with the REQUESTED number of shards, which `GetRangeSplitItems` can exceed) a deadlock
  is reachable: `C10_pool_unfixed_hang_witness`.  The exact threshold (for `cap ≥ 1`) is `n ≤ cap + c`:
  `C10_pool_no_deadlock_sharp`, `C10_pool_deadlock_free_iff`.  The statements about the result
  (`C10_pool_error_reported`, `C10_pool_error_iff`, `C10_pool_final_dichotomy`) hold for every capacity.

  What the per-shard callback sequences are (every visible item exactly once, in order, partitioned) is
  `C10_visitor_partition` (Props/C10.lean), whose model runs the shards one after the other in shard order.  The
  link, in words: by `C10_pool_error_reported` (4), when no shard fails every shard index `0 … n-1` is run by
  exactly one worker exactly once, so the callback sees, per shard, exactly the sequence that
  `C10_visitor_partition` describes, and Visitor returns nil — as the sequential model does; when some shard fails
  Visitor returns an error (`C10_pool_error_iff`) — as the sequential model does (its clause (2)); which shards
  were run in that case depends on the schedule (`C10_pool_final_dichotomy`).
-/
namespace NitroVerif.Props.C10pool
open VisitPool

/-- Whatever the number `n` of shards, the number `c` of workers, the set of failing shards and the capacity `cap ≥ n` of the channel (the code: `cap = n`),
    every schedule that can be executed from the initial state is at most `measure n (init n c) = 3n + 1 + c` steps
    long, and the state it reaches is final (all indexes sent, channel closed, every worker returned: the dispatcher
    gets past `wg.Wait()`) or has an enabled action.  So every maximal run is finite and ends in a final state. -/
theorem C10_pool_no_deadlock (n c cap : Nat) (fails : Nat → Bool) (hcap : n ≤ cap) (sched : List Action)
    (st : State) (hrun : run fails n cap (init n c) sched = some st) :
    sched.length ≤ 3 * n + 1 + c ∧
    (final n st ∨ ∃ a st', step fails n cap st a = some st') :=
  ⟨run_length_init hrun, progress hcap (inv_run sched _ _ (inv_init fails n c) hrun)⟩

/-- every single step decreases the measure (so there is no infinite run, for ANY capacity) -/
theorem C10_pool_step_decreases (n cap : Nat) (fails : Nat → Bool) (st st' : State) (a : Action)
    (h : step fails n cap st a = some st') : measure n st' < measure n st := step_measure h

/-- a maximal schedule (nothing enabled at its end) ends in a final state -/
theorem C10_pool_maximal_final (n c cap : Nat) (fails : Nat → Bool) (hcap : n ≤ cap) (sched : List Action)
    (st : State) (hrun : run fails n cap (init n c) sched = some st)
    (hmax : ∀ a, step fails n cap st a = none) : final n st := by
  rcases (C10_pool_no_deadlock n c cap fails hcap sched st hrun).2 with hf | ⟨a, st', hs⟩
  · exact hf
  · rw [hmax a] at hs; cases hs

/-- For a buffered channel (`cap ≥ 1`) the pool
    cannot deadlock as soon as `n ≤ cap + c` — each of the `c` workers takes one index out of the buffer before it
    can leave.  The code's `cap = n` (with `n ≥ 1`: `pivotItems` always has the start and the end entry) is an
    instance; the sizing before fix D19 (`cap = shards`) hangs only when more than `shards + concurrency` shards
    come out of `GetRangeSplitItems`, as in `C10_pool_unfixed_hang_witness` (3 > 1 + 1). -/
theorem C10_pool_no_deadlock_sharp (n c cap : Nat) (fails : Nat → Bool) (hcap1 : 0 < cap) (hcap : n ≤ cap + c)
    (sched : List Action) (st : State) (hrun : run fails n cap (init n c) sched = some st) :
    sched.length ≤ 3 * n + 1 + c ∧
    (final n st ∨ ∃ a st', step fails n cap st a = some st') :=
  ⟨run_length_init hrun, progress_sharp hcap1 hcap (inv_run sched _ _ (inv_init fails n c) hrun)
    (acct_run sched _ _ (acct_init n c) hrun)⟩

/-- The exact threshold: for a buffered channel
    (`cap ≥ 1`) and `c` workers, "no reachable state is a deadlock, whichever shards fail and whatever the schedule"
    holds IF AND ONLY IF `n ≤ cap + c`.  The direction ← is `C10_pool_no_deadlock_sharp`; for → a schedule is
    constructed for every `n > cap + c` (Lemmas/VisitPoolHang.lean: each worker takes one failing shard and leaves,
    the dispatcher fills the buffer and blocks) — by induction, not by enumeration. -/
theorem C10_pool_deadlock_free_iff (n c cap : Nat) (hcap1 : 0 < cap) :
    (∀ (fails : Nat → Bool) (sched : List Action) (st : State), run fails n cap (init n c) sched = some st →
        (final n st ∨ ∃ a st', step fails n cap st a = some st')) ↔ n ≤ cap + c := by
  constructor
  · intro h
    apply Classical.byContradiction
    intro hn
    obtain ⟨sched, st, hrun, hnf, hno⟩ :=
      deadlock_reachable (fun _ => true) n c cap hcap1 (fun _ _ => rfl) (by omega)
    rcases h _ sched st hrun with hf | ⟨a, st', hs⟩
    · exact hnf hf
    · rw [hno a] at hs; cases hs
  · intro hn fails sched st hrun
    exact (C10_pool_no_deadlock_sharp n c cap fails hcap1 hn sched st hrun).2

/-- For every capacity, in every reachable state (in particular in every final one,
    where Visitor reads `errors`):
    (1) Visitor's result is an error iff some shard that a worker actually processed fails;
    (2) the error returned is the one of the LEAST processed failing shard;
    (3) no shard is processed twice, only shards `< n` are processed, and only by workers of the pool;
    (4) with at least one worker, in a final state, if no shard fails: Visitor returns nil, the buffer is empty and
        every shard `0 … n-1` was processed exactly once, by exactly one worker `w < c`.  (Clauses (1)–(3) hold for
        every `c`; with `c = 0` nothing is processed at all, see the last example below.) -/
theorem C10_pool_error_reported (n c cap : Nat) (fails : Nat → Bool) (sched : List Action) (st : State)
    (hrun : run fails n cap (init n c) sched = some st) :
    (result st ≠ none ↔ ∃ s ∈ processed st, fails s = true) ∧
    (∀ s, result st = some s ↔
      (s ∈ processed st ∧ fails s = true ∧ ∀ s', s' < s → ¬ (s' ∈ processed st ∧ fails s' = true))) ∧
    (∀ s, (processed st).count s ≤ 1) ∧ (∀ s ∈ processed st, s < n) ∧ (∀ e ∈ st.log, e.1 < c) ∧
    (0 < c → final n st → (∀ s, s < n → fails s = false) →
      result st = none ∧ st.chan = [] ∧
      ∀ s, s < n → (processed st).count s = 1 ∧
        ∃ w, w < c ∧ (w, s) ∈ st.log ∧ ∀ w', (w', s) ∈ st.log → w' = w) := by
  have hi := inv_run sched _ _ (inv_init fails n c) hrun
  refine ⟨?_, result_some_iff hi, processed_count_le_one hi, fun s hs => processed_lt hi hs, hi.logw, ?_⟩
  · rw [Ne, result_none_iff hi]
    constructor
    · intro h
      apply Classical.byContradiction
      intro hno
      apply h
      intro s hs
      cases hf : fails s with
      | false => rfl
      | true => exact absurd ⟨s, hs, hf⟩ hno
    · rintro ⟨s, hs, hf⟩ h
      rw [h s hs] at hf; cases hf
  · intro hc hf hnf
    have hnone : result st = none := (result_none_iff hi).mpr (fun s hs => hnf s (processed_lt hi hs))
    have hch : st.chan = [] := by
      apply Classical.byContradiction
      intro hne
      obtain ⟨s, hs, hfs⟩ := final_leftover hi hf hne hc
      have hp : s ∈ processed st := mem_processed hs
      rw [hnf s (processed_lt hi hp)] at hfs; cases hfs
    refine ⟨hnone, hch, ?_⟩
    intro s hs
    have h1 := final_partition hi hf hs
    rw [hch] at h1
    simp only [List.count_nil, Nat.zero_add] at h1
    refine ⟨h1, ?_⟩
    obtain ⟨w, hw, hu⟩ := unique_of_count_snd_eq_one st.log s h1
    exact ⟨w, hi.logw _ hw, hw, hu⟩

/-- With at least one worker, in every final state, for
    every capacity, Visitor returns an error IF AND ONLY IF some shard `s < n` fails — even when the failing shard
    was never processed (then every worker has left on another failing shard, whose error is recorded). -/
theorem C10_pool_error_iff (n c cap : Nat) (fails : Nat → Bool) (hc : 0 < c) (sched : List Action) (st : State)
    (hrun : run fails n cap (init n c) sched = some st) (hf : final n st) :
    result st ≠ none ↔ ∃ s, s < n ∧ fails s = true := by
  have hi := inv_run sched _ _ (inv_init fails n c) hrun
  have h1 := (C10_pool_error_reported n c cap fails sched st hrun).1
  rw [h1]
  constructor
  · rintro ⟨s, hs, hfs⟩
    exact ⟨s, processed_lt hi hs, hfs⟩
  · rintro ⟨s, hs, hfs⟩
    by_cases hp : s ∈ processed st
    · exact ⟨s, hp, hfs⟩
    · have h2 := final_partition hi hf hs
      rw [List.count_eq_zero.mpr hp] at h2
      have hne : st.chan ≠ [] := by
        intro he; rw [he] at h2; simp at h2
      obtain ⟨s0, hs0, hf0⟩ := final_leftover hi hf hne hc
      exact ⟨s0, mem_processed hs0, hf0⟩

/-- A final state is of one of two kinds — either the buffer is empty and then
    EVERYTHING was processed (every shard exactly once; the workers may all have left on failing shards all the
    same), or shards are left in the buffer, none of them processed, and then EVERY worker has left on a failing
    shard that it logged. -/
theorem C10_pool_final_dichotomy (n c cap : Nat) (fails : Nat → Bool) (sched : List Action) (st : State)
    (hrun : run fails n cap (init n c) sched = some st) (hf : final n st) :
    (st.chan = [] ∧ ∀ s, s < n → (processed st).count s = 1) ∨
    (st.chan ≠ [] ∧ (∀ s ∈ st.chan, s < n ∧ s ∉ processed st) ∧
      ∀ w, w < c → ∃ s, (w, s) ∈ st.log ∧ fails s = true) := by
  have hi := inv_run sched _ _ (inv_init fails n c) hrun
  by_cases hch : st.chan = []
  · refine Or.inl ⟨hch, ?_⟩
    intro s hs
    have h1 := final_partition hi hf hs
    rw [hch] at h1
    simpa using h1
  · refine Or.inr ⟨hch, ?_, fun w hw => final_leftover hi hf hch hw⟩
    intro s hs
    have hpos := List.count_pos_iff.mpr hs
    obtain ⟨hsn, h1⟩ := hi.placed (Nat.lt_of_lt_of_le hpos (Nat.le_trans (Nat.le_add_right _ _) (Nat.le_add_right _ _)))
    exact ⟨hsn, fun hp => by have := List.count_pos_iff.mpr hp; omega⟩

/-- WITNESS (a `decide`d concrete trace — the sizing before fix D19, commit
    0a8383c: `wch := make(chan int, shards)` with the requested `shards = 1`, while `GetRangeSplitItems` returned
    enough pivots for `n = 3` shards; one worker; the callback fails).  The worker takes shard 0, fails and
    returns; the dispatcher puts shard 1 into the buffer and then blocks at `wch <- 2` for ever: the state is not
    final and no action is enabled. -/
theorem C10_pool_unfixed_hang_witness :
    ∃ st, run (fun _ => true) 3 1 (init 3 1) [.send, .recv 0, .finish 0, .send] = some st ∧
      ¬ final 3 st ∧ ∀ a, step (fun _ => true) 3 1 st a = none := by
  exact ⟨{ next := 2, chan := [1], closed := false, workers := [.done], errors := [true, false, false],
           log := [(0, 0)] }, by decide, stuck_of (by decide) (by decide) (by decide)⟩

/-! ### non-vacuity -/

/-- the witness's schedule with the capacity the code has (`cap = n = 3`) goes on to a final state: shards 1
    and 2 stay in the buffer, the result is the error of shard 0 -/
example : ∃ st, run (fun _ => true) 3 3 (init 3 1) [.send, .recv 0, .finish 0, .send, .send, .close] = some st ∧
    final 3 st ∧ result st = some 0 ∧ st.chan = [1, 2] ∧ processed st = [0] :=
  ⟨{ next := 3, chan := [1, 2], closed := true, workers := [.done], errors := [true, false, false],
     log := [(0, 0)] }, by decide, by decide, by decide, rfl, by decide⟩

/-- hypotheses of `C10_pool_no_deadlock`/`C10_pool_error_iff` met by a run where shard 1 fails but a worker
    survives: 3 shards, 2 workers, everything processed, the result is the error of shard 1 -/
example : ∃ st, run (fun s => s == 1) 3 3 (init 3 2)
    [.send, .send, .recv 0, .recv 1, .send, .finish 1, .finish 0, .recv 0, .close, .finish 0, .exit 0] = some st ∧
    final 3 st ∧ result st = some 1 ∧ st.chan = [] ∧ processed st = [1, 0, 2] :=
  ⟨{ next := 3, chan := [], closed := true, workers := [.done, .done], errors := [false, true, false],
     log := [(1, 1), (0, 0), (0, 2)] }, by decide, by decide, by decide, rfl, by decide⟩

/-- a failing shard that is NEVER processed (shard 2), the result is an error all the same: both workers left on
    shards 0 and 1 -/
example : ∃ st, run (fun _ => true) 3 3 (init 3 2)
    [.send, .send, .send, .recv 0, .recv 1, .finish 0, .finish 1, .close] = some st ∧
    final 3 st ∧ result st = some 0 ∧ st.chan = [2] ∧ 2 ∉ processed st :=
  ⟨{ next := 3, chan := [2], closed := true, workers := [.done, .done], errors := [true, true, false],
     log := [(0, 0), (1, 1)] }, by decide, by decide, by decide, rfl, by decide⟩

/-- no shard fails: every shard processed once, nil returned (clause (4) of `C10_pool_error_reported`) -/
example : ∃ st, run (fun _ => false) 2 2 (init 2 1)
    [.send, .recv 0, .send, .finish 0, .recv 0, .close, .finish 0, .exit 0] = some st ∧
    final 2 st ∧ result st = none ∧ st.chan = [] ∧ processed st = [0, 1] :=
  ⟨{ next := 2, chan := [], closed := true, workers := [.done], errors := [false, false],
     log := [(0, 0), (0, 1)] }, by decide, by decide, by decide, rfl, by decide⟩

/-- `c ≥ 1` is needed in `C10_pool_error_iff`: with no worker at all the run is final with everything in the
    buffer and nil is returned although every shard would fail (Go: `Visitor(…, concurrency = 0)` returns nil
    without calling the callback) -/
example : ∃ st, run (fun _ => true) 2 2 (init 2 0) [.send, .send, .close] = some st ∧
    final 2 st ∧ result st = none :=
  ⟨{ next := 2, chan := [0, 1], closed := true, workers := [], errors := [false, false], log := [] },
   by decide, by decide, by decide⟩

end NitroVerif.Props.C10pool
