import NitroVerif.Props.C04
import NitroVerif.Lemmas.MvccConcShutdown
/-!
  # C07 — Every allocated block is released exactly once by Close

  "With user-managed memory, once all snapshots and iterators have been closed and Close() has returned,
  every block obtained from the configured allocator has been returned to it exactly once — none leaked,
  none returned twice, none returned that was never allocated.  This holds for every history, including
  rejected Puts, same-epoch and cross-epoch deletes, backups, and instances populated by LoadFromDisk."

  Model: `Model/MvccConc.lean` (see C04).  Quantifier: every number of writers and readers, every
  schedule of API calls, thread steps and job steps that ends in a state where `shutdown` is allowed —
  nothing in progress, no job pending, every snapshot reference and iterator released (the protocol
  refuses `shutdown` otherwise, exactly as the harness does; `Nitro.Close()` itself waits for that).
  Each block follows one of four paths, all covered by the ownership invariant:
    rejected Put            → freed in the PUT_INSERT segment (node, then item);
    same-epoch delete       → DEL_NODE_PHYS unlinks, DEL_NODE_FLUSH attaches the single node to a session;
    older-epoch delete      → writer garbage list → snapshot gclist → collection job → session;
                              sessions → destructor → free job → allocator;
    still linked at Close   → freed by `shutdown`, with the two sentinels.
  Not modelled here (stated, not proved): backups and `LoadFromDisk` — they are the subject of the
  sequential engine (`Props/C05`).
-/
namespace NitroVerif.Props.C07
open NitroVerif NitroVerif.MvccConc NitroVerif.Props.C04

/-- **C07_balanced.**  For every schedule from the initial state that reaches a state in which
    `shutdown` is allowed, after `shutdown`:
    * the allocator saw no double or invalid free (`bad = []`);
    * no block is in the free log twice;
    * the freed blocks are exactly the allocated blocks (as sets; with the two `Nodup`s: the free log is
      a permutation of the allocation log) — nothing leaked, nothing freed that was never allocated;
    * the answer of the engine is `live=0 badfree=0`. -/
theorem C07_balanced (fx : Bool) (nw nr : Nat) (sched : List Act)
    (hd : (run (init nw nr fx) sched).down = false) (hq : quiescent (run (init nw nr fx) sched) = true) :
    let σ' := (step (run (init nw nr fx) sched) .shutdown).1
    σ'.bad = [] ∧ σ'.freed.Nodup ∧ σ'.allocd.Nodup ∧ (∀ b, b ∈ σ'.freed ↔ b ∈ σ'.allocd) ∧
      σ'.freed.Perm σ'.allocd ∧
      (step (run (init nw nr fx) sched) .shutdown).2 = .closed 0 0 := by
  have hr : ReachableFx fx nw nr (run (init nw nr fx) sched) := reachable_run .init sched
  have hinv := inv_reachable hr hd
  have hst : step (run (init nw nr fx) sched) .shutdown = shutdown (run (init nw nr fx) sched) := by
    unfold step; simp [hd]
  obtain ⟨h1, h2, h3, h4, h5⟩ := shutdown_books hinv hq
  have hand : ((shutdown (run (init nw nr fx) sched)).1.allocd).Nodup := by rw [h2]; exact hinv.own.a_nodup
  have hperm := (List.perm_ext_iff_of_nodup h4 hand).mpr h5
  simp only [hst]
  refine ⟨h1, h4, hand, h5, hperm, ?_⟩
  rw [shutdown_resp hq]
  unfold liveCount
  rw [h1, hperm.length_eq]; simp

/-- the four paths, block by block: in every reachable state that has not been shut down a block is
    live iff its node has an owner (and, for the node block, is not a Put still parked before its
    `Insert`); a block that is neither live nor unallocated was freed exactly once (C04_no_double_free) -/
theorem C07_live_iff_owned {fx : Bool} {nw nr : Nat} {σ : State} (hr : ReachableFx fx nw nr σ) (hd : σ.down = false)
    (n : Nat) :
    (isLive σ (.item n) = true ↔ 0 < own σ n) ∧
    (isLive σ (.node n) = true ↔ (0 < own σ n ∧ ¬ reserved σ.threads n)) := by
  have h := inv_reachable hr hd
  exact ⟨live_item_iff_own h n, live_node_iff_own h n⟩

/-- at quiescence nothing is in the pipeline: every live block belongs to a linked node or is a sentinel -/
theorem C07_quiescent_only_linked {fx : Bool} {nw nr : Nat} {σ : State} (hr : ReachableFx fx nw nr σ)
    (hd : σ.down = false) (hq : quiescent σ = true) (n : Nat) :
    isLive σ (.item n) = true ↔ n ∈ storeIds σ.store := by
  have h := inv_reachable hr hd
  rw [(C07_live_iff_owned hr hd n).1, (own_quiet h (quiescent_spec hq)).1 n]
  exact List.count_pos_iff

/-! ### non-vacuity (tests, evaluated by the kernel): the schedule of `C04.demo` after a Put of key 5 (which
    makes the first Put of `C04.demo` a rejected one) ends quiescent; `shutdown` answers `live=0 badfree=0` -/

def demo : List Act := [.put 1 5 0, .step 1] ++ C04.demo

example :
    let σ := run (init 2 1) demo
    σ.down = false ∧ quiescent σ = true ∧ (step σ .shutdown).2 = .closed 0 0 ∧
      (step σ .shutdown).1.freed.length = 10 ∧ (step σ .shutdown).1.allocd.length = 10 := by decide +kernel

/-- a schedule that stops while a free job is pending is refused (`bad-op`) -/
example : (step (run (init 2 1) (demo.take 33)) .shutdown).2 = .bad := by decide +kernel

end NitroVerif.Props.C07
