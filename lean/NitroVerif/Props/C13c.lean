import NitroVerif.Lemmas.SkipConcSearch
import NitroVerif.Lemmas.SkipConcFindReturn
/-!
  C13 (concurrent part), on the executable model M5 (`Model/SkipConc.lean`, validated against the Go code
  yield point by yield point through engine `skipconc`).

  Property, verbatim: "On the skiplist package used directly, concurrent Insert, Delete, DeleteNode and Lookup by
  any number of goroutines are linearizable with respect to an ordered set under the supplied comparator: Insert
  succeeds iff no equal item is present, Delete iff one is, and a given node is deleted successfully by exactly
  one caller. After quiescence an iterator yields exactly the resulting set in order."

  The property itself — for every number of threads `n` and every run `as` from `Sys.init n` a total order of the
  completed calls, consistent with real time, whose replay on the set specification gives every call its observed
  result — is `C13_linearizable` (`Props/C13linSeq.lean`, over the per-call points of `Props/C13lin.lean`); the
  quiescent part (no marked node linked at quiescence) is `C14_quiescent_no_marked_linked` (`Props/C14q.lean`).
  This file holds the state invariants and the per-segment facts they are built from.

  PROVED HERE (the invariants for all numbers of threads and all runs from `Sys.init`; `C13_updates_linearize`,
  `C13_winner_at_soft_mark`, `C13_delete_flag`, `C13_reads_hit_partial`, `C13_reads_miss` about one segment, the others
  about any state, or any run from any state, satisfying the invariants):
  * `C13_invariant`            the heap invariant `HInv` (closure, H5 forward at level 0, H4 top-down marking, …),
                               the thread-local invariant `TInv` (all local ids published, `key prev < item`,
                               `key preds[0] < item < key succs[0]` at INS_PUBLISH, …) and the level-0 chain
                               invariant `ReachInv` (H1 + H2) hold in every reachable state;
  * `C13_marked_word_never_changes`  H3 and permanence of marks along every run;
  * `C13_updates_linearize`    the abstract set (nodes unmarked at level 0) changes ONLY at a successful
                               INS_PUBLISH of an ABSENT key and at a successful level-0 SOFT_MARK of a PRESENT node;
  * `C13_live_keys_distinct`   the abstract set never holds two nodes with the same key;
  * `C13_one_deleter`          a node is won (level-0 mark CAS) by at most one step of one thread in a run, and
                               that step is a SOFT_MARK of level 0 on that node (`C13_winner_at_soft_mark`);
                               `C13_delete_flag`: softDelete's `marked` result turns true exactly in that step;
  * `C13_reads_hit_partial`    a Lookup that answers true / an Insert that answers false saw, in the very state
                               of its last segment, a node of the abstract set carrying the item (linearization
                               point of a hit = that read).
  * `C13_reads_miss`           the MISS direction, through the search invariant `SInv` (`C13_invariant_search`): when a
                               findPath ends in a miss, every node carrying the item that was published before it
                               started is marked by now.
  `Lemmas/SkipConcLinCall.lean` (`ev_own`, `call_spec`) turns these per-segment facts into per-call points,
  `Lemmas/SkipConcLinReplay.lean` those into the one history.
-/
namespace NitroVerif.SkipConc

theorem C13_invariant (n : Nat) (as : List Action) : InvR ((Sys.init n).run as) :=
  run_invR (InvR_init n) as

theorem C13_H5_forward (n : Nat) (as : List Action) {a b : Nat} {m : Bool}
    (hw : word? ((Sys.init n).run as).sh.heap a 0 = some (b, m)) :
    Key.lt (keyOf ((Sys.init n).run as).sh.heap a) (keyOf ((Sys.init n).run as).sh.heap b) :=
  (C13_invariant n as).1.1.h5 _ _ _ hw

theorem C13_H4_top_down (n : Nat) (as : List Action) {a l l' p p' : Nat} {m : Bool}
    (hw : word? ((Sys.init n).run as).sh.heap a l = some (p, true)) (hl : l ≤ l')
    (hw' : word? ((Sys.init n).run as).sh.heap a l' = some (p', m)) : m = true :=
  (C13_invariant n as).1.1.h4 _ _ _ _ _ _ hw hl hw'

/-- every id held in a thread's locals is a published node (buffers and iterators; the program-counter
    locals are covered by `TInv`'s `PCInv`) -/
theorem C13_locals_published (n : Nat) (as : List Action) (th : Thread)
    (hth : th ∈ ((Sys.init n).run as).threads) (i : Nat) :
    th.pred i < ((Sys.init n).run as).sh.heap.length ∧ th.succ i < ((Sys.init n).run as).sh.heap.length :=
  have hT := (C13_invariant n as).1.threads th hth
  ⟨hT.buf.pred_lt i, hT.buf.succ_lt i⟩

/-- H3 + permanence: a marked word never changes, along any run from any state satisfying the invariant -/
theorem C13_marked_word_never_changes {s : Sys} (hI : Inv s) (as : List Action) {n l p : Nat}
    (hw : word? s.sh.heap n l = some (p, true)) : word? (s.run as).sh.heap n l = some (p, true) :=
  (run_inv hI as).2.marked _ _ _ hw

/-- keys of published nodes are immutable and nodes are never removed -/
theorem C13_keys_immutable {s : Sys} (hI : Inv s) (as : List Action) {n : Nat} (hn : n < s.sh.heap.length) :
    n < (s.run as).sh.heap.length ∧ keyOf (s.run as).sh.heap n = keyOf s.sh.heap n :=
  ⟨Nat.lt_of_lt_of_le hn (run_inv hI as).2.len, (run_inv hI as).2.key n hn⟩

/-- the abstract set never holds two nodes with the same key -/
theorem C13_live_keys_distinct {s : Sys} (hI : InvR s) {a b : Nat} (ha : unmarked0 s.sh.heap a)
    (hb : unmarked0 s.sh.heap b) (hk : keyOf s.sh.heap a = keyOf s.sh.heap b) : a = b :=
  live_key_inj hI.heap hI.reach ha hb hk

/-- a call entry (`start`) never writes the heap -/
theorem C13_start_no_effect (s : Sys) (t : Nat) (op : Op) :
    (s.start t op).1.sh.heap = s.sh.heap := s.start_heap t op

/-- The abstract set changes only at a successful INS_PUBLISH (adds a fresh node whose key was absent) and at a
    successful level-0 SOFT_MARK (removes a present node). -/
theorem C13_updates_linearize {s : Sys} (hI : InvR s) (t : Nat) :
    -- (1) nothing happens to the abstract set
    ((s.step t).1.sh.heap.length = s.sh.heap.length ∧
      ∀ n, unmarked0 (s.step t).1.sh.heap n ↔ unmarked0 s.sh.heap n) ∨
    -- (2) thread t was parked at INS_PUBLISH with item k: node x is new, carries k, joins the set; k was absent
    (∃ th k lvl, s.threads[t]? = some th ∧ th.pc = .insPublish k lvl ∧
      (s.step t).1.sh.heap.length = s.sh.heap.length + 1 ∧
      keyOf (s.step t).1.sh.heap s.sh.heap.length = .fin k ∧
      unmarked0 (s.step t).1.sh.heap s.sh.heap.length ∧
      (∀ n, n ≠ s.sh.heap.length → (unmarked0 (s.step t).1.sh.heap n ↔ unmarked0 s.sh.heap n)) ∧
      (∀ n, unmarked0 s.sh.heap n → keyOf s.sh.heap n ≠ .fin k)) ∨
    -- (3) thread t was parked at SOFT_MARK of level 0 on node n: n was in the set and leaves it
    (∃ th item n next marked, s.threads[t]? = some th ∧ th.pc = .softMark item n 0 next marked ∧
      (s.step t).1.sh.heap.length = s.sh.heap.length ∧
      unmarked0 s.sh.heap n ∧ marked0 (s.step t).1.sh.heap n ∧
      (∀ m, m ≠ n → (unmarked0 (s.step t).1.sh.heap m ↔ unmarked0 s.sh.heap m))) := by
  exact sys_step_class hI t

/-- action `a` wins the level-0 mark of node `n` in state `s` -/
def winsMark (s : Sys) (a : Action) (n : Nat) : Prop :=
  unmarked0 s.sh.heap n ∧ marked0 (s.act a).sh.heap n

/-- a given node is won by at most one action of any run: after a winning action no later action wins it -/
theorem C13_one_deleter {s : Sys} (hI : Inv s) (a : Action) (n : Nat) (hw : winsMark s a n)
    (bs : List Action) (b : Action) : ¬ winsMark ((s.act a).run bs) b n := by
  intro hw2
  obtain ⟨p, hp⟩ := hw.2
  have := (run_inv (act_inv hI a).1 bs).2.marked _ _ _ hp
  exact not_unmarked0_of_marked0 ⟨p, this⟩ hw2.1

/-- the winning action is a segment of a thread parked at SOFT_MARK of level 0 on that node -/
theorem C13_winner_at_soft_mark {s : Sys} (hI : InvR s) (a : Action) (n : Nat) (hw : winsMark s a n) :
    ∃ t th item next marked, a = .step t ∧ s.threads[t]? = some th ∧ th.pc = .softMark item n 0 next marked := by
  cases a with
  | start t op =>
    have := hw.2
    simp only [Sys.act] at this
    rw [C13_start_no_effect] at this
    exact absurd hw.1 (not_unmarked0_of_marked0 this)
  | step t =>
    have hm := hw.2
    simp only [Sys.act] at hm
    have hn : n < s.sh.heap.length := by obtain ⟨p, hp⟩ := hw.1; exact word?_lt hp
    rcases C13_updates_linearize hI t with ⟨_, h⟩ | ⟨th, k, lvl, _, _, _, _, _, h, _⟩ |
        ⟨th, item, n', next, marked, hth, hpc, _, _, _, h⟩
    · exact absurd ((h n).mpr hw.1) (not_unmarked0_of_marked0 hm)
    · exact absurd ((h n (by omega)).mpr hw.1) (not_unmarked0_of_marked0 hm)
    · by_cases hnn : n = n'
      · subst hnn; exact ⟨t, th, item, next, marked, rfl, hth, hpc⟩
      · exact absurd ((h n hnn).mpr hw.1) (not_unmarked0_of_marked0 hm)

/-- softDelete's result flag: in a SOFT_MARK segment the flag `marked` of the caller turns true exactly when the
    segment's CAS swapped at level 0 (`Gen.softDeleteWins`), i.e. when this caller won the node; a Delete answers
    `false` from this segment only with the flag still false -/
theorem C13_delete_flag (sh : Shared) (th : Thread) (item n i next : Nat) (marked : Bool) :
    let won := decide (word? sh.heap n i = some (next, false)) && decide (i = 0)
    (∀ item' n' j next' m', (stepSoftMark sh th item n i next marked).2.1.pc = .softMark item' n' j next' m' →
        m' = (marked || won)) ∧
    ((stepSoftMark sh th item n i next marked).2.2 = "ret false" → (marked || won) = false) ∧
    ((stepSoftMark sh th item n i next marked).2.2 = "at DEL_SEARCH" → (marked || won) = true) := by
  intro won
  have hwon : Gen.softDeleteWins (dcas sh.heap n i next next true).2 i = won := by
    rcases dcas_cases sh.heap n i next next true with ⟨hw, hd⟩ | ⟨hw, hd⟩ <;>
      simp only [won, hd, hw, Gen.softDeleteWins, decide_true, decide_false]
  unfold stepSoftMark
  simp only [hwon]
  -- the flag is what `enterSoft` is resumed with; it decides between DEL_SEARCH and the answer `false`
  rcases enterSoft_cases _ th item n i (marked || won) with ⟨j, nx, hp⟩ | ⟨hm, hp, _⟩ | ⟨hm, hp, _⟩
  · rw [hp]
    refine ⟨fun _ _ _ _ _ h => ?_, fun h => ?_, fun h => ?_⟩
    · cases h; rfl
    · simp at h
    · simp at h
  · rw [hp]
    refine ⟨fun _ _ _ _ _ h => ?_, fun h => ?_, fun _ => hm⟩
    · cases h
    · simp at h
  · rw [hp]
    refine ⟨fun _ _ _ _ _ h => ?_, fun _ => hm, fun h => ?_⟩
    · cases h
    · simp at h

/-- C13_reads, hit direction: a Lookup that returns true, and an Insert that returns false, return in a segment
    (the last read of findPath at level 0) in whose state a node of the abstract set carries the item.
    The miss direction (Lookup false / Delete false / Insert going on to publish: the item was absent at some
    instant during the call) is `C13_reads_miss` below. -/
theorem C13_reads_hit_partial {sh : Shared} {th : Thread} (H : HInv sh.heap) (fp : FP) (rr : Bool)
    (hret : (fp.cont = .lookup ∧ (stepFindNext sh th fp rr).2.2 = "ret true") ∨
            ((∃ lvl, fp.cont = .insFirst lvl ∨ fp.cont = .insRetry lvl) ∧
              (stepFindNext sh th fp rr).2.2 = "ret false")) :
    ∃ n, unmarked0 sh.heap n ∧ keyOf sh.heap n = .fin fp.item := by
  obtain ⟨c, _, _, hm, _, hr⟩ := (stepFindNext_seg sh th fp rr).ends
    (by rcases hret with ⟨_, h⟩ | ⟨_, h⟩ <;> rw [h] <;> simp [FindEnds])
  rw [hr] at hret
  exact ⟨c, found_present H hm (finishFind_hit hret)⟩

/-- every reachable state also satisfies the search invariant of every thread (`SInv`, see
    `Lemmas/SkipConcSearch.lean`): every node published before a running findPath call started, still unmarked
    and with a key ≥ the searched item, is reachable at level 0 from the call's `prev` (on level 0: from `curr`) -/
theorem C13_invariant_search (n : Nat) (as : List Action) : InvS ((Sys.init n).run as) :=
  run_invS (InvS_init n) as

/-- C13_reads, MISS direction:
    when a findPath(item) ends in a miss that the caller reports or acts on — Lookup answers false, Insert goes on
    to INS_PUBLISH, Delete answers false after its search — then every node carrying that item that was published
    before this findPath call started (`n < fp.startLen`, ghost) is MARKED in the current state: there was an instant
    inside the call at which the item was absent (`absent_instant`).  The hypotheses `HInv`, `TInv`, `SInv` hold in
    every reachable state (`C13_invariant`, `C13_invariant_search`). -/
theorem C13_reads_miss {sh : Shared} {th : Thread} (H : HInv sh.heap) (hT : TInv sh.heap th)
    (hS : SInv sh.heap th) (fp : FP) (rr : Bool) (hpc : th.pc = .findNext fp rr)
    (hres : MissOutcome fp.cont (stepThread sh th).2.2) :
    ∀ n, n < fp.startLen → keyOf sh.heap n = .fin fp.item → ¬ unmarked0 sh.heap n := by
  have s := stepThread_seg sh th
  have hp := hT.pc
  have hS := hS.at hpc
  rw [hpc] at s hp
  obtain ⟨c, hc, hi0, hm, ha, hr⟩ := s.ends hres.ends
  rw [hr] at hres
  refine search_miss H hp hS hc hi0 ha (finishFind_miss ?_ hres)
  show (getNext sh.heap ((th.succs.set 0 c).getD 0 0) 0).2 = false
  rw [getD_set_same hT.buf.succs_pos]; exact hm

/-- the same at system level: in any reachable state, if the segment `step t` of a thread parked at FIND_NEXT
    prints a miss outcome, every node with the item published before that findPath began is marked -/
theorem C13_reads_miss_run (k : Nat) (as : List Action) (t : Nat) (th : Thread) (fp : FP) (rr : Bool)
    (hth : ((Sys.init k).run as).threads[t]? = some th) (hpc : th.pc = .findNext fp rr)
    (hres : MissOutcome fp.cont (((Sys.init k).run as).step t).2) :
    ∀ n, n < fp.startLen → keyOf ((Sys.init k).run as).sh.heap n = .fin fp.item →
      ¬ unmarked0 ((Sys.init k).run as).sh.heap n := by
  obtain ⟨H, _, hT, hS⟩ := (C13_invariant_search k as).thread hth
  rw [Sys.step_busy_out hth (by rw [hpc]; exact PC.noConfusion)] at hres
  exact C13_reads_miss H hT hS fp rr hpc hres

/-! ### non-vacuity: a concrete run (kernel-checked TEST, not a proof by enumeration) -/

/-- thread 0 inserts 5 (level request 0) to completion; thread 1 starts Delete(5) and is parked at SOFT_MARK -/
def demoActs : List Action :=
  [.start 0 (.ins 5 0), .step 0, .step 0, .step 0, .start 1 (.del 5), .step 1, .step 1]

def demo : Sys := (Sys.init 2).run demoActs

/-- the run evaluated once: node 2 (key 5) before and after thread 1's next segment -/
theorem demo_facts :
    word? demo.sh.heap 2 0 = some (1, false) ∧ keyOf demo.sh.heap 2 = .fin 5 ∧
    word? (demo.act (.step 1)).sh.heap 2 0 = some (1, true) := by decide +kernel

example : InvR demo := C13_invariant 2 demoActs
-- the node 2 (key 5) is in the abstract set, and thread 1's next segment wins it
example : unmarked0 demo.sh.heap 2 := ⟨1, demo_facts.1⟩
example : keyOf demo.sh.heap 2 = .fin 5 := demo_facts.2.1
example : winsMark demo (.step 1) 2 := ⟨⟨1, demo_facts.1⟩, ⟨1, demo_facts.2.2⟩⟩
-- case (3) of `C13_updates_linearize` is inhabited by that step, case (2) by the publish two steps earlier
example : ∃ th, demo.threads[1]? = some th ∧ th.pc = .softMark 5 2 0 1 false := ⟨_, rfl, rfl⟩
example : ∃ th, ((Sys.init 2).run (demoActs.take 3)).threads[0]? = some th ∧ th.pc = .insPublish 5 0 :=
  ⟨_, rfl, rfl⟩
-- a marked word to which `C13_marked_word_never_changes` applies
example : word? (demo.act (.step 1)).sh.heap 2 0 = some (1, true) := demo_facts.2.2

/-- Lookup(7) on the list {5}, parked before its last read (curr = tail): the next segment answers false -/
def missDemo : Sys :=
  (Sys.init 1).run [.start 0 (.ins 5 0), .step 0, .step 0, .step 0, .start 0 (.look 7), .step 0, .step 0]

-- the hypotheses of `C13_reads_miss_run` are met by this state (kernel-checked TEST)
example : ∃ th fp, missDemo.threads[0]? = some th ∧ th.pc = .findNext fp false ∧ fp.startLen = 3 ∧
    MissOutcome fp.cont (missDemo.step 0).2 := ⟨_, _, rfl, rfl, rfl, .inl ⟨rfl, by decide +kernel⟩⟩

end NitroVerif.SkipConc
