import NitroVerif.Lemmas.SkipSeqRun
import NitroVerif.Lemmas.OrdSetLemmas
/-!
  C13 — "On the skiplist package used directly, concurrent Insert, Delete, DeleteNode and Lookup by
  any number of goroutines are linearizable with respect to an ordered set under the supplied
  comparator: Insert succeeds iff no equal item is present, Delete iff one is, and a given node is
  deleted successfully by exactly one caller.  After quiescence an iterator yields exactly the
  resulting set in order."

  Proved here: the SEQUENTIAL specialisation on the pointer-level model M3 (`Model/SkipSeq.lean`):
  every script of `ins / del / look / getnode / delnode / iter / seek` run by one thread, with every
  level request, produces exactly the outputs of the ordered-set specification machine
  (`Spec/OrdSet.lean`).  The concurrent part belongs to M5 (`C13_updates_linearize`, …) and is not
  claimed here.
-/
namespace NitroVerif.Props.C13
open NitroVerif.SkipSeq NitroVerif.OrdSet

/-- C13, sequential: for every operation sequence and every level request the model's outputs of
    `ins`, `del`, `look`, `getnode`, `delnode`, `iter` and `seek` are those of the ordered set. -/
theorem C13_sequential (ops : List Op) : (run St.init ops).2 = (specRun SpecSt.init ops).2 :=
  (run_sim ops St.init SpecSt.init [] sim_init).1

/-- The set the specification holds (and hence what `iter` prints, by `C13_sequential`) is strictly
    ascending after every script: the iterator yields the set in order, without duplicates. -/
theorem C13_iter_in_order (ops : List Op) : Asc (specRun SpecSt.init ops).1.set :=
  specRun_asc ops List.Pairwise.nil

/-- What the specification machine answers, by its definition: Insert succeeds iff no equal item is
    present. -/
theorem spec_ins_iff (sp : SpecSt) (k : Int) (l : Nat) :
    (specStep sp (.ins k l)).2 = .bool (decide (k ∉ sp.set)) := by
  rw [specStep_ins]
  by_cases h : k ∈ sp.set <;> simp [h]

/-- … and Delete iff one is. -/
theorem spec_del_iff (sp : SpecSt) (k : Int) :
    (specStep sp (.del k)).2 = .bool (decide (k ∈ sp.set)) := by
  rw [specStep_del]
  by_cases h : k ∈ sp.set <;> simp [h]

/-- A given node is deleted successfully at most once: if `delnode h` succeeds, a later `delnode h`
    fails, whatever happens in between, as long as the script does not re-bind the handle name `h`
    to another node (`getnode _ h`) — re-inserting the same key does not revive the old node. -/
theorem C13_delete_once (ops mid : List Op) (h : String)
    (hmid : ∀ op ∈ mid, ∀ k, op ≠ .getnode k h) :
    let outs := (run St.init (ops ++ [.delnode h] ++ mid ++ [.delnode h])).2
    outs.getD ops.length .bad = .bool true → outs.getLast? = some (.bool false) := by
  intro outs
  have houts : outs = (specRun SpecSt.init (ops ++ [.delnode h] ++ mid ++ [.delnode h])).2 := C13_sequential _
  rw [houts]
  simp only [specRun_append, specRun, List.append_assoc]
  generalize hsp : (specRun SpecSt.init ops).1 = sp
  have hlen := specRun_outs_length SpecSt.init ops
  intro hfirst
  have hfirst' : (specStep sp (.delnode h)).2 = .bool true := by
    rw [List.getD_eq_getElem?_getD, List.getElem?_append_right (by omega)] at hfirst
    simpa [hlen] using hfirst
  have hd := deadHandle_run mid _ (delnode_true_dead hfirst') hmid
  have := delnode_dead_false hd
  simp only [List.getLast?_append, this]
  simp

/-- a script that exercises every operation, with its outputs (a test, decided by evaluation) -/
example :
    (run St.init [.ins 5 0, .ins 3 1, .ins 9 5, .ins 5 2, .getnode 9 "a", .del 9, .delnode "a",
                  .look 3, .seek 4, .iter]).2
      = [.bool true, .bool true, .bool true, .bool false, .node true, .bool true, .bool false,
         .bool true, .seekAt false (some (.item 5)), .keys [.item 3, .item 5]] := by decide +kernel

/-- `C13_delete_once` instantiated: delete a node through its handle, re-insert the key, try again -/
example :
    (run St.init ([.ins 7 2, .getnode 7 "n"] ++ [.delnode "n"] ++ [.ins 7 0, .look 7] ++ [.delnode "n"])).2
      = [.bool true, .node true, .bool true, .bool true, .bool true, .bool false] := by decide +kernel

end NitroVerif.Props.C13
