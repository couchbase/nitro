import NitroVerif.Lemmas.SkipConcLinSeq
/-!
  C13, linearization-point theorem over WHOLE HISTORIES of the concurrent skiplist model M5
  (`Model/SkipConc.lean`), for every number of threads `n` and every run `as : List Action` from `Sys.init n`.

  Vocabulary (`Lemmas/SkipConcLin.lean`, `Lemmas/SkipConcLinCall.lean`):
  * `stAt n as i` is the state after the first `i` actions, `absAt n as i k` says that item `k` is in the abstract
    set (nodes unmarked at level 0) of that state: `absAt n as` is the TRACE of abstract sets, `absAt n as 0` is
    empty (`C13_lin_trace_start`) and `absAt n as as.length` is the abstract set of `(Sys.init n).run as`
    (`C13_lin_trace_end`; one action = one step of it: `C13_lin_trace_step`).
    Action index `p` is the action `as[p]`, taking state `p` to state `p + 1`.
  * `Call n as t op s e out`: action `s` is the entry `start t op` (thread `t` idle just before), `t` is
    busy at every position in `(s, e]`, action `e` is the segment of `t` that returns (idle at `e + 1`) and prints
    `out`.  `InCall n as t op s j`: the same without the return — at position `j` the call is in flight.
  * `InsPoint n as t k p`: `as[p] = step t`, `k ∉ abs(p)`, `abs(p+1) = abs(p) ∪ {k}`;
    `DelPoint n as t k p`: `as[p] = step t`, `k ∈ abs(p)`, `abs(p+1) = abs(p) \ {k}`;
    `NoOwnChange n as t a b`: no segment of `t` at a position strictly between `a` and `b` changes the abstract set.

  THEOREMS:
  * `C13_lin_insert`   a completed Insert k answers true or false.  True: there is exactly one action `p ∈ (s, e]`
                       of the call that changes the abstract set; it is `InsPoint` (its successful publish: `k` absent
                       before, added by it).  False: the call changes nothing and `k ∈ abs(q)` for a position `q ∈ (s, e]`.
  * `C13_lin_delete`   a completed Delete k answers true or false.  True: exactly one changing action `p ∈ (s, e]`, a
                       `DelPoint` (its winning level-0 mark: `k` present before, removed by it).  False: the call changes
                       nothing and `k ∉ abs(q)` for a position `q ∈ (s, e]` — this covers the missing search AND the LOSER
                       of a mark race (it found the node live; another thread's mark of that node lies inside the loser's
                       interval and right after it `k` is absent because live keys are distinct).
  * `C13_lin_lookup`   a completed Lookup k changes nothing, answers true or false, and `k ∈ / ∉ abs(q)` for a `q ∈ (s, e]`.
  * `C13_lin_iterator` completed iterator calls change nothing.
  * `C13_lin_changes`  conversely: every action of the run either leaves the abstract set alone or is a segment of a
                       thread that is, at that position, inside an Insert k call (and the action is an `InsPoint` of `k`)
                       or inside a Delete k call (`DelPoint` of `k`) — no change without a call; in-flight updates
                       whose decisive CAS has happened are accounted for by the trace;
  * `C13_lin_inspoint_is_publish`, `C13_lin_delpoint_is_mark`  the point of a successful Insert is its successful
                       INS_PUBLISH CAS, the point of a successful Delete its winning level-0 SOFT_MARK CAS on a node
                       carrying `k`;
  * `C13_lin_change_is_point`  if such a changing action lies inside a COMPLETED call, it is that call's unique point
                       and the call answered true — no call with two changes, no change by a call that answered false.
  * `C13_lin_real_time` the arithmetic of real time only (six natural numbers, no run): with updates timed `2p + 1` and
                       reads `2q`, points inside `(sA, eA]` come before points inside `(sB, eB]` when `eA < sB`; the
                       theorem about the history of a run is `C13_lin_history_real_time`.
  Together: linearizability of the set object in linearization-point form.  The explicit sequential history is in
  `Props/C13linSeq.lean`.

  There is no separate DeleteNode operation in M5 (`Op` has `del`; the engine's Delete is `findPath` + `deleteNode`).
-/
namespace NitroVerif.SkipConc

/-- the trace starts from the empty set -/
theorem C13_lin_trace_start (n : Nat) (as : List Action) (k : Nat) : ¬ absAt n as 0 k :=
  absAt_zero n as k

/-- the trace ends with the abstract set of the final state -/
theorem C13_lin_trace_end (n : Nat) (as : List Action) (k : Nat) :
    absAt n as as.length k ↔ absOf ((Sys.init n).run as).sh.heap k := by
  rw [absAt_ge n as (Nat.le_refl _)]

theorem C13_lin_trace_step (n : Nat) (as : List Action) (p : Nat) (a : Action) (h : as[p]? = some a) :
    stAt n as (p + 1) = (stAt n as p).act a := stAt_succ_some h

/-- A completed `Insert k`:
    answers true, has exactly one own action `p ∈ (s, e]` that changes the abstract set, and at it `k` was absent and
    is added; or answers false, changes nothing, and `k` is present at some position `q ∈ (s, e]`. -/
theorem C13_lin_insert {n : Nat} {as : List Action} {t k lvl s e : Nat} {out : String}
    (c : Call n as t (.ins k lvl) s e out) :
    (out = "ret true" ∧ ∃ p, s < p ∧ p ≤ e ∧ InsPoint n as t k p ∧ NoOwnChange n as t s p ∧
      NoOwnChange n as t p (e + 1)) ∨
    (out = "ret false" ∧ NoOwnChange n as t s (e + 1) ∧ ∃ q, s < q ∧ q ≤ e ∧ absAt n as q k) :=
  call_spec c

/-- A completed `Delete k`:
    answers true, has exactly one own action `p ∈ (s, e]` that changes the abstract set, and at it `k` was present and
    is removed; or answers false (missing search, or lost mark race), changes nothing, and `k` is absent at some
    position `q ∈ (s, e]`. -/
theorem C13_lin_delete {n : Nat} {as : List Action} {t k s e : Nat} {out : String}
    (c : Call n as t (.del k) s e out) :
    (out = "ret true" ∧ ∃ p, s < p ∧ p ≤ e ∧ DelPoint n as t k p ∧ NoOwnChange n as t s p ∧
      NoOwnChange n as t p (e + 1)) ∨
    (out = "ret false" ∧ NoOwnChange n as t s (e + 1) ∧ ∃ q, s < q ∧ q ≤ e ∧ ¬ absAt n as q k) :=
  call_spec c

/-- A completed `Lookup k` changes nothing and answers true with `k` present, or false with `k` absent, at
    some position `q ∈ (s, e]`. -/
theorem C13_lin_lookup {n : Nat} {as : List Action} {t k s e : Nat} {out : String}
    (c : Call n as t (.look k) s e out) :
    NoOwnChange n as t s (e + 1) ∧
    ((out = "ret true" ∧ ∃ q, s < q ∧ q ≤ e ∧ absAt n as q k) ∨
     (out = "ret false" ∧ ∃ q, s < q ∧ q ≤ e ∧ ¬ absAt n as q k)) :=
  call_spec c

/-- completed iterator calls (Seek, Next, …) never change the abstract set -/
theorem C13_lin_iterator {n : Nat} {as : List Action} {t : Nat} {op : Op} {s e : Nat} {out : String}
    (c : Call n as t op s e out) (hop : opKind op = .iter) : NoOwnChange n as t s (e + 1) := by
  have := call_spec c
  rw [hop] at this
  exact this

/-- no change without a call.  Every action leaves the abstract set alone, or is a segment of a thread `t`
    that is at that position inside the call `op` it entered at `s`, where `op = Insert k` and the action adds the
    absent `k`, or `op = Delete k` and the action removes the present `k`. -/
theorem C13_lin_changes (n : Nat) (as : List Action) (p : Nat) :
    AbsSame n as p ∨
    ∃ t op s, InCall n as t op s p ∧ as[p]? = some (.step t) ∧
      ((∃ k lvl, op = .ins k lvl ∧ InsPoint n as t k p) ∨ (∃ k, op = .del k ∧ DelPoint n as t k p)) := by
  cases point_class n as p with
  | same u => exact .inl (AbsSame.of_unmSame u)
  | ins a => exact .inr ⟨_, _, _, a.call, a.step, .inl ⟨_, _, rfl, a.point⟩⟩
  | del a => exact .inr ⟨_, _, _, a.call, a.step, .inr ⟨_, rfl, a.point⟩⟩

/-- an action that adds the absent `k` is the segment of a thread
    parked at INS_PUBLISH with item `k`, whose CAS succeeds (the new node `heap.length` carries `k` and joins the set) -/
theorem C13_lin_inspoint_is_publish {n : Nat} {as : List Action} {t k p : Nat} (h : InsPoint n as t k p) :
    ∃ th lvl, thrAt n as t p = some th ∧ th.pc = .insPublish k lvl ∧
      PublishEff (heapAt n as p) (heapAt n as (p + 1)) k := by
  cases point_class n as p with
  | same u => exact absurd (AbsSame.of_unmSame u) h.changes
  | ins a =>
    cases step_thread_eq a.step h.step
    cases h.item_eq a.point
    exact ⟨_, _, a.thr, a.pc, a.eff⟩
  | del a => exact (h.not_del a.point).elim

/-- an action that removes the present `k` is the
    segment of a thread parked at SOFT_MARK of level 0, in Delete(k), on a node that carries `k`, whose CAS succeeds
    (the node was unmarked and is marked after the step) -/
theorem C13_lin_delpoint_is_mark {n : Nat} {as : List Action} {t k p : Nat} (h : DelPoint n as t k p) :
    ∃ th nd next marked, thrAt n as t p = some th ∧ th.pc = .softMark k nd 0 next marked ∧
      keyOf (heapAt n as p) nd = .fin k ∧ MarkEff (heapAt n as p) (heapAt n as (p + 1)) nd := by
  cases point_class n as p with
  | same u => exact absurd (AbsSame.of_unmSame u) h.changes
  | ins a => exact (a.point.not_del h).elim
  | del a =>
    cases step_thread_eq a.step h.step
    cases h.item_eq a.point
    exact ⟨_, _, _, _, a.thr, a.pc, a.key, a.eff⟩

/-- No call with two changes, no change by a call that answers false: a changing segment of thread `t` inside a
    completed call of `t` is the unique point of that call, the call is an Insert or a Delete and answered true. -/
theorem C13_lin_change_is_point {n : Nat} {as : List Action} {t : Nat} {op : Op} {s e p : Nat} {out : String}
    (c : Call n as t op s e out) (hsp : s < p) (hpe : p ≤ e) (hstep : as[p]? = some (.step t))
    (hch : ¬ AbsSame n as p) :
    out = "ret true" ∧
    ((∃ k lvl, op = .ins k lvl ∧ InsPoint n as t k p) ∨ (∃ k, op = .del k ∧ DelPoint n as t k p)) ∧
    ∀ p', s < p' → p' ≤ e → as[p']? = some (.step t) → ¬ AbsSame n as p' → p' = p := by
  have hin : InCall n as t op s p := c.inCall_at hsp hpe
  have hspec := call_spec c
  -- the kind of change, from the converse theorem
  rcases C13_lin_changes n as p with h | ⟨t', op', s', hc', hst', hkind⟩
  · exact absurd h hch
  · have htt : t' = t := step_thread_eq hst' hstep
    subst htt
    obtain ⟨rfl, rfl⟩ := hc'.unique hin
    -- Insert and Delete alike: the call answered true and its own changes are confined to one action, which is `p`
    have key : ∀ {Pt : Nat → Prop} {Q : Prop},
        (out = "ret true" ∧ ∃ q, s' < q ∧ q ≤ e ∧ Pt q ∧ NoOwnChange n as t' s' q ∧ NoOwnChange n as t' q (e + 1)) ∨
        (out = "ret false" ∧ NoOwnChange n as t' s' (e + 1) ∧ Q) →
        out = "ret true" ∧
          ∀ p', s' < p' → p' ≤ e → as[p']? = some (.step t') → ¬ AbsSame n as p' → p' = p := by
      rintro Pt Q (⟨ho, q, _, _, _, h4, h5⟩ | ⟨_, hno, _⟩)
      · have hpq := h4.point h5 hsp hpe hstep hch
        exact ⟨ho, fun p' a b c d => (h4.point h5 a b c d).trans hpq.symm⟩
      · exact absurd (hno p hsp (Nat.lt_succ_of_le hpe) hstep) hch
    rcases hkind with ⟨k, lvl, rfl, hpt⟩ | ⟨k, rfl, hpt⟩
    · obtain ⟨ho, hu⟩ := key hspec
      exact ⟨ho, .inl ⟨k, lvl, rfl, hpt⟩, hu⟩
    · obtain ⟨ho, hu⟩ := key hspec
      exact ⟨ho, .inr ⟨k, rfl, hpt⟩, hu⟩

/-- Real-time order of the points, the arithmetic.  Give an update point at action `p` the time `2p + 1` and a read point at state
    `q` the time `2q` (a read is placed right after state `q`, before action `q`).  Every point of a call `(s, e)`
    has its time in `[2s + 2, 2e + 1]`; hence if call A returned (`eA`) before call B was entered (`eA < sB`), every
    point of A is strictly before every point of B. -/
theorem C13_lin_real_time {sA eA sB eB : Nat} (timeA timeB : Nat)
    (hA : (∃ p, sA < p ∧ p ≤ eA ∧ timeA = 2 * p + 1) ∨ (∃ q, sA < q ∧ q ≤ eA ∧ timeA = 2 * q))
    (hB : (∃ p, sB < p ∧ p ≤ eB ∧ timeB = 2 * p + 1) ∨ (∃ q, sB < q ∧ q ≤ eB ∧ timeB = 2 * q))
    (hAB : eA < sB) : timeA < timeB := by
  -- every point of A is at most `2 eA + 1`, every point of B at least `2 (sB + 1)`
  have hA' : timeA ≤ 2 * eA + 1 := by
    rcases hA with ⟨p, _, hp, rfl⟩ | ⟨p, _, hp, rfl⟩
    · exact Nat.succ_le_succ (Nat.mul_le_mul_left 2 hp)
    · exact Nat.le_succ_of_le (Nat.mul_le_mul_left 2 hp)
  have hB' : 2 * (sB + 1) ≤ timeB := by
    rcases hB with ⟨q, hq, _, rfl⟩ | ⟨q, hq, _, rfl⟩
    · exact Nat.le_succ_of_le (Nat.mul_le_mul_left 2 hq)
    · exact Nat.mul_le_mul_left 2 hq
  omega

/-! ### non-vacuity: a concrete run with two threads racing on the same node (kernel-checked TEST) -/

/-- thread 0 inserts 5; then threads 0 and 1 both call Delete(5), both find node 2 live and park at SOFT_MARK;
    thread 0 wins the level-0 mark (action 10), thread 1 loses and answers false (action 11), thread 0 finishes its
    cleaning search and answers true (action 16) -/
def raceActs : List Action :=
  [.start 0 (.ins 5 0), .step 0, .step 0, .step 0,
   .start 0 (.del 5), .step 0, .step 0,
   .start 1 (.del 5), .step 1, .step 1,
   .step 0, .step 1,
   .step 0, .step 0, .step 0, .step 0, .step 0]

theorem race_insert : Call 2 raceActs 0 (.ins 5 0) 0 3 "ret true" := Call.of_eval rfl rfl (by decide +kernel)

theorem race_winner : Call 2 raceActs 0 (.del 5) 4 16 "ret true" := Call.of_eval rfl rfl (by decide +kernel)

theorem race_loser : Call 2 raceActs 1 (.del 5) 7 11 "ret false" := Call.of_eval rfl rfl (by decide +kernel)

-- the theorems applied to the race: the Insert has its point, the loser has an instant of absence in (7, 11]
example : ∃ p, 0 < p ∧ p ≤ 3 ∧ InsPoint 2 raceActs 0 5 p := by
  rcases C13_lin_insert race_insert with ⟨_, p, h1, h2, h3, _⟩ | ⟨h, _⟩
  · exact ⟨p, h1, h2, h3⟩
  · exact absurd h (by simp)

example : ∃ q, 7 < q ∧ q ≤ 11 ∧ ¬ absAt 2 raceActs q 5 := by
  rcases C13_lin_delete race_loser with ⟨h, _⟩ | ⟨_, _, q, h1, h2, h3⟩
  · exact absurd h (by simp)
  · exact ⟨q, h1, h2, h3⟩

example : ∃ p, 4 < p ∧ p ≤ 16 ∧ DelPoint 2 raceActs 0 5 p := by
  rcases C13_lin_delete race_winner with ⟨_, p, h1, h2, h3, _⟩ | ⟨h, _⟩
  · exact ⟨p, h1, h2, h3⟩
  · exact absurd h (by simp)

-- the trace itself at the decisive instants: 5 is present at position 10 (node 2 live), the winner's mark is action 10
example : absAt 2 raceActs 10 5 := ⟨2, ⟨1, by decide +kernel⟩, by decide +kernel⟩
example : marked0 (heapAt 2 raceActs 11) 2 := ⟨1, by decide +kernel⟩
example : ∃ th, thrAt 2 raceActs 0 10 = some th ∧ th.pc = .softMark 5 2 0 1 false := ⟨_, rfl, rfl⟩
example : ∃ th, thrAt 2 raceActs 1 10 = some th ∧ th.pc = .softMark 5 2 0 1 false := ⟨_, rfl, rfl⟩

end NitroVerif.SkipConc
