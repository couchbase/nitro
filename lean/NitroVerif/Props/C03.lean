import NitroVerif.Lemmas.MvccConcAlternation
import NitroVerif.Lemmas.MvccConcLinStep
/-!
  # C03 — Concurrent writers are linearizable with respect to the set semantics

  "When several writers, one per goroutine, issue Put, Delete and lookups concurrently between two snapshot
  creations, every operation appears to take effect atomically at some instant between its call and its
  return, consistently with the set semantics of C02.  In particular, of any group of concurrent Puts (or
  Deletes) of one key exactly one succeeds per state change, and the next snapshot's content and Count()
  equal the outcome of that linearization."

  Model: `Model/MvccConc.lean` (small-step M6).  `_partial` in the name of the main theorem means exactly
  one thing: every skiplist operation (Insert2 with its exists-check, DeleteNode, the GetNode lookup) is ONE
  atomic action of the model — that a search made of many pointer reads may be treated so is the subject of
  C13 (`C13_linearizable`, `Props/C13linSeq.lean`, proved for whole histories of the full skiplist model); the
  two results are not composed here.  Everything else is at full strength:
  * all numbers of writers and readers, all schedules of all actions of the machine — the writers' calls
    and steps interleaved with readers, snapshot creations (any number of epochs, not only one), snapshot
    closes, collection jobs (which unlink dead versions under the writers' feet) and free jobs;
  * keys hit by many writers at once, keys born in the current epoch (physical delete) and in earlier
    epochs (`deadSn` compare-and-swap), re-insertion of a key while a losing Delete is still parked.

  The linearization is constructed (`Lemmas/MvccConcLin.lean`): `trace` turns a schedule into the list of
  `call` / `lin` / `ret` / `snap` events; `call` and `ret` are the accepted `start` actions and the answers
  actually given by the machine; a `lin` event is emitted at the decisive step of the operation — PUT_INSERT;
  the lookup of a Delete that finds nothing or of a GetNode; the winning DEL_NODE_PHYS / DEL_NODE_CAS step —
  and, for a Delete that loses its node to another one, at the winner's step (its own failed step comes
  later; linearizing it there would be wrong: the key may be alive again by then — see the example).
  `replay` runs the `lin` and `snap` events, in trace order, on `Spec/SetSpec.lean` and succeeds only if every
  recorded result is the specification's result.  `phaseOf t` checks that the events of thread `t` come in
  the order call, lin, ret, call, lin, ret, … with the `lin` carrying the operation of the `call` and the
  `ret` carrying the result of the `lin` (`Phase.broken` otherwise): every linearization point lies between
  the call and the return of its operation, and the returned value is the linearized one.
-/
namespace NitroVerif.Props.C03
open NitroVerif NitroVerif.MvccConc
open NitroVerif.SetSpec (Op Out)

theorem abs_init (nw nr : Nat) (fx : Bool) : Abs (init nw nr fx) (SetSpec.init nw) :=
  ⟨by simp [init, SetSpec.init], by simp [init, SetSpec.init, vers, Mvcc.absAlive], rfl⟩

theorem phaseOK_init (nw nr : Nat) (fx : Bool) (t : Nat) : PhaseOK (init nw nr fx) t .idle := by
  rw [phaseOK_idle]
  intro pc hg
  have := List.eq_of_mem_replicate (List.mem_of_getElem? (show (List.replicate (nw + nr) Pc.idle)[t]? = some pc from hg))
  subst this; rfl

/-- **C03_linearizable_atomic_search_partial.**  For every number of writers and readers and every
    schedule, the constructed linearization (the `lin` and `snap` events of the trace, in trace order)
    * replays on the set specification from its initial state with exactly the observed results — the
      success flags of Put and Delete, the values found by GetNode, `sn` and `Count()` of every snapshot
      created along the way;
    * leaves the specification with the alive set, the epoch and the writers of the final state of the
      machine;
    * is, for every thread, interleaved with its calls and returns as call, lin, ret, call, lin, ret, …:
      each linearization point lies between the call and the return of its operation and carries the value
      that operation returns. -/
theorem C03_linearizable_atomic_search_partial (fx : Bool) (nw nr : Nat) (sched : List Act) :
    ∃ sp' : SetSpec.State,
      replay (SetSpec.init nw) (trace (init nw nr fx) sched) = some sp' ∧
      Abs (run (init nw nr fx) sched) sp' ∧
      ∀ t, phaseOf t .idle (trace (init nw nr fx) sched) ≠ .broken := by
  obtain ⟨sp', h1, h2, h3⟩ := lin_run sched (fun _ => inv_init nw nr fx) (abs_init nw nr fx) (fun _ => .idle)
    (phaseOK_init nw nr fx)
  refine ⟨sp', h1, h2, ?_⟩
  intro t hb
  have := h3 t
  rw [hb] at this
  exact phaseOK_broken this

/-- the same from any reachable state, relative to a specification state related to it -/
theorem C03_linearizable_from {fx : Bool} {nw nr : Nat} {σ : State} (hr : ReachableFx fx nw nr σ)
    {sp : SetSpec.State} (habs : Abs σ sp) (ps : Nat → Phase) (hps : ∀ t, PhaseOK σ t (ps t)) (sched : List Act) :
    ∃ sp', replay sp (trace σ sched) = some sp' ∧ Abs (run σ sched) sp' ∧
      ∀ t, PhaseOK (run σ sched) t (phaseOf t (ps t) (trace σ sched)) :=
  lin_run sched (inv_reachable hr) habs ps hps

/-- the specification's `snap` observation as a response of the machine -/
def retSnap : Out → Resp
  | .snap sn c => .snap sn c
  | _ => .bad

/-- **C03 (next snapshot).**  Whenever `NewSnapshot` is allowed after a schedule (no writer call in
    progress), its `sn` and `Count()` are those the specification gives after the linearization, and its
    content — what the snapshot numbered `currSn` sees of the store — is the specification's alive set. -/
theorem C03_next_snapshot (fx : Bool) (nw nr : Nat) (sched : List Act)
    (hd : (run (init nw nr fx) sched).down = false) (hi : writersIdle (run (init nw nr fx) sched) = true) :
    ∃ sp' : SetSpec.State,
      replay (SetSpec.init nw) (trace (init nw nr fx) sched) = some sp' ∧
      (step (run (init nw nr fx) sched) .snap).2 =
        .snap sp'.epoch ((sp'.alive.map (fun e => (e.key, e.val))).length : Nat) ∧
      retSnap (SetSpec.step sp' .snap).2 = (step (run (init nw nr fx) sched) .snap).2 ∧
      (Mvcc.view (vers (run (init nw nr fx) sched).store) (run (init nw nr fx) sched).currSn).map Mvcc.Ver.item =
        sp'.alive.map (fun e => (e.key, e.val)) := by
  obtain ⟨sp', h1, h2, _⟩ := C03_linearizable_atomic_search_partial fx nw nr sched
  have hr : ReachableFx fx nw nr (run (init nw nr fx) sched) := reachable_run .init sched
  have hinv := inv_reachable hr hd
  have hs : Out.snap sp'.epoch ((sp'.alive.map (fun e => (e.key, e.val))).length : Nat) = _ := spec_snap hinv h2
  injection hs with he hc
  have hst : (step (run (init nw nr fx) sched) .snap).2 =
      .snap sp'.epoch ((sp'.alive.map (fun e => (e.key, e.val))).length : Nat) := by
    have hs : step (run (init nw nr fx) sched) .snap = snap (run (init nw nr fx) sched) :=
      (if_neg (by rw [hd]; exact Bool.false_ne_true)).trans (if_pos hi)
    rw [hs, he, hc]; rfl
  refine ⟨sp', h1, hst, ?_, ?_⟩
  · rw [hst]; rfl
  · rw [h2.alive]
    exact (Mvcc.absAlive_items hinv.store.chains).symm

/-- **C03_one_winner** (set level: "exactly one succeeds per state change").  In the linearization of
    every schedule, for every key, the successful Puts and the successful Deletes of that key alternate,
    beginning with a Put: between two successful Deletes of a key there is a successful Put of it, and
    between two successful Puts a successful Delete.  So of any number of concurrent Puts of one key at most
    one succeeds while the key stays alive, and of any number of concurrent Deletes at most one per alive
    instance.  That a Delete which finds the key alive and loses its node is answered `false` at the
    winner's step is `C03_same_node_losers`; that every operation which returns has exactly one linearization
    point, carrying the value returned, is the third clause of `C03_linearizable_atomic_search_partial`. -/
theorem C03_one_winner (fx : Bool) (nw nr : Nat) (sched : List Act) (k : Nat) :
    Alternates false (winners k (trace (init nw nr fx) sched)) := by
  obtain ⟨sp', h1, _, _⟩ := C03_linearizable_atomic_search_partial fx nw nr sched
  have := alternates_of_replay k _ h1
  simpa [keyAlive, SetSpec.init, SetSpec.findKey] using this

/-- **C03_same_node_losers** (node level).  When a Delete wins a node — its DEL_NODE_PHYS finds the node
    still linked, or its DEL_NODE_CAS finds `deadSn = 0` — the step that wins emits the winner's `lin … true`
    and, for every other Delete parked on the same node, a `lin … false`: the losers are linearized at that
    very step as failures.  (With the third clause of `C03_linearizable_atomic_search_partial` — one
    linearization point per operation, carrying the returned value — the losers that return answer `false`;
    the statement here is only the membership of the two events.) -/
theorem C03_same_node_losers {fx : Bool} {nw nr : Nat} {σ : State} (hr : ReachableFx fx nw nr σ)
    (hd : σ.down = false) {t t' n tok tok' k k' : Nat} (hne : t' ≠ t)
    (ht' : σ.threads[t']? = some (.delPhys n tok' k') ∨ σ.threads[t']? = some (.delCas n tok' k'))
    (hwin : (σ.threads[t]? = some (.delPhys n tok k) ∧ n ∈ storeIds σ.store) ∨
            (σ.threads[t]? = some (.delCas n tok k) ∧ AliveIn σ.store n)) :
    Ev.lin t' (.del t' k') (.bool false) ∈ events σ (.step t) ∧
    Ev.lin t (.del t k) (.bool true) ∈ events σ (.step t) := by
  have hlins : lins σ (.step t) = .lin t (.del t k) (.bool true) :: losers σ t n := by
    rcases hwin with ⟨hg, hm⟩ | ⟨hg, x, hx, hid, hxd⟩
    · cases hf : findNode σ.store n with
      | none => exact absurd hm (findNode_none_iff.mp hf)
      | some x => rw [lins_delPhys hd hg, hf]
    · have hfx : findNode σ.store n = some x := hid ▸ findNode_of_mem (inv_reachable hr hd).store.ids hx
      rw [lins_delCas hd hg, hfx]
      exact if_pos hxd
  have hsub : ∀ e ∈ lins σ (.step t), e ∈ events σ (.step t) :=
    fun e he => List.mem_append_left _ (List.mem_append_right _ he)
  rw [hlins] at hsub
  exact ⟨hsub _ (List.mem_cons_of_mem _ (mem_losers_of_parked hne ht')), hsub _ List.mem_cons_self⟩

/-! ### non-vacuity (tests, evaluated by the kernel)

  Two writers race on key 5 in one epoch.  Put 5 by writer 0; both writers start Delete 5 and find the same
  node; writer 1 wins the physical delete, flushes, returns true, and puts 5 again (a new node); only then
  does writer 0 take its DEL_NODE_PHYS step: it fails on the node it holds and returns false although key 5
  is alive at that instant.  The constructed linearization puts writer 0's Delete right after writer 1's
  winning step. -/

def race : List Act :=
  [.put 0 5 0, .step 0, .del 0 5, .del 1 5, .step 1, .step 1, .put 1 5 1, .step 1, .step 0, .get 0 5, .snap]

example :
    trace (init 2 0) race =
      [.call 0 (.put 0 5 0), .lin 0 (.put 0 5 0) (.bool true), .ret 0 (.bool true),
       .call 0 (.del 0 5), .call 1 (.del 1 5),
       .lin 1 (.del 1 5) (.bool true), .lin 0 (.del 0 5) (.bool false),
       .ret 1 (.bool true),
       .call 1 (.put 1 5 1), .lin 1 (.put 1 5 1) (.bool true), .ret 1 (.bool true),
       .ret 0 (.bool false),
       .call 0 (.get 0 5), .lin 0 (.get 0 5) (.val (some 1)), .ret 0 (.val (some 1)),
       .snap (.snap 1 1)] := by decide +kernel

example : (replay (SetSpec.init 2) (trace (init 2 0) race)).isSome = true := by decide +kernel

example : winners 5 (trace (init 2 0) race) = [true, false, true] := by decide +kernel

example : phaseOf 0 .idle (trace (init 2 0) race) = .idle ∧ phaseOf 1 .idle (trace (init 2 0) race) = .idle := by
  decide +kernel

end NitroVerif.Props.C03
