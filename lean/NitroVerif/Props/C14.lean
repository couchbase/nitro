import NitroVerif.Lemmas.SkipSeqRun
import NitroVerif.Lemmas.SkipSeqBuildRun
import NitroVerif.Lemmas.SkipSeqAssemble
/-!
  C14 — "Whenever no operation is in flight, the nodes not marked deleted on each level of the
  skiplist form a strictly increasing, acyclic chain from head to tail that is a sub-sequence of the
  level below, every live node is linked at all levels up to its height, and the statistics (node
  count, per-level distribution, soft deletes, memory in use, allocations minus frees) equal what a
  walk of the structure measures.  This holds after any concurrent history, after bulk building, and
  after restore."

  Proved here on M3: after every SEQUENTIAL history (`C14_wf_sequential`) and after bulk building
  (`C14_wf_assemble` below; the content and statistics of the assembled list are in `Props/C18.lean`).  `WF` (`Lemmas/SkipSeqWF.lean`) is
  stated on the walks `walkLevel` of the heap, not on ghost state.  Memory bytes are not modelled.
  With Go-managed memory `node_frees` stays 0, so "allocations minus frees" equals the number of
  successful inserts, not the node count (finding D20); that is what is proved.
-/
namespace NitroVerif.Props.C14
open NitroVerif.SkipSeq NitroVerif.OrdSet

/-- C14, sequential: after every script of operations (every level assignment) the structure is
    well-formed and allocations − frees = number of successful inserts so far. -/
theorem C14_wf_sequential (ops : List Op) :
    WF (run St.init ops).1.sl ∧
    (run St.init ops).1.sl.stats.nodeAllocs - (run St.init ops).1.sl.stats.nodeFrees
      = (insCount ops (run St.init ops).2 : Int) := by
  rcases run_sim ops St.init SpecSt.init [] sim_init with ⟨_, ⟨L0, hs⟩, hal⟩
  refine ⟨hs.rep.wf, ?_⟩
  rw [hal, hs.rep.stats.frees]
  simp [St.init, SL.init, Stats.zero]

/-- …and what the walk of level 0 yields is the specification's set -/
theorem C14_walk_is_set (ops : List Op) :
    (lev (run St.init ops).1.sl 0).map (keyOf (run St.init ops).1.sl.nodes)
      = (specRun SpecSt.init ops).1.set.map Key.item := by
  rcases run_sim ops St.init SpecSt.init [] sim_init with ⟨_, ⟨L0, hs⟩, _⟩
  have : lev (run St.init ops).1.sl 0 = L0 := by
    unfold lev; rw [hs.rep.lev_eq (Nat.zero_le _), LL_zero]; rfl
  rw [this, hs.keys, keys_map hs.rep]

/-- C14, bulk building: after ANY filling history (`NewSegment` / `Segment.Add` calls in any
    interleaving, any level requests) and `Assemble` of ANY selection of distinct segments in any order
    (empty ones anywhere), the assembled skiplist is well-formed, provided the concatenated keys are
    strictly ascending (the builder's contract; what holds without it — the walks and the statistics —
    is in `C18_assemble`). -/
theorem C14_wf_assemble (ops : List BOp) (sel : List (Segment × List Nat))
    (hsel : ∃ sub, sub.Sublist (grun (SL.init, []) ops).2 ∧ sel.Perm sub)
    (hsorted : (allNodes sel).Pairwise
      (fun a c => ikey (grun (SL.init, []) ops).1.nodes a < ikey (grun (SL.init, []) ops).1.nodes c)) :
    WF (assemble (grun (SL.init, []) ops).1 (sel.map (·.1))).1 :=
  (assemble_rep ((grun_ok ops (SL.init, []) buildOK_init).1.select hsel) hsorted).wf

/-- `brun` and `assemble` on three segments, the middle one empty, evaluated; then a script run on the
    result -/
theorem threeSegments_facts :
    let st := brun (SL.init, []) [.new, .new, .new, .add 0 1 0, .add 0 2 3, .add 2 5 1, .add 2 6 0, .add 2 7 2]
    let s := (assemble st.1 st.2).1
    (walkLevel s 0, walkLevel s 1, walkLevel s 2, s.level, s.stats.levelNodesCount.take 3, s.stats.nodeAllocs)
        = (some [3, 4, 5, 6, 7], some [4, 5, 7], some [7], 2, [2, 2, 1], 5) ∧
    (run { sl := s, handles := [] } [.ins 4 1, .del 2, .look 5, .iter]).2
      = [.bool true, .bool true, .bool true, .keys [.item 1, .item 4, .item 5, .item 6, .item 7]] := by
  decide +kernel

set_option maxRecDepth 20000 in
/-- three segments, the middle one empty, assembled: the walks and the statistics (a test by
    evaluation of the executable machine `brun`, which `C18_fill` ties to `grun`) -/
example :
    let st := brun (SL.init, []) [.new, .new, .new, .add 0 1 0, .add 0 2 3, .add 2 5 1, .add 2 6 0, .add 2 7 2]
    let s := (assemble st.1 st.2).1
    (walkLevel s 0, walkLevel s 1, walkLevel s 2, s.level, s.stats.levelNodesCount.take 3, s.stats.nodeAllocs)
      = (some [3, 4, 5, 6, 7], some [4, 5, 7], some [7], 2, [2, 2, 1], 5) :=
  threeSegments_facts.1

/-- a non-trivial state reached by a script: three nodes on three levels (a test by evaluation) -/
example :
    let s := (run St.init [.ins 5 0, .ins 3 1, .ins 9 5, .ins 7 2, .del 5]).1.sl
    (walkLevel s 0, walkLevel s 1, walkLevel s 2, s.level, s.stats.levelNodesCount.take 3, s.stats.nodeAllocs)
      = (some [4, 6, 5], some [4, 6, 5], some [6, 5], 2, [0, 1, 2], 4) := by decide +kernel

end NitroVerif.Props.C14
